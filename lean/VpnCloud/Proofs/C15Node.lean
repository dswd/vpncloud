import VpnCloud.Proofs.Lemmas.Node.TickLemmas
/-
  C15 at node level: `housekeep` removes every peer whose expiry has passed and does not touch the expiry
  of the others.  Proved as given; the hypothesis about distinct keys of `n.peers` is NOT needed: `eraseA`
  removes every entry of an expired address, and where an entry is rewritten (`insertA` of the updated
  session object) the written value carries the expiry of the first entry of that address, which is itself
  an entry of `n.peers` that has not expired.
-/
namespace VpnCloud.Proofs.C15Node
open VpnCloud.Node

/-- `silent_removed_next_tick` (DESIGN.md §5, C15): after housekeeping every remaining peer was a peer before, with the same expiry, and its expiry has not passed -/
theorem housekeep_removes_expired (env : CryptoEnv) (o : Oracle) (n : Node) (now : Int) :
    ∀ a p, (a, p) ∈ (housekeep env o n now).node.peers → ∃ p0, (a, p0) ∈ n.peers ∧ ¬ (p0.timeout < now) ∧ p.timeout = p0.timeout := by
  obtain ⟨L, hL⟩ := TickLemmas.housekeep_tick env o n now
  intro a p h
  obtain ⟨p0, h0, ht⟩ := hL.recs a p h
  exact ⟨p0, h0, fun hexp => ((hL.mem a).1 (hL.expired a p0 h0 hexp)).2 (AssocLemmas.mem_key h), ht⟩

/-- in particular a peer whose expiry has passed is gone after the tick, whatever else happens in it
    (if the address has only expired entries) -/
theorem expired_peer_removed (env : CryptoEnv) (o : Oracle) (n : Node) (now : Int) (a : NAddr)
    (hexp : ∀ p0, (a, p0) ∈ n.peers → p0.timeout < now) :
    lookupA (housekeep env o n now).node.peers a = none := by
  cases hl : lookupA (housekeep env o n now).node.peers a with
  | none => rfl
  | some p =>
    obtain ⟨p0, h0, hn, _⟩ := housekeep_removes_expired env o n now a p (AssocLemmas.lookupA_some_mem hl)
    exact absurd (hexp p0 h0) hn

end VpnCloud.Proofs.C15Node
