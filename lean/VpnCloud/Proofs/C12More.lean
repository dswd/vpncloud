import VpnCloud.Proofs.Lemmas.Node.C12MoreLemmas
import VpnCloud.Proofs.C12Node
import VpnCloud.Proofs.C11Node
import VpnCloud.Proofs.C15More
import VpnCloud.Proofs.C09More
/-
  C12 at node level, step by step (and the drop / flood clause of C11):

  1. every way a peer leaves the peer list takes its routes along — expiry (`timeout_removes_routes`), a CLOSE message
     (`close_removes_routes`), a session that fails in `every_second` (`failed_session_removes_routes`, the repaired defect
     F-C12b), a completed handshake that replaces the record (`superseding_handshake_replaces_claims`) — each proved
     directly from the step, not via the global invariant; and conversely a peer address only leaves by one of these
     paths (`peers_only_leave_by_net / _tick / _connect / _iface`, summary `peers_only_leave_by`);
  2. announcements at node level (`announcement_sets_claims`, `keepalive_keeps_claims`, `claims_expire_node`);
  3. a lookup hit is sent to a peer, or not sent only because the session cannot seal
     (`lookup_hit_is_sent_or_unsealable`);
  4. counting of dropped frames (`router_drop_counts`, `flood_not_counted`, `unparseable_ignored`).

  All table statements need `0 < now`: `remove_claims` / `set_claims` mark entries with the expiry `0` and sweep, which
  removes them only at a time after `0` (`TableRefine.refinement_fails_at_zero`, `needs_positive_time` below).
-/
namespace VpnCloud.Proofs.C12More

open VpnCloud.Node
open VpnCloud.Proofs.AssocLemmas VpnCloud.Proofs.NodeLemmas VpnCloud.Proofs.SessionInvLemmas
open VpnCloud.Proofs.C12MoreLemmas
open VpnCloud.Proofs.C15MoreLemmas (canSeal)
open VpnCloud.Proofs.C15More (FromPeer peers_after_message)
open VpnCloud.Proofs.C09More (newPeerRecord)
open VpnCloud.Spec.TableSpec (announceOk)

/-! ## 1. removal paths -/

/-- the routing table after a message of type `ty` from the established peer `src` (companion of `C15More.peers_after_message`) -/
theorem table_after_message {env : CryptoEnv} {bodyOf : Init.BodyOf} {o : Oracle} {n : Node} {src : NAddr} {data tail : Bytes}
    {p : Peer} {pc : PeerCrypto} {ty : Nat} {body : Bytes} (h : FromPeer env bodyOf o n src data tail p pc ty body) (now : Int) :
    (handleNet env bodyOf o n now src data tail).1.node.table =
      if ty = Generated.MESSAGE_TYPE_DATA then
        match parseAddrs n body with
        | some (sa, _) => if n.cfg.learning then n.table.learn now sa (addrId (mappedAddr src)) else n.table
        | none => n.table
      else if ty = Generated.MESSAGE_TYPE_NODE_INFO then
        match Codec.decodeNodeInfo body with
        | some i => n.table.setClaims now (addrId (mappedAddr src)) i.claims
        | none => n.table
      else if ty = Generated.MESSAGE_TYPE_KEEPALIVE then n.table
      else if ty = Generated.MESSAGE_TYPE_CLOSE then n.table.removeClaims now (addrId (mappedAddr src))
      else n.table := by
  obtain ⟨out, log, hm⟩ := h.opened
  rw [handleNet_established env bodyOf o n now src data tail p pc out _ log h.peer h.plain hm, finish_table]
  rw [handleResult_message_table env o _ now (mappedAddr src) ty body out { p with crypto := pc } (lookupA_insertA_self _ _ _)]
  rfl

/-- **close_removes_routes**: when an established peer sends a CLOSE message, its record is erased (`remove_peer`) and the table is the old
    one after `remove_claims` for its id: no claim and no cached decision names the peer that said goodbye. -/
theorem close_removes_routes {env : CryptoEnv} {bodyOf : Init.BodyOf} {o : Oracle} {n : Node} {src : NAddr} {data tail : Bytes}
    {p : Peer} {pc : PeerCrypto} {body : Bytes}
    (h : FromPeer env bodyOf o n src data tail p pc Generated.MESSAGE_TYPE_CLOSE body) (now : Int) (hnow : 0 < now) :
    (handleNet env bodyOf o n now src data tail).1.node.peers = eraseA n.peers (mappedAddr src) ∧
    (handleNet env bodyOf o n now src data tail).1.node.table = n.table.removeClaims now (addrId (mappedAddr src)) ∧
    mappedAddr src ∉ (handleNet env bodyOf o n now src data tail).1.node.peers.map (·.1) ∧
    NoRoutes (addrId (mappedAddr src)) (handleNet env bodyOf o n now src data tail).1.node.table := by
  have hpe : (handleNet env bodyOf o n now src data tail).1.node.peers = eraseA n.peers (mappedAddr src) := by
    rw [peers_after_message h now, if_neg (by decide), if_neg (by decide), if_pos rfl]
  have htb : (handleNet env bodyOf o n now src data tail).1.node.table = n.table.removeClaims now (addrId (mappedAddr src)) := by
    rw [table_after_message h now, if_neg (by decide), if_neg (by decide), if_neg (by decide), if_pos rfl]
  have hgone : mappedAddr src ∉ (handleNet env bodyOf o n now src data tail).1.node.peers.map (·.1) := by
    rw [hpe]
    exact fun ha => ((key_mem_eraseA_iff _ _ _).1 ha).2 rfl
  exact ⟨hpe, htb, hgone, htb ▸ removeClaims_noRoutes _ now hnow _⟩

/-- observation: a CLOSE message can only be received over an ENCRYPTED session.  `MESSAGE_TYPE_CLOSE` and the handshake marker
    `INIT_MESSAGE_FIRST_BYTE` are both `0xff` (src/messages.rs, src/crypto/common.rs), so the one-byte CLOSE datagram of a plain session is
    taken for a (too short) handshake message; a plain peer that leaves is removed by its timeout only. -/
theorem close_needs_encrypted_session {env : CryptoEnv} {bodyOf : Init.BodyOf} {o : Oracle} {n : Node} {src : NAddr} {data tail : Bytes}
    {p : Peer} {pc : PeerCrypto} {body : Bytes}
    (h : FromPeer env bodyOf o n src data tail p pc Generated.MESSAGE_TYPE_CLOSE body) : p.crypto.unencrypted = false := by
  obtain ⟨out, log, hm⟩ := h.opened
  cases hu : p.crypto.unencrypted with
  | false => rfl
  | true =>
    -- a plain session hands out the datagram as it is: its first byte would be the message type `0xff`, the handshake marker
    revert hm
    refine handleMessage_cases (M := fun r => r = .ok pc out (.message Generated.MESSAGE_TYPE_CLOSE body) log → _) env bodyOf payloadOk
      p.crypto data tail _ _ (fun _ _ hm => nomatch hm) (fun w hw => absurd (hw ▸ rfl) h.plain) (fun _ _ _ _ hm => nomatch hm)
      (fun _ _ _ hm => nomatch hm) (fun _ _ _ _ _ hm => nomatch hm) (fun _ _ _ _ _ _ hm => nomatch hm) (fun pc1 ty b hd _ hm => ?_)
    rcases decMsg_ok hd with ⟨_, _, hpl⟩ | ⟨_, hu', _⟩
    · cases hm
      exact absurd (hpl ▸ rfl) h.plain
    · rw [hu] at hu'; cases hu'

/-- **peers_only_leave_by** (`handle_net_message`): a datagram makes at most the sender leave the peer list, and only when the sender is an
    established peer whose session opens the datagram (no handshake marker) as a CLOSE message. -/
theorem peers_only_leave_by_net (env : CryptoEnv) (bodyOf : Init.BodyOf) (o : Oracle) (n : Node) (now : Int) (src : NAddr) (data tail : Bytes)
    (a : NAddr) (ha : a ∈ n.peers.map (·.1)) (hna : a ∉ (handleNet env bodyOf o n now src data tail).1.node.peers.map (·.1)) :
    a = mappedAddr src ∧ ∃ p pc body, FromPeer env bodyOf o n src data tail p pc Generated.MESSAGE_TYPE_CLOSE body := by
  cases NetStepLemmas.handleNet_netStep env bodyOf o n now src data tail with
  | same h1 _ _ => exact absurd (h1 ▸ ha) hna
  | join _ _ _ h2 _ _ => exact absurd ((h2 a).2 (Or.inr ha)) hna
  | leave p pc out body log hp hinit hm h4 _ _ =>
    refine ⟨Classical.byContradiction fun hne => hna ?_, p, pc, body, ⟨hp, hinit, out, log, hm⟩⟩
    rw [h4]
    exact (key_mem_eraseA_iff _ _ _).2 ⟨ha, hne⟩

/-- whatever step makes a peer address leave, no route to it is left: a datagram does so only as the CLOSE message of the peer
    (`peers_only_leave_by_net`), which removes its entries; a tick prunes the table of all that left (`TickLemmas.housekeep_tick`) -/
theorem step_removes_routes {n n' : Node} (hs : C12Node.Step n n') (a : NAddr) (ha : a ∈ n.peers.map (·.1))
    (hna : a ∉ n'.peers.map (·.1)) : NoRoutes (addrId a) n'.table := by
  cases hs with
  | net env bodyOf o _ now src data tail hnow =>
    obtain ⟨rfl, p, pc, body, hf⟩ := peers_only_leave_by_net env bodyOf o n now src data tail a ha hna
    exact (close_removes_routes hf now hnow).2.2.2
  | iface o _ now data => exact absurd ha ((handleIface_toPeers o n now data).2 ▸ hna)
  | tick env o _ now hnow =>
    obtain ⟨L, hL⟩ := TickLemmas.housekeep_tick env o n now
    rw [hL.table hnow]
    exact pruned_noRoutes _ now (List.mem_map_of_mem ((hL.mem a).2 ⟨ha, hna⟩))
  | dial env o _ addrs => exact absurd ha (connect_peers env o { node := n } addrs ▸ hna)

theorem tick_removes_routes (env : CryptoEnv) (o : Oracle) (n : Node) (now : Int) (hnow : 0 < now) (a : NAddr)
    (h : (∃ p, (a, p) ∈ n.peers ∧ p.timeout < now) ∨ TickLemmas.Fails { node := n } a) :
    a ∉ (housekeep env o n now).node.peers.map (·.1) ∧ NoRoutes (addrId a) (housekeep env o n now).node.table := by
  obtain ⟨L, hL⟩ := TickLemmas.housekeep_tick env o n now
  have ha := (hL.mem a).1 (h.elim (fun ⟨p, hp, he⟩ => hL.expired a p hp he) (hL.fails a))
  exact ⟨ha.2, step_removes_routes (.tick env o n now hnow) a ha.1 ha.2⟩

/-- **timeout_removes_routes**: when housekeeping finds a peer record of `a` whose expiry has passed, then at the end of the tick `a` is
    no peer address any more and the routing table holds no claim and no cached / learned decision for `a` — the node cannot select the
    timed-out peer as next hop. -/
theorem timeout_removes_routes (env : CryptoEnv) (o : Oracle) (n : Node) (now : Int) (hnow : 0 < now) (a : NAddr) (p : Peer)
    (hp : (a, p) ∈ n.peers) (hexp : p.timeout < now) :
    a ∉ (housekeep env o n now).node.peers.map (·.1) ∧ NoRoutes (addrId a) (housekeep env o n now).node.table :=
  tick_removes_routes env o n now hnow a (Or.inl ⟨p, hp, hexp⟩)

/-- **failed_session_removes_routes** (`crypto_housekeep`; the repaired defect F-C12b): a peer whose session fails in `every_second`
    (for some randomness, equivalently for every: `everySecond_err_indep`) is dropped together with its claims and cached decisions — at the end of `crypto_housekeep` its
    address is no peer address and the table holds nothing of its id. -/
theorem failed_session_removes_routes (env : CryptoEnv) (o : Oracle) (c : Ctx) (now : Int) (hnow : 0 < now) (a : NAddr) (p : Peer)
    (hp : lookupA c.node.peers a = some p) (hfail : ∃ rr pc' e, PeerCrypto.everySecond p.crypto rr = .err pc' e) :
    a ∉ (cryptoHousekeep env o c now).node.peers.map (·.1) ∧ NoRoutes (addrId a) (cryptoHousekeep env o c now).node.table :=
  cryptoHousekeep_gone env o now hnow c a ⟨p, hp, everySecond_fails_all _ hfail⟩

/-- `failed_session_removes_routes` for the whole tick: if the session of the record found for `a` fails in `every_second`, then after `housekeep` the
    address is no peer and has no routes (whether the record had also expired or not). -/
theorem failed_session_removes_routes_tick (env : CryptoEnv) (o : Oracle) (n : Node) (now : Int) (hnow : 0 < now) (a : NAddr) (p : Peer)
    (hp : lookupA n.peers a = some p) (hfail : ∃ rr pc' e, PeerCrypto.everySecond p.crypto rr = .err pc' e) :
    a ∉ (housekeep env o n now).node.peers.map (·.1) ∧ NoRoutes (addrId a) (housekeep env o n now).node.table :=
  tick_removes_routes env o n now hnow a (Or.inr ⟨p, hp, everySecond_fails_all _ hfail⟩)

/-- **superseding_handshake_replaces_claims**: a handshake datagram from the address of an established peer is handled by the attempt `q`
    pending for that address; when `q` reports a completed handshake, the peer record is REPLACED by the new one (`newPeerRecord`: new
    session, fresh expiry) and the table is the old one after `set_claims` with the claims of the new node information: the ranges
    attributed to the address are exactly the newly announced ones — claims of the superseded record that the new peer does not announce
    are gone (together with the decisions cached for it), claims of other peers are only swept. -/
theorem superseding_handshake_replaces_claims (env : CryptoEnv) (bodyOf : Init.BodyOf) (o : Oracle) (n : Node) (now : Int) (hnow : 0 < now)
    (src : NAddr) (data tail : Bytes) (p : Peer) (q pc : PeerCrypto) (out : Bytes) (res : MsgResult) (log : Init.SealLog) (pl : Bytes)
    (hp : lookupA n.peers (mappedAddr src) = some p)
    (hinit : data.head? = some Generated.INIT_MESSAGE_FIRST_BYTE)
    (hq : lookupA n.pending (mappedAddr src) = some q)
    (hr : PeerCrypto.handleMessage env bodyOf payloadOk q data tail
      (rndFor o { node := n } (mappedAddr src)).1 (rndFor o { node := n } (mappedAddr src)).2.1 = .ok pc out res log)
    (hres : res = .initialized pl ∨ res = .initializedWithReply pl) :
    ∃ info, Codec.decodeNodeInfo pl = some info ∧
      lookupA (handleNet env bodyOf o n now src data tail).1.node.peers (mappedAddr src) = some (newPeerRecord n now (mappedAddr src) info pc) ∧
      (handleNet env bodyOf o n now src data tail).1.node.table = n.table.setClaims now (addrId (mappedAddr src)) info.claims ∧
      Announced n.table now (addrId (mappedAddr src)) info.claims (handleNet env bodyOf o n now src data tail).1.node.table ∧
      announceOk n.table now (addrId (mappedAddr src)) info.claims (handleNet env bodyOf o n now src data tail).1.node.table = true := by
  obtain ⟨info, hdec, hrec⟩ := (C09More.pending_handles_handshake env bodyOf o n now src data tail p q hp hinit hq).2.2 pc out res log pl hr hres
  have hlk : lookupA (addLog log (storePc { node := n } (mappedAddr src) false pc)).node.pending (mappedAddr src) = some pc :=
    lookupA_insertA_self _ _ _
  have htb : (handleNet env bodyOf o n now src data tail).1.node.table = n.table.setClaims now (addrId (mappedAddr src)) info.claims := by
    rw [handleNet_eq, finish_table, C09More.dispatch_pending env bodyOf o n now tail hp hinit hq, hr, applyOutcome_eq]
    simp only []
    rw [C09More.handleResult_init env o _ now _ _ out pl info hres hdec]
    exact addNewPeer_table env o (addLog log (storePc { node := n } (mappedAddr src) false pc)) now (mappedAddr src) info pc hlk
  refine ⟨info, hdec, hrec, htb, ?_, ?_⟩
  · rw [htb]; exact announced_setClaims _ now hnow _ _
  · rw [htb]; exact C12.setClaims_exact _ now _ _ hnow

/-! ### the converse: a peer address leaves the peer list only by one of these paths -/

/-- **peers_only_leave_by** (`housekeep`, pairwise distinct peer addresses): an address that is a peer before the tick and not after it had
    a record whose expiry had passed, or its record had not expired and its session failed in `every_second`. -/
theorem peers_only_leave_by_tick (env : CryptoEnv) (o : Oracle) (n : Node) (now : Int) (hnd : (n.peers.map (·.1)).Nodup)
    (a : NAddr) (ha : a ∈ n.peers.map (·.1)) (hna : a ∉ (housekeep env o n now).node.peers.map (·.1)) :
    (∃ p, (a, p) ∈ n.peers ∧ p.timeout < now) ∨
    (∃ p rr pc' e, lookupA n.peers a = some p ∧ ¬ p.timeout < now ∧ PeerCrypto.everySecond p.crypto rr = .err pc' e) := by
  obtain ⟨L, hL⟩ := TickLemmas.housekeep_tick env o n now
  rcases hL.why hnd a ((hL.mem a).2 ⟨ha, hna⟩) with h | ⟨p, hp, hall⟩
  · exact Or.inl h
  · by_cases hexp : p.timeout < now
    · exact Or.inl ⟨p, lookupA_some_mem hp, hexp⟩
    · exact (hall {}).elim fun pc' he => he.elim fun e he => Or.inr ⟨p, {}, pc', e, hp, hexp, he⟩

/-- the two theorems for the tick together: with pairwise distinct peer addresses and `now > 0`, a peer address is gone after the tick
    EXACTLY IF a record of it had expired or the session of its record fails in `every_second`. -/
theorem peer_leaves_tick_iff (env : CryptoEnv) (o : Oracle) (n : Node) (now : Int) (hnow : 0 < now) (hnd : (n.peers.map (·.1)).Nodup)
    (a : NAddr) (ha : a ∈ n.peers.map (·.1)) :
    a ∉ (housekeep env o n now).node.peers.map (·.1) ↔
      ((∃ p, (a, p) ∈ n.peers ∧ p.timeout < now) ∨
       (∃ p rr pc' e, lookupA n.peers a = some p ∧ PeerCrypto.everySecond p.crypto rr = .err pc' e)) := by
  constructor
  · intro hna
    rcases peers_only_leave_by_tick env o n now hnd a ha hna with h | ⟨p, rr, pc', e, hp, _, he⟩
    · exact Or.inl h
    · exact Or.inr ⟨p, rr, pc', e, hp, he⟩
  · rintro (⟨p, hp, he⟩ | ⟨p, rr, pc', e, hp, he⟩)
    · exact (timeout_removes_routes env o n now hnow a p hp he).1
    · exact (failed_session_removes_routes_tick env o n now hnow a p hp ⟨rr, pc', e, he⟩).1

/-- `connect` removes nobody: the peer list is unchanged -/
theorem peers_only_leave_by_connect (env : CryptoEnv) (o : Oracle) (n : Node) (addrs : List NAddr) :
    (connect env o { node := n } addrs).node.peers = n.peers := connect_peers env o _ addrs

/-- `handle_interface_data` removes nobody: the peer addresses are unchanged -/
theorem peers_only_leave_by_iface (o : Oracle) (n : Node) (now : Int) (data : Bytes) :
    (handleIface o n now data).node.peers.map (·.1) = n.peers.map (·.1) := (handleIface_toPeers o n now data).2

/-- the ways a peer address leaves the peer list of `n`: a record whose expiry has passed at the time of a tick, a CLOSE message of the
    peer, a session that fails in `every_second` -/
inductive LeftBy (n : Node) (a : NAddr) : Prop
  | timeout (p : Peer) (now : Int) : (a, p) ∈ n.peers → p.timeout < now → LeftBy n a
  | close (env : CryptoEnv) (bodyOf : Init.BodyOf) (o : Oracle) (src : NAddr) (data tail : Bytes) (p : Peer) (pc : PeerCrypto) (body : Bytes) :
      a = mappedAddr src → FromPeer env bodyOf o n src data tail p pc Generated.MESSAGE_TYPE_CLOSE body → LeftBy n a
  | failed (p : Peer) (rr : RotRand) (pc' : PeerCrypto) (e : InitErr) :
      lookupA n.peers a = some p → PeerCrypto.everySecond p.crypto rr = .err pc' e → LeftBy n a

/-- **peers_only_leave_by**: in every step (`C12Node.Step`: datagram, frame from the interface, tick, dial) of a node with pairwise distinct
    peer addresses, an address that is a peer before the step and not after it left by timeout, by its CLOSE message, or because its
    session failed — there is no other way out of the peer list (a superseding handshake replaces the record and keeps the address). -/
theorem peers_only_leave_by {n n' : Node} (hs : C12Node.Step n n') (hnd : (n.peers.map (·.1)).Nodup)
    (a : NAddr) (ha : a ∈ n.peers.map (·.1)) (hna : a ∉ n'.peers.map (·.1)) : LeftBy n a := by
  cases hs with
  | net env bodyOf o _ now src data tail _ =>
    obtain ⟨h1, p, pc, body, hf⟩ := peers_only_leave_by_net env bodyOf o n now src data tail a ha hna
    exact .close env bodyOf o src data tail p pc body h1 hf
  | iface o _ now data =>
    rw [peers_only_leave_by_iface] at hna
    exact absurd ha hna
  | tick env o _ now _ =>
    rcases peers_only_leave_by_tick env o n now hnd a ha hna with ⟨p, hp, he⟩ | ⟨p, rr, pc', e, hp, _, he⟩
    · exact .timeout p now hp he
    · exact .failed p rr pc' e hp he
  | dial env o _ addrs =>
    rw [peers_only_leave_by_connect] at hna
    exact absurd ha hna

/-! ## 2. announcements at node level -/

/-- **announcement_sets_claims**: a node-information message that decodes, from the established peer `src`, replaces the routes of that peer
    by the announced ones: afterwards the ranges attributed to its id are exactly `info.claims` (as a set), each with the expiry
    `now + claimTimeout`; claims of other peers are untouched except that expired ones are swept; if a range of the peer was dropped every
    decision cached for it is gone; decisions cached for other peers are only swept. -/
theorem announcement_sets_claims {env : CryptoEnv} {bodyOf : Init.BodyOf} {o : Oracle} {n : Node} {src : NAddr} {data tail : Bytes}
    {p : Peer} {pc : PeerCrypto} {body : Bytes} {info : NodeInfo}
    (h : FromPeer env bodyOf o n src data tail p pc Generated.MESSAGE_TYPE_NODE_INFO body)
    (hinfo : Codec.decodeNodeInfo body = some info) (now : Int) (hnow : 0 < now) :
    (handleNet env bodyOf o n now src data tail).1.node.table = n.table.setClaims now (addrId (mappedAddr src)) info.claims ∧
    Announced n.table now (addrId (mappedAddr src)) info.claims (handleNet env bodyOf o n now src data tail).1.node.table ∧
    announceOk n.table now (addrId (mappedAddr src)) info.claims (handleNet env bodyOf o n now src data tail).1.node.table = true := by
  have htb : (handleNet env bodyOf o n now src data tail).1.node.table = n.table.setClaims now (addrId (mappedAddr src)) info.claims := by
    rw [table_after_message h now, if_neg (by decide), if_pos rfl]
    simp only [hinfo]
  refine ⟨htb, ?_, ?_⟩
  · rw [htb]; exact announced_setClaims _ now hnow _ _
  · rw [htb]; exact C12.setClaims_exact _ now _ _ hnow

/-- **keepalive_keeps_claims**: a KEEPALIVE from an established peer leaves the whole routing table as it is; a DATA message changes no
    claim (it can only add a learned address for the sender, in learning mode). -/
theorem keepalive_keeps_claims {env : CryptoEnv} {bodyOf : Init.BodyOf} {o : Oracle} {n : Node} {src : NAddr} {data tail : Bytes}
    {p : Peer} {pc : PeerCrypto} {ty : Nat} {body : Bytes} (h : FromPeer env bodyOf o n src data tail p pc ty body) (now : Int) :
    (ty = Generated.MESSAGE_TYPE_KEEPALIVE → (handleNet env bodyOf o n now src data tail).1.node.table = n.table) ∧
    (ty = Generated.MESSAGE_TYPE_DATA →
      (handleNet env bodyOf o n now src data tail).1.node.table.claims = n.table.claims ∧
      ((handleNet env bodyOf o n now src data tail).1.node.table = n.table ∨
        ∃ sa, n.cfg.learning = true ∧ (handleNet env bodyOf o n now src data tail).1.node.table = n.table.learn now sa (addrId (mappedAddr src)))) := by
  constructor
  · rintro rfl
    rw [table_after_message h now, if_neg (by decide), if_neg (by decide), if_pos rfl]
  · rintro rfl
    rw [table_after_message h now, if_pos rfl]
    cases parseAddrs n body with
    | none => exact ⟨rfl, Or.inl rfl⟩
    | some r =>
      obtain ⟨sa, da⟩ := r
      simp only []
      cases hl : n.cfg.learning with
      | false => exact ⟨rfl, Or.inl rfl⟩
      | true => exact ⟨rfl, Or.inr ⟨sa, rfl, rfl⟩⟩

/-- **claims_expire_node**: claims expire if not re-announced.  If every claim attributed to `a` carries an expiry of at most
    `t + claimTimeout` (it was announced at time `t` or before, and not since), then after a housekeeping tick at a time `now > t + claimTimeout`
    the table holds no claim of `a` — whether or not the peer record of `a` is still there (see `claims_expire_before_peer`).  Stated for an
    arbitrary `claimTimeout` of the table. -/
theorem claims_expire_node (env : CryptoEnv) (o : Oracle) (n : Node) (now t : Int) (hnow : 0 < now) (a : NAddr)
    (hold : ∀ e ∈ n.table.claims, e.peer = addrId a → e.timeout ≤ t + n.table.claimTimeout)
    (hlate : t + n.table.claimTimeout < now) :
    ∀ e ∈ (housekeep env o n now).node.table.claims, e.peer ≠ addrId a := by
  obtain ⟨L, hL⟩ := TickLemmas.housekeep_tick env o n now
  intro e he hpe
  rw [hL.table hnow, TableLemmas.mem_pruned_claims] at he
  have := hold e he.1 hpe
  omega

/-- `claims_expire_node`, "although the peer record may still be there": with pairwise distinct peer addresses, a peer whose own expiry has not passed and whose
    session does not fail keeps its record (same expiry) in the very tick that drops its claims.  This needs `claimTimeout` below the
    peer timeout; the real node passes `config.peer_timeout` for both (`ClaimTable::new(switch_timeout, peer_timeout)`, src/cloud.rs), see
    `announced_claims_and_peer_expire_together`. -/
theorem claims_expire_before_peer (env : CryptoEnv) (o : Oracle) (n : Node) (now t : Int) (hnow : 0 < now) (a : NAddr) (p : Peer)
    (hp : lookupA n.peers a = some p) (hlive : ¬ p.timeout < now) (hnd : (n.peers.map (·.1)).Nodup)
    (hok : ∀ rr pc' e, PeerCrypto.everySecond p.crypto rr ≠ .err pc' e)
    (hold : ∀ e ∈ n.table.claims, e.peer = addrId a → e.timeout ≤ t + n.table.claimTimeout)
    (hlate : t + n.table.claimTimeout < now) :
    (lookupA (housekeep env o n now).node.peers a).map (·.timeout) = some p.timeout ∧
    ∀ e ∈ (housekeep env o n now).node.table.claims, e.peer ≠ addrId a := by
  obtain ⟨p', h, ht⟩ := C09MoreLemmas.housekeep_keeps env o n now a p hp hlive hnd hok
  exact ⟨by rw [h, Option.map_some, ht], claims_expire_node env o n now t hnow a hold hlate⟩

/-- after an announcement at time `t` the hypothesis of `claims_expire_node` holds (with equality), so: if nothing else arrives, a tick at
    any time after `t + claimTimeout` drops all claims of the announcing peer. -/
theorem announced_claims_expire {env : CryptoEnv} {bodyOf : Init.BodyOf} {o : Oracle} {n : Node} {src : NAddr} {data tail : Bytes}
    {p : Peer} {pc : PeerCrypto} {body : Bytes} {info : NodeInfo}
    (h : FromPeer env bodyOf o n src data tail p pc Generated.MESSAGE_TYPE_NODE_INFO body)
    (hinfo : Codec.decodeNodeInfo body = some info) (t : Int) (ht : 0 < t)
    (env' : CryptoEnv) (o' : Oracle) (now : Int) (hlate : t + n.table.claimTimeout < now) :
    ∀ e ∈ (housekeep env' o' (handleNet env bodyOf o n t src data tail).1.node now).node.table.claims, e.peer ≠ addrId (mappedAddr src) := by
  obtain ⟨_, han, _⟩ := announcement_sets_claims h hinfo t ht
  apply claims_expire_node env' o' _ now t (by omega) (mappedAddr src)
  · intro e he hpe
    rw [han.fresh e he hpe, han.params.2]
    exact Int.le_refl _
  · rw [han.params.2]; exact hlate

/-- in the real node the table is created with `claimTimeout = config.peer_timeout`: then the claims set by an announcement at time `t` and
    the record refreshed by it carry the same expiry, and the tick that finds the peer expired (`peerExpired`, `timeout < now`) is the
    first one at which its claims are no longer live (`claimLive`, `timeout ≥ now`): routes and record go together. -/
theorem announced_claims_and_peer_expire_together {env : CryptoEnv} {bodyOf : Init.BodyOf} {o : Oracle} {n : Node} {src : NAddr} {data tail : Bytes}
    {p : Peer} {pc : PeerCrypto} {body : Bytes} {info : NodeInfo}
    (h : FromPeer env bodyOf o n src data tail p pc Generated.MESSAGE_TYPE_NODE_INFO body)
    (hinfo : Codec.decodeNodeInfo body = some info) (t : Int) (ht : 0 < t) (hsame : n.table.claimTimeout = n.cfg.peerTimeout) :
    ∃ p', lookupA (handleNet env bodyOf o n t src data tail).1.node.peers (mappedAddr src) = some p' ∧
      ∀ e ∈ (handleNet env bodyOf o n t src data tail).1.node.table.claims, e.peer = addrId (mappedAddr src) →
        e.timeout = p'.timeout ∧ ∀ now, Generated.peerExpired p'.timeout now = !Generated.claimLive e.timeout now := by
  obtain ⟨p', hp', hto, _⟩ := C15More.refresh_sets_expiry h t (Or.inr ⟨rfl, info, hinfo⟩)
  obtain ⟨_, han, _⟩ := announcement_sets_claims h hinfo t ht
  refine ⟨p', hp', fun e he hpe => ?_⟩
  have h1 : e.timeout = p'.timeout := by rw [han.fresh e he hpe, hto, hsame]
  refine ⟨h1, fun now => ?_⟩
  rw [h1]
  simp only [Generated.peerExpired, Generated.claimLive]
  by_cases hlt : p'.timeout < now
  · have h2 : ¬ (p'.timeout ≥ now) := by omega
    simp [hlt, h2]
  · have h2 : p'.timeout ≥ now := by omega
    simp [hlt, h2]

/-! ## 3. never a non-peer as next hop, constructively -/

/-- **lookup_hit_is_sent_or_unsealable**: in a state whose table names only peers (`C12Node.TablePeers`, an invariant of all reachable
    states), when the lookup for the destination of a frame returns a peer id, the search for the peer address succeeds — the branch "Sending
    to node that is not a peer" is not taken — and the frame goes out as exactly one datagram to that peer; it is withheld only if the
    peer's session cannot seal (neither plain nor a crypto core yet). -/
theorem lookup_hit_is_sent_or_unsealable (o : Oracle) (n : Node) (now : Int) (data : Bytes) (s d : Addr) (pid : PeerId)
    (hinv : C12Node.TablePeers n) (hpa : parseAddrs n data = some (s, d)) (hl : (n.table.lookup now d).2 = some pid) :
    ∃ a p, (n.peers.map (·.1)).find? (fun b => addrId b = pid) = some a ∧ a ∈ n.peers.map (·.1) ∧ addrId a = pid ∧
      lookupA n.peers a = some p ∧
      ((canSeal p.crypto ∧ ∃ bytes, (handleIface o n now data).outs = [.dgram a bytes]) ∨
       (¬ canSeal p.crypto ∧ (handleIface o n now data).outs = [])) := by
  obtain ⟨a0, ha0, hid0⟩ := C12Node.next_hop_is_peer n now d pid hinv hl
  have hsome : ((n.peers.map (·.1)).find? (fun b => addrId b = pid)).isSome = true := by
    rw [List.find?_isSome]
    exact ⟨a0, ha0, by simpa using hid0⟩
  cases hf : (n.peers.map (·.1)).find? (fun b => addrId b = pid) with
  | none => rw [hf] at hsome; cases hsome
  | some a =>
    have ham : a ∈ n.peers.map (·.1) := List.mem_of_find?_eq_some hf
    have hid : addrId a = pid := by simpa using List.find?_some hf
    cases hlk : lookupA n.peers a with
    | none => exact absurd ham ((lookupA_none_iff _ _).1 hlk)
    | some p =>
      refine ⟨a, p, rfl, ham, hid, hlk, ?_⟩
      rw [handleIface_hit o n now data hpa hl hf]
      by_cases hs : canSeal p.crypto
      · obtain ⟨pc', bytes, lg, hsm, _⟩ := SessionInvLemmas.sendMessage_canSeal p.crypto Generated.MESSAGE_TYPE_DATA data
          (rndFor o { node := n } a).2.1.ct hs
        refine Or.inl ⟨hs, bytes, ?_⟩
        simp only [sendMsg, hlk, hsm]
        rfl
      · refine Or.inr ⟨hs, ?_⟩
        simp only [sendMsg, hlk, SessionInvLemmas.sendMessage_cannot p.crypto _ _ _ hs]
        rfl

/-! ## 4. C11: counting of frames without a next hop -/

theorem lookup_unknown (t : Table) (now : Int) (a : Addr) (hc : ∀ v ∈ t.cache, v.addr ≠ a)
    (hs : ∀ e ∈ t.claims, e.claim.matches a = false) : t.lookup now a = (t, none) :=
  TableLemmas.lookup_none t now a (List.find?_eq_none.2 fun v hv => by simpa using hc v hv) (TableLemmas.best_eq_none hs)

/-- the lookup finds no next hop exactly if no cached / learned entry is keyed by the address and no claim (live or not) contains it;
    the table is then returned unchanged -/
theorem lookup_none_iff (t : Table) (now : Int) (d : Addr) :
    (t.lookup now d).2 = none ↔ (∀ v ∈ t.cache, v.addr ≠ d) ∧ (∀ e ∈ t.claims, e.claim.matches d = false) := by
  refine ⟨fun h => ?_, fun ⟨h1, h2⟩ => by rw [lookup_unknown t now d h1 h2]⟩
  rcases TableLemmas.lookup_cases t now d with ⟨v, _, hl⟩ | ⟨hc, ⟨hb, _⟩ | ⟨e, _, hl⟩⟩
  · rw [hl] at h; cases h
  · exact ⟨fun v hv => by simpa using List.find?_eq_none.1 hc v hv, TableRefine.best_none.1 hb⟩
  · rw [hl] at h; cases h

/-- **router_drop_counts**: in a non-broadcast mode (router) a frame whose destination parses, is the key of no cached / learned entry and
    lies in no claim changes exactly one thing: `droppedOut` is incremented by one.  Nothing is emitted, the table, the peers and all
    other counters stay. -/
theorem router_drop_counts (o : Oracle) (n : Node) (now : Int) (data : Bytes) (s d : Addr)
    (hpa : parseAddrs n data = some (s, d))
    (hcache : ∀ v ∈ n.table.cache, v.addr ≠ d) (hclaims : ∀ e ∈ n.table.claims, e.claim.matches d = false)
    (hb : n.cfg.broadcast = false) :
    handleIface o n now data = { node := { n with droppedOut := n.droppedOut + 1 } } := by
  have hlk := lookup_unknown n.table now d hcache hclaims
  rw [handleIface_drop o n now data hpa (by rw [hlk]) hb, hlk]
  rfl

/-- **flood_not_counted**: in a broadcast mode (switch / hub) such a frame is not counted as dropped: `droppedOut` and the table stay, and
    what is emitted are datagrams to peer addresses only, at most one per peer. -/
theorem flood_not_counted (o : Oracle) (n : Node) (now : Int) (data : Bytes) (s d : Addr)
    (hpa : parseAddrs n data = some (s, d))
    (hcache : ∀ v ∈ n.table.cache, v.addr ≠ d) (hclaims : ∀ e ∈ n.table.claims, e.claim.matches d = false)
    (hb : n.cfg.broadcast = true) :
    (handleIface o n now data).node.droppedOut = n.droppedOut ∧ (handleIface o n now data).node.droppedIn = n.droppedIn ∧
    (handleIface o n now data).node.table = n.table ∧
    (handleIface o n now data).outs.length ≤ n.peers.length ∧
    ∀ x ∈ (handleIface o n now data).outs, ∃ a b, x = .dgram a b ∧ a ∈ n.peers.map (·.1) := by
  have hlk := lookup_unknown n.table now d hcache hclaims
  have hl : (n.table.lookup now d).2 = none := by rw [hlk]
  have hfl := C11Node.unknown_dest_flooded o n now data s d hpa hl hb
  have hto := (handleIface_toPeers o n now data).1
  refine ⟨hfl.2, ?_, ?_, hfl.1, hto⟩
  · rw [handleIface_flood o n now data hpa hl hb]
    exact frame_proj (broadcastMsg_frame o { node := n } _ _) (·.node.droppedIn)
  · rw [handleIface_flood o n now data hpa hl hb, hlk]
    rfl

/-- **unparseable_ignored**: a frame from the interface that `parse` rejects changes nothing at all — no counter, no table entry, no
    output. -/
theorem unparseable_ignored (o : Oracle) (n : Node) (now : Int) (data : Bytes) (hpa : parseAddrs n data = none) :
    handleIface o n now data = { node := n } := by
  rw [handleIface_eq, hpa]

/-! ## non-vacuity: a concrete node with two peers and nested claims -/
namespace Ex
open VpnCloud.Proofs.InitLemmas

def s1 : NAddr := .v6 (List.replicate 16 0) 1
def s2 : NAddr := .v6 (List.replicate 16 0) 2
def core : Core := Core.new 7 false 8 [0, 0, 0, 0]
/-- peer 1: encrypted session, expiry 500 -/
def p1 : Peer := { addrs := [], timeout := 500, peerTimeout := 300, nodeId := List.replicate 16 1,
                   crypto := { init := none, core := some core, rot := some (PeerCrypto.initSide false 0) } }
/-- peer 2: plain session, expiry 1000 -/
def p2 : Peer := { addrs := [], timeout := 1000, peerTimeout := 300, nodeId := List.replicate 16 2,
                   crypto := { init := none, unencrypted := true } }
def cfg (broadcast : Bool) : NodeCfg :=
  { tap := false, learning := true, broadcast, peerTimeout := 300, peerTimeoutPublish := 300, updateFreq := 10,
    claims := [], key := [7, 7, 7, 7], trusted := [[9, 9, 9, 9]], algos := Toy.algos }
/-- nested claims: 10.0.0.0/8 and 10.2.0.0/16 of peer 1, 10.1.0.0/16 of peer 2 inside the former; one cached decision for each peer -/
def tbl : Table :=
  { cacheTimeout := 300, claimTimeout := 200,
    claims := [⟨1, ⟨[10, 0, 0, 0], 8⟩, 2000⟩, ⟨2, ⟨[10, 1, 0, 0], 16⟩, 2000⟩, ⟨1, ⟨[10, 2, 0, 0], 16⟩, 2000⟩],
    cache := [⟨[10, 1, 0, 1], 2, 3000⟩, ⟨[10, 2, 0, 1], 1, 3000⟩] }
def n (broadcast : Bool) : Node :=
  { nodeId := List.replicate 16 9, addr := .v6 (List.replicate 16 0) 3, cfg := cfg broadcast,
    peers := [(s1, p1), (s2, p2)], table := tbl, nextPeers := 5000 }
def o : Oracle := { emitted := fun _ _ => [], rotProp := fun _ => 0, rotPend := fun _ => 0, starts := fun _ => [] }

/-- the table names peers only (hypothesis of `lookup_hit_is_sent_or_unsealable`) -/
theorem tablePeers (b : Bool) : C12Node.TablePeers (n b) := by
  have h1 : (s1, p1) ∈ (n b).peers := List.mem_cons_self
  have h2 : (s2, p2) ∈ (n b).peers := List.mem_cons_of_mem _ List.mem_cons_self
  constructor
  · intro e he
    simp only [n, tbl, List.mem_cons, List.not_mem_nil, or_false] at he
    rcases he with rfl | rfl | rfl
    · exact ⟨s1, p1, h1, by decide⟩
    · exact ⟨s2, p2, h2, by decide⟩
    · exact ⟨s1, p1, h1, by decide⟩
  · intro v hv
    simp only [n, tbl, List.mem_cons, List.not_mem_nil, or_false] at hv
    rcases hv with rfl | rfl
    · exact ⟨s2, p2, h2, by decide⟩
    · exact ⟨s1, p1, h1, by decide⟩

/-! ### 1. removal paths -/

/-- `timeout_removes_routes`: at time 600 the record of peer 1 has expired … -/
example : (0 : Int) < 600 ∧ (s1, p1) ∈ (n false).peers ∧ p1.timeout < 600 := ⟨by decide, List.mem_cons_self, by decide⟩

/-- … and the tick leaves peer 2 with its claim and its cached decision -/
example : (housekeep Toy.env o (n false) 600).node.peers.map (·.1) = [s2] ∧
    (housekeep Toy.env o (n false) 600).node.table.claims = [⟨2, ⟨[10, 1, 0, 0], 16⟩, 2000⟩] ∧
    (housekeep Toy.env o (n false) 600).node.table.cache = [⟨[10, 1, 0, 1], 2, 3000⟩] := by decide

/-- a genuine seal (key 7 of slot 0) of a CLOSE message, as only peer 1 can make it -/
def closeBody : Init.BodyOf := fun _ => .sealed 7 (HALF + 5) [Generated.MESSAGE_TYPE_CLOSE]
def sealed5 : Bytes := [0, 0, 0, 0, 0, 0, 0, 5] ++ List.replicate 17 0

/-- `close_removes_routes`: peer 1 says goodbye (hypothesis `FromPeer … MESSAGE_TYPE_CLOSE`) -/
theorem close_fromPeer : FromPeer Toy.env closeBody o (n false) s1 sealed5 [] p1
    { p1.crypto with core := some (core.decrypt (C09MoreLemmas.dgramOf closeBody sealed5)).1 } Generated.MESSAGE_TYPE_CLOSE [] :=
  ⟨rfl, by decide, [], [], rfl⟩

example : (handleNet Toy.env closeBody o (n false) 10 s1 sealed5 []).1.node.peers.map (·.1) = [s2] ∧
    (handleNet Toy.env closeBody o (n false) 10 s1 sealed5 []).1.node.table.claims = [⟨2, ⟨[10, 1, 0, 0], 16⟩, 2000⟩] ∧
    (handleNet Toy.env closeBody o (n false) 10 s1 sealed5 []).1.node.table.cache = [⟨[10, 1, 0, 1], 2, 3000⟩] := by decide

/-- `0 < now` is needed in `close_removes_routes` (and in the other removal theorems): at time 0 the entries marked with the expiry 0
    survive the sweep, and the departed peer keeps its routes -/
theorem needs_positive_time :
    ¬ NoRoutes (addrId (mappedAddr s1)) (handleNet Toy.env closeBody o (n false) 0 s1 sealed5 []).1.node.table := by decide

/-- `failed_session_removes_routes`: a peer whose lingering handshake object has used up its retries fails in `every_second` -/
def pFail : Peer := { p2 with crypto := { init := some { Toy.st with retries := Generated.MAX_FAILED_RETRIES } } }
def nFail : Node := { n false with peers := [(s1, p1), (s2, pFail)] }

theorem pFail_fails : ∃ rr pc' e, PeerCrypto.everySecond pFail.crypto rr = .err pc' e := ⟨{}, _, _, rfl⟩

example : lookupA nFail.peers s2 = some pFail := rfl

/-- at time 10 nobody has expired; the tick drops peer 2 (failed session) with its claim and cached decision and keeps peer 1 -/
example : (housekeep Toy.env o nFail 10).node.peers.map (·.1) = [s1] ∧
    (housekeep Toy.env o nFail 10).node.table.claims = [⟨1, ⟨[10, 0, 0, 0], 8⟩, 2000⟩, ⟨1, ⟨[10, 2, 0, 0], 16⟩, 2000⟩] ∧
    (housekeep Toy.env o nFail 10).node.table.cache = [⟨[10, 2, 0, 1], 1, 3000⟩] := by decide

/-- `superseding_handshake_replaces_claims`: an attempt is pending for the address of peer 1 (the toy initiator `Toy.st`, which has sent its
    ping) and the pong of its trusted peer arrives; the payload opens as node information that announces 10.0.0.0/8 and 10.5.0.0/16 -/
def info1 : NodeInfo :=
  { nodeId := List.replicate 16 1, peers := [], claims := [⟨[10, 0, 0, 0], 8⟩, ⟨[10, 5, 0, 0], 16⟩], peerTimeout := none, addrs := [] }
def hsBody : Init.BodyOf := fun _ => .sealed (masterKey .aes128 [5] [6]) (HALF + 5) (Codec.encodeNodeInfo info1)
def nSup : Node := { n false with pending := [(s1, { init := some Toy.st })] }
def pong : Bytes := Generated.INIT_MESSAGE_FIRST_BYTE :: Toy.pong Toy.algos 0

def resOf : POutcome MsgResult → Option MsgResult
  | .ok _ _ res _ => some res
  | _ => none

example : lookupA nSup.peers (mappedAddr s1) = some p1 ∧ pong.head? = some Generated.INIT_MESSAGE_FIRST_BYTE ∧
    lookupA nSup.pending (mappedAddr s1) = some { init := some Toy.st } := ⟨rfl, rfl, rfl⟩

/-- the pending attempt reports the completed handshake (hypotheses `hr`, `hres`) -/
theorem sup_completes : ∃ pc out log, PeerCrypto.handleMessage Toy.env hsBody payloadOk { init := some Toy.st } pong []
      (rndFor o { node := nSup } (mappedAddr s1)).1 (rndFor o { node := nSup } (mappedAddr s1)).2.1 =
    .ok pc out (.initializedWithReply (Codec.encodeNodeInfo info1)) log := by
  have h : resOf (PeerCrypto.handleMessage Toy.env hsBody payloadOk { init := some Toy.st } pong []
      (rndFor o { node := nSup } (mappedAddr s1)).1 (rndFor o { node := nSup } (mappedAddr s1)).2.1) =
      some (.initializedWithReply (Codec.encodeNodeInfo info1)) := by decide
  generalize PeerCrypto.handleMessage Toy.env hsBody payloadOk { init := some Toy.st } pong []
      (rndFor o { node := nSup } (mappedAddr s1)).1 (rndFor o { node := nSup } (mappedAddr s1)).2.1 = r at h
  cases r with
  | ok pc out res log =>
    simp only [resOf, Option.some.injEq] at h
    exact ⟨pc, out, log, by rw [h]⟩
  | err pc e => cases h
  | panic => cases h

/-- at time 100: 10.0.0.0/8 is refreshed (expiry 300), 10.2.0.0/16 of the superseded record is gone together with the decision cached for
    peer 1, 10.5.0.0/16 is new; peer 2 is untouched; the record of peer 1 is the new one (expiry 400), the attempt is no longer pending -/
example : (handleNet Toy.env hsBody o nSup 100 s1 pong []).1.node.table.claims =
      [⟨1, ⟨[10, 0, 0, 0], 8⟩, 300⟩, ⟨2, ⟨[10, 1, 0, 0], 16⟩, 2000⟩, ⟨1, ⟨[10, 5, 0, 0], 16⟩, 300⟩] ∧
    (handleNet Toy.env hsBody o nSup 100 s1 pong []).1.node.table.cache = [⟨[10, 1, 0, 1], 2, 3000⟩] ∧
    (handleNet Toy.env hsBody o nSup 100 s1 pong []).1.node.peers.map (·.1) = [s1, s2] ∧
    (handleNet Toy.env hsBody o nSup 100 s1 pong []).1.node.pending.map (·.1) = [] ∧
    (lookupA (handleNet Toy.env hsBody o nSup 100 s1 pong []).1.node.peers s1).map (·.timeout) = some 400 := by decide

/-- `peers_only_leave_by_tick` needs pairwise distinct peer addresses.  With two records under the address `s2` (impossible in the
    implementation, whose peers live in a hash map) `insertA` rewrites both when the session is stored; the second visit of the loop then
    sees the session AFTER its first tick.  Here it has one retry left: the first `every_second` succeeds, the second fails, the address
    leaves the peer list — but no record of the original list had expired or fails in `every_second`. -/
def pLast : Peer := { p2 with crypto := { init := some { Toy.st with retries := Generated.MAX_FAILED_RETRIES - 1 } } }
def nDup : Node := { n false with peers := [(s2, pLast), (s2, pLast)] }

theorem tick_needs_distinct_addresses :
    s2 ∈ nDup.peers.map (·.1) ∧ s2 ∉ (housekeep Toy.env o nDup 10).node.peers.map (·.1) ∧
    ¬ ((∃ p, (s2, p) ∈ nDup.peers ∧ p.timeout < 10) ∨
       (∃ p rr pc' e, lookupA nDup.peers s2 = some p ∧ ¬ p.timeout < 10 ∧ PeerCrypto.everySecond p.crypto rr = .err pc' e)) := by
  refine ⟨by decide, by decide, ?_⟩
  rintro (⟨p, hp, hlt⟩ | ⟨p, rr, pc', e, hp, _, he⟩)
  · simp only [nDup, List.mem_cons, List.not_mem_nil, or_false, or_self, Prod.mk.injEq, true_and] at hp
    subst hp
    exact absurd hlt (by decide)
  · have : p = pLast := (Option.some.inj hp).symm
    subst this
    cases he

/-- the hypotheses of `peers_only_leave_by` hold for the example node -/
example : ((n false).peers.map (·.1)).Nodup := by decide

/-! ### 2. announcements -/

/-- peer 2 announces 10.1.0.0/16 again, drops nothing, adds 10.3.0.0/16 -/
def info2 : NodeInfo :=
  { nodeId := List.replicate 16 2, peers := [], claims := [⟨[10, 1, 0, 0], 16⟩, ⟨[10, 3, 0, 0], 16⟩], peerTimeout := none, addrs := [] }
def annData : Bytes := Generated.MESSAGE_TYPE_NODE_INFO :: Codec.encodeNodeInfo info2

theorem ann_fromPeer : FromPeer Toy.env (Toy.body 0) o (n false) s2 annData [] p2 p2.crypto Generated.MESSAGE_TYPE_NODE_INFO (Codec.encodeNodeInfo info2) :=
  ⟨rfl, by decide, [], [], rfl⟩

theorem ann_decodes : Codec.decodeNodeInfo (Codec.encodeNodeInfo info2) = some info2 := by decide

/-- `announcement_sets_claims` at time 100 (claim timeout 200): both claims of peer 2 carry the expiry 300, those of peer 1 are untouched -/
example : (handleNet Toy.env (Toy.body 0) o (n false) 100 s2 annData []).1.node.table.claims =
    [⟨1, ⟨[10, 0, 0, 0], 8⟩, 2000⟩, ⟨2, ⟨[10, 1, 0, 0], 16⟩, 300⟩, ⟨1, ⟨[10, 2, 0, 0], 16⟩, 2000⟩, ⟨2, ⟨[10, 3, 0, 0], 16⟩, 300⟩] := by decide

/-- `claims_expire_node` / `claims_expire_before_peer` / `announced_claims_expire`: after that announcement at time 100 the record of peer 2
    expires at 400, its claims at 300: the tick at time 350 keeps the record and drops the claims -/
example : (100 : Int) + (n false).table.claimTimeout < 350 ∧
    (lookupA (housekeep Toy.env o (handleNet Toy.env (Toy.body 0) o (n false) 100 s2 annData []).1.node 350).node.peers s2).map (·.timeout) = some 400 ∧
    (housekeep Toy.env o (handleNet Toy.env (Toy.body 0) o (n false) 100 s2 annData []).1.node 350).node.table.claims =
      [⟨1, ⟨[10, 0, 0, 0], 8⟩, 2000⟩, ⟨1, ⟨[10, 2, 0, 0], 16⟩, 2000⟩] := by decide

/-- `keepalive_keeps_claims`: a KEEPALIVE and a DATA message of peer 2 -/
theorem keepalive_fromPeer : FromPeer Toy.env (Toy.body 0) o (n false) s2 [Generated.MESSAGE_TYPE_KEEPALIVE] [] p2 p2.crypto
    Generated.MESSAGE_TYPE_KEEPALIVE [] := ⟨rfl, by decide, [], [], rfl⟩

/-- an IPv4 packet from 10.1.0.9 to 10.9.0.1 -/
def pkt (dst : Bytes) : Bytes := 69 :: (List.replicate 11 0 ++ [10, 1, 0, 9] ++ dst)

theorem data_fromPeer : FromPeer Toy.env (Toy.body 0) o (n false) s2 (Generated.MESSAGE_TYPE_DATA :: pkt [10, 9, 0, 1]) [] p2 p2.crypto
    Generated.MESSAGE_TYPE_DATA (pkt [10, 9, 0, 1]) := ⟨rfl, by decide, [], [], rfl⟩

example : (handleNet Toy.env (Toy.body 0) o (n false) 100 s2 (Generated.MESSAGE_TYPE_DATA :: pkt [10, 9, 0, 1]) []).1.node.table.cache =
    ⟨[10, 1, 0, 9], 2, 400⟩ :: tbl.cache := by decide

/-! ### 3. lookup hits -/

/-- a frame for 10.1.0.1 (cached for peer 2, plain session): one datagram to peer 2 -/
example : parseAddrs (n false) (pkt [10, 1, 0, 1]) = some ([10, 1, 0, 9], [10, 1, 0, 1]) ∧
    ((n false).table.lookup 100 [10, 1, 0, 1]).2 = some 2 ∧ canSeal p2.crypto ∧
    (handleIface o (n false) 100 (pkt [10, 1, 0, 1])).outs = [.dgram s2 (Generated.MESSAGE_TYPE_DATA :: pkt [10, 1, 0, 1])] := by
  refine ⟨by decide, by decide, Or.inl rfl, by decide⟩

/-- a frame for 10.1.7.7: the longest of the nested claims (10.1.0.0/16 of peer 2 inside 10.0.0.0/8 of peer 1) decides -/
example : ((n false).table.lookup 100 [10, 1, 7, 7]).2 = some 2 ∧ ((n false).table.lookup 100 [10, 7, 7, 7]).2 = some 1 := by decide

/-- the second alternative: a peer whose session has neither a core nor the plain flag gets nothing -/
def pMute : Peer := { p2 with crypto := { init := none } }
def nMute : Node := { n false with peers := [(s1, p1), (s2, pMute)] }
example : ¬ canSeal pMute.crypto ∧ ((nMute).table.lookup 100 [10, 1, 0, 1]).2 = some 2 ∧
    (handleIface o nMute 100 (pkt [10, 1, 0, 1])).outs = [] := by
  refine ⟨?_, by decide, by decide⟩
  rintro (h | h) <;> cases h

/-! ### 4. frames without a next hop -/

/-- 11.0.0.1 is the key of no cached entry and lies in none of the (nested) claims -/
theorem uncovered : (∀ v ∈ tbl.cache, v.addr ≠ [11, 0, 0, 1]) ∧ (∀ e ∈ tbl.claims, e.claim.matches [11, 0, 0, 1] = false) := by decide

example : parseAddrs (n false) (pkt [11, 0, 0, 1]) = some ([10, 1, 0, 9], [11, 0, 0, 1]) := by decide

/-- router mode: dropped and counted -/
example : (handleIface o (n false) 100 (pkt [11, 0, 0, 1])).node.droppedOut = 1 ∧ (handleIface o (n false) 100 (pkt [11, 0, 0, 1])).outs = [] := by
  decide

/-- switch mode: flooded to both peers, not counted -/
example : (handleIface o (n true) 100 (pkt [11, 0, 0, 1])).node.droppedOut = 0 ∧
    (handleIface o (n true) 100 (pkt [11, 0, 0, 1])).outs.length = 2 := by decide

/-- `unparseable_ignored`: a packet of an unknown IP version -/
example : parseAddrs (n false) [0, 1, 2] = none := by decide

end Ex

end VpnCloud.Proofs.C12More
