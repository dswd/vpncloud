import VpnCloud.Proofs.Lemmas.Handshake.C05RecoverLemmas
import VpnCloud.Proofs.C01Mutual
/-
  C05 — the recovery clause at handshake-object level: from every reachable state in which somebody has initiated, both objects are
  two ticks away from giving up / closing and nobody is closed without both having completed (`Start`), two reliable rounds complete
  the handshake; the excluded closed states are reachable and are left only by a new attempt (`closed_initiator_dead_end`).

  0. `StepW` / `ReachW`: the two-party system of `C05Agree` (adversarial network: any bytes, any number of times, or never) with one
     more side condition on `deliver`: the random start of the slot-0 send counter is `< 2^48` (6 random bytes in the Rust).  Every
     run is a run of `C05Agree.Sys` (`ReachW.toReach`).
  1, 3. `RInv` (= `RI` of `Lemmas/Handshake/C05RecoverLemmas.lean`), a ghost-free invariant describing the stored last message of each object and
     every logged signature by the current states, preserved by every step under the AEAD law (`rinv_step`, `rinv_reach`).
     `reachable_classes`, `reachable_combinations`: the classes of the objects and which of them occur together.
  2. `round`: a reliable round = `every_second` at A and at B, A's datagram to B, B's datagram to A, B's reply to A, A's reply to B,
     with the side conditions `RoundOK` (reliability = the receiver's `read_from` accepts the datagram; (I1), `RandOK`, start bound).
     `send_abs`, `tick_abs`, `round_abs`: a round refines the abstract round `aRound` on (stage, stage, done, done).
  4–6. `reliable_rounds_complete` (K = 2; `abs_one_round_not_enough`, `Toy.ping_lost_recovered`: K = 1 is not enough),
     `measure_decreases`, `closed_initiator_dead_end` (+ `Toy.dead_end_reachable`), `give_up_is_bounded`,
     `completed_initiator_closes`.
  7. Non-vacuity (`Toy`): ping lost, pong lost, peng lost, dual open with one ping lost — all hypotheses of
     `reliable_rounds_complete` hold and the rounds are evaluated.
-/
namespace VpnCloud.Proofs.C05Recover

open VpnCloud VpnCloud.Init VpnCloud.InitMsg
open VpnCloud.Proofs.InitLemmas VpnCloud.Proofs.C05AgreeLemmas VpnCloud.Proofs.C05Agree VpnCloud.Proofs.C05RecoverLemmas
open VpnCloud.Proofs.LockstepLemmas
open VpnCloud.Proofs.C05Lockstep (EcdhWF Opens)
open VpnCloud.Proofs.C16Init (algosWF msgWF)

/-! ## 0. the system: `C05Agree.Step` with slot-0 counter starts below 2^48 -/

/-- the steps of `C05Agree.Step`; the only difference: the random start value of the slot-0 send counter of a core created in a
    `deliver` step is `< 2^48` (the Rust code draws 6 random bytes), see `Toy.start_bound_needed` below -/
inductive StepW (P : Params) : Sys → Sys → Prop
  | ping (s : Sys) (x : Who) (rnd : Rand) (hst : (s.obj x).stage = Generated.STAGE_PING) (hr : RandOK P.env (s.obj x) rnd) :
      StepW P s (s.upd x (sendPing P.env (s.obj x) rnd).1 (sendPing P.env (s.obj x) rnd).2
        (newSig (s.obj x) (sendPing P.env (s.obj x) rnd).1 (sendPing P.env (s.obj x) rnd).2 rnd) [] [])
  | tick (s : Sys) (x : Who) :
      StepW P s (s.upd x (everySecond (s.obj x)).1 (match (everySecond (s.obj x)).2 with | .ok o => o | .error _ => []) [] [] [])
  | deliver (s : Sys) (x : Who) (w : Bytes) (rnd : Rand) (st' : InitSt) (out : Bytes) (res : InitResult) (log : SealLog)
      (hI : I1 P.env s.sigs (s.obj x).trusted w) (hr : RandOK P.env (s.obj x) rnd) (hw : rnd.start < 2 ^ 48)
      (h : handleInit P.env P.bodyOf P.ok (s.obj x) w rnd = .ok st' (out, res, log)) :
      StepW P s (s.upd x st' out (newSig (s.obj x) st' out rnd) log (doneOf res))
  | deliverErr (s : Sys) (x : Who) (w : Bytes) (rnd : Rand) (st' : InitSt) (e : InitErr)
      (hI : I1 P.env s.sigs (s.obj x).trusted w)
      (h : handleInit P.env P.bodyOf P.ok (s.obj x) w rnd = .err st' e) :
      StepW P s (s.upd x st' [] [] [] [])

theorem StepW.toStep {P : Params} {s s' : Sys} (h : StepW P s s') : Step P s s' := by
  cases h with
  | ping x rnd hst hr => exact .ping s x rnd hst hr
  | tick x => exact .tick s x
  | deliver x w rnd st' out res log hI hr hw h => exact .deliver s x w rnd st' out res log hI hr h
  | deliverErr x w rnd st' e hI h => exact .deliverErr s x w rnd st' e hI h

inductive ReachW (P : Params) (s0 : Sys) : Sys → Prop
  | refl : ReachW P s0 s0
  | step {s s' : Sys} : ReachW P s0 s → StepW P s s' → ReachW P s0 s'

/-- every run of the restricted system is a run of `C05Agree.Sys`: `attempt_agreement`, `success_at_most_once` apply -/
theorem ReachW.toReach {P : Params} {s0 s : Sys} (h : ReachW P s0 s) : Reach P s0 s := by
  induction h with
  | refl => exact .refl
  | step _ hs ih => exact .step ih hs.toStep

theorem ReachW.trans {P : Params} {s0 s s' : Sys} (h : ReachW P s0 s) (h' : ReachW P s s') : ReachW P s0 s' := by
  induction h' with
  | refl => exact h
  | step _ hs ih => exact .step ih hs

theorem hash_static_obj {P : Params} {s s' : Sys} (h : ReachW P s s') (x : Who) : (s'.obj x).hash = (s.obj x).hash := by
  obtain ⟨h1, h2⟩ := static_reach P s s' h.toReach
  cases x
  · exact h1.2.1
  · exact h2.2.1

theorem seals_upd (s : Sys) (x : Who) (st' : InitSt) (out : Bytes) (sg : List (Bytes × Bytes)) (log : SealLog) (dn : List (Bytes × Bool)) :
    (s.upd x st' out sg log dn).seals = s.seals ++ log := by cases x <;> rfl

theorem StepW.seals_sub {P : Params} {s s' : Sys} (h : StepW P s s') : ∀ e ∈ s.seals, e ∈ s'.seals := by
  intro e he
  cases h <;> (rw [seals_upd]; exact List.mem_append_left _ he)

theorem ReachW.seals_sub {P : Params} {s s' : Sys} (h : ReachW P s s') : ∀ e ∈ s.seals, e ∈ s'.seals := by
  induction h with
  | refl => exact fun e he => he
  | step _ hs ih => exact fun e he => hs.seals_sub e (ih e he)

theorem opens_sub {bodyOf : BodyOf} {l l' : SealLog} (h : Opens bodyOf l') (hs : ∀ e ∈ l, e ∈ l') : Opens bodyOf l :=
  fun e he => h e (hs e he)

/-! ## 1. the recovery invariant on the system -/

/-- the recovery invariant (`RI` of `Lemmas/Handshake/C05RecoverLemmas.lean`) of a system state, for the negotiation result `sel` -/
def RInv (P : Params) (sel : Option Cipher) (s : Sys) : Prop := RI P.env P.ok sel s.a s.b s.doneA s.doneB s.sigs s.seals

/-- static hypotheses on the pair (see `Good`): the negotiation succeeds with the same result `sel` at both ends, each payload parser
    accepts the other's payload, neither salted node-id hash is a salted hash of the other's node id -/
def GoodSys (P : Params) (sel : Option Cipher) (s : Sys) : Prop := Good P.env P.ok sel s.a s.b

theorem rinv_init (P : Params) (sel : Option Cipher) (s : Sys) (h : Init0 s) (hg : GoodSys P sel s) : RInv P sel s := by
  have fresh : ∀ (x y : InitSt) (d : List (Bytes × Bool)), FreshObj x → Obj sel x y s.seals d := by
    intro x y d hx
    refine ⟨Or.inl hx.stage, fun _ => ⟨hx.last, hx.ecdh, hx.crypto⟩, ?_, ?_, ?_, fun _ => hx.crypto⟩
    all_goals (intro e; rw [hx.stage] at e; exact absurd e (by decide))
  refine ⟨fresh _ _ _ h.a, fresh _ _ _ h.b, ?_, ⟨h.a.hash, h.a.algos, h.a.payload⟩, ⟨h.b.hash, h.b.algos, h.b.payload⟩, h.hashNe, ?_, hg⟩
  · intro k r hk
    rw [h.sigs] at hk; cases hk
  · intro e
    rw [h.a.stage] at e
    exact absurd e.1 (by decide)

def RF (P : Params) (sel : Option Cipher) : Fam := fun x y dx dy sg sl _ => RI P.env P.ok sel x y dx dy sg sl

theorem rinv_step (P : Params) (sel : Option Cipher) (s s' : Sys) (h : RInv P sel s) (hs : StepW P s s')
    (hop : Opens P.bodyOf s.seals) : RInv P sel s' := by
  have hv := Sys.view_at (J := RF P sel) RI.swap h
  cases hs with
  | ping x rnd hst hr => exact Sys.view_upd (J := RF P sel) RI.swap s x (RI.ping (hv x) hst hr)
  | tick x =>
    refine Sys.view_upd (J := RF P sel) RI.swap s x ?_
    rw [List.append_nil, List.append_nil, List.nil_append]
    exact RI.tick (hv x)
  | deliver x w rnd st' out res log hI hr hw hh =>
    have hd := RI.deliver (hv x) P.bodyOf rnd hI
    rw [hh] at hd
    exact Sys.view_upd (J := RF P sel) RI.swap s x (hd hr hw)
  | deliverErr x w rnd st' e hI hh =>
    refine Sys.view_upd (J := RF P sel) RI.swap s x ?_
    rw [List.append_nil, List.append_nil, List.nil_append]
    have hd := RI.deliver (hv x) P.bodyOf rnd hI
    rw [hh] at hd
    exact hd hop

/-- the invariant along a run whose final seal log satisfies the AEAD law -/
theorem rinv_run (P : Params) (sel : Option Cipher) (s s' : Sys) (h : RInv P sel s) (hr : ReachW P s s')
    (hop : Opens P.bodyOf s'.seals) : RInv P sel s' := by
  induction hr with
  | refl => exact h
  | step hr' hs ih =>
    have hop' := opens_sub hop hs.seals_sub
    exact rinv_step P sel _ _ (ih hop') hs hop'

theorem rinv_reach (P : Params) (sel : Option Cipher) (s0 s : Sys) (h0 : Init0 s0) (hg : GoodSys P sel s0) (hr : ReachW P s0 s)
    (hop : Opens P.bodyOf s.seals) : RInv P sel s :=
  rinv_run P sel s0 s (rinv_init P sel s0 h0 hg) hr hop


/-! ## 2. a reliable round -/

/-- what `every_second` writes to `out` (nothing on the fatal error) -/
def tickOut (st : InitSt) : Bytes :=
  match (everySecond st).2 with
  | .ok o => o
  | .error _ => []

/-- `every_second` at `x` -/
def tickAt (s : Sys) (x : Who) : Sys := s.upd x (everySecond (s.obj x)).1 (tickOut (s.obj x)) [] [] []

/-- what `x` answers to `w` (empty = nothing) -/
def replyOf (P : Params) (st : InitSt) (w : Bytes) (rnd : Rand) : Bytes :=
  match handleInit P.env P.bodyOf P.ok st w rnd with
  | .ok _ (out, _, _) => out
  | _ => []

/-- reliable delivery of the datagram `w` to `x` (no datagram: nothing happens) -/
def send (P : Params) (s : Sys) (x : Who) (w : Bytes) (rnd : Rand) : Sys := if w = [] then s else deliverTo P s x w rnd

/-- the datagram `x` sends in reply -/
def reply (P : Params) (s : Sys) (x : Who) (w : Bytes) (rnd : Rand) : Bytes := if w = [] then [] else replyOf P (s.obj x) w rnd

/-- side conditions of a reliable delivery: those of `StepW.deliver` — (I1) for the window, `RandOK`, counter start `< 2^48` — and
    RELIABILITY: the datagram arrives intact at a receiver that trusts the sender's key and verifies its signature, i.e. the
    receiver's `InitMsg::read_from` accepts it -/
structure SendOK (P : Params) (s : Sys) (x : Who) (w : Bytes) (rnd : Rand) : Prop where
  i1 : I1 P.env s.sigs (s.obj x).trusted w
  rok : RandOK P.env (s.obj x) rnd
  start : rnd.start < 2 ^ 48
  reads : ∃ m k, readFrom P.env w (s.obj x).trusted = .ok (m, k)

/-- the random parts of the (up to) four deliveries of a round -/
structure RoundRand where
  b1 : Rand
  a1 : Rand
  a2 : Rand
  b2 : Rand

/-- **one reliable round**, a fixed schedule of six steps: `every_second` at A, `every_second` at B (each retransmits its last
    message if it still waits); A's datagram is delivered to B, B's datagram to A; then B's reply to A and A's reply to B.  (Replies
    to the replies are not delivered in this round.) -/
def rnd0 (s : Sys) : Sys := tickAt (tickAt s .A) .B
def rnd1 (P : Params) (s : Sys) (r : RoundRand) : Sys := send P (rnd0 s) .B (tickOut s.a) r.b1
def replyB (P : Params) (s : Sys) (r : RoundRand) : Bytes := reply P (rnd0 s) .B (tickOut s.a) r.b1
def rnd2 (P : Params) (s : Sys) (r : RoundRand) : Sys := send P (rnd1 P s r) .A (tickOut s.b) r.a1
def replyA (P : Params) (s : Sys) (r : RoundRand) : Bytes := reply P (rnd1 P s r) .A (tickOut s.b) r.a1
def rnd3 (P : Params) (s : Sys) (r : RoundRand) : Sys := send P (rnd2 P s r) .A (replyB P s r) r.a2
def round (P : Params) (s : Sys) (r : RoundRand) : Sys := send P (rnd3 P s r) .B (replyA P s r) r.b2

/-- the side conditions of the deliveries of a round -/
structure RoundOK (P : Params) (s : Sys) (r : RoundRand) : Prop where
  k1 : tickOut s.a ≠ [] → SendOK P (rnd0 s) .B (tickOut s.a) r.b1
  k2 : tickOut s.b ≠ [] → SendOK P (rnd1 P s r) .A (tickOut s.b) r.a1
  k3 : replyB P s r ≠ [] → SendOK P (rnd2 P s r) .A (replyB P s r) r.a2
  k4 : replyA P s r ≠ [] → SendOK P (rnd3 P s r) .B (replyA P s r) r.b2

theorem obj_upd_self (s : Sys) (x : Who) (st' : InitSt) (out : Bytes) (sg : List (Bytes × Bytes)) (log : SealLog) (dn : List (Bytes × Bool)) :
    (s.upd x st' out sg log dn).obj x = st' := by cases x <;> rfl

theorem obj_upd_other (s : Sys) (x : Who) (st' : InitSt) (out : Bytes) (sg : List (Bytes × Bytes)) (log : SealLog) (dn : List (Bytes × Bool)) :
    (s.upd x st' out sg log dn).obj x.other = s.obj x.other := by cases x <;> rfl

theorem done_upd_self (s : Sys) (x : Who) (st' : InitSt) (out : Bytes) (sg : List (Bytes × Bytes)) (log : SealLog) (dn : List (Bytes × Bool)) :
    (s.upd x st' out sg log dn).done x = dn ++ s.done x := by cases x <;> rfl

theorem done_upd_other (s : Sys) (x : Who) (st' : InitSt) (out : Bytes) (sg : List (Bytes × Bytes)) (log : SealLog) (dn : List (Bytes × Bool)) :
    (s.upd x st' out sg log dn).done x.other = s.done x.other := by cases x <;> rfl

theorem RInv.at {P : Params} {sel : Option Cipher} {s : Sys} (h : RInv P sel s) (x : Who) :
    RI P.env P.ok sel (s.obj x) (s.obj x.other) (s.done x) (s.done x.other) s.sigs s.seals :=
  Sys.view_at (J := RF P sel) RI.swap h x

theorem reachW_deliver {P : Params} {s0 s : Sys} (hr : ReachW P s0 s) (x : Who) (w : Bytes) (rnd : Rand)
    (hI : I1 P.env s.sigs (s.obj x).trusted w) (hrnd : RandOK P.env (s.obj x) rnd) (hw : rnd.start < 2 ^ 48) :
    ReachW P s0 (deliverTo P s x w rnd) := by
  unfold deliverTo
  cases h : handleInit P.env P.bodyOf P.ok (s.obj x) w rnd with
  | ok st' r =>
    obtain ⟨out, res, log⟩ := r
    exact .step hr (.deliver s x w rnd st' out res log hI hrnd hw h)
  | err st' e => exact .step hr (.deliverErr s x w rnd st' e hI h)
  | panic => exact hr

theorem send_reach {P : Params} {s : Sys} {x : Who} {w : Bytes} {rnd : Rand} (hok : w ≠ [] → SendOK P s x w rnd) :
    ReachW P s (send P s x w rnd) := by
  unfold send
  by_cases hw : w = []
  · rw [if_pos hw]; exact .refl
  · rw [if_neg hw]
    exact reachW_deliver .refl x w rnd (hok hw).i1 (hok hw).rok (hok hw).start

theorem tick_reach {P : Params} (s : Sys) (x : Who) : ReachW P s (tickAt s x) := .step .refl (.tick s x)

theorem round_reach {P : Params} {s : Sys} {r : RoundRand} (hok : RoundOK P s r) : ReachW P s (round P s r) :=
  (tick_reach _ .A).trans ((tick_reach _ .B).trans ((send_reach hok.k1).trans ((send_reach hok.k2).trans
    ((send_reach hok.k3).trans (send_reach hok.k4)))))

theorem send_eq {P : Params} {s : Sys} {x : Who} {w : Bytes} {rnd : Rand} {st' : InitSt} {out : Bytes} {res : InitResult} {log : SealLog}
    (hw : w ≠ []) (h : handleInit P.env P.bodyOf P.ok (s.obj x) w rnd = .ok st' (out, res, log)) :
    send P s x w rnd = s.upd x st' out (newSig (s.obj x) st' out rnd) log (doneOf res) ∧ reply P s x w rnd = out := by
  unfold send reply replyOf deliverTo
  rw [if_neg hw, if_neg hw, h]
  exact ⟨rfl, rfl⟩

/-- retry counter and close timer through a delivery: the counter does not grow, the timer stays or is set to `CLOSE_TIME` -/
theorem handleInit_margin (P : Params) (x : InitSt) (w : Bytes) (rnd : Rand) :
    match handleInit P.env P.bodyOf P.ok x w rnd with
    | .ok st' _ => st'.retries ≤ x.retries ∧ (st'.closeTime = x.closeTime ∨ st'.closeTime = Generated.CLOSE_TIME)
    | _ => True := by
  have he := handleInit_eff P.env P.bodyOf P.ok x w rnd
  generalize handleInit P.env P.bodyOf P.ok x w rnd = R at he
  cases he with
  | quietErr | panic | pingErr | pongSelErr | pongFail | pengFail => trivial
  | quietOk o ho => exact ⟨Nat.le_refl _, Or.inl rfl⟩
  | pingOk hh e al k st0 sel hr hne hst0 hsel =>
    unfold pingRes
    rw [sendMessage_pong, encryptPayload_fst]
    have hc : st0.closeTime = x.closeTime := by rcases hst0 with ⟨rfl, _⟩ | ⟨rfl, _⟩ <;> rfl
    cases sel <;> exact ⟨Nat.zero_le _, Or.inl hc⟩
  | pongOk hb eb ab pl k own sel st5 p hr hne hstage hown hsel hd hok =>
    unfold pongRes
    obtain ⟨cr, hcr, _⟩ := decryptPayload_frame _ _ _ _ _ hd
    rw [sendMessage_peng, encryptPayload_fst, hcr]
    cases sel <;> exact ⟨Nat.zero_le _, Or.inr rfl⟩
  | pengOk hb pl k st2 p hr hne hstage hd hok =>
    obtain ⟨cr, _, rfl⟩ := decryptPayload_step hd
    exact ⟨Nat.zero_le _, Or.inl rfl⟩


/-! ### the abstract view of a delivery -/

/-- a datagram in abstract form: kind 0 = no datagram, else a message of stage `k` of the object with salted hash `hash` -/
def Dg (w : Bytes) (k : Nat) (hash : Bytes) : Prop := if k = 0 then w = [] else IsMsg w k hash

/-- **abstract delivery**: receiver in stage `sx`, `gx` = "the peer's salted hash is the larger one", datagram of kind `k`
    (0 = none, 1 ping, 2 pong, 3 peng): new stage, kind of the reply (0 = none), success reported.  `none` = a combination that does not
    occur in reachable states (e.g. a pong for a fresh object).  Stages and kinds are written as the numbers 1 … 5, the values of
    `Generated.STAGE_PING`, `STAGE_PONG`, `STAGE_PENG`, `WAITING_TO_CLOSE`, `CLOSING` (so also in `tickKind`, `aRound`, `live`, `mu`);
    `send_abs` and `tick_obj` rewrite a stage equation into them and let them evaluate, and fail if the regenerated values change. -/
def recv (gx : Bool) (sx k : Nat) : Option (Nat × Nat × Bool) :=
  if k = 0 then some (sx, 0, false)
  else if sx = 5 then some (5, 0, false)
  else if sx = 1 ∧ k = 1 then some (3, 2, false)
  else if sx = 2 ∧ k = 1 then (if gx then some (3, 2, false) else some (2, 0, false))
  else if sx = 2 ∧ k = 2 then some (4, 3, true)
  else if sx = 3 ∧ k = 3 then some (5, 0, true)
  else if sx = 3 ∧ k = 1 then some (3, 2, false)
  else if sx = 4 ∧ k = 2 then some (4, 3, false)
  else none

/-- what a delivery to `x` does, in terms of the abstract result -/
structure SendRes (P : Params) (sel : Option Cipher) (s : Sys) (x : Who) (s' : Sys) (out : Bytes) (sx' k' : Nat) (d : Bool) : Prop where
  inv : RInv P sel s'
  stage : (s'.obj x).stage = sx'
  out : Dg out k' (s.obj x).hash
  other : s'.obj x.other = s.obj x.other
  doneOther : s'.done x.other = s.done x.other
  done : s'.done x ≠ [] ↔ (d = true ∨ s.done x ≠ [])
  static : Static (s.obj x) (s'.obj x)
  retries : (s'.obj x).retries ≤ (s.obj x).retries
  close : (s'.obj x).closeTime = (s.obj x).closeTime ∨ (s'.obj x).closeTime = Generated.CLOSE_TIME

theorem isMsg_kind {w : Bytes} {k : Nat} {hash : Bytes} (h : IsMsg w k hash) : k = 1 ∨ k = 2 ∨ k = 3 := by
  obtain ⟨m, _, _, _, _, _, _, _, hk, _⟩ := h
  rw [← hk]
  exact msg_stage_cases m

theorem sendRes_of {P : Params} {sel : Option Cipher} {s : Sys} {x : Who} {w : Bytes} {rnd : Rand} (hinv : RInv P sel s)
    (hop : Opens P.bodyOf (send P s x w rnd).seals) (hw : w ≠ []) (hok : w ≠ [] → SendOK P s x w rnd)
    {st' : InitSt} {out : Bytes} {res : InitResult} {log : SealLog}
    (heq : handleInit P.env P.bodyOf P.ok (s.obj x) w rnd = .ok st' (out, res, log)) {sx' k' : Nat} {d : Bool}
    (hstage : st'.stage = sx') (hout : ∀ {y seals dn}, Obj sel st' y seals dn → Dg out k' st'.hash)
    (hd : d = !(doneOf res).isEmpty) :
    SendRes P sel s x (send P s x w rnd) (reply P s x w rnd) sx' k' d := by
  have hinv' := rinv_run P sel s _ hinv (send_reach hok) hop
  obtain ⟨e1, e2⟩ := send_eq hw heq
  have hm := handleInit_margin P (s.obj x) w rnd
  rw [heq] at hm
  obtain ⟨m1, m2⟩ := hm
  have hst := (heq ▸ handleInit_eff P.env P.bodyOf P.ok (s.obj x) w rnd).static
  rw [e1] at hinv' ⊢
  rw [e2]
  -- what the object sent is read off the invariant after the step
  have ho := (hinv'.at x).ox
  rw [obj_upd_self] at ho
  refine ⟨hinv', by rw [obj_upd_self]; exact hstage, hst.2.1 ▸ hout ho, obj_upd_other .., done_upd_other .., ?_,
    by rw [obj_upd_self]; exact hst, by rw [obj_upd_self]; exact m1, by rw [obj_upd_self]; exact m2⟩
  rw [done_upd_self, hd]
  cases res <;> simp [doneOf]

/-- **a reliable delivery refines the abstract delivery** -/
theorem send_abs {P : Params} {sel : Option Cipher} {s : Sys} {x : Who} {w : Bytes} {rnd : Rand} {k : Nat} (hinv : RInv P sel s)
    (hop : Opens P.bodyOf (send P s x w rnd).seals) (hw : Dg w k (s.obj x.other).hash) (hok : w ≠ [] → SendOK P s x w rnd)
    {sx' k' : Nat} {d : Bool}
    (hrecv : recv (bytesGt (s.obj x.other).hash (s.obj x).hash) (s.obj x).stage k = some (sx', k', d)) :
    SendRes P sel s x (send P s x w rnd) (reply P s x w rnd) sx' k' d := by
  by_cases h0 : k = 0
  · subst h0
    cases hrecv
    have hw' : w = [] := hw
    unfold send reply
    rw [if_pos hw', if_pos hw']
    exact ⟨hinv, rfl, rfl, rfl, rfl, by simp, Static.refl _, Nat.le_refl _, Or.inl rfl⟩
  have hmsg : IsMsg w k (s.obj x.other).hash := by unfold Dg at hw; rwa [if_neg h0] at hw
  have hwne := hmsg.ne_nil
  have K := hok hwne
  have hop0 : Opens P.bodyOf s.seals := opens_sub hop (send_reach hok).seals_sub
  have hat := hinv.at x
  -- stage of the receiver × kind of the message: `recv` evaluates; the combinations with `recv … = none` go at once
  rcases hat.ox.st with e | e | e | e | e <;> rcases isMsg_kind hmsg with rfl | rfl | rfl <;>
    (rw [e] at hrecv; first | cases hrecv | skip)
  · obtain ⟨st', out, log, heq, hs', hl'⟩ := hat.ping_answered P.bodyOf rnd K.i1 hmsg K.reads (Or.inl e)
    exact sendRes_of hinv hop hwne hok heq hs' (fun o => (o.o4 hs').out hl') rfl
  · cases hg : bytesGt (s.obj x.other).hash (s.obj x).hash <;> (rw [hg] at hrecv; cases hrecv)
    · exact sendRes_of hinv hop hwne hok (hat.ping_ignored P.bodyOf (rnd := rnd) hmsg K.reads e hg) e (fun _ => rfl) rfl
    · obtain ⟨st', out, log, heq, hs', hl'⟩ := hat.ping_answered P.bodyOf rnd K.i1 hmsg K.reads (Or.inr ⟨e, hg⟩)
      exact sendRes_of hinv hop hwne hok heq hs' (fun o => (o.o4 hs').out hl') rfl
  · obtain ⟨st', out, log, heq, hs', hl'⟩ := hat.pong_completes P.bodyOf hop0 rnd K.i1 hmsg K.reads e
    exact sendRes_of hinv hop hwne hok heq hs' (fun o => (o.o5 hs').1.out hl') rfl
  · obtain ⟨l, _, hl2, heq⟩ := hat.repeats P.bodyOf (rnd := rnd) hmsg K.reads (Or.inl e) (by rw [e]; decide)
    rw [if_pos e] at hl2
    exact sendRes_of hinv hop hwne hok heq e (fun _ => hl2) rfl
  · obtain ⟨st', heq, hs'⟩ := hat.peng_completes P.bodyOf hop0 rnd K.i1 hmsg K.reads e
    exact sendRes_of hinv hop hwne hok heq hs' (fun _ => rfl) rfl
  · obtain ⟨l, _, hl2, heq⟩ := hat.repeats P.bodyOf (rnd := rnd) hmsg K.reads (Or.inr e) (by rw [e]; decide)
    rw [if_neg (by rw [e]; decide)] at hl2
    exact sendRes_of hinv hop hwne hok heq e (fun _ => hl2) rfl
  all_goals exact sendRes_of hinv hop hwne hok (hat.closed_ignores P.bodyOf (rnd := rnd) hmsg K.reads e (by decide)) e (fun _ => rfl) rfl


/-! ### the abstract view of a timer tick -/

/-- kind of the datagram an object in stage `sx` retransmits at a tick -/
def tickKind (sx : Nat) : Nat := if sx = 2 then 1 else if sx = 3 then 2 else 0

/-- every object that is not closed is `n` ticks away from giving up (retry limit) and from closing after completion (close timer) -/
def Margin (n : Nat) (s : Sys) : Prop :=
  ∀ x : Who, (s.obj x).stage = CLOSING ∨ ((s.obj x).retries + n ≤ Generated.MAX_FAILED_RETRIES ∧ n ≤ (s.obj x).closeTime)

/-- `Margin` for one object -/
def Near (n : Nat) (st : InitSt) : Prop :=
  st.stage = CLOSING ∨ (st.retries + n ≤ Generated.MAX_FAILED_RETRIES ∧ n ≤ st.closeTime)

theorem Near.le {m n : Nat} {st : InitSt} (h : Near n st) (hmn : m ≤ n) : Near m st :=
  h.imp_right fun ⟨h1, h2⟩ => ⟨by omega, by omega⟩

structure TickRes (P : Params) (sel : Option Cipher) (s : Sys) (x : Who) (s' : Sys) : Prop where
  inv : RInv P sel s'
  static : Static (s.obj x) (s'.obj x)
  stage : (s'.obj x).stage = (s.obj x).stage
  other : s'.obj x.other = s.obj x.other
  done : s'.done x = s.done x
  doneOther : s'.done x.other = s.done x.other
  out : Dg (tickOut (s.obj x)) (tickKind (s.obj x).stage) (s.obj x).hash
  retries : (s'.obj x).retries ≤ (s.obj x).retries + 1
  close : (s.obj x).closeTime ≤ (s'.obj x).closeTime + 1

theorem tick_obj {sel : Option Cipher} {st y : InitSt} {seals : SealLog} {dn : List (Bytes × Bool)} (ho : Obj sel st y seals dn)
    (hm : Near 1 st) :
    (everySecond st).1.stage = st.stage ∧ Static st (everySecond st).1 ∧ Dg (tickOut st) (tickKind st.stage) st.hash ∧
      (everySecond st).1.retries ≤ st.retries + 1 ∧ st.closeTime ≤ (everySecond st).1.closeTime + 1 := by
  -- the retransmitting stages: the stored last message goes out again (a fresh object has none)
  have retr : st.stage ≠ WAIT → st.stage ≠ CLOSING → Dg (st.last.getD []) (tickKind st.stage) st.hash →
      (everySecond st).1.stage = st.stage ∧ Static st (everySecond st).1 ∧ Dg (tickOut st) (tickKind st.stage) st.hash ∧
        (everySecond st).1.retries ≤ st.retries + 1 ∧ st.closeTime ≤ (everySecond st).1.closeTime + 1 := by
    intro hw hc hd
    unfold tickOut
    rw [everySecond_retry _ hw hc (by have := (hm.resolve_left hc).1; omega)]
    exact ⟨rfl, ⟨rfl, rfl, rfl, rfl, rfl, rfl⟩, hd, Nat.le_refl _, Nat.le_succ _⟩
  rcases ho.st with e | e | e | e | e
  · exact retr (by rw [e]; decide) (by rw [e]; decide) (by rw [e, (ho.o2 e).1]; rfl)
  · obtain ⟨w, hw1, hw2⟩ := (ho.o3 e).2.isMsg
    exact retr (by rw [e]; decide) (by rw [e]; decide) (by rw [e, hw1]; exact hw2)
  · obtain ⟨w, hw1, hw2⟩ := (ho.o4 e).isMsg
    exact retr (by rw [e]; decide) (by rw [e]; decide) (by rw [e, hw1]; exact hw2)
  · have hc := (hm.resolve_left (by rw [e]; decide)).2
    unfold tickOut
    rw [everySecond_wait st e (by omega), e]
    exact ⟨rfl, ⟨rfl, rfl, rfl, rfl, rfl, rfl⟩, rfl, Nat.le_succ _, by show _ ≤ st.closeTime - 1 + 1; omega⟩
  · unfold tickOut
    rw [everySecond_closing st e, e]
    exact ⟨rfl, Static.refl _, rfl, Nat.le_succ _, Nat.le_succ _⟩

theorem tick_abs {P : Params} {sel : Option Cipher} {s : Sys} (x : Who) (hinv : RInv P sel s) (hop : Opens P.bodyOf s.seals)
    (hm : (s.obj x).stage = CLOSING ∨ ((s.obj x).retries + 1 ≤ Generated.MAX_FAILED_RETRIES ∧ 1 ≤ (s.obj x).closeTime)) :
    TickRes P sel s x (tickAt s x) := by
  have hinv' : RInv P sel (tickAt s x) := rinv_step P sel s _ hinv (.tick s x) hop
  obtain ⟨k1, k2, k3, k4, k5⟩ := tick_obj (hinv.at x).ox hm
  unfold tickAt at hinv' ⊢
  exact ⟨hinv', by rw [obj_upd_self]; exact k2, by rw [obj_upd_self]; exact k1, obj_upd_other .., by rw [done_upd_self]; rfl,
    done_upd_other .., k3, by rw [obj_upd_self]; exact k4, by rw [obj_upd_self]; exact k5⟩


theorem TickRes.near {P : Params} {sel : Option Cipher} {s s' : Sys} {x : Who} {n : Nat} (h : TickRes P sel s x s')
    (hn : Near (n + 1) (s.obj x)) : Near n (s'.obj x) := by
  rcases hn with q | ⟨q1, q2⟩
  · exact Or.inl (h.stage.trans q)
  · have := h.retries
    have := h.close
    exact Or.inr ⟨by omega, by omega⟩

/-! ### the abstract round and its refinement -/

/-- abstract state of the pair: the two stages, and whether each side has reported success -/
structure AS where
  sa : Nat
  sb : Nat
  da : Bool
  db : Bool
  deriving DecidableEq, Repr

def absOf (s : Sys) : AS := ⟨s.a.stage, s.b.stage, decide (s.doneA ≠ []), decide (s.doneB ≠ [])⟩

/-- **the abstract round** (`g` = "B's salted hash is larger than A's"): ticks, A's datagram to B, B's datagram to A, B's reply to A,
    A's reply to B -/
def aRound (g : Bool) (t : AS) : Option AS :=
  match recv (!g) t.sb (tickKind t.sa) with
  | none => none
  | some (sb1, kB, dB1) =>
    match recv g t.sa (tickKind t.sb) with
    | none => none
    | some (sa1, kA, dA1) =>
      match recv g sa1 kB with
      | none => none
      | some (sa2, _, dA2) =>
        match recv (!g) sb1 kA with
        | none => none
        | some (sb2, _, dB2) => some ⟨sa2, sb2, dA2 || (dA1 || t.da), dB2 || (dB1 || t.db)⟩

theorem recv_closed {g : Bool} {k s' k' : Nat} {d : Bool} (h : recv g 5 k = some (s', k', d)) : s' = 5 := by
  unfold recv at h
  by_cases h0 : k = 0
  · rw [if_pos h0] at h
    simp only [Option.some.injEq, Prod.mk.injEq] at h
    exact h.1.symm
  · rw [if_neg h0, if_pos rfl] at h
    simp only [Option.some.injEq, Prod.mk.injEq] at h
    exact h.1.symm

theorem decide_or {X Y : Prop} [Decidable X] [Decidable Y] {d : Bool} (h : X ↔ (d = true ∨ Y)) : decide X = (d || decide Y) := by
  cases d <;> by_cases hy : Y <;> simp [hy] at h ⊢ <;> exact h

def AS.stage (t : AS) : Who → Nat
  | .A => t.sa
  | .B => t.sb

def AS.put (t : AS) (x : Who) (sx : Nat) (d : Bool) : AS :=
  match x with
  | .A => { t with sa := sx, da := d || t.da }
  | .B => { t with sb := sx, db := d || t.db }

/-- `s0` is the state the round began in: the salted hashes never change, so the datagrams of the round are stated with those of
    `s0`; `n` is the distance of both objects from giving up / closing -/
structure Sim (P : Params) (sel : Option Cipher) (s0 : Sys) (n : Nat) (s : Sys) (t : AS) : Prop where
  inv : RInv P sel s
  abs : absOf s = t
  hash : ∀ x, (s.obj x).hash = (s0.obj x).hash
  near : ∀ x, Near n (s.obj x)

theorem Who.both {p : Who → Prop} (x : Who) (h1 : p x) (h2 : p x.other) (y : Who) : p y := by
  cases x <;> cases y <;> assumption

theorem absOf_put {s s' : Sys} (x : Who) {sx : Nat} {d : Bool} (h1 : (s'.obj x).stage = sx) (h2 : s'.obj x.other = s.obj x.other)
    (h3 : decide (s'.done x ≠ []) = (d || decide (s.done x ≠ []))) (h4 : s'.done x.other = s.done x.other) :
    absOf s' = (absOf s).put x sx d := by
  have h2' := congrArg InitSt.stage h2
  cases x
  · have e1 : s'.a.stage = sx := h1
    have e2 : s'.b.stage = s.b.stage := h2'
    have e3 : decide (s'.doneA ≠ []) = (d || decide (s.doneA ≠ [])) := h3
    have e4 : s'.doneB = s.doneB := h4
    show AS.mk _ _ _ _ = AS.mk _ _ _ _
    rw [e1, e2, e3, e4]
    rfl
  · have e1 : s'.b.stage = sx := h1
    have e2 : s'.a.stage = s.a.stage := h2'
    have e3 : decide (s'.doneB ≠ []) = (d || decide (s.doneB ≠ [])) := h3
    have e4 : s'.doneA = s.doneA := h4
    show AS.mk _ _ _ _ = AS.mk _ _ _ _
    rw [e1, e2, e3, e4]
    rfl

theorem Sim.send {P : Params} {sel : Option Cipher} {s0 s : Sys} {n : Nat} {t : AS} (h : Sim P sel s0 n s t)
    (hn : n ≤ Generated.CLOSE_TIME) {x : Who} {w : Bytes} {rnd : Rand} {k : Nat} (hop : Opens P.bodyOf (send P s x w rnd).seals)
    (hw : Dg w k (s0.obj x.other).hash) (hok : w ≠ [] → SendOK P s x w rnd) {sx' k' : Nat} {d : Bool}
    (hrecv : recv (bytesGt (s0.obj x.other).hash (s0.obj x).hash) (t.stage x) k = some (sx', k', d)) :
    Sim P sel s0 n (send P s x w rnd) (t.put x sx' d) ∧ Dg (reply P s x w rnd) k' (s0.obj x).hash := by
  obtain ⟨hinv, rfl, hh, hnear⟩ := h
  have hst : (absOf s).stage x = (s.obj x).stage := by cases x <;> rfl
  rw [hst, ← hh, ← hh] at hrecv
  have S := send_abs hinv hop (by rw [hh]; exact hw) hok hrecv
  refine ⟨⟨S.inv, absOf_put x S.stage S.other (decide_or S.done) S.doneOther,
    fun y => (hash_static_obj (send_reach hok) y).trans (hh y), ?_⟩, hh x ▸ S.out⟩
  refine Who.both x ?_ (by rw [S.other]; exact hnear _)
  rcases hnear x with q | ⟨q1, q2⟩
  · rw [q] at hrecv
    exact Or.inl (S.stage.trans (recv_closed hrecv))
  · have := S.retries
    rcases S.close with c | c <;> exact Or.inr ⟨by omega, by omega⟩

theorem Sim.tick {P : Params} {sel : Option Cipher} {s0 s : Sys} {n : Nat} {t : AS} (h : Sim P sel s0 n s t) (x : Who)
    (hop : Opens P.bodyOf s.seals) (hx : Near (n + 1) (s.obj x)) :
    Sim P sel s0 n (tickAt s x) t ∧ Dg (tickOut (s.obj x)) (tickKind (t.stage x)) (s0.obj x).hash ∧
      (tickAt s x).obj x.other = s.obj x.other := by
  obtain ⟨hinv, rfl, hh, hnear⟩ := h
  have hst : (absOf s).stage x = (s.obj x).stage := by cases x <;> rfl
  have T := tick_abs x hinv hop (hx.le (Nat.le_add_left 1 n))
  refine ⟨⟨T.inv, ?_, fun y => (hash_static_obj (P := P) (tick_reach s x) y).trans (hh y),
    Who.both x (T.near hx) (by rw [T.other]; exact hnear _)⟩, by rw [hst, ← hh]; exact T.out, T.other⟩
  have := absOf_put (d := false) x T.stage T.other (by rw [T.done]; rfl) T.doneOther
  rw [this]
  cases x <;> rfl

/-- **a reliable round refines the abstract round** (as long as both objects are a tick away from giving up / closing) -/
theorem round_abs {P : Params} {sel : Option Cipher} {s : Sys} {r : RoundRand} {n : Nat} (hinv : RInv P sel s)
    (hm : Margin (n + 1) s) (hn : n ≤ Generated.CLOSE_TIME) (hok : RoundOK P s r) (hop : Opens P.bodyOf (round P s r).seals) {t' : AS}
    (ha : aRound (bytesGt s.b.hash s.a.hash) (absOf s) = some t') :
    absOf (round P s r) = t' ∧ RInv P sel (round P s r) ∧ Margin n (round P s r) := by
  -- every seal of the run is among those of its end
  have hop3 := opens_sub hop (send_reach hok.k4).seals_sub
  have hop2 := opens_sub hop3 (send_reach hok.k3).seals_sub
  have hop1 := opens_sub hop2 (send_reach hok.k2).seals_sub
  have hop0 := opens_sub hop1 (send_reach hok.k1).seals_sub
  have hop0' := opens_sub hop0 (tick_reach (P := P) (tickAt s .A) .B).seals_sub
  have hops := opens_sub hop0' (tick_reach (P := P) s .A).seals_sub
  have hopp : bytesGt s.a.hash s.b.hash = !bytesGt s.b.hash s.a.hash := C05.halves_opposite s.a.hash s.b.hash hinv.hne
  have Z : Sim P sel s n s (absOf s) := ⟨hinv, rfl, fun _ => rfl, fun x => Near.le (hm x) (Nat.le_succ n)⟩
  obtain ⟨ZA, oA, (b1 : (tickAt s .A).obj .B = s.obj .B)⟩ := Z.tick .A hops (hm .A)
  obtain ⟨Z0, oB, _⟩ := ZA.tick .B hop0' (by rw [b1]; exact hm .B)
  rw [b1] at oB
  unfold aRound at ha
  split at ha
  next => cases ha
  next sb1 kB dB1 h1 =>
  split at ha
  next => cases ha
  next sa1 kA dA1 h2 =>
  split at ha
  next => cases ha
  next sa2 kA2 dA2 h3 =>
  split at ha
  next => cases ha
  next sb2 kB2 dB2 h4 =>
  injection ha with ha
  rw [← hopp] at h1 h4
  -- A's datagram to B, B's datagram to A, B's reply to A, A's reply to B
  obtain ⟨Z1, pB⟩ := Z0.send hn (x := .B) hop1 oA hok.k1 h1
  obtain ⟨Z2, pA⟩ := Z1.send hn (x := .A) hop2 oB hok.k2 h2
  obtain ⟨Z3, _⟩ := Z2.send hn (x := .A) hop3 pB hok.k3 h3
  obtain ⟨Z4, _⟩ := Z3.send hn (x := .B) hop pA hok.k4 h4
  exact ⟨Z4.abs.trans ha, Z4.inv, Z4.near⟩


/-! ## 3. classification of the reachable states -/

section
variable {env : CryptoEnv} {ok : Bytes → Bool} {sel : Option Cipher} {x y : InitSt} {dx dy : List (Bytes × Bool)}
  {sigs : List (Bytes × Bytes)} {seals : SealLog}

/-- which stages of the peer go with which stage of an object -/
theorem RI.combinations (h : RI env ok sel x y dx dy sigs seals) :
    (x.stage = PING → y.stage = PING ∨ y.stage = PONG ∨ y.stage = CLOSING) ∧
    (x.stage = PONG → y.stage = PING ∨ y.stage = PONG ∨ y.stage = PENG ∨ y.stage = CLOSING) ∧
    (x.stage = PENG → y.stage = PONG ∨ y.stage = WAIT ∨ y.stage = CLOSING) ∧
    (x.stage = WAIT → y.stage = PENG ∨ y.stage = CLOSING) := by
  -- what the last message of the peer says about `x`
  have yPENG : y.stage = PENG → x.stage ≠ PING := fun e =>
    let ⟨_, _, _, _, _, _, _, hm⟩ := (h.oy.o4 e).pong
    hm.2.2.2.1
  have yWAIT : y.stage = WAIT → x.stage = PENG ∨ x.stage = CLOSING := fun e =>
    let ⟨_, _, _, _, _, hm⟩ := (h.oy.o5 e).1.peng
    hm.2.1
  have xPENG : x.stage = PENG → y.stage ≠ PING := fun e =>
    let ⟨_, _, _, _, _, _, _, hm⟩ := (h.ox.o4 e).pong
    hm.2.2.2.1
  have xWAIT : x.stage = WAIT → y.stage = PENG ∨ y.stage = CLOSING := fun e =>
    let ⟨_, _, _, _, _, hm⟩ := (h.ox.o5 e).1.peng
    hm.2.1
  refine ⟨?_, ?_, ?_, xWAIT⟩
  · intro e
    rcases h.oy.st with e' | e' | e' | e' | e'
    · exact Or.inl e'
    · exact Or.inr (Or.inl e')
    · exact absurd e (yPENG e')
    · rcases yWAIT e' with q | q <;> (rw [e] at q; exact absurd q (by decide))
    · exact Or.inr (Or.inr e')
  · intro e
    rcases h.oy.st with e' | e' | e' | e' | e'
    · exact Or.inl e'
    · exact Or.inr (Or.inl e')
    · exact Or.inr (Or.inr (Or.inl e'))
    · rcases yWAIT e' with q | q <;> (rw [e] at q; exact absurd q (by decide))
    · exact Or.inr (Or.inr (Or.inr e'))
  · intro e
    rcases h.oy.st with e' | e' | e' | e' | e'
    · exact absurd e' (xPENG e)
    · exact Or.inl e'
    · exact absurd ⟨e, e'⟩ h.noRR
    · exact Or.inr (Or.inl e')
    · exact Or.inr (Or.inr e')

/-- **the classes of one object**, in closed form: fresh / initiator awaiting the pong / responder awaiting the peng / completed
    initiator / closed -/
theorem RI.classes (h : RI env ok sel x y dx dy sigs seals) :
    (x.stage = PING ∧ x.last = none ∧ x.ecdh = none ∧ x.crypto = none) ∨
    (x.stage = PONG ∧ x.crypto = none ∧ ∃ own salt kh tail, x.ecdh = some own ∧ EcdhWF own ∧
      x.last = some (signedRegion (.ping x.hash own x.algos) salt kh ++ tail)) ∨
    (x.stage = PENG ∧ ∃ own pe pl salt kh tail, x.last = some (signedRegion (.pong x.hash own x.algos pl) salt kh ++ tail) ∧
      EcdhWF own ∧ EcdhWF pe ∧ (y.stage = PONG → y.ecdh = some pe) ∧
      Field sel seals (bytesGt x.hash y.hash) (fun c => masterKey c own pe) x.payload pl ∧
      HasCore sel x (fun c => masterKey c own pe) (bytesGt x.hash y.hash)) ∨
    (x.stage = WAIT ∧ dx ≠ [] ∧ ∃ pl K salt kh tail, x.last = some (signedRegion (.peng x.hash pl) salt kh ++ tail) ∧
      Field sel seals (bytesGt x.hash y.hash) K x.payload pl ∧ (y.stage = PENG → HasCore sel y K (bytesGt y.hash x.hash))) ∨
    x.stage = CLOSING := by
  rcases h.ox.st with e | e | e | e | e
  · exact Or.inl ⟨e, h.ox.o2 e⟩
  · right; left
    obtain ⟨own, al, salt, kh, tail, h1, rfl, a2, _, a4, _⟩ := (h.ox.o3 e).2.ping
    exact ⟨e, (h.ox.o3 e).1, own, salt, kh, tail, a4 e, a2, h1⟩
  · right; right; left
    obtain ⟨own, al, pl, salt, kh, tail, h1, rfl, a2, _, _, pe, a5, a6, a7, a8⟩ := (h.ox.o4 e).pong
    exact ⟨e, own, pe, pl, salt, kh, tail, h1, a2, a5, a6, a7, a8 e⟩
  · right; right; right; left
    obtain ⟨pl, salt, kh, tail, h1, _, _, K, a3, a4⟩ := (h.ox.o5 e).1.peng
    exact ⟨e, (h.ox.o5 e).2, pl, K, salt, kh, tail, h1, a3, a4⟩
  · exact Or.inr (Or.inr (Or.inr (Or.inr e)))

/-- a fresh object has signed nothing: no logged signature is over a message with its salted hash -/
theorem RI.fresh_signed_nothing (h : RI env ok sel x y dx dy sigs seals) (hx : x.stage = PING) :
    ∀ k r, (k, r) ∈ sigs → ∃ m salt kh, r = signedRegion m salt kh ∧ m.hash = y.hash ∧ Mine sel y x seals m := by
  intro k r hk
  obtain ⟨m, salt, kh, h1, _, _, _, h5⟩ := h.sig k r hk
  rcases h5 with ⟨_, h6⟩ | ⟨h5, h6⟩
  · exfalso
    cases m with
    | ping => exact h6.2.2.1 hx
    | pong => rcases h6.2.2.1 with q | q <;> (rw [hx] at q; exact absurd q (by decide))
    | peng => rcases h6.1 with q | q <;> (rw [hx] at q; exact absurd q (by decide))
  · exact ⟨m, salt, kh, h1, h5, h6⟩

end


/-- **reachable_classes**: in every reachable state (run of `StepW` from two fresh objects with `GoodSys`, ideal signatures (I1) and
    `RandOK` as side conditions of the steps, AEAD law on the seal log) each of the two handshake objects is in one of the classes
    fresh / initiator awaiting the pong (`last` = its ping, ephemeral key present, no core) / responder awaiting the peng (`last` = its
    pong, core created from the ping it answered: slot 0 holds `masterKey c own pe`, where `pe` is the initiator's ephemeral key as
    long as the initiator still waits) / completed initiator (`last` = its peng, success reported) / closed (completed, or given up). -/
theorem reachable_classes (P : Params) (sel : Option Cipher) (s0 s : Sys) (h0 : Init0 s0) (hg : GoodSys P sel s0) (hr : ReachW P s0 s)
    (hop : Opens P.bodyOf s.seals) :
    ((s.a.stage = PING ∧ s.a.last = none ∧ s.a.ecdh = none ∧ s.a.crypto = none) ∨
     (s.a.stage = PONG ∧ s.a.crypto = none ∧ ∃ own salt kh tail, s.a.ecdh = some own ∧ EcdhWF own ∧
       s.a.last = some (signedRegion (.ping s.a.hash own s.a.algos) salt kh ++ tail)) ∨
     (s.a.stage = PENG ∧ ∃ own pe pl salt kh tail, s.a.last = some (signedRegion (.pong s.a.hash own s.a.algos pl) salt kh ++ tail) ∧
       EcdhWF own ∧ EcdhWF pe ∧ (s.b.stage = PONG → s.b.ecdh = some pe) ∧
       Field sel s.seals (bytesGt s.a.hash s.b.hash) (fun c => masterKey c own pe) s.a.payload pl ∧
       HasCore sel s.a (fun c => masterKey c own pe) (bytesGt s.a.hash s.b.hash)) ∨
     (s.a.stage = WAIT ∧ s.doneA ≠ [] ∧ ∃ pl K salt kh tail, s.a.last = some (signedRegion (.peng s.a.hash pl) salt kh ++ tail) ∧
       Field sel s.seals (bytesGt s.a.hash s.b.hash) K s.a.payload pl ∧ (s.b.stage = PENG → HasCore sel s.b K (bytesGt s.b.hash s.a.hash))) ∨
     s.a.stage = CLOSING) ∧
    ((s.b.stage = PING ∧ s.b.last = none ∧ s.b.ecdh = none ∧ s.b.crypto = none) ∨
     (s.b.stage = PONG ∧ s.b.crypto = none ∧ ∃ own salt kh tail, s.b.ecdh = some own ∧ EcdhWF own ∧
       s.b.last = some (signedRegion (.ping s.b.hash own s.b.algos) salt kh ++ tail)) ∨
     (s.b.stage = PENG ∧ ∃ own pe pl salt kh tail, s.b.last = some (signedRegion (.pong s.b.hash own s.b.algos pl) salt kh ++ tail) ∧
       EcdhWF own ∧ EcdhWF pe ∧ (s.a.stage = PONG → s.a.ecdh = some pe) ∧
       Field sel s.seals (bytesGt s.b.hash s.a.hash) (fun c => masterKey c own pe) s.b.payload pl ∧
       HasCore sel s.b (fun c => masterKey c own pe) (bytesGt s.b.hash s.a.hash)) ∨
     (s.b.stage = WAIT ∧ s.doneB ≠ [] ∧ ∃ pl K salt kh tail, s.b.last = some (signedRegion (.peng s.b.hash pl) salt kh ++ tail) ∧
       Field sel s.seals (bytesGt s.b.hash s.a.hash) K s.b.payload pl ∧ (s.a.stage = PENG → HasCore sel s.a K (bytesGt s.a.hash s.b.hash))) ∨
     s.b.stage = CLOSING) :=
  ⟨RI.classes (rinv_reach P sel s0 s h0 hg hr hop), RI.classes (rinv_reach P sel s0 s h0 hg hr hop).swap⟩

/-- **reachable_combinations**: which classes of the two objects occur together in reachable states: a fresh object only with a fresh
    one, an initiator or a closed one; an initiator awaiting the pong with anything but a completed initiator; a responder awaiting the
    peng only with an initiator (awaiting the pong, or completed) or a closed one — never two responders; a completed initiator only
    with a responder awaiting the peng or a closed one.  (Both directions; every logged signature is described by `RI.sig` / `Mine`:
    a fresh object has signed nothing — `RI.fresh_signed_nothing` —, pings carry the one ephemeral key of the initiator, there is at
    most one pong per object and it answers the peer's ping.) -/
theorem reachable_combinations (P : Params) (sel : Option Cipher) (s0 s : Sys) (h0 : Init0 s0) (hg : GoodSys P sel s0)
    (hr : ReachW P s0 s) (hop : Opens P.bodyOf s.seals) :
    ((s.a.stage = PING → s.b.stage = PING ∨ s.b.stage = PONG ∨ s.b.stage = CLOSING) ∧
     (s.a.stage = PONG → s.b.stage = PING ∨ s.b.stage = PONG ∨ s.b.stage = PENG ∨ s.b.stage = CLOSING) ∧
     (s.a.stage = PENG → s.b.stage = PONG ∨ s.b.stage = WAIT ∨ s.b.stage = CLOSING) ∧
     (s.a.stage = WAIT → s.b.stage = PENG ∨ s.b.stage = CLOSING)) ∧
    ((s.b.stage = PING → s.a.stage = PING ∨ s.a.stage = PONG ∨ s.a.stage = CLOSING) ∧
     (s.b.stage = PONG → s.a.stage = PING ∨ s.a.stage = PONG ∨ s.a.stage = PENG ∨ s.a.stage = CLOSING) ∧
     (s.b.stage = PENG → s.a.stage = PONG ∨ s.a.stage = WAIT ∨ s.a.stage = CLOSING) ∧
     (s.b.stage = WAIT → s.a.stage = PENG ∨ s.a.stage = CLOSING)) :=
  ⟨RI.combinations (rinv_reach P sel s0 s h0 hg hr hop), RI.combinations (rinv_reach P sel s0 s h0 hg hr hop).swap⟩

/-! ## 4. two reliable rounds complete the handshake -/

/-- the abstract states the recovery theorem starts from: stages 1..5 in a reachable combination (`RI.combinations`), at least one side
    has initiated, a completed initiator has reported success, and nobody is closed unless both have completed -/
def live (t : AS) : Bool :=
  decide (1 ≤ t.sa ∧ t.sa ≤ 5 ∧ 1 ≤ t.sb ∧ t.sb ≤ 5) &&
  decide ((t.sa = 1 → t.sb = 1 ∨ t.sb = 2 ∨ t.sb = 5) ∧ (t.sa = 2 → t.sb = 1 ∨ t.sb = 2 ∨ t.sb = 3 ∨ t.sb = 5) ∧
    (t.sa = 3 → t.sb = 2 ∨ t.sb = 4 ∨ t.sb = 5) ∧ (t.sa = 4 → t.sb = 3 ∨ t.sb = 5)) &&
  decide ((t.sb = 1 → t.sa = 1 ∨ t.sa = 2 ∨ t.sa = 5) ∧ (t.sb = 2 → t.sa = 1 ∨ t.sa = 2 ∨ t.sa = 3 ∨ t.sa = 5) ∧
    (t.sb = 3 → t.sa = 2 ∨ t.sa = 4 ∨ t.sa = 5) ∧ (t.sb = 4 → t.sa = 3 ∨ t.sa = 5)) &&
  decide (¬ (t.sa = 1 ∧ t.sb = 1)) &&
  decide ((t.sa = 5 → t.da = true ∧ t.db = true) ∧ (t.sb = 5 → t.da = true ∧ t.db = true) ∧ (t.sa = 4 → t.da = true) ∧
    (t.sb = 4 → t.db = true))

/-- both sides have completed after two abstract rounds -/
def twoRounds (g : Bool) (t : AS) : Bool :=
  match aRound g t with
  | none => false
  | some t1 =>
    match aRound g t1 with
    | none => false
    | some t2 => t2.da && t2.db

/-- the measure: 0 = both completed, 1 = somebody has answered a ping (a responder awaits the peng), 2 = only pings so far -/
def mu (t : AS) : Nat := if t.da && t.db then 0 else if t.sa = 3 || t.sb = 3 then 1 else 2

/-- one abstract round strictly decreases the measure of a live, not yet completed state -/
def oneRound (g : Bool) (t : AS) : Bool :=
  match aRound g t with
  | none => false
  | some t1 => decide (mu t1 < mu t)

/-- the finite check (2 · 6 · 6 · 2 · 2 abstract states) -/
theorem abs_complete : ∀ g : Bool, ∀ sa sb : Fin 6, ∀ da db : Bool,
    live ⟨sa, sb, da, db⟩ = true → twoRounds g ⟨sa, sb, da, db⟩ = true := by decide +kernel

theorem abs_measure : ∀ g : Bool, ∀ sa sb : Fin 6, ∀ da db : Bool,
    live ⟨sa, sb, da, db⟩ = true → (da && db) = false → oneRound g ⟨sa, sb, da, db⟩ = true := by decide +kernel

/-- without reliable rounds nothing is promised: K = 1 is not enough (a lost ping needs two rounds: `live`, but not completed after
    one abstract round) -/
theorem abs_one_round_not_enough : ∃ t1, live ⟨2, 1, false, false⟩ = true ∧ aRound true ⟨2, 1, false, false⟩ = some t1 ∧ t1.db = false :=
  ⟨⟨4, 3, true, false⟩, by decide, by decide, rfl⟩

/-- hypothesis (iii): no object is closed unless both sides have completed (a closed object that has not completed has given up; a
    closed initiator whose peer has not completed is the dead end `closed_initiator_dead_end`) -/
def NoDeadEnd (s : Sys) : Prop := (s.a.stage = CLOSING ∨ s.b.stage = CLOSING) → s.doneA ≠ [] ∧ s.doneB ≠ []

theorem stage_range {n : Nat} (h : StageOK n) : 1 ≤ n ∧ n ≤ 5 := by
  rcases h with e | e | e | e | e <;> (rw [e]; decide)

theorem live_of {P : Params} {sel : Option Cipher} {s : Sys} (hinv : RInv P sel s)
    (hinit : ¬ (s.a.stage = PING ∧ s.b.stage = PING)) (hdead : NoDeadEnd s) : live (absOf s) = true := by
  obtain ⟨a1, a2⟩ := stage_range hinv.ox.st
  obtain ⟨b1, b2⟩ := stage_range hinv.oy.st
  obtain ⟨c1, c2, c3, c4⟩ := RI.combinations hinv
  obtain ⟨d1, d2, d3, d4⟩ := RI.combinations hinv.swap
  simp only [live, absOf, Bool.and_eq_true, decide_eq_true_eq]
  exact ⟨⟨⟨⟨decide_eq_true ⟨a1, a2, b1, b2⟩, decide_eq_true ⟨c1, c2, c3, c4⟩⟩, decide_eq_true ⟨d1, d2, d3, d4⟩⟩, decide_eq_true hinit⟩,
    fun e => hdead (Or.inl e), fun e => hdead (Or.inr e), fun e => (hinv.ox.o5 e).2, fun e => (hinv.oy.o5 e).2⟩

/-- the hypotheses of a start state of the recovery theorems, with `n` rounds of margin -/
structure Start (P : Params) (sel : Option Cipher) (s0 s : Sys) (n : Nat) : Prop where
  init : Init0 s0
  good : GoodSys P sel s0
  reach : ReachW P s0 s
  /-- (i) at least one side has initiated -/
  initiated : ¬ (s.a.stage = PING ∧ s.b.stage = PING)
  /-- (ii) neither side gives up, and no completed initiator closes, within the next `n` ticks -/
  margin : Margin n s
  /-- (iii) neither side is in a state that can only be left by a new attempt -/
  noDeadEnd : NoDeadEnd s

/-- the `live` abstract states are the ones the finite checks run over -/
theorem Start.live {P : Params} {sel : Option Cipher} {s0 s : Sys} {n : Nat} (H : Start P sel s0 s n) (hops : Opens P.bodyOf s.seals) :
    RInv P sel s ∧ ∃ sa sb : Fin 6, absOf s = ⟨sa, sb, decide (s.doneA ≠ []), decide (s.doneB ≠ [])⟩ ∧
      live ⟨sa, sb, decide (s.doneA ≠ []), decide (s.doneB ≠ [])⟩ = true := by
  have hinv : RInv P sel s := rinv_reach P sel s0 s H.init H.good H.reach hops
  obtain ⟨_, a2⟩ := stage_range hinv.ox.st
  obtain ⟨_, b2⟩ := stage_range hinv.oy.st
  exact ⟨hinv, ⟨s.a.stage, by omega⟩, ⟨s.b.stage, by omega⟩, rfl, live_of hinv H.initiated H.noDeadEnd⟩

/-- **reliable_rounds_complete** (K = 2): from every reachable state of the pair in which (i) at least one side has initiated,
    (ii) both objects are two ticks away from giving up / closing and (iii) neither is closed without both having completed, two
    reliable rounds complete the handshake at both ends — whatever the network lost, duplicated or reordered before: a lost ping, pong
    or peng is retransmitted and answered, a dual open is resolved by the salted hashes — and the two ends agree
    (`attempt_agreement`): opposite roles, each reports the other's payload, same cipher, matching cores.
    Hypotheses beyond (i)–(iii): `GoodSys` (negotiation succeeds with the same result at both ends, payload parsers accept, two
    different nodes), the side conditions `RoundOK` of the deliveries (reliability: the receiver reads the datagram; (I1), `RandOK`,
    counter starts `< 2^48` as in `StepW`) and the AEAD law on the final seal log. -/
theorem reliable_rounds_complete (P : Params) (sel : Option Cipher) (s0 s : Sys) (r1 r2 : RoundRand) (H : Start P sel s0 s 2)
    (hok1 : RoundOK P s r1) (hok2 : RoundOK P (round P s r1) r2)
    (hop : Opens P.bodyOf (round P (round P s r1) r2).seals) :
    ReachW P s0 (round P (round P s r1) r2) ∧
    (round P (round P s r1) r2).doneA ≠ [] ∧ (round P (round P s r1) r2).doneB ≠ [] ∧
    ∀ pa pb ia ib, (pa, ia) ∈ (round P (round P s r1) r2).doneA → (pb, ib) ∈ (round P (round P s r1) r2).doneB →
      ia = !ib ∧ pa = (round P (round P s r1) r2).b.payload ∧ pb = (round P (round P s r1) r2).a.payload ∧
      CoresAgree (round P (round P s r1) r2).a (round P (round P s r1) r2).b := by
  have hR2 := round_reach hok2
  have hop1 : Opens P.bodyOf (round P s r1).seals := opens_sub hop hR2.seals_sub
  have hR1 := round_reach hok1
  have hops : Opens P.bodyOf s.seals := opens_sub hop1 hR1.seals_sub
  obtain ⟨hinv, sa, sb, hab, hlive⟩ := H.live hops
  have hc := abs_complete (bytesGt s.b.hash s.a.hash) sa sb _ _ hlive
  rw [← hab] at hc
  unfold twoRounds at hc
  split at hc
  next => cases hc
  next t1 h1 =>
    obtain ⟨e1, hinv1, hm1⟩ := round_abs (n := 1) hinv H.margin (by decide) hok1 hop1 h1
    have hh1 : (round P s r1).a.hash = s.a.hash := hash_static_obj hR1 .A
    have hh2 : (round P s r1).b.hash = s.b.hash := hash_static_obj hR1 .B
    split at hc
    next => cases hc
    next t2 h2 =>
      simp only [Bool.and_eq_true] at hc
      obtain ⟨e2, _, _⟩ := round_abs (n := 0) hinv1 hm1 (by decide) hok2 hop (by rw [hh1, hh2, e1]; exact h2)
      have hreach : ReachW P s0 (round P (round P s r1) r2) := H.reach.trans (hR1.trans hR2)
      have dA : (round P (round P s r1) r2).doneA ≠ [] := by
        have : (absOf (round P (round P s r1) r2)).da = true := by rw [e2]; exact hc.1
        exact of_decide_eq_true this
      have dB : (round P (round P s r1) r2).doneB ≠ [] := by
        have : (absOf (round P (round P s r1) r2)).db = true := by rw [e2]; exact hc.2
        exact of_decide_eq_true this
      refine ⟨hreach, dA, dB, ?_⟩
      intro pa pb ia ib hA hB
      obtain ⟨q1, q2, q3, q4, _⟩ := attempt_agreement P s0 _ H.init hreach.toReach hop pa pb ia ib hA hB
      exact ⟨q1, q2, q3, q4⟩

/-- the measure of a system state -/
def muS (s : Sys) : Nat := mu (absOf s)

/-- **measure_decreases**: on the start states of `reliable_rounds_complete` (one round of margin suffices) that have not completed,
    every reliable round strictly decreases the measure `muS` ∈ {0, 1, 2} (0 = both completed, 1 = a responder awaits the peng,
    2 = only pings so far); the invariant and the reachability are kept, the margin shrinks by one. -/
theorem measure_decreases (P : Params) (sel : Option Cipher) (s0 s : Sys) (r : RoundRand) (n : Nat) (H : Start P sel s0 s (n + 1))
    (hn : n ≤ Generated.CLOSE_TIME) (hnot : ¬ (s.doneA ≠ [] ∧ s.doneB ≠ [])) (hok : RoundOK P s r)
    (hop : Opens P.bodyOf (round P s r).seals) :
    muS (round P s r) < muS s ∧ ReachW P s0 (round P s r) ∧ Margin n (round P s r) ∧ RInv P sel (round P s r) := by
  have hR1 := round_reach hok
  have hops : Opens P.bodyOf s.seals := opens_sub hop hR1.seals_sub
  obtain ⟨hinv, sa, sb, hab, hlive⟩ := H.live hops
  have hnd : (decide (s.doneA ≠ []) && decide (s.doneB ≠ [])) = false := by
    cases hA : decide (s.doneA ≠ []) <;> cases hB : decide (s.doneB ≠ []) <;> simp only [Bool.and_self, Bool.and_false, Bool.and_true]
    exact absurd ⟨of_decide_eq_true hA, of_decide_eq_true hB⟩ hnot
  have hc := abs_measure (bytesGt s.b.hash s.a.hash) sa sb _ _ hlive hnd
  rw [← hab] at hc
  unfold oneRound at hc
  split at hc
  next => cases hc
  next t1 h1 =>
    simp only [decide_eq_true_eq] at hc
    obtain ⟨e1, hinv1, hm1⟩ := round_abs (n := n) hinv H.margin hn hok hop h1
    refine ⟨?_, H.reach.trans hR1, hm1, hinv1⟩
    unfold muS
    rw [e1]
    exact hc


/-! ## 5. the dead end of the pair: a closed initiator and a responder that still waits -/

theorem abs_dead_end : ∀ g da db : Bool, aRound g ⟨5, 3, da, db⟩ = some ⟨5, 3, da, db⟩ := by decide

/-- **closed_initiator_dead_end**: when the initiator has completed and closed (its peng was lost and `CLOSE_TIME` + 1 ticks have
    passed) while the responder still awaits the peng, a reliable round changes nothing: the closed initiator ignores the
    retransmitted pong, the responder does not complete.  This combination is reachable (`Toy.dead_end_reachable`); it is left only
    by a new attempt: the responder gives the attempt up after `MAX_FAILED_RETRIES` ticks (`give_up_is_bounded`), and its node dials
    again (`Node.reconnectToPeers`).  It is excluded from `reliable_rounds_complete` by `NoDeadEnd`. -/
theorem closed_initiator_dead_end (P : Params) (sel : Option Cipher) (s : Sys) (r : RoundRand) (n : Nat) (hinv : RInv P sel s)
    (ha : s.a.stage = CLOSING) (hb : s.b.stage = PENG) (hm : Margin (n + 1) s) (hn : n ≤ Generated.CLOSE_TIME)
    (hok : RoundOK P s r) (hop : Opens P.bodyOf (round P s r).seals) :
    (round P s r).a.stage = CLOSING ∧ (round P s r).b.stage = PENG ∧ ((round P s r).doneB ≠ [] ↔ s.doneB ≠ []) ∧
    RInv P sel (round P s r) ∧ Margin n (round P s r) := by
  have h1 : aRound (bytesGt s.b.hash s.a.hash) (absOf s) = some (absOf s) := by
    have := abs_dead_end (bytesGt s.b.hash s.a.hash) (decide (s.doneA ≠ [])) (decide (s.doneB ≠ []))
    unfold absOf
    rw [ha, hb]
    exact this
  obtain ⟨e1, hinv1, hm1⟩ := round_abs hinv hm hn hok hop h1
  have e2 : (absOf (round P s r)).sa = (absOf s).sa := by rw [e1]
  have e3 : (absOf (round P s r)).sb = (absOf s).sb := by rw [e1]
  have e4 : (absOf (round P s r)).db = (absOf s).db := by rw [e1]
  refine ⟨e2.trans ha, e3.trans hb, ?_, hinv1, hm1⟩
  have e4' : decide ((round P s r).doneB ≠ []) = decide (s.doneB ≠ []) := e4
  constructor
  · intro h; exact of_decide_eq_true (e4' ▸ decide_eq_true h)
  · intro h; exact of_decide_eq_true (e4'.symm ▸ decide_eq_true h)

/-! ## 6. the retry horizon -/

open VpnCloud.Proofs.C01Mutual (tickN tickN_retries)

theorem tickN_succ (n : Nat) : ∀ st : InitSt, tickN (n + 1) st = (everySecond (tickN n st)).1 := by
  induction n with
  | zero => intro st; rfl
  | succ n ih => intro st; exact ih (everySecond st).1

/-- **give_up_is_bounded** (the handshake retry horizon): an object in a retransmitting stage (PING, PONG, PENG — fresh, initiator
    awaiting the pong, responder awaiting the peng) whose retry counter is 0 and that receives nothing it accepts keeps its stage for
    `MAX_FAILED_RETRIES` = 120 ticks, at each of them sends its last message again, and at tick number `MAX_FAILED_RETRIES + 1`
    gives up: fatal error, stage CLOSING. -/
theorem give_up_is_bounded (st : InitSt) (h1 : st.stage ≠ Generated.WAITING_TO_CLOSE) (h2 : st.stage ≠ Generated.CLOSING)
    (hr : st.retries = 0) :
    (∀ i, i ≤ Generated.MAX_FAILED_RETRIES → (tickN i st).stage = st.stage) ∧
    (∀ i, i < Generated.MAX_FAILED_RETRIES → (everySecond (tickN i st)).2 = .ok (st.last.getD [])) ∧
    (everySecond (tickN Generated.MAX_FAILED_RETRIES st)).2 = .error .cryptoInitFatal ∧
    (tickN (Generated.MAX_FAILED_RETRIES + 1) st).stage = Generated.CLOSING := by
  obtain ⟨a, b⟩ := C01Mutual.retry_ticks st h1 h2 hr
  exact ⟨fun i hi => by rw [tickN_retries i st h1 h2 (by omega)], fun i hi => by rw [a i hi], by rw [b], by rw [tickN_succ, b]⟩

theorem tickN_wait (n : Nat) : ∀ st : InitSt, st.stage = Generated.WAITING_TO_CLOSE → n ≤ st.closeTime →
    tickN n st = { st with closeTime := st.closeTime - n } := by
  induction n with
  | zero => intro st _ _; rfl
  | succ n ih =>
    intro st hs hn
    have e' : tickN (n + 1) st = tickN n { st with closeTime := st.closeTime - 1 } := by
      show tickN n (everySecond st).1 = _
      rw [everySecond_wait st hs (by omega)]
    rw [e', ih { st with closeTime := st.closeTime - 1 } hs (by show n ≤ st.closeTime - 1; omega)]
    show ({ st with closeTime := st.closeTime - 1 - n } : InitSt) = { st with closeTime := st.closeTime - (n + 1) }
    rw [Nat.sub_sub, Nat.add_comm 1 n]

/-- **completed_initiator_closes**: a completed initiator (WAITING_TO_CLOSE, where it repeats its peng whenever the responder's
    retransmitted pong arrives) stays there for `closeTime` ticks — `CLOSE_TIME` = 60 after the completion — sending nothing by
    itself, and is CLOSING after `closeTime + 1` ticks. -/
theorem completed_initiator_closes (st : InitSt) (hs : st.stage = Generated.WAITING_TO_CLOSE) :
    (∀ i, i ≤ st.closeTime → (tickN i st).stage = Generated.WAITING_TO_CLOSE ∧ (everySecond (tickN i st)).2 = .ok []) ∧
    (tickN (st.closeTime + 1) st).stage = Generated.CLOSING := by
  refine ⟨fun i hi => ?_, ?_⟩
  · rw [tickN_wait i st hs hi]
    refine ⟨hs, ?_⟩
    by_cases h0 : st.closeTime - i = 0
    · rw [everySecond_wait_zero { st with closeTime := st.closeTime - i } hs h0]
    · rw [everySecond_wait { st with closeTime := st.closeTime - i } hs h0]
  · rw [tickN_succ, tickN_wait _ st hs (Nat.le_refl _),
      everySecond_wait_zero { st with closeTime := st.closeTime - st.closeTime } hs (Nat.sub_self _)]


/-! ## 7. non-vacuity: toy runs (the `Toy` environments of `C05Agree`, whose signature check accepts exactly the run's signatures) -/

theorem reachW_ping {P : Params} {s0 s : Sys} (hr : ReachW P s0 s) (x : Who) (rnd : Rand)
    (hst : (s.obj x).stage = Generated.STAGE_PING) (hrnd : RandOK P.env (s.obj x) rnd) : ReachW P s0 (pingBy P s x rnd) :=
  .step hr (.ping s x rnd hst hrnd)

def readsB (env : CryptoEnv) (w : Bytes) (T : List Bytes) : Bool :=
  match readFrom env w T with
  | .ok _ => true
  | .error _ => false

theorem reads_of {env : CryptoEnv} {w : Bytes} {T : List Bytes} (h : readsB env w T = true) : ∃ m k, readFrom env w T = .ok (m, k) := by
  unfold readsB at h
  cases hr : readFrom env w T with
  | ok p => exact ⟨p.1, p.2, rfl⟩
  | error e => rw [hr] at h; cases h

/-- `n` ticks at A -/
def ticksA : Nat → Sys → Sys
  | 0, s => s
  | n + 1, s => ticksA n (tickAt s .A)

theorem reachW_ticksA {P : Params} {s0 : Sys} (n : Nat) : ∀ {s : Sys}, ReachW P s0 s → ReachW P s0 (ticksA n s) := by
  induction n with
  | zero => intro s hr; exact hr
  | succ n ih => intro s hr; exact ih (.step hr (.tick s .A))

instance {p : Who → Prop} [DecidablePred p] : Decidable (∀ x, p x) :=
  decidable_of_iff (p .A ∧ p .B) ⟨fun h x => by cases x; exact h.1; exact h.2, fun h => ⟨h .A, h .B⟩⟩

instance (n : Nat) (s : Sys) : Decidable (Margin n s) := by unfold Margin; infer_instance
instance (s : Sys) : Decidable (NoDeadEnd s) := by unfold NoDeadEnd; infer_instance

open VpnCloud.Proofs.C01Mutual (RandChk)
open VpnCloud.Proofs.C05Agree.Toy (SigsKnown randOK_toy reach_toy env0)

/-- `SendOK` in a form that evaluates, for an environment whose signature check accepts exactly the signatures of the list `L`
    (`toy_I1`) -/
def SendChk (P : Params) (L : List (Bytes × Bytes × Bytes)) (s : Sys) (x : Who) (w : Bytes) (rnd : Rand) : Prop :=
  SigsKnown L s x w ∧ RandChk rnd ∧ rnd.start < 2 ^ 48 ∧ readsB P.env w (s.obj x).trusted = true

instance (P : Params) (L : List (Bytes × Bytes × Bytes)) (s : Sys) (x : Who) (w : Bytes) (rnd : Rand) : Decidable (SendChk P L s x w rnd) := by
  unfold SendChk; infer_instance

/-- `RoundOK`, in the same form -/
def RoundChk (P : Params) (L : List (Bytes × Bytes × Bytes)) (s : Sys) (r : RoundRand) : Prop :=
  (tickOut s.a ≠ [] → SendChk P L (rnd0 s) .B (tickOut s.a) r.b1) ∧
  (tickOut s.b ≠ [] → SendChk P L (rnd1 P s r) .A (tickOut s.b) r.a1) ∧
  (replyB P s r ≠ [] → SendChk P L (rnd2 P s r) .A (replyB P s r) r.a2) ∧
  (replyA P s r ≠ [] → SendChk P L (rnd3 P s r) .B (replyA P s r) r.b2)

instance (P : Params) (L : List (Bytes × Bytes × Bytes)) (s : Sys) (r : RoundRand) : Decidable (RoundChk P L s r) := by
  unfold RoundChk; infer_instance

section
variable {P : Params} {L : List (Bytes × Bytes × Bytes)} {s0 s : Sys} {x : Who} {w : Bytes} {rnd : Rand} {r : RoundRand}
  (hv : ∀ k m sg, P.env.sigVerify k m sg = decide ((k, m, sg) ∈ L)) (hk : P.env.keyHash = env0.keyHash)
include hv hk

theorem SendChk.ok (h : SendChk P L s x w rnd) : SendOK P s x w rnd :=
  ⟨toy_I1 P.env L hv _ _ _ h.1, randOK_toy hk _ _ h.2.1, h.2.2.1, reads_of h.2.2.2⟩

theorem SendChk.reach (h : SendChk P L s x w rnd) (hr : ReachW P s0 s) : ReachW P s0 (deliverTo P s x w rnd) :=
  reachW_deliver hr x w rnd (h.ok hv hk).i1 (h.ok hv hk).rok h.2.2.1

theorem RoundChk.ok (h : RoundChk P L s r) : RoundOK P s r :=
  ⟨fun e => (h.1 e).ok hv hk, fun e => (h.2.1 e).ok hv hk, fun e => (h.2.2.1 e).ok hv hk, fun e => (h.2.2.2 e).ok hv hk⟩

end

/-- what `reliable_rounds_complete` asks of the state `s` and the two rounds, as far as it evaluates (one evaluation of the run) -/
def Hyps (P : Params) (L : List (Bytes × Bytes × Bytes)) (s : Sys) (r1 r2 : RoundRand) : Prop :=
  ¬ (s.a.stage = PING ∧ s.b.stage = PING) ∧ Margin 2 s ∧ NoDeadEnd s ∧ RoundChk P L s r1 ∧ RoundChk P L (round P s r1) r2 ∧
  Opens P.bodyOf (round P (round P s r1) r2).seals

instance (P : Params) (L : List (Bytes × Bytes × Bytes)) (s : Sys) (r1 r2 : RoundRand) : Decidable (Hyps P L s r1 r2) := by
  unfold Hyps; infer_instance

theorem Hyps.start {P : Params} {L : List (Bytes × Bytes × Bytes)} {s : Sys} {r1 r2 : RoundRand} (h : Hyps P L s r1 r2)
    {sel : Option Cipher} {s0 : Sys} (h0 : Init0 s0) (hg : GoodSys P sel s0) (hr : ReachW P s0 s) : Start P sel s0 s 2 :=
  ⟨h0, hg, hr, h.1, h.2.1, h.2.2.1⟩

namespace Toy
open VpnCloud.Proofs.C05Agree.Toy

/-- side conditions of one delivery of a toy round, by evaluation -/
macro "toy_send" env:term "," L:term "," ro:term : tactic => `(tactic| exact fun _ =>
  { i1 := toy_I1 $env $L (fun _ _ _ => rfl) _ _ _ (by decide +kernel),
    rok := $ro _ _ (by decide) (by decide +kernel) (by decide) (by decide) (by decide),
    start := by decide +kernel,
    reads := reads_of (by decide +kernel) })

theorem good : GoodSys P (some .chacha) s0 :=
  ⟨by decide, by decide, by decide, by decide, by decide +kernel, by decide +kernel⟩

theorem reachW1 : ReachW P s0 s1 := reachW_ping .refl .A R1 rfl (randOK_toy (env := env) rfl _ R1 (by decide))

theorem sendChk23 : SendChk P L s1 .B w1 R2 ∧ SendChk P L s2 .A w2 R3 :=
  ⟨⟨run_eval.2.1, by decide, by decide, by decide +kernel⟩, ⟨run_eval.2.2.1, by decide, by decide, by decide +kernel⟩⟩

theorem reachW2 : ReachW P s0 s2 := sendChk23.1.reach (fun _ _ _ => rfl) rfl reachW1

theorem reachW3 : ReachW P s0 s3 := sendChk23.2.reach (fun _ _ _ => rfl) rfl reachW2

/-! ### (a) the ping is lost, then delivery is reliable -/

def rrA1 : RoundRand := ⟨R2, R4, R3, R4⟩
def rrA2 : RoundRand := ⟨R4, R4, R4, R4⟩

theorem evalA : Hyps P L s1 rrA1 rrA2 ∧
    ((round P s1 rrA1).doneA = [([20], true)] ∧ (round P s1 rrA1).doneB = [] ∧
      (round P (round P s1 rrA1) rrA2).doneA = [([20], true)] ∧ (round P (round P s1 rrA1) rrA2).doneB = [([10, 11], false)]) ∧
    (muS s1 = 2 ∧ muS (round P s1 rrA1) = 1 ∧ muS (round P (round P s1 rrA1) rrA2) = 0) ∧
    ¬ (s1.doneA ≠ [] ∧ s1.doneB ≠ []) := by decide +kernel

theorem startA : Start P (some .chacha) s0 s1 2 := evalA.1.start init0 good reachW1

theorem okA1 : RoundOK P s1 rrA1 := evalA.1.2.2.2.1.ok (fun _ _ _ => rfl) rfl

theorem okA2 : RoundOK P (round P s1 rrA1) rrA2 := evalA.1.2.2.2.2.1.ok (fun _ _ _ => rfl) rfl

theorem opensA : Opens P.bodyOf (round P (round P s1 rrA1) rrA2).seals := evalA.1.2.2.2.2.2

/-- **ping lost, then recovered**: after A's ping was lost, two reliable rounds complete both ends; after the first round only A has
    completed (K = 1 is not enough) -/
theorem ping_lost_recovered :
    (round P s1 rrA1).doneA = [([20], true)] ∧ (round P s1 rrA1).doneB = [] ∧
    (round P (round P s1 rrA1) rrA2).doneA = [([20], true)] ∧ (round P (round P s1 rrA1) rrA2).doneB = [([10, 11], false)] :=
  evalA.2.1

example : (round P (round P s1 rrA1) rrA2).doneA ≠ [] ∧ (round P (round P s1 rrA1) rrA2).doneB ≠ [] :=
  let h := reliable_rounds_complete P (some .chacha) s0 s1 rrA1 rrA2 startA okA1 okA2 opensA
  ⟨h.2.1, h.2.2.1⟩

/-- `measure_decreases` on this run: 2 → 1 → 0 -/
example : muS s1 = 2 ∧ muS (round P s1 rrA1) = 1 ∧ muS (round P (round P s1 rrA1) rrA2) = 0 :=
  evalA.2.2.1

example : muS (round P s1 rrA1) < muS s1 :=
  (measure_decreases P (some .chacha) s0 s1 rrA1 1 startA (by decide) evalA.2.2.2 okA1
    (opens_sub opensA (round_reach okA2).seals_sub)).1

/-! ### (b) the pong is lost -/

def rrB1 : RoundRand := ⟨R4, R3, R4, R4⟩
def rrN : RoundRand := ⟨R4, R4, R4, R4⟩

theorem evalB : Hyps P L s2 rrB1 rrN ∧
    (round P s2 rrB1).doneA = [([20], true)] ∧ (round P s2 rrB1).doneB = [([10, 11], false)] := by decide +kernel

theorem startB : Start P (some .chacha) s0 s2 2 := evalB.1.start init0 good reachW2

theorem okB1 : RoundOK P s2 rrB1 := evalB.1.2.2.2.1.ok (fun _ _ _ => rfl) rfl

theorem okB2 : RoundOK P (round P s2 rrB1) rrN := evalB.1.2.2.2.2.1.ok (fun _ _ _ => rfl) rfl

theorem opensB : Opens P.bodyOf (round P (round P s2 rrB1) rrN).seals := evalB.1.2.2.2.2.2

/-- **pong lost, then recovered**: B has answered A's ping, the pong was lost; one reliable round completes both ends (A's
    retransmitted ping makes B repeat the pong) -/
theorem pong_lost_recovered :
    (round P s2 rrB1).doneA = [([20], true)] ∧ (round P s2 rrB1).doneB = [([10, 11], false)] :=
  evalB.2

example : (round P (round P s2 rrB1) rrN).doneA ≠ [] ∧ (round P (round P s2 rrB1) rrN).doneB ≠ [] :=
  let h := reliable_rounds_complete P (some .chacha) s0 s2 rrB1 rrN startB okB1 okB2 opensB
  ⟨h.2.1, h.2.2.1⟩

/-! ### (c) the peng is lost -/

theorem evalC : Hyps P L s3 rrN rrN ∧
    (s3.doneA = [([20], true)] ∧ s3.doneB = [] ∧ (round P s3 rrN).doneA = [([20], true)] ∧
      (round P s3 rrN).doneB = [([10, 11], false)]) ∧
    s3.a.stage = Generated.WAITING_TO_CLOSE ∧ s3.a.closeTime = Generated.CLOSE_TIME := by
  decide +kernel

theorem startC : Start P (some .chacha) s0 s3 2 := evalC.1.start init0 good reachW3

theorem okC1 : RoundOK P s3 rrN := evalC.1.2.2.2.1.ok (fun _ _ _ => rfl) rfl

theorem okC2 : RoundOK P (round P s3 rrN) rrN := evalC.1.2.2.2.2.1.ok (fun _ _ _ => rfl) rfl

theorem opensC : Opens P.bodyOf (round P (round P s3 rrN) rrN).seals := evalC.1.2.2.2.2.2

/-- **peng lost, then recovered**: A has completed (WAITING_TO_CLOSE), its peng was lost; B's retransmitted pong makes A repeat the
    peng, B completes in one reliable round -/
theorem peng_lost_recovered :
    s3.doneA = [([20], true)] ∧ s3.doneB = [] ∧ (round P s3 rrN).doneA = [([20], true)] ∧ (round P s3 rrN).doneB = [([10, 11], false)] :=
  evalC.2.1

example : (round P (round P s3 rrN) rrN).doneA ≠ [] ∧ (round P (round P s3 rrN) rrN).doneB ≠ [] :=
  let h := reliable_rounds_complete P (some .chacha) s0 s3 rrN rrN startC okC1 okC2 opensC
  ⟨h.2.1, h.2.2.1⟩

/-! ### (d) dual open, one ping lost (plain negotiated) -/

theorem goodD : GoodSys PD none t0 :=
  ⟨by decide, by decide, by decide, by decide, by decide +kernel, by decide +kernel⟩

theorem reachWD3 : ReachW PD t0 t3 :=
  SendChk.reach (L := LD) (fun _ _ _ => rfl) rfl ⟨run_evalD.1, by decide, by decide, by decide +kernel⟩
    (reachW_ping (reachW_ping .refl .A Q1 rfl (randOK_toy (env := envD) rfl _ Q1 (by decide))) .B Q2 rfl (randOK_toy (env := envD) rfl _ Q2 (by decide)))

def rrD1 : RoundRand := ⟨Q5, Q3, Q5, Q4⟩
def rrD2 : RoundRand := ⟨Q5, Q5, Q5, Q5⟩

theorem evalD : Hyps PD LD t3 rrD1 rrD2 ∧
    (t3.a.stage = Generated.STAGE_PONG ∧ t3.b.stage = Generated.STAGE_PONG ∧
      (round PD t3 rrD1).a.stage = Generated.STAGE_PENG ∧ (round PD t3 rrD1).doneB = [([10, 11], true)] ∧
      (round PD (round PD t3 rrD1) rrD2).doneA = [([20], false)] ∧ (round PD (round PD t3 rrD1) rrD2).doneB = [([10, 11], true)]) := by
  decide +kernel

theorem startD : Start PD none t0 t3 2 := evalD.1.start init0D goodD reachWD3

theorem okD1 : RoundOK PD t3 rrD1 := evalD.1.2.2.2.1.ok (fun _ _ _ => rfl) rfl

theorem okD2 : RoundOK PD (round PD t3 rrD1) rrD2 := evalD.1.2.2.2.2.1.ok (fun _ _ _ => rfl) rfl

theorem opensD : Opens PD.bodyOf (round PD (round PD t3 rrD1) rrD2).seals := evalD.1.2.2.2.2.2

/-- **dual open with one ping lost**: both have initiated, A's ping reached B (ignored: B has the larger salted hash), B's ping was
    lost; in the first reliable round A switches role and answers, B completes; in the second A completes -/
theorem dual_open_recovered :
    t3.a.stage = Generated.STAGE_PONG ∧ t3.b.stage = Generated.STAGE_PONG ∧
    (round PD t3 rrD1).a.stage = Generated.STAGE_PENG ∧ (round PD t3 rrD1).doneB = [([10, 11], true)] ∧
    (round PD (round PD t3 rrD1) rrD2).doneA = [([20], false)] ∧ (round PD (round PD t3 rrD1) rrD2).doneB = [([10, 11], true)] :=
  evalD.2

example : (round PD (round PD t3 rrD1) rrD2).doneA ≠ [] ∧ (round PD (round PD t3 rrD1) rrD2).doneB ≠ [] :=
  let h := reliable_rounds_complete PD none t0 t3 rrD1 rrD2 startD okD1 okD2 opensD
  ⟨h.2.1, h.2.2.1⟩

/-! ### the dead end is reachable -/

/-- A has completed, its peng is lost, 61 ticks pass at A -/
def sDead : Sys := ticksA (Generated.CLOSE_TIME + 1) s3

theorem evalDead : ((sDead.a.stage = Generated.CLOSING ∧ sDead.b.stage = Generated.STAGE_PENG ∧ sDead.doneA = [([20], true)] ∧
      sDead.doneB = [] ∧ Margin 2 sDead) ∧ Opens P.bodyOf sDead.seals) ∧
    RoundChk P L sDead rrN ∧ Opens P.bodyOf (round P sDead rrN).seals := by decide +kernel

/-- **the dead end is reachable**: the initiator has completed and closed, the responder still awaits the peng and has not completed;
    `closed_initiator_dead_end` applies (its hypotheses `RInv`, the stages, the margin hold here) -/
theorem dead_end_reachable : ReachW P s0 sDead ∧ sDead.a.stage = Generated.CLOSING ∧ sDead.b.stage = Generated.STAGE_PENG ∧
    sDead.doneA = [([20], true)] ∧ sDead.doneB = [] ∧ Margin 2 sDead ∧ RInv P (some .chacha) sDead := by
  obtain ⟨⟨h1, h2, h3, h4, h5⟩, hop⟩ := evalDead.1
  exact ⟨reachW_ticksA _ reachW3, h1, h2, h3, h4, h5, rinv_reach P (some .chacha) s0 sDead init0 good (reachW_ticksA _ reachW3) hop⟩

theorem okDead : RoundOK P sDead rrN := evalDead.2.1.ok (fun _ _ _ => rfl) rfl

/-- a reliable round from the dead end: B retransmits its pong, the closed A ignores it, B has still not completed -/
example : (round P sDead rrN).a.stage = CLOSING ∧ (round P sDead rrN).b.stage = PENG ∧ ((round P sDead rrN).doneB ≠ [] ↔ sDead.doneB ≠ []) :=
  let h := closed_initiator_dead_end P (some .chacha) sDead rrN 1 dead_end_reachable.2.2.2.2.2.2 dead_end_reachable.2.1
    dead_end_reachable.2.2.1 dead_end_reachable.2.2.2.2.2.1 (by decide) okDead evalDead.2.2
  ⟨h.1, h.2.1, h.2.2.1⟩

/-- the retry horizon on the toy initiator whose ping is never answered -/
example : (C01Mutual.tickN (Generated.MAX_FAILED_RETRIES + 1) s1.a).stage = Generated.CLOSING :=
  (give_up_is_bounded s1.a (by decide) (by decide) (by decide)).2.2.2

example : (C01Mutual.tickN (Generated.CLOSE_TIME + 1) s3.a).stage = Generated.CLOSING := by
  have h := evalC.2.2
  have := (completed_initiator_closes s3.a h.1).2
  rwa [h.2] at this


/-! ### the bound on the counter start is needed (why `StepW` and not `C05Agree.Step`) -/

/-- B's random parts with a slot-0 counter start that the 7 transmitted counter bytes cannot carry -/
def R2x : Rand := { R2 with start := 2 ^ 56 - 1 }
def x2pre : Sys := deliverTo P s1 .B w1 R2x
/-- B's pong -/
def w2x : Bytes := x2pre.b.last.getD []
/-- the ideal AEAD of this run: exactly the seal log -/
def bodyX : BodyOf := fun x =>
  match x2pre.seals.find? (fun e => e.1 = x) with
  | some e => e.2
  | none => .garbage x.length
def Lx : List (Bytes × Bytes × Bytes) := [(a0.ownKey, regionOf w1 R1, R1.sig), (b0.ownKey, regionOf w2x R2x, R2x.sig)]
def envX : CryptoEnv := { env0 with sigVerify := fun k m sg => decide ((k, m, sg) ∈ Lx) }
def PX : Params := ⟨envX, bodyX, C05Lockstep.Toy.okP⟩
def x1 : Sys := pingBy PX s0 .A R1
def x2 : Sys := deliverTo PX x1 .B w1 R2x
def x3 : Sys := deliverTo PX x2 .A w2x R3

theorem evalX : (SigsKnown Lx x1 .B w1 ∧ SigsKnown Lx x2 .A w2x) ∧ Opens PX.bodyOf x3.seals ∧
    x2.b.stage = Generated.STAGE_PENG ∧ x3.a.stage = Generated.STAGE_PONG ∧ x3.a.ecdh = none ∧ x3.doneA = [] := by decide +kernel

theorem reachX : Reach PX s0 x3 :=
  have h := evalX.1
  reach_toy Lx (fun _ _ _ => rfl) rfl
    (reach_toy Lx (fun _ _ _ => rfl) rfl (reach_ping .refl .A R1 rfl (randOK_toy (env := envX) rfl _ R1 (by decide))) .B w1 R2x h.1 (by decide))
    .A w2x R3 h.2 (by decide)

/-- **start_bound_needed**: in the system of `C05Agree` (no bound on the random counter start) a state outside the classification is
    reachable, with the AEAD law and all static hypotheses in force: B answers A's ping with a core whose first nonce `2^56` does not
    fit the 7 counter bytes of the header; A reconstructs another nonce, the genuine pong fails to open, and A is left in stage PONG
    WITHOUT its ephemeral key (any later pong hits `ecdh_private_key.take().unwrap()`): this pair never completes, however reliable
    the network.  The Rust draws 6 random bytes, so the start is `< 2^48`: `StepW`. -/
theorem start_bound_needed : Init0 s0 ∧ GoodSys PX (some .chacha) s0 ∧ Reach PX s0 x3 ∧ Opens PX.bodyOf x3.seals ∧
    x2.b.stage = Generated.STAGE_PENG ∧ x3.a.stage = Generated.STAGE_PONG ∧ x3.a.ecdh = none ∧ x3.doneA = [] :=
  ⟨init0, ⟨by decide, by decide, by decide, by decide, by decide +kernel, by decide +kernel⟩, reachX, evalX.2⟩

end Toy

end VpnCloud.Proofs.C05Recover
