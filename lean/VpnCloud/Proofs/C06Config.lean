import VpnCloud.Proofs.C06
import VpnCloud.Proofs.C01
import VpnCloud.Proofs.Lemmas.Codec.C06ConfigLemmas
/-
  C06 from the configuration to the selected cipher.

  Part 1: `parseAlgorithms` (the model of `Crypto::parse_algorithms`) against the alias table
          (`isPlainName`, `cipherOfName` in `Lemmas/Codec/C06ConfigLemmas.lean`, read off the `match` of the source).
  Part 2: `advertise`: parse, then attach the measured speed of each cipher (`Crypto::new`).
  Part 3: the negotiated outcome of two configured nodes depends only on the two configured SETS of names
          (up to spelling) and on the speeds, not on order, multiplicity, spelling or role.
  Part 4: the advertised list is inside the signed region: what `readFrom` accepts decodes to exactly the
          message that was signed.
-/
namespace VpnCloud.Proofs.C06Config
open VpnCloud.Init VpnCloud.InitMsg VpnCloud.Spec.C06 VpnCloud.Proofs.NegoLemmas VpnCloud.Proofs.C06ConfigLemmas

/-! ## Part 1: `parse_algorithms` -/

/-- the alias table: how `parseAlgoName` (the `match` of `parse_algorithms`) classifies a name, in terms of the two tables
    `plainAliases` and `cipherAliases` used in the statements below; the two tables do not overlap -/
theorem name_classification (n : String) :
    (parseAlgoName n = some none ↔ isPlainName n = true) ∧
    (∀ c, parseAlgoName n = some (some c) ↔ cipherOfName n = some c) ∧
    (parseAlgoName n = none ↔ (isPlainName n = false ∧ cipherOfName n = none)) ∧
    (isPlainName n = true → cipherOfName n = none) :=
  ⟨parseAlgoName_plain_iff n, parseAlgoName_cipher_iff n, parseAlgoName_none_iff n, plain_not_cipher n⟩

/-- **parse_plain_iff**: unencrypted operation is enabled exactly if some configured name is one of the aliases
    `unencrypted`/`none`/`plain` (any case). Holds for the empty configuration too (defaults: not enabled). -/
theorem parse_plain_iff (names : List String) (p : Bool) (cs : List Cipher) (h : parseAlgorithms names = some (p, cs)) :
    p = true ↔ ∃ n ∈ names, isPlainName n = true := by
  rw [← (parse_some_inv h).2.1]
  exact any_plain_effective names

/-- **parse_ciphers**: the ciphers a node measures and advertises are the configured cipher names, translated one by one, in the
    configured order (duplicates kept) -/
theorem parse_ciphers (names : List String) (hne : names ≠ []) (p : Bool) (cs : List Cipher)
    (h : parseAlgorithms names = some (p, cs)) : cs = names.filterMap cipherOfName := by
  rw [← (parse_some_inv h).2.2, effective_of_ne_nil hne]

/-- **parse_error_iff**: the configuration is refused exactly if some configured name is neither a plain alias nor a cipher name:
    no name is silently ignored -/
theorem parse_error_iff (names : List String) :
    parseAlgorithms names = none ↔ ∃ n ∈ names, isPlainName n = false ∧ cipherOfName n = none := by
  rw [parseAlgorithms_closed]
  cases names with
  | nil => rw [effective_nil, default_parse.1]; simp
  | cons a l =>
    rw [effective_of_ne_nil (by simp)]
    generalize a :: l = L
    simp only [← knownName_eq_false]
    simp only [List.all_eq_true, ite_eq_right_iff, reduceCtorEq, imp_false, Classical.not_forall, Bool.not_eq_true, exists_prop]

/-- every configured name of an accepted non-empty configuration is accounted for: it is a plain alias or contributes one cipher -/
theorem parse_nothing_dropped (names : List String) (hne : names ≠ []) (p : Bool) (cs : List Cipher)
    (h : parseAlgorithms names = some (p, cs)) : cs.length + (names.filter isPlainName).length = names.length := by
  obtain ⟨hk, -, rfl⟩ := parse_some_inv h
  rw [effective_of_ne_nil hne] at hk ⊢
  clear h hne
  induction names with
  | nil => rfl
  | cons n l ih =>
    simp only [List.all_cons, Bool.and_eq_true] at hk
    have := ih hk.2
    have hk1 := hk.1
    unfold knownName at hk1
    simp only [List.filterMap_cons, List.filter_cons, List.length_cons]
    cases h1 : isPlainName n
    · cases h2 : cipherOfName n
      · simp [h1, h2] at hk1
      · simp only [List.length_cons, Bool.false_eq_true, if_false]; omega
    · rw [plain_not_cipher n h1]
      simp only [if_true, List.length_cons]; omega

/-- **parse_empty_is_default**: nothing configured = the three ciphers, unencrypted operation not enabled -/
theorem parse_empty_is_default : parseAlgorithms [] = some (false, [.aes128, .aes256, .chacha]) :=
  parse_nil

/-- the defaults written out explicitly give the same as nothing configured -/
theorem parse_default_names : parseAlgorithms defaultAlgoNames = parseAlgorithms [] := rfl

/-- **parse_perm**: the order in which the names are configured matters neither for acceptance nor for the flag, and the cipher lists
    are permutations of each other -/
theorem parse_perm (la lb : List String) (h : la.Perm lb) :
    ((parseAlgorithms la).isSome = (parseAlgorithms lb).isSome) ∧
    ∀ p cs p' cs', parseAlgorithms la = some (p, cs) → parseAlgorithms lb = some (p', cs') → p = p' ∧ cs.Perm cs' := by
  have he := effective_perm h
  constructor
  · rw [parseAlgorithms_closed, parseAlgorithms_closed, he.all_eq]
    split <;> rfl
  · intro p cs p' cs' h1 h2
    obtain ⟨-, rfl, rfl⟩ := parse_some_inv h1
    obtain ⟨-, rfl, rfl⟩ := parse_some_inv h2
    exact ⟨he.any_eq, he.filterMap _⟩

/-- **parse_case_insensitive**: only the upper-case form of each name is looked at: two configurations whose names agree up to case
    parse alike -/
theorem parse_case_insensitive (la lb : List String) (h : la.map String.toUpper = lb.map String.toUpper) :
    parseAlgorithms la = parseAlgorithms lb := by
  rw [parseAlgorithms_eq_foldlM, parseAlgorithms_eq_foldlM, classes, classes]
  rcases effective_of_length (by simpa using congrArg List.length h) with ⟨rfl, rfl⟩ | ⟨e1, e2⟩
  · rfl
  · rw [e1, e2, map_parseAlgoName_of_case h]

/-- a name, its upper-case and its lower-case variant parse alike -/
theorem parseAlgoName_case (n : String) :
    parseAlgoName n.toUpper = parseAlgoName n ∧ parseAlgoName n.toLower = parseAlgoName n :=
  ⟨parseAlgoName_congr (string_toUpper_toUpper n), parseAlgoName_congr (string_toLower_toUpper n)⟩

/-- a whole configuration in upper case, or in lower case, parses like the original -/
theorem parse_upper_lower (names : List String) :
    parseAlgorithms (names.map String.toUpper) = parseAlgorithms names ∧
    parseAlgorithms (names.map String.toLower) = parseAlgorithms names := by
  constructor <;> apply parse_case_insensitive <;> rw [List.map_map] <;> apply List.map_congr_left <;> intro n _
  · exact string_toUpper_toUpper n
  · exact string_toLower_toUpper n

theorem parse_insert_plain (l1 l2 : List String) {a : String} (ha : isPlainName a = true) :
    parseAlgorithms (l1 ++ a :: l2) =
      if (l1 ++ l2).all knownName then some (true, (l1 ++ l2).filterMap cipherOfName) else none := by
  rw [parseAlgorithms_closed, effective_of_ne_nil (by simp)]
  have hk : knownName a = true := by simp [knownName, ha]
  simp only [List.all_append, List.all_cons, hk, Bool.true_and, List.any_append, List.any_cons, ha, Bool.true_or, Bool.or_true,
    List.filterMap_append, List.filterMap_cons, plain_not_cipher a ha]

/-- **plain_position_irrelevant**: a plain alias enables unencrypted operation wherever it stands and leaves the ciphers around it
    alone (the `continue`, not `break`, of the source): inserted anywhere into a non-empty configuration it only sets the flag -/
theorem plain_position_irrelevant (l1 l2 : List String) (a : String) (ha : isPlainName a = true) (hne : l1 ++ l2 ≠ []) :
    parseAlgorithms (l1 ++ a :: l2) = (parseAlgorithms (l1 ++ l2)).map (fun r => (true, r.2)) := by
  rw [parse_insert_plain l1 l2 ha, parseAlgorithms_closed, effective_of_ne_nil hne]
  split <;> rfl

/-- … and the position is irrelevant also when the alias is the only name (then NO cipher is advertised: the defaults apply only to
    an empty configuration) -/
theorem plain_position_irrelevant' (l1 l2 : List String) (a : String) (ha : isPlainName a = true) :
    parseAlgorithms (l1 ++ a :: l2) = parseAlgorithms (a :: (l1 ++ l2)) := by
  rw [parse_insert_plain l1 l2 ha]
  exact (parse_insert_plain [] (l1 ++ l2) ha).symm

/-! ### non-vacuity of part 1 -/

/-- what the names of the example configurations of parts 1 to 3 stand for, evaluated once -/
private theorem clsA : classes ["aes128", "plain", "AES_256_GCM"] = [some (some .aes128), some none, some (some .aes256)] := by
  decide +kernel
private theorem clsA' : classes ["AES256", "Aes_128", "NONE", "aes128_gcm"] =
    [some (some .aes256), some (some .aes128), some none, some (some .aes128)] := by decide +kernel
private theorem clsB : classes ["chacha20", "aes256", "AES128"] = [some (some .chacha), some (some .aes256), some (some .aes128)] := by
  decide +kernel
private theorem clsB' : classes ["aes_128", "CHACHA", "Aes256_Gcm"] = [some (some .aes128), some (some .chacha), some (some .aes256)] := by
  decide +kernel
private theorem parseA : parseAlgorithms ["aes128", "plain", "AES_256_GCM"] = some (true, [.aes128, .aes256]) := by
  rw [parseAlgorithms_eq_foldlM, clsA]; rfl
private theorem parseP : parseAlgorithms ["unencrypted", "chacha"] = some (true, [.chacha]) := by decide +kernel
private theorem parseBad : parseAlgorithms ["aes128", "aes-256"] = none := by decide +kernel
example : parseAlgorithms ["aes128", "plain", "AES_256_GCM"] = some (true, [.aes128, .aes256]) := parseA
example : parseAlgorithms ["plain", "aes128", "AES_256_GCM"] = some (true, [.aes128, .aes256]) := by decide +kernel
example : parseAlgorithms ["aes128", "AES_256_GCM", "NoNe"] = some (true, [.aes128, .aes256]) := by decide +kernel
example : parseAlgorithms ["aes128", "AES_256_GCM"] = some (false, [.aes128, .aes256]) := by decide +kernel
example : parseAlgorithms ["Aes128", "ChaCha20_Poly1305", "aes_128_gcm"] = some (false, [.aes128, .chacha, .aes128]) := by decide +kernel
example : parseAlgorithms ["aes128", "aes-256"] = none := parseBad
example : isPlainName "aes-256" = false ∧ cipherOfName "aes-256" = none := by decide +kernel
example : isPlainName "Unencrypted" = true ∧ cipherOfName "chacha" = some .chacha := by decide +kernel
/-- only a plain alias configured: no cipher at all (not the defaults) -/
example : parseAlgorithms ["plain"] = some (true, []) := by decide +kernel


/-- model boundary: `String.toUpper` maps ASCII letters only, Rust's `to_uppercase` is Unicode-aware (`"plaın"`, with a dotless i, and
    `"aeſ128"`, with a long s, become `PLAIN` and `AES128` there and are accepted); the model treats such names as unknown -/
example : parseAlgoName "plaın" = none ∧ parseAlgoName "aeſ128" = none := by decide +kernel

/-! ## Part 2: the advertised list

  `Crypto::new` measures every parsed cipher (`test_speed`) and advertises `(cipher, speed)` in list order.  `advertise` takes the
  measurement as a function of the cipher (one value per cipher).  In the Rust a cipher that is configured twice is measured twice and
  may get two different values: `advertiseMeasured` attaches the measurements by position; for a configuration without repeated
  ciphers the two coincide (`advertiseMeasured_eq_advertise`), with a repeated cipher and two different measurements the two ends of a
  handshake can disagree (the example below, the counterexample of `C06.lean` reached from a configuration). -/

/-- configured names → advertised list (`none`: the configuration is refused and the node does not start) -/
def advertise (names : List String) (speed : Cipher → Nat) : Option Algos := (parseAlgorithms names).map (attach speed)

/-- literally `Crypto::new`: the i-th parsed cipher gets the i-th measurement -/
def advertiseMeasured (names : List String) (meas : List Nat) : Option Algos :=
  (parseAlgorithms names).map (fun r => ⟨r.2.zip meas, r.1⟩)

/-- cipher `c` is configured (by any of its names, in any case; by default if nothing is configured) -/
def Configured (names : List String) (c : Cipher) : Prop := ∃ n ∈ effective names, cipherOfName n = some c

/-- a plain alias is configured -/
def PlainConfigured (names : List String) : Prop := ∃ n ∈ names, isPlainName n = true

theorem advertise_inv {names : List String} {speed : Cipher → Nat} {A : Algos} (h : advertise names speed = some A) :
    (effective names).all knownName = true ∧
    A = attach speed ((effective names).any isPlainName, (effective names).filterMap cipherOfName) := by
  obtain ⟨⟨p, cs⟩, hp, rfl⟩ := Option.map_eq_some_iff.1 h
  obtain ⟨hk, rfl, rfl⟩ := parse_some_inv hp
  exact ⟨hk, rfl⟩

/-- the flag of the advertised list: a plain alias was configured -/
theorem advertise_flag {names : List String} {speed : Cipher → Nat} {A : Algos} (h : advertise names speed = some A) :
    A.allowUnencrypted = true ↔ PlainConfigured names := by
  rw [(advertise_inv h).2]
  exact any_plain_effective names

/-- the speeds of the advertised list: exactly the configured ciphers, each with its measured speed -/
theorem advertise_speedOf {names : List String} {speed : Cipher → Nat} {A : Algos} (h : advertise names speed = some A)
    (c : Cipher) (x : Nat) : speedOf A c = some x ↔ (Configured names c ∧ x = speed c) := by
  rw [(advertise_inv h).2, speedOf_attach]
  unfold Configured
  simp only [List.mem_filterMap]
  split
  · rename_i hc
    simp only [Option.some.injEq, hc, true_and]
    exact eq_comm
  · rename_i hc
    simp [hc]

theorem advertise_speedOf_none {names : List String} {speed : Cipher → Nat} {A : Algos} (h : advertise names speed = some A)
    (c : Cipher) : speedOf A c = none ↔ ¬ Configured names c := by
  cases e : speedOf A c with
  | none => exact iff_of_true rfl fun hc => nomatch e ▸ (advertise_speedOf h c (speed c)).2 ⟨hc, rfl⟩
  | some x => exact iff_of_false nofun (not_not_intro ((advertise_speedOf h c x).1 e).1)

/-- in an advertised list equal ciphers carry equal speeds (so the `NoDup` hypotheses of `C06.lean` are not needed for it) -/
theorem advertise_functional {names : List String} {speed : Cipher → Nat} {A : Algos} (h : advertise names speed = some A) :
    Functional A := by
  rw [(advertise_inv h).2]
  exact attach_functional _ _

/-- the node refuses to start exactly if some configured name is unknown -/
theorem advertise_none_iff (names : List String) (speed : Cipher → Nat) :
    advertise names speed = none ↔ ∃ n ∈ names, isPlainName n = false ∧ cipherOfName n = none := by
  unfold advertise
  rw [Option.map_eq_none_iff, parse_error_iff]

private theorem zip_eq_map (cs : List Cipher) (meas : List Nat) (hl : meas.length = cs.length) (speed : Cipher → Nat)
    (hs : ∀ p ∈ cs.zip meas, speed p.1 = p.2) : cs.zip meas = cs.map (fun c => (c, speed c)) := by
  induction cs generalizing meas with
  | nil => rfl
  | cons c cs ih =>
    cases meas with
    | nil => simp at hl
    | cons x meas =>
      simp only [List.zip_cons_cons, List.map_cons, List.cons.injEq, Prod.mk.injEq, true_and]
      constructor
      · exact (hs (c, x) (by simp)).symm
      · exact ih meas (by simpa using hl) (fun p hp => hs p (by simp [hp]))

/-- for a configuration without repeated ciphers, measuring by position is measuring per cipher -/
theorem advertiseMeasured_eq_advertise (names : List String) (meas : List Nat) (p : Bool) (cs : List Cipher)
    (hp : parseAlgorithms names = some (p, cs)) (hnd : cs.Nodup) (hl : meas.length = cs.length) :
    ∃ speed : Cipher → Nat, advertiseMeasured names meas = advertise names speed ∧ ∀ q ∈ cs.zip meas, speed q.1 = q.2 := by
  have hN : NoDup ⟨cs.zip meas, p⟩ := by
    unfold NoDup
    simp only
    rw [List.map_fst_zip (by omega)]
    exact hnd
  have hsp : ∀ q ∈ cs.zip meas, (speedOf ⟨cs.zip meas, p⟩ q.1).getD 0 = q.2 := by
    intro q hq
    rw [speedOf_of_mem (functional_of_noDup hN) (c := q.1) (x := q.2) hq]
    rfl
  refine ⟨fun c => (speedOf ⟨cs.zip meas, p⟩ c).getD 0, ?_, hsp⟩
  unfold advertiseMeasured advertise attach
  rw [hp]
  simp only [Option.map_some, Option.some.injEq, Algos.mk.injEq, and_true]
  exact zip_eq_map cs meas hl _ hsp

/-! ## Part 3: the outcome of the negotiation between two configured nodes -/

/-- what happens between a node configured with `oa` and one configured with `ob` (`none`: one of them does not even start) -/
def outcome (oa ob : Option Algos) : Option (Except InitErr (Option Cipher)) :=
  match oa, ob with
  | some a, some b => some (selectAlgorithm a b)
  | _, _ => none

/-- two configurations name the same set: the same classes occur (plain / each cipher / unknown), whatever the order, the
    multiplicity, the spelling of the aliases, the case; nothing configured counts as the three default names -/
def SameSets (la' la : List String) : Prop := ∀ x, x ∈ classes la' ↔ x ∈ classes la

theorem sameSets_of_perm {la' la : List String} (h : la'.Perm la) : SameSets la' la := by
  intro x
  exact ((effective_perm h).map parseAlgoName).mem_iff

/-- a permutation in which names may have been replaced by other spellings of the same alias -/
theorem sameSets_of_respelled_perm {la' la : List String} (h : (la'.map parseAlgoName).Perm (la.map parseAlgoName)) :
    SameSets la' la := by
  intro x
  unfold classes
  rcases effective_of_length (la := la') (lb := la) (by simpa using h.length_eq) with ⟨rfl, rfl⟩ | ⟨e1, e2⟩
  · exact Iff.rfl
  · rw [e1, e2]; exact h.mem_iff

theorem sameSets_of_case {la' la : List String} (h : la'.map String.toUpper = la.map String.toUpper) : SameSets la' la :=
  sameSets_of_respelled_perm (map_parseAlgoName_of_case h ▸ .refl _)

theorem sameSets_default : SameSets [] defaultAlgoNames := fun _ => Iff.rfl

/-- same sets: both configurations are accepted or both refused, and the advertised lists agree in the flag and in every cipher's speed -/
theorem advertise_sameSets {la' la : List String} (h : SameSets la' la) (speed : Cipher → Nat) :
    (advertise la' speed = none ∧ advertise la speed = none) ∨
    ∃ A' A, advertise la' speed = some A' ∧ advertise la speed = some A ∧
      A'.allowUnencrypted = A.allowUnencrypted ∧ ∀ c, speedOf A' c = speedOf A c := by
  have hall : (effective la').all knownName = (effective la).all knownName := by
    rw [Bool.eq_iff_iff, all_known_iff_classes, all_known_iff_classes, h]
  have hany : (effective la').any isPlainName = (effective la).any isPlainName := by
    rw [Bool.eq_iff_iff, any_plain_iff_classes, any_plain_iff_classes, h]
  have hmem : ∀ c, c ∈ (effective la').filterMap cipherOfName ↔ c ∈ (effective la).filterMap cipherOfName := by
    intro c
    rw [mem_ciphers_iff_classes, mem_ciphers_iff_classes, h]
  unfold advertise
  rw [parseAlgorithms_closed, parseAlgorithms_closed, hall, hany]
  cases hk : (effective la).all knownName
  · exact Or.inl ⟨rfl, rfl⟩
  · refine Or.inr ⟨_, _, rfl, rfl, rfl, ?_⟩
    intro c
    rw [speedOf_attach, speedOf_attach]
    simp only [hmem c]

/-- the negotiation of an advertised list with any list is the declarative reference (an advertised list is `Functional`; no `NoDup` needed) -/
theorem select_advertised {la : List String} {sa : Cipher → Nat} {A : Algos} (ha : advertise la sa = some A) (B : Algos) :
    selectAlgorithm A B = choiceResult (selectRef A B) :=
  select_spec_fn A B (advertise_functional ha)

/-- both ends select the same whenever equal ciphers carry equal speeds in each list (`select_symm` of C06 without `NoDup`) -/
theorem select_symm_functional (a b : Algos) (ha : Functional a) (hb : Functional b) : selectAlgorithm a b = selectAlgorithm b a := by
  rw [select_spec_fn a b ha, select_spec_fn b a hb, C06.selectRef_symm]

/-- **outcome_depends_on_sets_only**: whether and how two configured nodes connect depends only on the two configured SETS of names
    (and on the measured speeds): reordering, repeating or respelling names (case, other aliases of the same thing, defaults written
    out) on either side changes nothing, and it does not matter which of the two initiated -/
theorem outcome_depends_on_sets_only (la la' lb lb' : List String) (sa sb : Cipher → Nat)
    (ha : SameSets la' la) (hb : SameSets lb' lb) :
    outcome (advertise la' sa) (advertise lb' sb) = outcome (advertise la sa) (advertise lb sb) ∧
    outcome (advertise lb' sb) (advertise la' sa) = outcome (advertise la sa) (advertise lb sb) := by
  obtain ⟨hA', hA⟩ | ⟨A', A, hA', hA, h1⟩ := advertise_sameSets ha sa
  · rw [hA', hA]
    cases advertise lb' sb <;> cases advertise lb sb <;> exact ⟨rfl, rfl⟩
  obtain ⟨hB', hB⟩ | ⟨B', B, hB', hB, h2⟩ := advertise_sameSets hb sb
  · rw [hA', hA, hB', hB]
    exact ⟨rfl, rfl⟩
  have e : selectRef A' B' = selectRef A B := selectRef_ext A' A B' B h1.2 h1.1 h2.2 h2.1
  rw [hA', hA, hB', hB]
  simp only [outcome, Option.some.injEq]
  rw [select_advertised hA' B', select_advertised hB' A', select_advertised hA B, C06.selectRef_symm B' A', e]
  exact ⟨rfl, rfl⟩

/-- the task's form: `la'` is a permutation of `la` up to the spelling of the names, `lb'` of `lb`, both accepted -/
theorem outcome_perm_respelled (la la' lb lb' : List String) (sa sb : Cipher → Nat) (A B A' B' : Algos)
    (ha : (la'.map parseAlgoName).Perm (la.map parseAlgoName)) (hb : (lb'.map parseAlgoName).Perm (lb.map parseAlgoName))
    (hA : advertise la sa = some A) (hB : advertise lb sb = some B) (hA' : advertise la' sa = some A') (hB' : advertise lb' sb = some B') :
    selectAlgorithm A' B' = selectAlgorithm A B ∧ selectAlgorithm B' A' = selectAlgorithm A B ∧ selectAlgorithm B A = selectAlgorithm A B := by
  have h := outcome_depends_on_sets_only la la' lb lb' sa sb (sameSets_of_respelled_perm ha) (sameSets_of_respelled_perm hb)
  have h' := outcome_depends_on_sets_only la la lb lb sa sb (fun _ => Iff.rfl) (fun _ => Iff.rfl)
  rw [hA, hB, hA', hB'] at h
  rw [hA, hB] at h'
  simp only [outcome, Option.some.injEq] at h h'
  exact ⟨h.1, h.2, h'.2⟩

/-- **unencrypted operation** is selected exactly if BOTH nodes configured a plain alias - and then it is selected even if they also
    share ciphers (the code tests `allow_unencrypted` of both sides first) -/
theorem unencrypted_iff {la lb : List String} {sa sb : Cipher → Nat} {A B : Algos}
    (ha : advertise la sa = some A) (hb : advertise lb sb = some B) :
    selectAlgorithm A B = .ok none ↔ (PlainConfigured la ∧ PlainConfigured lb) := by
  rw [select_advertised ha B, ← advertise_flag ha, ← advertise_flag hb, ← C06.plain_iff_both]
  constructor
  · intro h; exact choiceResult_inj (y := .plain) h
  · intro h; rw [h]; rfl

/-- **failure**: the handshake fails (and only with the fatal handshake error) exactly if the nodes did not both configure a plain
    alias and no cipher is configured on both -/
theorem fails_iff {la lb : List String} {sa sb : Cipher → Nat} {A B : Algos}
    (ha : advertise la sa = some A) (hb : advertise lb sb = some B) :
    ((∃ e, selectAlgorithm A B = .error e) ↔ (¬ (PlainConfigured la ∧ PlainConfigured lb) ∧ ¬ ∃ c, Configured la c ∧ Configured lb c)) ∧
    (∀ e, selectAlgorithm A B = .error e → e = .cryptoInitFatal) := by
  rw [select_advertised ha B]
  have hf := C06.fail_iff_none_common A B
  rw [advertise_flag ha, advertise_flag hb] at hf
  have hcommon : (∀ c, speedOf A c = none ∨ speedOf B c = none) ↔ ¬ ∃ c, Configured la c ∧ Configured lb c := by
    rw [not_exists]
    exact forall_congr' fun c => by
      rw [advertise_speedOf_none ha, advertise_speedOf_none hb, Classical.not_and_iff_not_or_not]
  rw [hcommon] at hf
  constructor
  · rw [← hf]
    cases selectRef A B <;> simp [choiceResult]
  · intro e he
    cases hs : selectRef A B <;> rw [hs] at he <;> simp [choiceResult] at he
    exact he.symm

/-- **the selected cipher**: cipher `c` is selected exactly if the nodes did not both configure a plain alias, `c` is configured on both,
    and no cipher configured on both has a faster slower side - or an equally fast one and a higher wire id -/
theorem cipher_iff {la lb : List String} {sa sb : Cipher → Nat} {A B : Algos}
    (ha : advertise la sa = some A) (hb : advertise lb sb = some B) (c : Cipher) :
    selectAlgorithm A B = .ok (some c) ↔
      (¬ (PlainConfigured la ∧ PlainConfigured lb) ∧ Configured la c ∧ Configured lb c ∧
        ∀ c', Configured la c' → Configured lb c' →
          (min (sa c') (sb c') < min (sa c) (sb c) ∨ (min (sa c') (sb c') = min (sa c) (sb c) ∧ c'.wireId ≤ c.wireId))) := by
  have hmem : ∀ z : Cipher × Nat, z ∈ common A B ↔ (Configured la z.1 ∧ Configured lb z.1 ∧ z.2 = min (sa z.1) (sb z.1)) := by
    intro z
    rw [mem_common]
    constructor
    · rintro ⟨x, y, hx, hy, hz⟩
      obtain ⟨h1, rfl⟩ := (advertise_speedOf ha _ _).1 hx
      obtain ⟨h2, rfl⟩ := (advertise_speedOf hb _ _).1 hy
      exact ⟨h1, h2, hz⟩
    · rintro ⟨h1, h2, hz⟩
      exact ⟨_, _, (advertise_speedOf ha _ _).2 ⟨h1, rfl⟩, (advertise_speedOf hb _ _).2 ⟨h2, rfl⟩, hz⟩
  have e : selectAlgorithm A B = .ok (some c) ↔ selectRef A B = .cipher c := by
    rw [select_advertised ha B]
    exact ⟨fun h => choiceResult_inj (y := .cipher c) h, fun h => by rw [h]; rfl⟩
  rw [e, selectRef_cipher_iff, advertise_flag ha, advertise_flag hb]
  refine and_congr_right fun _ => ?_
  constructor
  · rintro ⟨s, hm, hmax⟩
    obtain ⟨h1, h2, h3⟩ := (hmem _).1 hm
    simp only at h3
    subst h3
    exact ⟨h1, h2, fun c' h1' h2' => hmax (c', min (sa c') (sb c')) ((hmem _).2 ⟨h1', h2', rfl⟩)⟩
  · rintro ⟨h1, h2, h3⟩
    refine ⟨min (sa c) (sb c), (hmem _).2 ⟨h1, h2, rfl⟩, fun z hz => ?_⟩
    obtain ⟨z1, z2, hz3⟩ := (hmem z).1 hz
    have := h3 z.1 z1 z2
    rwa [← hz3] at this

/-! ### non-vacuity of parts 2 and 3 -/

private def sA : Cipher → Nat | .aes128 => 100 | .aes256 => 80 | .chacha => 300
private def sB : Cipher → Nat | .aes128 => 90 | .aes256 => 500 | .chacha => 200

private theorem advA : advertise ["aes128", "plain", "AES_256_GCM"] sA = some ⟨[(.aes128, 100), (.aes256, 80)], true⟩ := by
  rw [advertise, parseA]; rfl
private theorem advA' : advertise ["AES256", "Aes_128", "NONE", "aes128_gcm"] sA =
    some ⟨[(.aes256, 80), (.aes128, 100), (.aes128, 100)], true⟩ := by
  rw [advertise, parseAlgorithms_eq_foldlM, clsA']; rfl
private theorem advB : advertise ["chacha20", "aes256", "AES128"] sB = some ⟨[(.chacha, 200), (.aes256, 500), (.aes128, 90)], false⟩ := by
  rw [advertise, parseAlgorithms_eq_foldlM, clsB]; rfl
private theorem advB' : advertise ["aes_128", "CHACHA", "Aes256_Gcm"] sB = some ⟨[(.aes128, 90), (.chacha, 200), (.aes256, 500)], false⟩ := by
  rw [advertise, parseAlgorithms_eq_foldlM, clsB']; rfl
private theorem advP : advertise ["unencrypted", "chacha"] sB = some ⟨[(.chacha, 200)], true⟩ := by
  rw [advertise, parseP]; rfl
private theorem advC : advertise ["chacha"] sB = some ⟨[(.chacha, 200)], false⟩ := by decide +kernel

/-- a reordered, respelled configuration with a repeated cipher names the same set … -/
example : SameSets ["AES256", "Aes_128", "NONE", "aes128_gcm"] ["aes128", "plain", "AES_256_GCM"] := by
  intro x
  rw [clsA', clsA]
  simp only [List.mem_cons, List.not_mem_nil, or_false]
  constructor
  · rintro (h | h | h | h) <;> simp [h]
  · rintro (h | h | h) <;> simp [h]

example : (["aes_128", "CHACHA", "Aes256_Gcm"].map parseAlgoName).Perm (["chacha20", "aes256", "AES128"].map parseAlgoName) := by
  rw [show ["aes_128", "CHACHA", "Aes256_Gcm"].map parseAlgoName = _ from clsB',
    show ["chacha20", "aes256", "AES128"].map parseAlgoName = _ from clsB]
  decide +kernel

/-- … and the outcome is the same, from either side: `aes128` (slower sides: aes128 90, aes256 80) -/
example : outcome (advertise ["aes128", "plain", "AES_256_GCM"] sA) (advertise ["chacha20", "aes256", "AES128"] sB) = some (.ok (some .aes128)) ∧
          outcome (advertise ["AES256", "Aes_128", "NONE", "aes128_gcm"] sA) (advertise ["aes_128", "CHACHA", "Aes256_Gcm"] sB) = some (.ok (some .aes128)) ∧
          outcome (advertise ["aes_128", "CHACHA", "Aes256_Gcm"] sB) (advertise ["AES256", "Aes_128", "NONE", "aes128_gcm"] sA) = some (.ok (some .aes128)) := by
  rw [advA, advA', advB, advB']
  exact ⟨rfl, rfl, rfl⟩

/-- both configured a plain alias: unencrypted, when they share no cipher (first) and although they share `chacha` (second) -/
example : outcome (advertise ["aes128", "plain", "AES_256_GCM"] sA) (advertise ["unencrypted", "chacha"] sB) = some (.ok none) := by
  rw [advA, advP]; rfl
example : outcome (advertise ["unencrypted", "chacha"] sB) (advertise ["unencrypted", "chacha"] sA) = some (.ok none) := by
  have : advertise ["unencrypted", "chacha"] sA = some ⟨[(.chacha, 300)], true⟩ := by rw [advertise, parseP]; rfl
  rw [advP, this]; rfl
/-- only one side allows plain and no cipher is shared: the handshake fails -/
example : outcome (advertise ["aes128", "plain", "AES_256_GCM"] sA) (advertise ["chacha"] sB) = some (.error .cryptoInitFatal) := by
  rw [advA, advC]; rfl
/-- an unknown name: the node does not start -/
example : outcome (advertise ["aes128", "aes-256"] sA) (advertise ["chacha"] sB) = none := by
  rw [advertise, parseBad]; rfl
/-- the hypotheses of `unencrypted_iff`, `fails_iff`, `cipher_iff` are met by these configurations -/
example : PlainConfigured ["aes128", "plain", "AES_256_GCM"] ∧ ¬ PlainConfigured ["chacha20", "aes256", "AES128"] :=
  ⟨(advertise_flag advA).1 rfl, fun h => nomatch (advertise_flag advB).2 h⟩

/-- a cipher configured twice and measured twice with different results (`advertiseMeasured`, what the Rust does): the two ends
    disagree (aes128 on one side, aes256 on the other).  With one value per cipher (`advertise`) this cannot happen. -/
example : ∃ A B, advertiseMeasured ["aes128", "AES128", "aes256"] [1, 9, 5] = some A ∧ advertiseMeasured ["aes128", "aes256"] [9, 5] = some B ∧
    selectAlgorithm A B = .ok (some .aes128) ∧ selectAlgorithm B A = .ok (some .aes256) :=
  ⟨⟨[(.aes128, 1), (.aes128, 9), (.aes256, 5)], false⟩, ⟨[(.aes128, 9), (.aes256, 5)], false⟩, by decide +kernel, by decide +kernel, rfl, rfl⟩

/-- `advertiseMeasured_eq_advertise` applies to a configuration without repeated ciphers -/
example : parseAlgorithms ["aes128", "plain", "AES_256_GCM"] = some (true, [.aes128, .aes256]) ∧ [Cipher.aes128, Cipher.aes256].Nodup ∧
    [100, 80].length = [Cipher.aes128, Cipher.aes256].length := ⟨parseA, by decide, rfl⟩

example : Functional ⟨[(.aes256, 80), (.aes128, 100), (.aes128, 100)], true⟩ := advertise_functional advA'
/-- `cipher_iff` applied to an evaluated selection (left to right) -/
example : Configured ["AES256", "Aes_128", "NONE", "aes128_gcm"] .aes128 ∧ Configured ["chacha20", "aes256", "AES128"] .aes128 :=
  have h := (cipher_iff advA' advB .aes128).1 rfl
  ⟨h.2.1, h.2.2.1⟩

/-! ## Part 4: the advertised list cannot be altered in transit -/

/-- what the holder of key `k` produces with `write_to` for message `m0`: the signed region of a well-formed message under a 4-byte salt
    and the salted hash of `k`, with a signature that fits its length byte -/
def Genuine (env : CryptoEnv) (k signed sig : Bytes) (m0 : InitMsg) : Prop :=
  ∃ salt, C16Init.msgWF m0 ∧ salt.length = 4 ∧ (env.keyHash k salt).length = 4 ∧ sig.length < 256 ∧
    signed = signedRegion m0 salt (env.keyHash k salt)

/-- the algorithms part of a handshake message -/
def algosOf : InitMsg → Option Algos
  | .ping _ _ a => some a
  | .pong _ _ a _ => some a
  | .peng .. => none

/-- **decoded_list_determined_by_signed_region**: an accepted window consists of a region that verifies under the returned key, its
    signature and a rest; and if that region is the signed region of a genuine message, the decoded message - in particular its
    algorithm list - is that message, whatever else is in the window -/
theorem decoded_list_determined_by_signed_region (env : CryptoEnv) (w : Bytes) (T : List Bytes) (m : InitMsg) (k : Bytes)
    (h : readFrom env w T = .ok (m, k)) :
    ∃ signed sig rest, w = signed ++ [sig.length] ++ sig ++ rest ∧ env.sigVerify k signed sig = true ∧
      ∀ m0, Genuine env k signed sig m0 → m = m0 := by
  obtain ⟨_, signed, sig, rest, hw, hv⟩ := InitLemmas.readFrom_ok_inv env w T m k h
  refine ⟨signed, sig, rest, hw, hv, ?_⟩
  rintro m0 ⟨salt, hwf, hsalt, hkh, _, hs⟩
  rw [hw, hs, List.append_assoc, List.append_assoc] at h
  exact InitMsgLemmas.readFrom_signed_inv env m0 salt _ _ T m k hwf hsalt hkh h

/-- identical signed regions come from identical messages: the signed bytes determine every field, the algorithm list included -/
theorem signedRegion_inj (m0 m1 : InitMsg) (salt salt' kh kh' : Bytes) (h0 : C16Init.msgWF m0) (h1 : C16Init.msgWF m1)
    (hs : salt.length = 4) (hs' : salt'.length = 4) (hk : kh.length = 4) (hk' : kh'.length = 4)
    (h : signedRegion m0 salt kh = signedRegion m1 salt' kh') : m0 = m1 ∧ salt = salt' ∧ kh = kh' :=
  InitMsgLemmas.signedRegion_inj h0 h1 hs hk hs' hk' h

/-- with ideal signatures (only what a key holder really signed verifies; `log` lists key, message, salt, signature of every genuine
    `write_to`), whatever `readFrom` accepts decodes to exactly a logged message of the returned (trusted) key: every field, the
    advertised algorithm list included, is what that key holder signed -/
theorem accepted_message_was_signed (env : CryptoEnv) (log : List (Bytes × InitMsg × Bytes × Bytes))
    (hwf : ∀ k m0 salt sig, (k, m0, salt, sig) ∈ log →
      C16Init.msgWF m0 ∧ salt.length = 4 ∧ (env.keyHash k salt).length = 4 ∧ sig.length < 256)
    (ideal : ∀ k signed sig, env.sigVerify k signed sig = true →
      ∃ m0 salt, (k, m0, salt, sig) ∈ log ∧ signed = signedRegion m0 salt (env.keyHash k salt))
    (w : Bytes) (T : List Bytes) (m : InitMsg) (k : Bytes) (h : readFrom env w T = .ok (m, k)) :
    k ∈ T ∧ ∃ salt sig, (k, m, salt, sig) ∈ log := by
  refine ⟨(C01.readFrom_accept_genuine env w T m k h).1, ?_⟩
  obtain ⟨signed, sig, rest, _, hv, hdet⟩ := decoded_list_determined_by_signed_region env w T m k h
  obtain ⟨m0, salt, hmem, hs⟩ := ideal k signed sig hv
  obtain ⟨a1, a2, a3, a4⟩ := hwf k m0 salt sig hmem
  have := hdet m0 ⟨salt, a1, a2, a3, a4, hs⟩
  subst this
  exact ⟨salt, sig, hmem⟩

/-- **tampered_list_fails**: under the same ideal-signature assumption, a datagram that would decode to an algorithm list the key
    holder never signed - e.g. a genuine ping or pong whose list was edited in transit - is rejected by `readFrom` (no window, no set of
    trusted keys makes it acceptable), so an edit of the lists makes the handshake fail and cannot change what `selectAlgorithm` is given -/
theorem tampered_list_fails (env : CryptoEnv) (log : List (Bytes × InitMsg × Bytes × Bytes))
    (hwf : ∀ k m0 salt sig, (k, m0, salt, sig) ∈ log →
      C16Init.msgWF m0 ∧ salt.length = 4 ∧ (env.keyHash k salt).length = 4 ∧ sig.length < 256)
    (ideal : ∀ k signed sig, env.sigVerify k signed sig = true →
      ∃ m0 salt, (k, m0, salt, sig) ∈ log ∧ signed = signedRegion m0 salt (env.keyHash k salt))
    (w : Bytes) (T : List Bytes) (m : InitMsg) (k : Bytes) (a : Algos) (hm : algosOf m = some a)
    (hnot : ∀ m0 salt sig, (k, m0, salt, sig) ∈ log → algosOf m0 ≠ some a) :
    readFrom env w T ≠ .ok (m, k) := by
  intro h
  obtain ⟨_, salt, sig, hmem⟩ := accepted_message_was_signed env log hwf ideal w T m k h
  exact hnot m salt sig hmem hm


/-! ### non-vacuity of part 4: an ideal-signature environment with one logged pong -/

open InitLemmas in
private def gPong : InitMsg := .pong (List.replicate 20 2) [6] Toy.algos (Toy.pl 0)
open InitLemmas in
/-- the same pong with the algorithm list replaced by "plain only" -/
private def tPong : InitMsg := .pong (List.replicate 20 2) [6] Toy.algosPlain (Toy.pl 0)

private def iLog : List (Bytes × InitMsg × Bytes × Bytes) := [([9, 9, 9, 9], gPong, [0, 0, 0, 1], [9, 9, 0, 0])]

/-- verification accepts exactly the logged signature over the logged signed region -/
private def iEnv : CryptoEnv :=
  { InitLemmas.Toy.env with
    sigVerify := fun k m s => decide (k = [9, 9, 9, 9] ∧ m = signedRegion gPong [0, 0, 0, 1] [9, 9, 9, 9] ∧ s = [9, 9, 0, 0]) }

private theorem iLog_wf : ∀ k m0 salt sig, (k, m0, salt, sig) ∈ iLog →
    C16Init.msgWF m0 ∧ salt.length = 4 ∧ (iEnv.keyHash k salt).length = 4 ∧ sig.length < 256 := by
  intro k m0 salt sig h
  simp only [iLog, List.mem_singleton, Prod.mk.injEq] at h
  obtain ⟨rfl, rfl, rfl, rfl⟩ := h
  refine ⟨⟨by decide, by decide, ⟨?_, by decide⟩, by decide⟩, by decide, by decide, by decide⟩
  intro p hp
  simp [InitLemmas.Toy.algos] at hp
  subst hp
  decide

private theorem iEnv_ideal : ∀ k signed sig, iEnv.sigVerify k signed sig = true →
    ∃ m0 salt, (k, m0, salt, sig) ∈ iLog ∧ signed = signedRegion m0 salt (iEnv.keyHash k salt) := by
  intro k signed sig h
  simp only [iEnv, decide_eq_true_eq] at h
  obtain ⟨rfl, rfl, rfl⟩ := h
  exact ⟨gPong, [0, 0, 0, 1], by simp [iLog], rfl⟩

/-- the genuine pong is accepted … -/
example : readFrom iEnv (writeTo gPong [0, 0, 0, 1] [9, 9, 9, 9] [9, 9, 0, 0] ++ [1, 2, 3]) [[8, 8, 8, 8], [9, 9, 9, 9]] = .ok (gPong, [9, 9, 9, 9]) := by
  decide +kernel
/-- … the pong with the edited list is not (bad signature), as `tampered_list_fails` says for every window and every decoding -/
example : readFrom iEnv (writeTo tPong [0, 0, 0, 1] [9, 9, 9, 9] [9, 9, 0, 0]) [[8, 8, 8, 8], [9, 9, 9, 9]] = .error .crypto := by decide +kernel
example (w : Bytes) (T : List Bytes) : readFrom iEnv w T ≠ .ok (tPong, [9, 9, 9, 9]) :=
  tampered_list_fails iEnv iLog iLog_wf iEnv_ideal w T tPong [9, 9, 9, 9] InitLemmas.Toy.algosPlain rfl (by
    intro m0 salt sig h
    simp only [iLog, List.mem_singleton, Prod.mk.injEq] at h
    obtain ⟨-, rfl, -, -⟩ := h
    decide)
/-- `Genuine` is satisfiable -/
example : Genuine iEnv [9, 9, 9, 9] (signedRegion gPong [0, 0, 0, 1] [9, 9, 9, 9]) [9, 9, 0, 0] gPong := by
  obtain ⟨a, b, c, d⟩ := iLog_wf [9, 9, 9, 9] gPong [0, 0, 0, 1] [9, 9, 0, 0] (by simp [iLog])
  exact ⟨[0, 0, 0, 1], a, b, c, d, rfl⟩

end VpnCloud.Proofs.C06Config
