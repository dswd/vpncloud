import VpnCloud.Proofs.Lemmas.Node.SendLemmas
/-
  C11 at node level: what `handle_interface_data` does with a packet for which the table has no next
  hop.  Router mode drops and counts it; switch / hub mode sends at most one sealed copy to each peer.
  Both statements proved as given (no hypothesis added).
-/
namespace VpnCloud.Proofs.C11Node
open VpnCloud.Node

/-- router mode (no broadcast): a packet for which the table has no next hop is dropped and counted -/
theorem unknown_dest_dropped (o : Oracle) (n : Node) (now : Int) (data : Bytes) (s d : Addr)
    (hp : parseAddrs n data = some (s, d)) (hl : (n.table.lookup now d).2 = none) (hb : n.cfg.broadcast = false) :
    (handleIface o n now data).outs = [] ∧ (handleIface o n now data).node.droppedOut = n.droppedOut + 1 := by
  rw [NodeLemmas.handleIface_drop o n now data hp hl hb]
  exact ⟨rfl, rfl⟩

/-- switch / hub mode: it goes to peers only, at most one copy per peer -/
theorem unknown_dest_flooded (o : Oracle) (n : Node) (now : Int) (data : Bytes) (s d : Addr)
    (hp : parseAddrs n data = some (s, d)) (hl : (n.table.lookup now d).2 = none) (hb : n.cfg.broadcast = true) :
    (handleIface o n now data).outs.length ≤ n.peers.length ∧ (handleIface o n now data).node.droppedOut = n.droppedOut := by
  rw [NodeLemmas.handleIface_flood o n now data hp hl hb]
  have h := NodeLemmas.broadcastMsg_len o { node := n } Generated.MESSAGE_TYPE_DATA data
  simp only [List.length_nil, Nat.zero_add] at h
  exact h

end VpnCloud.Proofs.C11Node
