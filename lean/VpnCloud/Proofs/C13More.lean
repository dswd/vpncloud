import VpnCloud.Proofs.Lemmas.Node.C13MoreLemmas
/-
  C13 — "Switch learning is per VLAN and expires; hub and router learn nothing" — at node level (`handleNet`, `handleIface`, `housekeep`).

  1. `learned_then_unicast`      a frame with source `S` from peer `P`, then a frame for `S` from the interface goes to `P` only;
  2. `relearn_moves`             the same source from another peer `Q`: frames for `S` go to `Q` only (last writer wins);
  3. `vlan_isolated`, `vlan_same_unicast`, `priority_tag_directs_untagged`, `untagged_directs_priority_tag`
                                 the key is the MAC address with its 12-bit VLAN id; VLAN id 0 (priority tag) = untagged;
  4. `unknown_in_vlan_flooded`, `known_elsewhere_flooded`
                                 a destination without entry in its VLAN goes to all peers, one copy each;
  5. `disconnect_forgets_node` (`Dropped`: close message / expiry / session failure), `disconnect_then_flooded`;
     `learned_survives_tick`, `silent_expires_node`
                                 the entry outlives the housekeeping ticks up to its expiry `t + switch timeout` and goes at the first one after;
  6. `no_learning_any_datagram`, `housekeep_adds_nothing`, `NodeLemmas.connect_table`, `iface_caches_own_lookup`, `hub_router_never_learn`
                                 with `learning = false` nothing is ever learned: over all histories every cache entry is the decision
                                 of a lookup;
     `hub_router_cache_backed`   … and with a clock that does not run backwards, as a state invariant: every cache entry is backed by a
                                 claim in the table (same peer, containing the address, living at least as long).

  Hypotheses added (counterexamples in the last section): `IdUnique` — no other peer address has the table id of `P` (`id_clash`; holds
  for well-formed socket addresses, `idUnique_of_wf`) —, and `0 < now` for the sub-list statements of 6 (`sublist_fails_at_zero`).
-/
namespace VpnCloud.Proofs.C13More

open VpnCloud.Node VpnCloud.Table
open VpnCloud.Proofs.AssocLemmas VpnCloud.Proofs.NodeLemmas VpnCloud.Proofs.SessionInvLemmas VpnCloud.Proofs.C10MoreLemmas
open VpnCloud.Proofs.C13MoreLemmas
open VpnCloud.Proofs.C15More (FromPeer)

/-! ## 1. learned, then unicast -/

/-- no other peer address of `n` has the table id of `a` (`addrId` is injective on well-formed socket addresses; the model does not
    bound ports and address bytes, see the counterexample `id_clash`) -/
def IdUnique (n : Node) (a : NAddr) : Prop := ∀ x ∈ n.peers.map (·.1), addrId x = addrId a → x = a

/-- `IdUnique` holds whenever the peer addresses are well-formed socket addresses (16 / 4 address bytes, 16-bit port): `addrId` is
    injective on those (`addrId_inj`) -/
theorem idUnique_of_wf (n : Node) (a : NAddr) (ha : AddrWF a) (h : ∀ x ∈ n.peers.map (·.1), AddrWF x) : IdUnique n a :=
  fun x hx e => addrId_inj (h x hx) ha e

/-- the frame `g` read from the interface of `n'` goes to `a` and to nobody else: one datagram, the DATA message sealed by the session `pc`,
    or nothing if that session cannot seal -/
def OnlyTo (o' : Oracle) (n' : Node) (now' : Int) (g : Bytes) (a : NAddr) (pc : PeerCrypto) : Prop :=
  (handleIface o' n' now' g).outs =
    match (PeerCrypto.sendMessage pc Generated.MESSAGE_TYPE_DATA g (rndFor o' { node := n' } a).2.1.ct).2 with
    | .ok (bytes, _) => [.dgram a bytes]
    | .error _ => []

theorem OnlyTo.dest {o' : Oracle} {n' : Node} {now' : Int} {g : Bytes} {a : NAddr} {pc : PeerCrypto} (h : OnlyTo o' n' now' g a pc) :
    ∀ x ∈ (handleIface o' n' now' g).outs, ∃ bytes, x = .dgram a bytes := by
  intro x hx
  unfold OnlyTo at h
  rw [h] at hx
  split at hx
  · exact ⟨_, List.mem_singleton.1 hx⟩
  · cases hx

theorem unicast_of_finds (m : Node) {a : NAddr} {q : Peer} {K : Addr} {v : CacheEntry} (htap : m.cfg.tap = true)
    (hq : lookupA m.peers a = some q) (hid : IdUnique m a) (hv : Finds K v m.table) (hva : v.peer = addrId a)
    (o' : Oracle) (now' : Int) (g : Bytes) (S' : Addr) (hg : Payload.frameParse g = .ok (S', K)) : OnlyTo o' m now' g a q.crypto := by
  have hlk : (m.table.lookup now' K).2 = some (addrId a) := by rw [TableLemmas.lookup_hit _ now' K v hv, hva]
  obtain ⟨p', hp', ho⟩ := C10More.emit_known o' m now' g S' K _ _ (parseAddrs_tap m htap g _ hg) hlk
    (CoreLemmas.find?_unique (mem_key (lookupA_some_mem hq)) (by simp) (fun x hx h => hid x hx (by simpa using h)))
  rw [hq] at hp'
  cases hp'
  exact ho

theorem IdUnique.store {n : Node} {a s : NAddr} {p q : Peer} {t : Table} (h : IdUnique n a) (hp : lookupA n.peers s = some p) :
    IdUnique { n with peers := insertA n.peers s q, table := t } a := by
  unfold IdUnique
  rw [show ({ n with peers := insertA n.peers s q, table := t } : Node).peers.map (·.1) = _ from insertA_keys_of_some _ _ _ _ hp]
  exact h

/-- **learned_then_unicast**: a node in switch mode (learning, tap device) receives from its established peer `P` (address `src`) a datagram
    that P's session opens as the DATA message `f`, an Ethernet frame with source address `S` (VLAN included).  Afterwards the table has the
    entry `S ↦ P` with expiry `now + switch timeout`, and a frame `g` read from the interface with destination `S` (same VLAN) — at ANY time
    `now'`: the lookup does not consult the clock, an entry is used until a sweep removes it — is sealed by P's session and sent to P and to
    nobody else: exactly one datagram, or none if the session cannot seal.  (`IdUnique`: no other peer has the table id of P.) -/
theorem learned_then_unicast {env : CryptoEnv} {bodyOf : Init.BodyOf} {o : Oracle} {n : Node} {src : NAddr} {data tail : Bytes}
    {p : Peer} {pc : PeerCrypto} {f : Bytes}
    (h : FromPeer env bodyOf o n src data tail p pc Generated.MESSAGE_TYPE_DATA f)
    (hlearn : n.cfg.learning = true) (htap : n.cfg.tap = true) (now : Int) (S D : Addr) (hf : Payload.frameParse f = .ok (S, D))
    (hid : IdUnique n (mappedAddr src))
    (o' : Oracle) (now' : Int) (g : Bytes) (S' : Addr) (hg : Payload.frameParse g = .ok (S', S)) :
    let n' := (handleNet env bodyOf o n now src data tail).1.node
    n'.table.cache.find? (fun v => v.addr = S) = some ⟨S, addrId (mappedAddr src), now + n.table.cacheTimeout⟩ ∧
    lookupA n'.peers (mappedAddr src) = some { p with crypto := pc } ∧
    (handleIface o' n' now' g).outs =
      match (PeerCrypto.sendMessage pc Generated.MESSAGE_TYPE_DATA g (rndFor o' { node := n' } (mappedAddr src)).2.1.ct).2 with
      | .ok (bytes, _) => [.dgram (mappedAddr src) bytes]
      | .error _ => [] := by
  rw [handleNet_learn h hlearn htap now hf]
  have hpeer := lookupA_insertA_self n.peers (mappedAddr src) { p with crypto := pc }
  refine ⟨Finds.learn .., hpeer, ?_⟩
  refine unicast_of_finds (q := { p with crypto := pc }) _ ?_ ?_ ?_ (Finds.learn ..) ?_ o' now' g S' hg
  · exact htap
  · exact hpeer
  · exact hid.store h.peer
  · rfl

/-! ## 2. the same source from another peer -/

/-- **relearn_moves** (last writer wins, at node level): `S` was learned from `P` (frame `f1` at time `t1`); then the established peer `Q`
    (another table id) sends a frame `f2` with the same source address `S` at time `t2`.  Before the second frame the table answers `P`
    for `S`; afterwards every entry for `S` names `Q` (expiry `t2 + switch timeout`), and a frame for `S` read from the interface is sealed
    by Q's session and sent to `Q` only — nothing goes to `P` any more. -/
theorem relearn_moves {env env2 : CryptoEnv} {bodyOf bodyOf2 : Init.BodyOf} {o o2 : Oracle} {n : Node} {srcP srcQ : NAddr}
    {data1 tail1 data2 tail2 : Bytes} {p q : Peer} {pc1 pc2 : PeerCrypto} {f1 f2 : Bytes} (t1 t2 : Int)
    (h1 : FromPeer env bodyOf o n srcP data1 tail1 p pc1 Generated.MESSAGE_TYPE_DATA f1)
    (hlearn : n.cfg.learning = true) (htap : n.cfg.tap = true) (S D1 D2 : Addr) (hf1 : Payload.frameParse f1 = .ok (S, D1))
    (h2 : FromPeer env2 bodyOf2 o2 (handleNet env bodyOf o n t1 srcP data1 tail1).1.node srcQ data2 tail2 q pc2 Generated.MESSAGE_TYPE_DATA f2)
    (hf2 : Payload.frameParse f2 = .ok (S, D2))
    (hne : addrId (mappedAddr srcQ) ≠ addrId (mappedAddr srcP)) (hid : IdUnique n (mappedAddr srcQ))
    (o' : Oracle) (now' : Int) (g : Bytes) (S' : Addr) (hg : Payload.frameParse g = .ok (S', S)) :
    let n1 := (handleNet env bodyOf o n t1 srcP data1 tail1).1.node
    let n2 := (handleNet env2 bodyOf2 o2 n1 t2 srcQ data2 tail2).1.node
    (n1.table.lookup now' S).2 = some (addrId (mappedAddr srcP)) ∧
    (n2.table.lookup now' S).2 = some (addrId (mappedAddr srcQ)) ∧
    (∀ v ∈ n2.table.cache, v.addr = S → v = ⟨S, addrId (mappedAddr srcQ), t2 + n.table.cacheTimeout⟩) ∧
    OnlyTo o' n2 now' g (mappedAddr srcQ) pc2 ∧
    ∀ bytes, Out.dgram (mappedAddr srcP) bytes ∉ (handleIface o' n2 now' g).outs := by
  dsimp only
  rw [handleNet_learn h1 hlearn htap t1 hf1] at h2 ⊢
  have hB := (learned_then_unicast h2 hlearn htap t2 S D2 hf2 (hid.store h1.peer) o' now' g S' hg).2.2
  rw [handleNet_learn h2 hlearn htap t2 hf2] at hB ⊢
  refine ⟨C13.learn_last_writer .., C13.learn_last_writer .., ?_, hB, ?_⟩
  · exact fun v hv hvS => (TableLemmas.mem_cacheInsert.1 hv).resolve_right (fun h => h.2 hvS)
  · intro bytes hm
    obtain ⟨b', hb'⟩ := OnlyTo.dest hB _ hm
    exact hne (congrArg addrId (Out.dgram.inj hb').1.symm)

/-! ## 3. VLANs -/

/-- learning `S` changes the way of no frame whose destination (VLAN included) is not `S`: the node emits exactly what it would emit
    with the table it had before the frame from `P` arrived (all the rest of the state being that after the frame) -/
theorem learn_irrelevant_for_others {env : CryptoEnv} {bodyOf : Init.BodyOf} {o : Oracle} {n : Node} {src : NAddr} {data tail : Bytes}
    {p : Peer} {pc : PeerCrypto} {f : Bytes}
    (h : FromPeer env bodyOf o n src data tail p pc Generated.MESSAGE_TYPE_DATA f)
    (htap : n.cfg.tap = true) (now : Int) (S D : Addr) (hf : Payload.frameParse f = .ok (S, D))
    (o' : Oracle) (now' : Int) (g : Bytes) (hg : ∀ S' K, Payload.frameParse g = .ok (S', K) → K ≠ S) :
    let n' := (handleNet env bodyOf o n now src data tail).1.node
    (handleIface o' n' now' g).outs = (handleIface o' { n' with table := n.table } now' g).outs := by
  intro n'
  have hn' : n' = _ := handleNet_frame h now S D (parseAddrs_tap n htap f _ hf)
  refine handleIface_outs_table o' { n' with table := n.table } n'.table now' g (fun S' K hp => ?_)
  have hK : K ≠ S :=
    hg S' K (frameParse_of_parseAddrs htap ((parseAddrs_congr n _ g (handleNet_cfg env bodyOf o n now src data tail).symm).trans hp))
  show (n'.table.lookup now' K).2 = (n.table.lookup now' K).2
  rw [hn']
  dsimp only
  split
  · exact lookup_learn_other _ _ _ _ _ _ hK
  · rfl

/-- **vlan_isolated**: `S0` is learned from a frame of `P` tagged with VLAN `v ≠ 0`.  A frame for the MAC address `S0` in another VLAN `w ≠ v`
    (also priority-tagged, `w = 0`) or without a tag is not affected: the node emits what it would have emitted had it not learned (the
    lookup key is the address with the VLAN prefix: `C13.vlan_tag_injective`, `C13.tagged_ne_untagged`). -/
theorem vlan_isolated {env : CryptoEnv} {bodyOf : Init.BodyOf} {o : Oracle} {n : Node} {src : NAddr} {data tail : Bytes}
    {p : Peer} {pc : PeerCrypto} (D0 S0 rest : Bytes) (pcp v : Nat)
    (h : FromPeer env bodyOf o n src data tail p pc Generated.MESSAGE_TYPE_DATA (taggedFrame D0 S0 pcp v rest))
    (htap : n.cfg.tap = true) (now : Int) (hD : D0.length = 6) (hS : S0.length = 6) (hv : v < 4096) (hv0 : v ≠ 0)
    (o' : Oracle) (now' : Int) (g : Bytes)
    (hg : (∃ X pcp' w rest', X.length = 6 ∧ w < 4096 ∧ w ≠ v ∧ g = taggedFrame S0 X pcp' w rest') ∨
          (∃ X proto rest', X.length = 6 ∧ proto.length = 2 ∧ proto ≠ [0x81, 0x00] ∧ g = plainFrame S0 X proto rest')) :
    let n' := (handleNet env bodyOf o n now src data tail).1.node
    (handleIface o' n' now' g).outs = (handleIface o' { n' with table := n.table } now' g).outs := by
  apply learn_irrelevant_for_others h htap now _ _ (frameParse_tagged D0 S0 rest pcp v hD hS hv) o' now' g
  intro S' K hp
  rcases hg with ⟨X, pcp', w, rest', hX, hw, hwv, rfl⟩ | ⟨X, proto, rest', hX, hpl, hpne, rfl⟩
  · rw [frameParse_tagged S0 X rest' pcp' w hS hX hw] at hp
    cases hp
    exact fun e => hwv (frameKey_inj hw hv hS e)
  · rw [frameParse_plain S0 X proto rest' hS hX hpl hpne] at hp
    cases hp
    exact fun e => hv0 (frameKey_inj (v := 0) (by decide) hv hS e).symm

/-- **vlan_isolated, the other direction**: `S0` is learned from an untagged or priority-tagged frame of `P`: frames for the MAC address `S0`
    in a VLAN `w ≠ 0` are not affected. -/
theorem untagged_isolated {env : CryptoEnv} {bodyOf : Init.BodyOf} {o : Oracle} {n : Node} {src : NAddr} {data tail : Bytes}
    {p : Peer} {pc : PeerCrypto} {f : Bytes} (D0 S0 : Bytes)
    (h : FromPeer env bodyOf o n src data tail p pc Generated.MESSAGE_TYPE_DATA f)
    (htap : n.cfg.tap = true) (now : Int) (hD : D0.length = 6) (hS : S0.length = 6)
    (hf : (∃ pcp rest, f = taggedFrame D0 S0 pcp 0 rest) ∨
          (∃ proto rest, proto.length = 2 ∧ proto ≠ [0x81, 0x00] ∧ f = plainFrame D0 S0 proto rest))
    (o' : Oracle) (now' : Int) (X rest' : Bytes) (pcp' w : Nat) (hX : X.length = 6) (hw : w < 4096) (hw0 : w ≠ 0) :
    let n' := (handleNet env bodyOf o n now src data tail).1.node
    (handleIface o' n' now' (taggedFrame S0 X pcp' w rest')).outs =
      (handleIface o' { n' with table := n.table } now' (taggedFrame S0 X pcp' w rest')).outs := by
  have hfp : Payload.frameParse f = .ok (S0, D0) := by
    rcases hf with ⟨pcp, rest, rfl⟩ | ⟨proto, rest, hpl, hpne, rfl⟩
    · exact frameParse_tagged D0 S0 rest pcp 0 hD hS (by decide)
    · exact frameParse_plain D0 S0 proto rest hD hS hpl hpne
  apply learn_irrelevant_for_others h htap now _ _ hfp o' now' _
  intro S' K hp
  rw [frameParse_tagged S0 X rest' pcp' w hS hX hw] at hp
  cases hp
  exact fun e => hw0 (frameKey_inj (w := 0) hw (by decide) hS e)

/-- **same VLAN, any priority**: `S0` learned from a frame of `P` tagged with VLAN `v ≠ 0`: a frame for `S0` tagged with the same VLAN id —
    whatever its priority / DEI bits — goes to `P` only. -/
theorem vlan_same_unicast {env : CryptoEnv} {bodyOf : Init.BodyOf} {o : Oracle} {n : Node} {src : NAddr} {data tail : Bytes}
    {p : Peer} {pc : PeerCrypto} (D0 S0 rest : Bytes) (pcp v : Nat)
    (h : FromPeer env bodyOf o n src data tail p pc Generated.MESSAGE_TYPE_DATA (taggedFrame D0 S0 pcp v rest))
    (hlearn : n.cfg.learning = true) (htap : n.cfg.tap = true) (now : Int) (hD : D0.length = 6) (hS : S0.length = 6) (hv : v < 4096)
    (hid : IdUnique n (mappedAddr src)) (o' : Oracle) (now' : Int) (X rest' : Bytes) (pcp' : Nat) (hX : X.length = 6) :
    OnlyTo o' (handleNet env bodyOf o n now src data tail).1.node now' (taggedFrame S0 X pcp' v rest') (mappedAddr src) pc :=
  (learned_then_unicast h hlearn htap now _ _ (frameParse_tagged D0 S0 rest pcp v hD hS hv) hid o' now' _ _
    (frameParse_tagged S0 X rest' pcp' v hS hX hv)).2.2

/-- **priority-tagged counts as untagged (1)**: `S0` learned from a priority-tagged frame of `P` (tag with VLAN id 0, any priority):
    an UNTAGGED frame for `S0` goes to `P` only (`C13.vlan_normalised`). -/
theorem priority_tag_directs_untagged {env : CryptoEnv} {bodyOf : Init.BodyOf} {o : Oracle} {n : Node} {src : NAddr} {data tail : Bytes}
    {p : Peer} {pc : PeerCrypto} (D0 S0 rest : Bytes) (pcp : Nat)
    (h : FromPeer env bodyOf o n src data tail p pc Generated.MESSAGE_TYPE_DATA (taggedFrame D0 S0 pcp 0 rest))
    (hlearn : n.cfg.learning = true) (htap : n.cfg.tap = true) (now : Int) (hD : D0.length = 6) (hS : S0.length = 6)
    (hid : IdUnique n (mappedAddr src)) (o' : Oracle) (now' : Int) (X proto rest' : Bytes) (hX : X.length = 6)
    (hpl : proto.length = 2) (hpne : proto ≠ [0x81, 0x00]) :
    OnlyTo o' (handleNet env bodyOf o n now src data tail).1.node now' (plainFrame S0 X proto rest') (mappedAddr src) pc :=
  (learned_then_unicast h hlearn htap now _ _ (frameParse_tagged D0 S0 rest pcp 0 hD hS (by decide)) hid o' now' _ _
    (frameParse_plain S0 X proto rest' hS hX hpl hpne)).2.2

/-- **priority-tagged counts as untagged (2)**: `S0` learned from an untagged frame of `P`: a PRIORITY-TAGGED frame for `S0` goes to `P` only. -/
theorem untagged_directs_priority_tag {env : CryptoEnv} {bodyOf : Init.BodyOf} {o : Oracle} {n : Node} {src : NAddr} {data tail : Bytes}
    {p : Peer} {pc : PeerCrypto} (D0 S0 proto rest : Bytes)
    (h : FromPeer env bodyOf o n src data tail p pc Generated.MESSAGE_TYPE_DATA (plainFrame D0 S0 proto rest))
    (hlearn : n.cfg.learning = true) (htap : n.cfg.tap = true) (now : Int) (hD : D0.length = 6) (hS : S0.length = 6)
    (hpl : proto.length = 2) (hpne : proto ≠ [0x81, 0x00])
    (hid : IdUnique n (mappedAddr src)) (o' : Oracle) (now' : Int) (X rest' : Bytes) (pcp' : Nat) (hX : X.length = 6) :
    OnlyTo o' (handleNet env bodyOf o n now src data tail).1.node now' (taggedFrame S0 X pcp' 0 rest') (mappedAddr src) pc :=
  (learned_then_unicast h hlearn htap now _ _ (frameParse_plain D0 S0 proto rest hD hS hpl hpne) hid o' now' _ _
    (frameParse_tagged S0 X rest' pcp' 0 hS hX (by decide))).2.2

/-! ## 4. unknown destinations -/

/-- **unknown_in_vlan_flooded**: in a flooding mode (switch, hub: `broadcast`), a frame whose destination — the address with its VLAN prefix —
    has no table entry (none cached / learned, no claim contains it) is sent to ALL peers: one datagram each, in the order of the peer
    list, each the DATA message with the frame's bytes sealed by that peer's session; the table is left as it is.
    (Peer addresses pairwise distinct, every session can seal — as in `C10More.broadcast_reaches_all`.) -/
theorem unknown_in_vlan_flooded (o : Oracle) (n : Node) (now : Int) (g : Bytes) (S' K : Addr)
    (htap : n.cfg.tap = true) (hg : Payload.frameParse g = .ok (S', K)) (hb : n.cfg.broadcast = true)
    (hc : ∀ v ∈ n.table.cache, v.addr ≠ K) (hcl : ∀ e ∈ n.table.claims, e.claim.matches K = false)
    (hnd : (n.peers.map (·.1)).Nodup) (hseal : ∀ a p, lookupA n.peers a = some p → C15MoreLemmas.canSeal p.crypto) :
    (handleIface o n now g).outs.filterMap C10More.dstOf = n.peers.map (·.1) ∧
    (handleIface o n now g).outs.length = n.peers.length ∧
    (∀ a bytes, Out.dgram a bytes ∈ (handleIface o n now g).outs → ∃ p pc' log, lookupA n.peers a = some p ∧
      PeerCrypto.sendMessage p.crypto Generated.MESSAGE_TYPE_DATA g (rndFor o { node := n } a).2.1.ct = (pc', .ok (bytes, log))) ∧
    (handleIface o n now g).node.table = n.table := by
  have hp := parseAddrs_tap n htap g _ hg
  have hlk := C12More.lookup_unknown n.table now K hc hcl
  have hl : (n.table.lookup now K).2 = none := by rw [hlk]
  have hall := C10More.broadcast_reaches_all o n now g S' K hp hl hb hnd (by
    intro a p hpa ct
    obtain ⟨pc', bytes, log, hs, _⟩ := SessionInvLemmas.sendMessage_canSeal p.crypto Generated.MESSAGE_TYPE_DATA g ct (hseal a p hpa)
    exact ⟨(bytes, log), by rw [hs]⟩)
  refine ⟨hall.1, hall.2, fun a bytes hm => C10More.broadcast_each_is_seal o n now g S' K hp hl hb hnd a bytes hm, ?_⟩
  rw [handleIface_route o n now g S' K hp, hlk]
  rfl

/-- **known_elsewhere_flooded** ("in particular a destination known only in another VLAN"): `S` is learned from `P`; a frame whose destination key
    `K` differs from `S` (same MAC address in another VLAN, or untagged: `vlan_isolated`) and is not in the table of `n` is flooded to ALL
    peers — `P` included — one copy each. -/
theorem known_elsewhere_flooded {env : CryptoEnv} {bodyOf : Init.BodyOf} {o : Oracle} {n : Node} {src : NAddr} {data tail : Bytes}
    {p : Peer} {pc : PeerCrypto} {f : Bytes}
    (h : FromPeer env bodyOf o n src data tail p pc Generated.MESSAGE_TYPE_DATA f)
    (htap : n.cfg.tap = true) (hb : n.cfg.broadcast = true) (now : Int) (S D : Addr) (hf : Payload.frameParse f = .ok (S, D))
    (o' : Oracle) (now' : Int) (g : Bytes) (S' K : Addr) (hg : Payload.frameParse g = .ok (S', K)) (hKS : K ≠ S)
    (hc : ∀ v ∈ n.table.cache, v.addr ≠ K) (hcl : ∀ e ∈ n.table.claims, e.claim.matches K = false)
    (hnd : (n.peers.map (·.1)).Nodup) (hseal : ∀ a q, lookupA n.peers a = some q → C15MoreLemmas.canSeal q.crypto)
    (hpc : C15MoreLemmas.canSeal pc) :
    let n' := (handleNet env bodyOf o n now src data tail).1.node
    (handleIface o' n' now' g).outs.filterMap C10More.dstOf = n.peers.map (·.1) ∧
    (handleIface o' n' now' g).outs.length = n.peers.length ∧
    mappedAddr src ∈ n.peers.map (·.1) := by
  intro n'
  obtain ⟨hcfg, hpeers, hclaims, hcache⟩ := handleNet_frame_keeps h now S D (parseAddrs_tap n htap f _ hf)
  have hkeys : n'.peers.map (·.1) = n.peers.map (·.1) := by rw [hpeers]; exact insertA_keys_of_some _ _ _ _ h.peer
  have hfl := unknown_in_vlan_flooded o' n' now' g S' K (hcfg ▸ htap) hg (hcfg ▸ hb)
    (fun v hv => (hcache v hv).elim (hc v) (fun e => e ▸ fun e' => hKS e'.symm)) (hclaims ▸ hcl) (hkeys ▸ hnd) (by
      intro a q hq
      rw [hpeers] at hq
      by_cases ha : a = mappedAddr src
      · subst ha
        rw [lookupA_insertA_self] at hq
        cases hq
        exact hpc
      · rw [lookupA_insertA_ne _ _ ha] at hq
        exact hseal a q hq)
  have hlen : n'.peers.length = n.peers.length := by simpa using congrArg List.length hkeys
  rw [hkeys, hlen] at hfl
  exact ⟨hfl.1, hfl.2.1, mem_key (lookupA_some_mem h.peer)⟩

/-! ## 5. a disconnect forgets; silence expires -/

/-- the three ways a node drops its peer `a` (state `n1` before, `n2` after), at a time `now > 0`:
    a CLOSE message of the peer; the peer's expiry has passed when `housekeep` runs; the peer's session fails in `every_second` during
    `housekeep` (peer addresses pairwise distinct in the last two cases) -/
inductive Dropped (a : NAddr) : Node → Node → Prop
  | close {env : CryptoEnv} {bodyOf : Init.BodyOf} {o : Oracle} {n1 : Node} {src : NAddr} {data tail : Bytes} {p : Peer} {pc : PeerCrypto}
      {body : Bytes} (now : Int) : 0 < now → mappedAddr src = a →
      FromPeer env bodyOf o n1 src data tail p pc Generated.MESSAGE_TYPE_CLOSE body →
      Dropped a n1 (handleNet env bodyOf o n1 now src data tail).1.node
  | expired (env : CryptoEnv) (o : Oracle) (n1 : Node) (now : Int) (p : Peer) : 0 < now → (n1.peers.map (·.1)).Nodup →
      lookupA n1.peers a = some p → p.timeout < now → Dropped a n1 (housekeep env o n1 now).node
  | failed (env : CryptoEnv) (o : Oracle) (n1 : Node) (now : Int) (p : Peer) : 0 < now → (n1.peers.map (·.1)).Nodup →
      lookupA n1.peers a = some p → ¬ p.timeout < now → (∀ rr, ∃ pc' e, PeerCrypto.everySecond p.crypto rr = .err pc' e) →
      Dropped a n1 (housekeep env o n1 now).node

/-- **disconnect_forgets_node**: after the node dropped its peer `P` (address `a`) in any of the three ways, `a` is no peer, no cached /
    learned entry and no claim names it, no lookup — of any address, at any time — answers `P`; the rest of the table is the old one
    with entries removed (nothing added or altered); the configuration is unchanged. -/
theorem disconnect_forgets_node {a : NAddr} {n1 n2 : Node} (h : Dropped a n1 n2) :
    a ∉ n2.peers.map (·.1) ∧ NoPeer (addrId a) n2.table ∧ TShrink n1.table n2.table ∧
    (∀ now' K, (n2.table.lookup now' K).2 ≠ some (addrId a)) ∧ n2.cfg = n1.cfg := by
  have key : ∀ {n2 : Node}, a ∉ n2.peers.map (·.1) ∧ C12MoreLemmas.NoRoutes (addrId a) n2.table → TShrink n1.table n2.table →
      n2.cfg = n1.cfg → a ∉ n2.peers.map (·.1) ∧ NoPeer (addrId a) n2.table ∧ TShrink n1.table n2.table ∧
      (∀ now' K, (n2.table.lookup now' K).2 ≠ some (addrId a)) ∧ n2.cfg = n1.cfg :=
    fun h1 h3 h4 => ⟨h1.1, ⟨h1.2.2, h1.2.1⟩, h3, fun now' K => NoPeer.lookup ⟨h1.2.2, h1.2.1⟩ now' K, h4⟩
  cases h with
  | close now hnow hsrc hfp =>
    subst hsrc
    obtain ⟨_, htb, hgone⟩ := C12More.close_removes_routes hfp now hnow
    exact key hgone (htb ▸ TShrink.removeClaims _ now hnow _) (handleNet_cfg ..)
  | expired env o _ now p hnow _ hp hdead =>
    exact key (C12More.timeout_removes_routes env o n1 now hnow a p (lookupA_some_mem hp) hdead) (housekeep_shrink' env o n1 now hnow)
      (housekeep_cfg ..)
  | failed env o _ now p hnow _ hp _ hfail =>
    obtain ⟨pc', e, he⟩ := hfail {}
    exact key (C12More.failed_session_removes_routes_tick env o n1 now hnow a p hp ⟨{}, pc', e, he⟩) (housekeep_shrink' env o n1 now hnow)
      (housekeep_cfg ..)

/-- a switch or hub `m` (flags as in `n`) whose table has no entry for `K` — none cached / learned, no claim contains it — has no next
    hop for `K` and floods a frame for `K`: one sealed copy for every peer whose session can seal, in the order of the peer list -/
theorem unknown_flooded {m n : Node} (hcfg : m.cfg = n.cfg) (htap : n.cfg.tap = true) (hb : n.cfg.broadcast = true)
    (hnd : (m.peers.map (·.1)).Nodup) {K : Addr} (hc : ∀ v ∈ m.table.cache, v.addr ≠ K)
    (hcl : ∀ e ∈ m.table.claims, e.claim.matches K = false) (o' : Oracle) (now : Int) (g : Bytes) (S' : Addr)
    (hg : Payload.frameParse g = .ok (S', K)) :
    m.table.lookup now K = (m.table, none) ∧
    (handleIface o' m now g).outs =
      (m.peers.map (·.1)).filterMap (fun a => (sealFor o' m Generated.MESSAGE_TYPE_DATA g a).map (Out.dgram a)) := by
  have hlk := C12More.lookup_unknown m.table now K hc hcl
  exact ⟨hlk, C10More.emit_unknown_broadcast o' m now g S' K (parseAddrs_tap m (hcfg ▸ htap) g _ hg) (by rw [hlk]) (hcfg ▸ hb) hnd⟩

/-- **disconnect_then_flooded**: `S` is learned from `P`; then the node drops `P` (close message, expiry, or session failure).  If no claim
    contained `S`, frames for `S` are flooded again: the table has no next hop for `S` (at any time), and in a flooding mode a frame for `S`
    read from the interface goes to all remaining peers (one sealed copy for every peer whose session can seal, in the order of the
    peer list; `P` is not among them). -/
theorem disconnect_then_flooded {env : CryptoEnv} {bodyOf : Init.BodyOf} {o : Oracle} {n : Node} {src : NAddr} {data tail : Bytes}
    {p : Peer} {pc : PeerCrypto} {f : Bytes}
    (h : FromPeer env bodyOf o n src data tail p pc Generated.MESSAGE_TYPE_DATA f)
    (hlearn : n.cfg.learning = true) (htap : n.cfg.tap = true) (hb : n.cfg.broadcast = true) (now : Int) (S D : Addr)
    (hf : Payload.frameParse f = .ok (S, D)) (hcl : ∀ e ∈ n.table.claims, e.claim.matches S = false)
    (n2 : Node) (hdrop : Dropped (mappedAddr src) (handleNet env bodyOf o n now src data tail).1.node n2)
    (hnd2 : (n2.peers.map (·.1)).Nodup)
    (o' : Oracle) (now' : Int) (g : Bytes) (S' : Addr) (hg : Payload.frameParse g = .ok (S', S)) :
    n2.table.lookup now' S = (n2.table, none) ∧
    (handleIface o' n2 now' g).outs =
      (n2.peers.map (·.1)).filterMap (fun a => (sealFor o' n2 Generated.MESSAGE_TYPE_DATA g a).map (Out.dgram a)) ∧
    mappedAddr src ∉ n2.peers.map (·.1) ∧
    ∀ bytes, Out.dgram (mappedAddr src) bytes ∉ (handleIface o' n2 now' g).outs := by
  rw [handleNet_learn h hlearn htap now hf] at hdrop
  obtain ⟨hnp, hno, hsh, _, hcfg⟩ := disconnect_forgets_node hdrop
  -- every entry for `S` named `P`, and nothing names `P` any more
  obtain ⟨hlk, hout⟩ := unknown_flooded hcfg htap hb hnd2
    (fun v hv e => hno.1 v hv ((TableLemmas.mem_cacheInsert.1 (hsh.1.subset hv)).elim (fun e' => e' ▸ rfl) (fun h => absurd e h.2)))
    (fun e he => hcl e (hsh.2.1.subset he)) o' now' g S' hg
  refine ⟨hlk, hout, hnp, fun bytes hm => ?_⟩
  obtain ⟨a, b, hx, ha⟩ := (handleIface_toPeers o' n2 now' g).1 _ hm
  exact hnp ((Out.dgram.inj hx).1 ▸ ha)

/-- **learned_survives_tick** (the time condition, positive half): `S` is learned from `P` at time `t`.  A housekeeping tick at a time
    `now' ≤ t + switch timeout` that does not drop `P` (its expiry has not passed, its session does not fail in `every_second`) leaves the
    entry `S ↦ P` (expiry `t + switch timeout`) in place, and frames for `S` still go to `P` only — sealed by P's session as it is after
    the tick. -/
theorem learned_survives_tick {env env' : CryptoEnv} {bodyOf : Init.BodyOf} {o oh : Oracle} {n : Node} {src : NAddr} {data tail : Bytes}
    {p : Peer} {pc : PeerCrypto} {f : Bytes}
    (h : FromPeer env bodyOf o n src data tail p pc Generated.MESSAGE_TYPE_DATA f)
    (hlearn : n.cfg.learning = true) (htap : n.cfg.tap = true) (t : Int) (S D : Addr) (hf : Payload.frameParse f = .ok (S, D))
    (hid : IdUnique n (mappedAddr src)) (hnd : (n.peers.map (·.1)).Nodup)
    (now' : Int) (hnow : 0 < now') (hearly : now' ≤ t + n.table.cacheTimeout) (hlive : ¬ p.timeout < now')
    (hok : ∀ rr pc' e, PeerCrypto.everySecond pc rr ≠ .err pc' e)
    (o' : Oracle) (now'' : Int) (g : Bytes) (S' : Addr) (hg : Payload.frameParse g = .ok (S', S)) :
    let n1 := (handleNet env bodyOf o n t src data tail).1.node
    let n2 := (housekeep env' oh n1 now').node
    n2.table.cache.find? (fun v => v.addr = S) = some ⟨S, addrId (mappedAddr src), t + n.table.cacheTimeout⟩ ∧
    ∃ p2, lookupA n2.peers (mappedAddr src) = some p2 ∧ OnlyTo o' n2 now'' g (mappedAddr src) p2.crypto := by
  intro n1 n2
  have hn1 : n1 = _ := handleNet_learn h hlearn htap t hf
  have hp1 : lookupA n1.peers (mappedAddr src) = some { p with crypto := pc } := by rw [hn1]; exact lookupA_insertA_self _ _ _
  have hid1 : IdUnique n1 (mappedAddr src) := by rw [hn1]; exact hid.store h.peer
  have hnd1 : (n1.peers.map (·.1)).Nodup := by rw [hn1]; exact (insertA_keys_of_some _ _ _ _ h.peer).symm ▸ hnd
  obtain ⟨p2, hp2, _⟩ := C09MoreLemmas.housekeep_keeps env' oh n1 now' (mappedAddr src) _ hp1 hlive hnd1 hok
  have hfinds : Finds S ⟨S, addrId (mappedAddr src), t + n.table.cacheTimeout⟩ n2.table :=
    housekeep_finds env' oh n1 now' hnow S _ hearly (mappedAddr src) (mem_key (lookupA_some_mem hp2)) rfl hid1 (by rw [hn1]; exact Finds.learn ..)
  refine ⟨hfinds, p2, hp2, unicast_of_finds n2 ?_ hp2 (fun x hx => hid1 x (housekeep_keys_subset env' oh n1 now' x hx)) hfinds rfl o' now'' g S' hg⟩
  rw [show n2.cfg = n1.cfg from housekeep_cfg .., hn1]
  exact htap

/-- **silent_expires_node**: `S` is learned from `P` at time `t`; no further frame with source `S` arrives.  The first `housekeep` at a time
    `now' > t + switch timeout` removes the entry (a `housekeep` at a time `≤ t + switch timeout` does not, see `learned_survives_tick`);
    afterwards — if no claim contained `S` — the table has no next hop for `S` and frames for `S` are flooded to all peers. -/
theorem silent_expires_node {env env' : CryptoEnv} {bodyOf : Init.BodyOf} {o oh : Oracle} {n : Node} {src : NAddr} {data tail : Bytes}
    {p : Peer} {pc : PeerCrypto} {f : Bytes}
    (h : FromPeer env bodyOf o n src data tail p pc Generated.MESSAGE_TYPE_DATA f)
    (hlearn : n.cfg.learning = true) (htap : n.cfg.tap = true) (hb : n.cfg.broadcast = true) (t : Int) (S D : Addr)
    (hf : Payload.frameParse f = .ok (S, D)) (hcl : ∀ e ∈ n.table.claims, e.claim.matches S = false)
    (now' : Int) (hnow : 0 < now') (hlate : t + n.table.cacheTimeout < now') (hnd : (n.peers.map (·.1)).Nodup)
    (o' : Oracle) (now'' : Int) (g : Bytes) (S' : Addr) (hg : Payload.frameParse g = .ok (S', S)) :
    let n1 := (handleNet env bodyOf o n t src data tail).1.node
    let n2 := (housekeep env' oh n1 now').node
    (n1.table.lookup now'' S).2 = some (addrId (mappedAddr src)) ∧
    (∀ v ∈ n2.table.cache, v.addr ≠ S) ∧
    n2.table.lookup now'' S = (n2.table, none) ∧
    (handleIface o' n2 now'' g).outs =
      (n2.peers.map (·.1)).filterMap (fun a => (sealFor o' n2 Generated.MESSAGE_TYPE_DATA g a).map (Out.dgram a)) := by
  intro n1 n2
  have hn1 : n1 = _ := handleNet_learn h hlearn htap t hf
  have hsh : TShrink (n1.table.housekeep now') n2.table := housekeep_shrink env' oh n1 now' hnow
  rw [hn1] at hsh
  have hgone : ∀ v ∈ n2.table.cache, v.addr ≠ S := by
    intro v hv hvS
    have hfind := C13.learn_expiry n.table t now' S (addrId (mappedAddr src)) hlate
    rw [List.find?_eq_none] at hfind
    exact hfind v (hsh.1.subset hv) (by simpa using hvS)
  obtain ⟨hlk, hout⟩ := unknown_flooded (n := n) ((housekeep_cfg ..).trans (by rw [hn1])) htap hb
    (housekeep_keysNodup env' oh n1 now' (by rw [hn1]; exact (insertA_keys_of_some _ _ _ _ h.peer).symm ▸ hnd)) hgone
    (fun e he => hcl e (List.mem_filter.1 (hsh.2.1.subset he)).1) o' now'' g S' hg
  exact ⟨by rw [hn1]; exact C13.learn_last_writer .., hgone, hlk, hout⟩

/-! ## 6. hub and router modes never learn -/

/-- **no learning without the flag — every datagram** (strengthens `C13Node.no_learning_unless_flag`, which is about the DATA arm of
    `handle_message`): whatever datagram a node with `learning = false` receives, from whomever, in whatever session state — its table
    afterwards is the old one, or the old one after `set_claims` / `remove_claims` for the sender's id; and (at a time `now > 0`) the cache
    is a sub-list of the old cache: no entry is added or altered. -/
theorem no_learning_any_datagram (env : CryptoEnv) (bodyOf : Init.BodyOf) (o : Oracle) (n : Node) (now : Int) (src : NAddr)
    (data tail : Bytes) (hl : n.cfg.learning = false) :
    let t' := (handleNet env bodyOf o n now src data tail).1.node.table
    (t' = n.table ∨ (∃ cs, t' = n.table.setClaims now (addrId (mappedAddr src)) cs) ∨
      t' = n.table.removeClaims now (addrId (mappedAddr src))) ∧
    (0 < now → t'.cache.Sublist n.table.cache) := by
  intro t'
  cases handleNet_tblNL env bodyOf o n now src data tail hl with
  | same h => exact ⟨Or.inl h, fun _ => by rw [show t' = n.table from h]; exact List.Sublist.refl _⟩
  | learn a h l => exact l.elim
  | set cs h k => exact ⟨Or.inr (Or.inl ⟨cs, h⟩), fun hnow => by rw [show t' = _ from h]; exact (TableRefresh.setClaims_cache_sub _ now hnow _ _).trans List.filter_sublist⟩
  | remove h => exact ⟨Or.inr (Or.inr h), fun hnow => by rw [show t' = _ from h]; exact (TShrink.removeClaims _ now hnow _).1⟩

/-- `housekeep` (any mode) adds nothing to the table: cache and claims afterwards are sub-lists of the swept old cache / claims -/
theorem housekeep_adds_nothing (env : CryptoEnv) (o : Oracle) (n : Node) (now : Int) (hnow : 0 < now) :
    (housekeep env o n now).node.table.cache.Sublist (n.table.cache.filter (fun v => Generated.cacheLive v.timeout now)) ∧
    (housekeep env o n now).node.table.claims.Sublist (n.table.claims.filter (fun e => Generated.claimLive e.timeout now)) :=
  ⟨(housekeep_shrink env o n now hnow).1, (housekeep_shrink env o n now hnow).2.1⟩

/-- `handle_interface_data` (any mode) changes the table only by caching the decision of its own lookup: the table afterwards is the old one,
    or the old one plus ONE cache entry — for the destination `dst` of the frame, which had no entry, naming the owner of the claim `e`
    that the scan selected (`e` is in the table and contains `dst`), expiring with that claim or after the cache timeout. -/
theorem iface_caches_own_lookup (o : Oracle) (n : Node) (now : Int) (data : Bytes) :
    let t' := (handleIface o n now data).node.table
    t' = n.table ∨
    ∃ s dst e, parseAddrs n data = some (s, dst) ∧ n.table.cache.find? (fun v => v.addr = dst) = none ∧
      scan dst n.table.claims none = some e ∧ e ∈ n.table.claims ∧ e.claim.matches dst = true ∧
      t' = { n.table with cache := cacheInsert n.table.cache ⟨dst, e.peer, min (now + n.table.cacheTimeout) e.timeout⟩ } := by
  intro t'
  rcases handleIface_table o n now data with ht | ⟨s, dst, hp, ht⟩
  · exact Or.inl ht
  · rw [show t' = _ from ht]
    rcases TableLemmas.lookup_cases n.table now dst with ⟨_, _, hl⟩ | ⟨hc, ⟨_, hl⟩ | ⟨e, hb, hl⟩⟩ <;> rw [hl]
    · exact Or.inl rfl
    · exact Or.inl rfl
    · exact Or.inr ⟨s, dst, e, hp, hc, (TableLemmas.scan_eq_best dst n.table.claims).trans hb, (TableLemmas.best_mem hb).1,
        (TableLemmas.best_mem hb).2, by rw [TableLemmas.cacheInsert_fresh _ _ hc]⟩

/-- a cache entry that is the decision of a lookup in a state `m` reachable from `n0`: when it was cached (time `now`), the address had no
    entry, the scan over the claims of `m` selected the claim `e` — a claim of the entry's peer that contains the entry's address — and
    the entry expires with that claim or after the cache timeout -/
def Justified (n0 : Node) (v : CacheEntry) : Prop :=
  ∃ (m : Node) (now : Int) (e : ClaimEntry), C12Node.Reach n0 m ∧ m.table.cache.find? (fun w => w.addr = v.addr) = none ∧
    scan v.addr m.table.claims none = some e ∧ e ∈ m.table.claims ∧ e.claim.matches v.addr = true ∧ e.peer = v.peer ∧
    v.timeout = min (now + m.table.cacheTimeout) e.timeout

/-- **hub_router_never_learn**: in EVERY state a node with `learning = false` reaches (any sequence of datagrams, frames from the
    interface, housekeeping ticks and dials; times `> 0`), every cache entry that was not in the start state is the decision of a lookup:
    its peer owned — at the time the entry was cached — a claim containing the entry's address, selected by the scan of `lookup`.
    Nothing is ever learned from traffic. -/
theorem hub_router_never_learn {n0 n : Node} (hl : n0.cfg.learning = false) (h : C12Node.Reach n0 n) :
    n.cfg = n0.cfg ∧ ∀ v ∈ n.table.cache, v ∈ n0.table.cache ∨ Justified n0 v := by
  induction h with
  | init => exact ⟨rfl, fun v hv => Or.inl hv⟩
  | step hr hs ih =>
    rename_i m m'
    obtain ⟨hcfg, ihc⟩ := ih
    have hlm : m.cfg.learning = false := by rw [hcfg]; exact hl
    cases hs with
    | net env bodyOf o _ now src data tail hnow =>
      refine ⟨(handleNet_cfg ..).trans hcfg, fun v hv => ?_⟩
      exact ihc v (((no_learning_any_datagram env bodyOf o m now src data tail hlm).2 hnow).subset hv)
    | iface o _ now data =>
      refine ⟨(handleIface_cfg ..).trans hcfg, fun v hv => ?_⟩
      rcases iface_caches_own_lookup o m now data with ht | ⟨s, dst, e, _, hc, hsc, hm, hmatch, ht⟩
      · rw [ht] at hv; exact ihc v hv
      · rw [ht] at hv
        rcases TableLemmas.mem_cacheInsert.1 hv with rfl | hv
        · exact Or.inr ⟨m, now, e, hr, hc, hsc, hm, hmatch, rfl, rfl⟩
        · exact ihc v hv.1
    | tick env o _ now hnow =>
      refine ⟨(housekeep_cfg ..).trans hcfg, fun v hv => ?_⟩
      exact ihc v ((housekeep_shrink' env o m now hnow).1.subset hv)
    | dial env o _ addrs =>
      refine ⟨(connect_cfg ..).trans hcfg, fun v hv => ?_⟩
      rw [connect_table] at hv
      exact ihc v hv

/-- from an empty cache: every entry is justified -/
theorem hub_router_never_learn' {n0 n : Node} (hl : n0.cfg.learning = false) (h0 : n0.table.cache = []) (h : C12Node.Reach n0 n) :
    ∀ v ∈ n.table.cache, Justified n0 v := by
  intro v hv
  rcases (hub_router_never_learn hl h).2 v hv with h1 | h1
  · rw [h0] at h1; cases h1
  · exact h1

/-! ### the same as a state invariant, with a clock that does not run backwards -/

/-- histories with time stamps: every operation happens at a time that is not before the time of the previous one (datagrams and ticks at
    times `> 0`; `connect` has no time argument) -/
inductive ReachT (n0 : Node) (T0 : Int) : Node → Int → Prop
  | init : ReachT n0 T0 n0 T0
  | net {n : Node} {T : Int} (env : CryptoEnv) (bodyOf : Init.BodyOf) (o : Oracle) (now : Int) (src : NAddr) (data tail : Bytes) :
      ReachT n0 T0 n T → T ≤ now → 0 < now → ReachT n0 T0 (handleNet env bodyOf o n now src data tail).1.node now
  | iface {n : Node} {T : Int} (o : Oracle) (now : Int) (data : Bytes) :
      ReachT n0 T0 n T → T ≤ now → ReachT n0 T0 (handleIface o n now data).node now
  | tick {n : Node} {T : Int} (env : CryptoEnv) (o : Oracle) (now : Int) :
      ReachT n0 T0 n T → T ≤ now → 0 < now → ReachT n0 T0 (housekeep env o n now).node now
  | dial {n : Node} {T : Int} (env : CryptoEnv) (o : Oracle) (addrs : List NAddr) :
      ReachT n0 T0 n T → ReachT n0 T0 (connect env o { node := n } addrs).node T

/-- the state invariant of a node that does not learn, at clock `T`: every cached entry is backed by a claim IN THE TABLE — same peer,
    containing the entry's address, not expiring before the entry —, and no claim expires later than `T + claim timeout` -/
def NLInv (T : Int) (n : Node) : Prop := CacheBacked n.table ∧ ClaimsBounded T n.table

/-- **hub_router_cache_backed**: with `learning = false` and a clock that does not run backwards, in every reachable state every cache
    entry names a peer that owns, in the same table, a claim containing the entry's address which lives at least as long as the entry:
    the cache of a hub / router is nothing but remembered claim decisions.  (Start state: e.g. empty table; any state with `NLInv`.) -/
theorem hub_router_cache_backed {n0 n : Node} {T0 T : Int} (hl : n0.cfg.learning = false) (h0 : NLInv T0 n0) (h : ReachT n0 T0 n T) :
    n.cfg = n0.cfg ∧ NLInv T n := by
  induction h with
  | init => exact ⟨rfl, h0⟩
  | @net m Tm env bodyOf o now src data tail _ hT hnow ih =>
    obtain ⟨hcfg, hcb, hbd⟩ := ih
    have hlm : m.cfg.learning = false := by rw [hcfg]; exact hl
    have hbd' := hbd.mono hT
    refine ⟨(handleNet_cfg ..).trans hcfg, ?_⟩
    cases handleNet_tblNL env bodyOf o m now src data tail hlm with
    | same ht => unfold NLInv; rw [ht]; exact ⟨hcb, hbd'⟩
    | learn a ht l => exact l.elim
    | set cs ht k => unfold NLInv; rw [ht]; exact ⟨hcb.setClaims now hnow hbd' _ cs, ClaimsBounded.setClaims now hnow hbd' _ cs⟩
    | remove ht =>
      unfold NLInv; rw [ht]
      exact ⟨hcb.removeClaims now hnow _, hbd'.of_shrink (TShrink.removeClaims _ now hnow _)⟩
  | @iface m Tm o now data _ hT ih =>
    obtain ⟨hcfg, hcb, hbd⟩ := ih
    refine ⟨(handleIface_cfg ..).trans hcfg, ?_⟩
    rcases handleIface_table o m now data with ht | ⟨s, dst, _, ht⟩ <;> (unfold NLInv; rw [ht])
    · exact ⟨hcb, hbd.mono hT⟩
    · exact ⟨hcb.lookup now dst, (hbd.mono hT).lookup now dst⟩
  | @tick m Tm env o now _ hT hnow ih =>
    obtain ⟨hcfg, hcb, hbd⟩ := ih
    refine ⟨(housekeep_cfg ..).trans hcfg, ?_, (hbd.mono hT).of_shrink (housekeep_shrink' env o m now hnow)⟩
    obtain ⟨G, hG⟩ := housekeep_pruned env o m now hnow
    exact hG ▸ hcb.pruned now G
  | @dial m Tm env o addrs _ ih =>
    obtain ⟨hcfg, hinv⟩ := ih
    refine ⟨(connect_cfg ..).trans hcfg, ?_⟩
    unfold NLInv; rw [connect_table]; exact hinv

/-! ## non-vacuity (sessions of the toy configuration), and the counterexamples for the added hypotheses -/
section NonVacuity
open VpnCloud.Proofs.InitLemmas

private def aP : NAddr := .v6 (List.replicate 16 0) 1
private def aQ : NAddr := .v6 (List.replicate 16 0) 2
private def cfgOf (learning broadcast : Bool) : NodeCfg :=
  { tap := true, learning := learning, broadcast := broadcast, peerTimeout := 300, peerTimeoutPublish := 300, updateFreq := 10,
    claims := [], key := [7, 7, 7, 7], trusted := [[9, 9, 9, 9]], algos := Toy.algos }
private def o0 : Oracle := { emitted := fun _ _ => [], rotProp := fun _ => 0, rotPend := fun _ => 0, starts := fun _ => [] }
private def bo : Init.BodyOf := fun _ => .garbage 0
private def sessU : PeerCrypto := { init := none, unencrypted := true }
private def peerOf (pc : PeerCrypto) (timeout : Int) : Peer :=
  { addrs := [], timeout := timeout, peerTimeout := 300, nodeId := List.replicate 16 1, crypto := pc }
private def tbl0 : Table := { cacheTimeout := 300, claimTimeout := 300 }
/-- a switch with the two peers `P` (id 1, expiry `tP`) and `Q` (id 2), sessions in plain mode, empty table -/
private def nSw (tP : Int) : Node :=
  { nodeId := List.replicate 16 8, addr := .v6 (List.replicate 16 0) 9, cfg := cfgOf true true,
    peers := [(aP, peerOf sessU tP), (aQ, peerOf sessU 1000)], table := tbl0, nextPeers := 5000 }
private def nS : Node := nSw 1000
private def macA : Bytes := [2, 0, 0, 0, 0, 10]
private def macB : Bytes := [2, 0, 0, 0, 0, 11]
/-- frames: `A → B` untagged, `B → A` untagged; `A → B` in VLAN 100 (priority 5), `B → A` in VLAN 100 (priority 0) and in VLAN 200;
    `A → B` priority-tagged -/
private def fAB : Bytes := plainFrame macB macA [8, 0] [1, 2, 3]
private def fBA : Bytes := plainFrame macA macB [8, 0] [4, 5]
private def fAB100 : Bytes := taggedFrame macB macA 10 100 [8, 0, 1]
private def fBA100 : Bytes := taggedFrame macA macB 0 100 [8, 0, 2]
private def fBA200 : Bytes := taggedFrame macA macB 0 200 [8, 0, 2]
private def fAB0 : Bytes := taggedFrame macB macA 14 0 [8, 0, 1]
/-- a DATA message in plain mode: type byte, then the frame -/
private def msg (f : Bytes) : Bytes := Generated.MESSAGE_TYPE_DATA :: f

private theorem fromP (tP : Int) (f : Bytes) :
    FromPeer Toy.env bo o0 (nSw tP) aP (msg f) [] (peerOf sessU tP) sessU Generated.MESSAGE_TYPE_DATA f :=
  ⟨rfl, by simp [msg, Generated.MESSAGE_TYPE_DATA, Generated.INIT_MESSAGE_FIRST_BYTE], [], [], rfl⟩

private theorem idU : IdUnique nS aP ∧ IdUnique nS aQ := by
  unfold IdUnique; decide

/-- `idUnique_of_wf`: the peer addresses of `nS` are well-formed -/
example : IdUnique nS aP := idUnique_of_wf nS aP ⟨rfl, by decide, by decide⟩ (by
  intro x hx
  simp only [nS, nSw, List.map_cons, List.map_nil, List.mem_cons, List.not_mem_nil, or_false] at hx
  rcases hx with rfl | rfl <;> exact ⟨rfl, by decide, by decide⟩)

/-- `learned_then_unicast`: all hypotheses hold for `nS` and the frame `A → B` from `P`; the theorem gives … -/
example : OnlyTo o0 (handleNet Toy.env bo o0 nS 100 aP (msg fAB) []).1.node 5000 fBA aP sessU :=
  (learned_then_unicast (fromP 1000 fAB) rfl rfl 100 macA macB (by decide) idU.1 o0 5000 fBA macB (by decide)).2.2

/-- … and this is what the model computes: before the frame from `P`, `B → A` is flooded to both peers; afterwards it goes to `P` only
    (long after the expiry 400 of the entry, as long as no sweep ran) -/
example : (handleIface o0 nS 5000 fBA).outs = [.dgram aP (msg fBA), .dgram aQ (msg fBA)] ∧
    (handleIface o0 (handleNet Toy.env bo o0 nS 100 aP (msg fAB) []).1.node 5000 fBA).outs = [.dgram aP (msg fBA)] ∧
    (handleNet Toy.env bo o0 nS 100 aP (msg fAB) []).1.node.table.cache = [⟨macA, 1, 400⟩] := by decide +kernel

/-- `relearn_moves`: the second frame with source `A` comes from `Q` (hypotheses hold, `addrId aQ = 2 ≠ 1 = addrId aP`) -/
private theorem fromQ2 : FromPeer Toy.env bo o0 (handleNet Toy.env bo o0 nS 100 aP (msg fAB) []).1.node aQ (msg fAB) []
    (peerOf sessU 1000) sessU Generated.MESSAGE_TYPE_DATA fAB :=
  ⟨rfl, by decide, [], [], rfl⟩

example : (handleIface o0 (handleNet Toy.env bo o0 (handleNet Toy.env bo o0 nS 100 aP (msg fAB) []).1.node 150 aQ (msg fAB) []).1.node
      5000 fBA).outs = [.dgram aQ (msg fBA)] := by
  have h := (relearn_moves 100 150 (fromP 1000 fAB) rfl rfl macA macB macB (by decide) fromQ2 (by decide) (by decide) idU.2 o0 5000 fBA macB
    (by decide)).2.2.2.1
  unfold OnlyTo at h
  exact h.trans rfl

/-- `vlan_isolated` / `vlan_same_unicast` / `known_elsewhere_flooded`: `A` learned from `P` in VLAN 100 (priority 5): `B → A` in VLAN 100
    (priority 0) goes to `P` only, `B → A` in VLAN 200 and untagged are flooded as before -/
example : (handleNet Toy.env bo o0 nS 100 aP (msg fAB100) []).1.node.table.cache = [⟨[0, 100] ++ macA, 1, 400⟩] ∧
    (handleIface o0 (handleNet Toy.env bo o0 nS 100 aP (msg fAB100) []).1.node 200 fBA100).outs = [.dgram aP (msg fBA100)] ∧
    (handleIface o0 (handleNet Toy.env bo o0 nS 100 aP (msg fAB100) []).1.node 200 fBA200).outs =
      [.dgram aP (msg fBA200), .dgram aQ (msg fBA200)] ∧
    (handleIface o0 (handleNet Toy.env bo o0 nS 100 aP (msg fAB100) []).1.node 200 fBA).outs = [.dgram aP (msg fBA), .dgram aQ (msg fBA)] := by
  decide +kernel

example : let n' := (handleNet Toy.env bo o0 nS 100 aP (msg fAB100) []).1.node
    (handleIface o0 n' 200 fBA200).outs = (handleIface o0 { n' with table := nS.table } 200 fBA200).outs :=
  vlan_isolated macB macA [8, 0, 1] 10 100 (fromP 1000 fAB100) rfl 100 rfl rfl (by decide) (by decide) o0 200 fBA200
    (Or.inl ⟨macB, 0, 200, [8, 0, 2], rfl, by decide, by decide, rfl⟩)

/-- `untagged_isolated`: `A` learned from the untagged frame; `B → A` in VLAN 200 is not affected -/
example : let n' := (handleNet Toy.env bo o0 nS 100 aP (msg fAB) []).1.node
    (handleIface o0 n' 200 fBA200).outs = (handleIface o0 { n' with table := nS.table } 200 fBA200).outs :=
  untagged_isolated macB macA (fromP 1000 fAB) rfl 100 rfl rfl (Or.inr ⟨[8, 0], [1, 2, 3], rfl, by decide, rfl⟩) o0 200 macB [8, 0, 2] 0 200
    rfl (by decide) (by decide)

/-- `priority_tag_directs_untagged`: `A` learned from the priority-tagged frame (VLAN id 0, priority 7): the entry is the untagged one, and
    the untagged `B → A` goes to `P` only -/
example : (handleNet Toy.env bo o0 nS 100 aP (msg fAB0) []).1.node.table.cache = [⟨macA, 1, 400⟩] ∧
    (handleIface o0 (handleNet Toy.env bo o0 nS 100 aP (msg fAB0) []).1.node 200 fBA).outs = [.dgram aP (msg fBA)] := by decide +kernel

example : OnlyTo o0 (handleNet Toy.env bo o0 nS 100 aP (msg fAB0) []).1.node 200 fBA aP sessU :=
  priority_tag_directs_untagged macB macA [8, 0, 1] 14 (fromP 1000 fAB0) rfl rfl 100 rfl rfl idU.1 o0 200 macB [8, 0] [4, 5] rfl rfl (by decide)

/-- `unknown_in_vlan_flooded`: hypotheses hold for `nS` (empty table) -/
example : (handleIface o0 nS 200 fBA100).outs.filterMap C10More.dstOf = [aP, aQ] :=
  (unknown_in_vlan_flooded o0 nS 200 fBA100 ([0, 100] ++ macB) ([0, 100] ++ macA) rfl (by decide) rfl (by intro v hv; cases hv)
    (by intro e he; cases he) (by decide) (by
      intro a p hp
      have hm := lookupA_some_mem hp
      simp only [nS, nSw, List.mem_cons, Prod.mk.injEq, List.not_mem_nil, or_false] at hm
      rcases hm with ⟨_, rfl⟩ | ⟨_, rfl⟩ <;> exact Or.inl rfl)).1

/-- `Dropped.expired` / `disconnect_then_flooded`: the expiry of `P` is second 300; `A` is learned from `P` at second 100 (entry until 400);
    the tick at second 350 drops `P`, and with it the entry (which had not expired): `B → A` is flooded again, to the remaining peer -/
private def n1 (tP : Int) : Node := (handleNet Toy.env bo o0 (nSw tP) 100 aP (msg fAB) []).1.node

private theorem dropExpired : Dropped aP (n1 300) (housekeep Toy.env o0 (n1 300) 350).node :=
  .expired Toy.env o0 (n1 300) 350 (peerOf sessU 300) (by decide) (by decide +kernel) rfl (by decide)

example : (n1 300).table.cache = [⟨macA, 1, 400⟩] ∧ (housekeep Toy.env o0 (n1 300) 350).node.table.cache = [] ∧
    (housekeep Toy.env o0 (n1 300) 350).node.peers.map (·.1) = [aQ] ∧
    (handleIface o0 (housekeep Toy.env o0 (n1 300) 350).node 360 fBA).outs = [.dgram aQ (msg fBA)] := by decide +kernel

example : (housekeep Toy.env o0 (n1 300) 350).node.table.lookup 360 macA = ((housekeep Toy.env o0 (n1 300) 350).node.table, none) :=
  (disconnect_then_flooded (fromP 300 fAB) rfl rfl rfl 100 macA macB (by decide) (by intro e he; cases he) _ dropExpired (by decide +kernel)
    o0 360 fBA macB (by decide)).1

/-- `Dropped.failed`: the session of `P` still carries a handshake object that has used up its retries: `every_second` fails, whatever
    the randomness -/
private def sessF : PeerCrypto :=
  { init := some { nodeId := [1], hash := [], payload := [], ownKey := [], trusted := [], algos := Toy.algos, stage := Generated.STAGE_PENG,
                   retries := Generated.MAX_FAILED_RETRIES },
    unencrypted := true }
private def nF : Node := { nS with peers := [(aP, peerOf sessF 1000), (aQ, peerOf sessU 1000)], table := { tbl0 with cache := [⟨macA, 1, 400⟩] } }

example : Dropped aP nF (housekeep Toy.env o0 nF 150).node :=
  .failed Toy.env o0 nF 150 (peerOf sessF 1000) (by decide) (by decide) rfl (by decide) (fun _ => ⟨_, _, rfl⟩)

example : (housekeep Toy.env o0 nF 150).node.table.cache = [] ∧ (housekeep Toy.env o0 nF 150).node.peers.map (·.1) = [aQ] := by decide +kernel

/-- `Dropped.close`: a CLOSE message can only be opened by an ENCRYPTED session (in plain mode its type byte `ff` is the handshake marker,
    see the remark below).  `P` has a session with a crypto core (toy key 7); the ideal AEAD opens the datagram as the CLOSE message. -/
private def sessB : PeerCrypto := { init := none, core := some (Core.new 7 false 8 [0, 0, 0, 0]) }
private def nC : Node := { nS with peers := [(aP, peerOf sessB 1000), (aQ, peerOf sessU 1000)], table := { tbl0 with cache := [⟨macA, 1, 400⟩] } }
private def wire : Bytes := 0 :: Bytes.ofBE 7 (HALF + 6) ++ [1, 2, 3]
private def boClose : Init.BodyOf := fun _ => .sealed 7 (HALF + 6) [Generated.MESSAGE_TYPE_CLOSE]
private def sessB' : PeerCrypto :=
  match PeerCrypto.handleMessage Toy.env boClose payloadOk sessB wire [] (rndFor o0 { node := nC } aP).1 (rndFor o0 { node := nC } aP).2.1 with
  | .ok pc _ _ _ => pc
  | _ => sessB

example : Dropped aP nC (handleNet Toy.env boClose o0 nC 150 aP wire []).1.node :=
  .close 150 (by decide) rfl (p := peerOf sessB 1000) (pc := sessB') (body := []) ⟨rfl, by decide, [], [], rfl⟩

example : (handleNet Toy.env boClose o0 nC 150 aP wire []).1.node.table.cache = [] ∧
    (handleNet Toy.env boClose o0 nC 150 aP wire []).1.node.peers.map (·.1) = [aQ] := by decide +kernel

/-- remark on the protocol (reported): `MESSAGE_TYPE_CLOSE = 0xff = INIT_MESSAGE_FIRST_BYTE`.  In plain mode a CLOSE message is the single
    byte `ff`, which the receiver takes for an (empty) handshake message: it is counted as invalid and the peer is NOT dropped. -/
example : (handleNet Toy.env bo o0 nS 150 aP [Generated.MESSAGE_TYPE_CLOSE] []).1.node.peers.map (·.1) = [aP, aQ] ∧
    (handleNet Toy.env bo o0 nS 150 aP [Generated.MESSAGE_TYPE_CLOSE] []).1.node.droppedIn = 1 := by decide +kernel

/-- `learned_survives_tick` / `silent_expires_node`: `A` learned from `P` at second 100 (expiry 400): the tick at 400 keeps the entry, the
    tick at 401 removes it, and `B → A` is flooded again (all hypotheses hold: peer expiry 1000, plain sessions never fail) -/
example : (housekeep Toy.env o0 (n1 1000) 400).node.table.cache = [⟨macA, 1, 400⟩] ∧
    (handleIface o0 (housekeep Toy.env o0 (n1 1000) 400).node 400 fBA).outs = [.dgram aP (msg fBA)] ∧
    (housekeep Toy.env o0 (n1 1000) 401).node.table.cache = [] ∧
    (handleIface o0 (housekeep Toy.env o0 (n1 1000) 401).node 401 fBA).outs = [.dgram aP (msg fBA), .dgram aQ (msg fBA)] := by decide +kernel

example : ∃ p2, lookupA (housekeep Toy.env o0 (n1 1000) 400).node.peers aP = some p2 ∧
    OnlyTo o0 (housekeep Toy.env o0 (n1 1000) 400).node 400 fBA aP p2.crypto :=
  (learned_survives_tick (fromP 1000 fAB) rfl rfl 100 macA macB (by decide) idU.1 (by decide) 400 (by decide) (by decide) (by decide)
    (everySecond_healthy sessU rfl (Or.inl rfl)) o0 400 fBA macB (by decide)).2

example : (housekeep Toy.env o0 (n1 1000) 401).node.table.lookup 401 macA = ((housekeep Toy.env o0 (n1 1000) 401).node.table, none) :=
  (silent_expires_node (env' := Toy.env) (oh := o0) (fromP 1000 fAB) rfl rfl rfl 100 macA macB (by decide) (by intro e he; cases he) 401
    (by decide) (by decide) (by decide) o0 401 fBA macB (by decide)).2.2.1

/-- COUNTEREXAMPLE for `learned_then_unicast` without `IdUnique`: the model does not bound port numbers, and the address `aX` (port
    `6 · 256^18 + 65541`, not a 16-bit value) has the table id of the well-formed address `aY` (`::1` port 5).  `A` is learned from `aY`,
    but the frame for `A` goes to `aX`, the first peer with that id.  (`addrId` is injective on well-formed socket addresses.) -/
private def aY : NAddr := .v6 (List.replicate 15 0 ++ [1]) 5
private def aX : NAddr := .v6 (List.replicate 16 0) (6 * 256 ^ 18 + 65541)
private def nX : Node := { nS with peers := [(aX, peerOf sessU 1000), (aY, peerOf sessU 1000)] }

theorem id_clash : addrId aX = addrId aY ∧ aX ≠ aY ∧
    FromPeer Toy.env bo o0 nX aY (msg fAB) [] (peerOf sessU 1000) sessU Generated.MESSAGE_TYPE_DATA fAB ∧
    (handleIface o0 (handleNet Toy.env bo o0 nX 100 aY (msg fAB) []).1.node 200 fBA).outs = [.dgram aX (msg fBA)] :=
  ⟨by decide, by decide, ⟨rfl, by decide, [], [], rfl⟩, by decide⟩

/-! ### hub / router -/

/-- a hub (no learning, flooding) with the peers `P`, `Q` and a claim of `Q` for the MAC address `A` -/
private def nH : Node :=
  { nS with cfg := cfgOf false true, table := { tbl0 with claims := [⟨2, ⟨macA, 48⟩, 2000⟩] } }

/-- `no_learning_any_datagram`: the frame `A → B` from `P` is delivered, the table stays as it is -/
example : (handleNet Toy.env bo o0 nH 100 aP (msg fAB) []).1.outs = [.iface fAB] ∧
    (handleNet Toy.env bo o0 nH 100 aP (msg fAB) []).1.node.table.cache = [] := by decide +kernel

/-- `iface_caches_own_lookup` / `hub_router_never_learn`: a two-step history of the hub (a datagram, then a frame from the interface);
    the only cache entry is the decision of the lookup: `A` is claimed by `Q` -/
example : C12Node.Reach nH (handleIface o0 (handleNet Toy.env bo o0 nH 100 aP (msg fAB) []).1.node 200 fBA).node :=
  .step (.step .init (.net Toy.env bo o0 nH 100 aP (msg fAB) [] (by decide))) (.iface o0 _ 200 fBA)

example : (handleIface o0 (handleNet Toy.env bo o0 nH 100 aP (msg fAB) []).1.node 200 fBA).node.table.cache = [⟨macA, 2, 500⟩] ∧
    (handleIface o0 (handleNet Toy.env bo o0 nH 100 aP (msg fAB) []).1.node 200 fBA).outs = [.dgram aQ (msg fBA)] := by decide +kernel

/-- `hub_router_cache_backed`: the hub with a claim of `Q` that expires at second 250 satisfies `NLInv` at clock 50; the same two-step
    history with time stamps; the cached entry `A ↦ Q` expires with the claim (`min (200 + 300) 250`) -/
private def nH' : Node := { nH with table := { tbl0 with claims := [⟨2, ⟨macA, 48⟩, 250⟩] } }

example : NLInv 50 nH' := by
  constructor
  · intro v hv
    cases hv
  · intro e he
    simp only [nH', List.mem_singleton] at he
    subst he
    decide

example : ReachT nH' 50 (handleIface o0 (handleNet Toy.env bo o0 nH' 100 aP (msg fAB) []).1.node 200 fBA).node 200 :=
  .iface o0 200 fBA (.net Toy.env bo o0 100 aP (msg fAB) [] .init (by decide) (by decide)) (by decide)

example : (handleIface o0 (handleNet Toy.env bo o0 nH' 100 aP (msg fAB) []).1.node 200 fBA).node.table.cache = [⟨macA, 2, 250⟩] := by decide +kernel

/-- COUNTEREXAMPLE for the sub-list statement at `now = 0` (`P` with the encrypted session sends CLOSE): `remove_claims` marks the entries of
    the sender with expiry 0 and the sweep at time 0 keeps them — the cache entry is ALTERED (expiry 400 → 0), so the new cache is not a
    sub-list of the old one -/
private def nZ : Node := { nC with cfg := cfgOf false true }

theorem sublist_fails_at_zero : nZ.cfg.learning = false ∧
    (handleNet Toy.env boClose o0 nZ 0 aP wire []).1.node.table.cache = [⟨macA, 1, 0⟩] ∧
    ¬ ([⟨macA, 1, 0⟩] : List CacheEntry).Sublist nZ.table.cache := by
  refine ⟨rfl, by decide +kernel, ?_⟩
  intro h
  have := h.subset (List.mem_singleton.2 rfl)
  revert this
  decide

end NonVacuity

end VpnCloud.Proofs.C13More
