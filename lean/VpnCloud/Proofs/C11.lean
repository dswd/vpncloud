import VpnCloud.Proofs.Lemmas.Table.RangeBits
import VpnCloud.Proofs.Lemmas.Table.TableRefineLemmas
/-
  C11 — Routing follows the most specific live claim.
-/
namespace VpnCloud.Proofs.C11
open VpnCloud.Range VpnCloud.Spec.C11 VpnCloud.Proofs.RangeBits

/-- **matches_iff_prefix**: for every address length and every prefix length (over-long ones
    included) `Range::matches` decides exactly "same length and the first `prefix_len` bits agree". -/
theorem matches_iff_prefix (r : Range) (a : Addr) (hr : Bytes.WF r.base) (ha : Bytes.WF a) :
    r.matches a = matchesRef r.base r.prefixLen a := by
  unfold Range.matches matchesRef
  by_cases hl : r.base.length = a.length
  · have h := cpl_ge_iff (bitsOf a) (bitsOf r.base) r.prefixLen (by rw [bitsOf_length, bitsOf_length, hl])
    rw [bitsOf_length] at h
    simp only [hl, ne_eq, not_true_eq_false, if_false, decide_true, Bool.true_and,
      matchLen_eq_cpl a r.base ha hr hl.symm, decide_eq_decide.2 h, Bool.decide_and, eq_comm]
  · simp [hl]

/-- **no_u8_overflow**: the `u8` accumulator of the loop never exceeds 128 for addresses of at
    most 16 bytes (the only ones the decoders construct), so `match_len += …` cannot overflow. -/
theorem no_u8_overflow (a b : Bytes) (ha : Bytes.WF a) (hb : Bytes.WF b) (hl : a.length = b.length)
    (h16 : a.length ≤ 16) : matchLen a b ≤ 128 := by
  rw [matchLen_eq_cpl a b ha hb hl]
  have := ((cpl_ge_iff (bitsOf a) (bitsOf b) _ (by rw [bitsOf_length, bitsOf_length, hl])).1 (Nat.le_refl _)).1
  rw [bitsOf_length] at this
  omega

example : matchesRef [10, 0, 0, 0] 8 [10, 1, 2, 3] = true := by decide +kernel
example : matchesRef [10, 0, 0, 0] 9 [10, 128, 2, 3] = false := by decide +kernel
example : matchesRef [10, 0, 0, 0] 33 [10, 0, 0, 0] = false := by decide +kernel

section Lookup
open VpnCloud.Spec.TableSpec VpnCloud.Proofs.TableLemmas VpnCloud.Proofs.TableRefine

theorem matching_eq (t : Table) (a : Addr) (hwf : ∀ e ∈ t.claims, Bytes.WF e.claim.base) (ha : Bytes.WF a) :
    matching t a = t.claims.filter (fun e => e.claim.matches a) :=
  List.filter_congr fun e he => (matches_iff_prefix e.claim a (hwf e he) ha).symm

/-- one-step specification of lookup holds for the model; `hwf` : all stored ranges and the address are proper byte strings -/
theorem lookup_spec (t : Table) (now : Int) (a : Addr)
    (hwf : ∀ e ∈ t.claims, Bytes.WF e.claim.base) (ha : Bytes.WF a) :
    lookupOk t now a (t.lookup now a).2 (t.lookup now a).1 = true := by
  rcases lookup_cases t now a with ⟨v, hc, hl⟩ | ⟨hc, ⟨hb, hl⟩ | ⟨e, hb, hl⟩⟩ <;> rw [hl]
  · simp [lookupOk, hc, sameParams, sameSet_refl]
  · have : matching t a = [] := by
      rw [matching_eq t a hwf ha, List.filter_eq_nil_iff]
      exact fun e he => by simp [best_none.1 hb e he]
    simp [lookupOk, hc, sameParams, sameSet_refl, this]
  · obtain ⟨hmem, hmatch, hmax, _⟩ := best_some hb
    have hems : e ∈ matching t a := by
      rw [matching_eq t a hwf ha]
      exact List.mem_filter.2 ⟨hmem, hmatch⟩
    have hmp : maxPrefix (matching t a) = e.claim.prefixLen := by
      apply maxPrefix_eq _ e hems
      rw [matching_eq t a hwf ha]
      exact fun e' he' => hmax e' (List.mem_filter.1 he').1 (List.mem_filter.1 he').2
    simp only [lookupOk, hc, sameParams, decide_true, Bool.and_self, Bool.true_and,
      List.any_eq_true, Bool.and_eq_true, decide_eq_true_eq]
    exact ⟨e, hems, ⟨hmp.symm, rfl⟩, sameSet_refl _⟩

/-- Prop form: with no cached decision the selected peer announced a longest-prefix claim containing the address;
    `none` iff no claim contains it -/
theorem lookup_most_specific (t : Table) (now : Int) (a : Addr)
    (hwf : ∀ e ∈ t.claims, Bytes.WF e.claim.base) (ha : Bytes.WF a)
    (hc : t.cache.find? (fun v => v.addr = a) = none) :
    match (t.lookup now a).2 with
    | some q => ∃ e ∈ t.claims, e.peer = q ∧ matchesRef e.claim.base e.claim.prefixLen a = true ∧
        ∀ e' ∈ t.claims, matchesRef e'.claim.base e'.claim.prefixLen a = true → e'.claim.prefixLen ≤ e.claim.prefixLen
    | none => ∀ e ∈ t.claims, matchesRef e.claim.base e.claim.prefixLen a = false := by
  have hm : ∀ e ∈ t.claims, e.claim.matches a = matchesRef e.claim.base e.claim.prefixLen a :=
    fun e he => matches_iff_prefix e.claim a (hwf e he) ha
  cases hb : best a t.claims with
  | none =>
    rw [lookup_none t now a hc hb]
    exact fun e he => hm e he ▸ best_none.1 hb e he
  | some e =>
    rw [lookup_some t now a e hc hb]
    obtain ⟨hmem, hmatch, hmax, _⟩ := best_some hb
    exact ⟨e, hmem, rfl, hm e hmem ▸ hmatch, fun e' he' hm' => hmax e' he' ((hm e' he').trans hm')⟩

/-- a decision cached by a lookup lives no longer than the switch timeout and no longer than the claim it came from -/
theorem cache_lifetime (t : Table) (now : Int) (a : Addr) :
    ∀ v ∈ (t.lookup now a).1.cache, v ∉ t.cache →
      v.addr = a ∧ v.timeout ≤ now + t.cacheTimeout ∧ ∃ e ∈ t.claims, e.peer = v.peer ∧ v.timeout ≤ e.timeout := by
  intro v hv hnew
  rcases mem_lookup_cache t now a v hv with h | ⟨e, he, _, rfl⟩
  · exact absurd h hnew
  · exact ⟨rfl, Int.min_le_left _ _, e, he, rfl, Int.min_le_right _ _⟩

/-- the hypotheses of `lookup_spec` / `lookup_most_specific` hold on a concrete table (two peers, three claims) and an
    address without cached decision; the lookup selects the /16 of peer 2 over the /8 of peer 1 and caches that decision
    for the switch timeout -/
example : (∀ e ∈ exTable.claims, Bytes.WF e.claim.base) ∧ Bytes.WF [10, 1, 2, 3] ∧
    exTable.cache.find? (fun v => v.addr = [10, 1, 2, 3]) = none ∧
    (exTable.lookup 100 [10, 1, 2, 3]).2 = some 2 ∧
    (exTable.lookup 100 [10, 1, 2, 3]).1.cache = ⟨[10, 1, 2, 3], 2, 400⟩ :: exTable.cache ∧
    lookupOk exTable 100 [10, 1, 2, 3] (exTable.lookup 100 [10, 1, 2, 3]).2 (exTable.lookup 100 [10, 1, 2, 3]).1 = true := by
  decide +kernel

/-- a cached decision wins over the claims; an address outside every claim has no next hop -/
example : (exTable.lookup 100 [10, 2, 0, 1]).2 = some 1 ∧ (exTable.lookup 100 [11, 0, 0, 1]).2 = none ∧
    (exTable.lookup 100 [10, 0, 0]).2 = none := by
  decide +kernel

end Lookup

end VpnCloud.Proofs.C11
