import VpnCloud.Proofs.Lemmas.Node.C10MoreLemmas
import VpnCloud.Proofs.C11Node
import VpnCloud.Proofs.C12Node
/-
  C10 — forwarding isolation, exact once-only delivery — and the broadcast clause of C13 / C11, at node level, one step.

  * receive side: a frame is written to the interface only as the body of a DATA message that the session of the established
    peer with the sender's address opened from a datagram without handshake marker; at most one per datagram
    (`iface_write_only_from_peer_data`, `non_peer_never_reaches_iface`, `handshake_never_reaches_iface`, `at_most_one_iface_write`);
  * housekeeping and dialling never write to the interface and never send payload (`housekeep_no_iface`, `connect_no_iface`,
    `housekeep_sends_no_payload`, `housekeep_never_sends_data`);
  * send side: a frame for a known destination goes to exactly that peer, once (`emit_known`); a frame for an unknown destination goes
    to all peers once each in switch / hub mode (`emit_unknown_broadcast` and corollaries) and nowhere in router mode (`emit_unknown_router`);
  * two nodes: what A's session sealed for B and B's session opens arrives at B's interface byte-identical, exactly once, and causes
    no other output (`one_hop_exactly_once`, `one_hop_in_sync` with `session_roundtrip`).

  Hypothesis added (`iface_write_only_from_peer_data` is false without it, counterexample below): `PendFreshAt` — if the sender is
  not an established peer, the session of its pending handshake has neither a crypto core nor the `unencrypted` flag.  It holds in every reachable state
  (`C12Node.PendFresh`, `pendFreshAt_of_reach`).
-/
namespace VpnCloud.Proofs.C10More

open VpnCloud.Node
open VpnCloud.Proofs.AssocLemmas VpnCloud.Proofs.NodeLemmas VpnCloud.Proofs.SessionInvLemmas VpnCloud.Proofs.C10MoreLemmas

/-! ## 1. what reaches the interface while a datagram is processed -/

/-- if `a` is not an established peer, the session of its pending handshake (if any) has neither a crypto core nor the `unencrypted` flag,
    so it cannot open payload messages (the predicate `C01MoreLemmas.SenderFresh`, which this module does not import) -/
def PendFreshAt (n : Node) (a : NAddr) : Prop :=
  ∀ pc, lookupA n.peers a = none → lookupA n.pending a = some pc → pc.unencrypted = false ∧ pc.core = none

/-- `PendFreshAt` is part of the inductive invariant of `C12Node` -/
theorem pendFreshAt_of_pendFresh {n : Node} (h : C12Node.PendFresh n) (a : NAddr) : PendFreshAt n a :=
  fun pc _ hq => h a pc (lookupA_some_mem hq)

/-- `PendFreshAt` holds in every state reachable (by any sequence of the four node operations) from a state that satisfies that invariant,
    e.g. from a node without peers, pending handshakes and table entries -/
theorem pendFreshAt_of_reach {n0 n : Node} (h0 : C12Node.Inv n0) (h : C12Node.Reach n0 n) (a : NAddr) : PendFreshAt n a :=
  pendFreshAt_of_pendFresh (C12Node.inv_reach h0 h).2 a

/-- **iface_write_only_from_peer_data**: a node writes a frame to its interface only if the sender of the datagram is an established peer,
    the datagram has no handshake marker, and the peer's session opened it as a DATA message with exactly these bytes (which parse as a
    frame / packet).  Hypothesis `PendFreshAt` added, see the counterexample below. -/
theorem iface_write_only_from_peer_data (env : CryptoEnv) (bodyOf : Init.BodyOf) (o : Oracle) (n : Node) (now : Int) (src : NAddr)
    (data tail b : Bytes) (hfresh : PendFreshAt n (mappedAddr src))
    (h : Out.iface b ∈ (handleNet env bodyOf o n now src data tail).1.outs) :
    ∃ p, lookupA n.peers (mappedAddr src) = some p ∧ data.head? ≠ some Generated.INIT_MESSAGE_FIRST_BYTE ∧
      (∃ pc out log, PeerCrypto.handleMessage env bodyOf payloadOk p.crypto data tail
          (rndFor o { node := n } (mappedAddr src)).1 (rndFor o { node := n } (mappedAddr src)).2.1 =
        .ok pc out (.message Generated.MESSAGE_TYPE_DATA b) log) ∧
      (parseAddrs n b).isSome = true := by
  rw [← mem_ifaces] at h
  rcases handleNet_ifaces env bodyOf o n now src data tail with h0 | ⟨pc, pc', out, b', log, hd, hpa, hi, hr, hc⟩
  · rw [h0] at h; cases h
  · rw [hd] at h
    cases List.mem_singleton.1 h
    rcases hc with ⟨hp, hq⟩ | ⟨p, hp, rfl⟩
    · exact (NetStepLemmas.freshOut_no_message (hr ▸ handleMessage_fresh env bodyOf payloadOk pc data tail _ _ (hfresh pc hp hq))).elim
    · exact ⟨p, hp, hi, ⟨pc', out, log, hr⟩, hpa⟩

/-- **non_peer_never_reaches_iface**: a datagram from an address that is not an established peer never reaches the interface -/
theorem non_peer_never_reaches_iface (env : CryptoEnv) (bodyOf : Init.BodyOf) (o : Oracle) (n : Node) (now : Int) (src : NAddr)
    (data tail : Bytes) (hfresh : PendFreshAt n (mappedAddr src)) (hp : lookupA n.peers (mappedAddr src) = none) :
    ∀ b, Out.iface b ∉ (handleNet env bodyOf o n now src data tail).1.outs := by
  intro b hb
  obtain ⟨p, hp', _⟩ := iface_write_only_from_peer_data env bodyOf o n now src data tail b hfresh hb
  rw [hp] at hp'
  cases hp'

/-- **handshake_never_reaches_iface**: a datagram with the handshake marker never reaches the interface, whoever sent it and whatever the
    state of the node (no hypothesis needed) -/
theorem handshake_never_reaches_iface (env : CryptoEnv) (bodyOf : Init.BodyOf) (o : Oracle) (n : Node) (now : Int) (src : NAddr)
    (data tail : Bytes) (hi : data.head? = some Generated.INIT_MESSAGE_FIRST_BYTE) :
    ∀ b, Out.iface b ∉ (handleNet env bodyOf o n now src data tail).1.outs := by
  intro b hb
  rw [← mem_ifaces] at hb
  rcases handleNet_ifaces env bodyOf o n now src data tail with h0 | ⟨_, _, _, _, _, _, _, hni, _⟩
  · rw [h0] at hb; cases hb
  · exact hni hi

/-- **at_most_one_iface_write**: one received datagram causes at most one write to the interface (no amplification; no hypothesis needed) -/
theorem at_most_one_iface_write (env : CryptoEnv) (bodyOf : Init.BodyOf) (o : Oracle) (n : Node) (now : Int) (src : NAddr)
    (data tail : Bytes) :
    ((handleNet env bodyOf o n now src data tail).1.outs.filter (fun x => match x with | .iface _ => true | _ => false)).length ≤ 1 := by
  show (ifaces _).length ≤ 1
  rcases handleNet_ifaces env bodyOf o n now src data tail with h0 | ⟨_, _, _, _, _, hd, _⟩
  · rw [h0]; exact Nat.zero_le _
  · rw [hd]; exact Nat.le_refl _

/-! ## 2. housekeeping and dialling -/

/-- **housekeep_no_iface**: the periodic housekeeping never writes to the interface -/
theorem housekeep_no_iface (env : CryptoEnv) (o : Oracle) (n : Node) (now : Int) : ∀ b, Out.iface b ∉ (housekeep env o n now).outs := by
  intro b hb
  obtain ⟨d, b', h⟩ := ((housekeep_hk env o n now).1 _ hb).isDgram
  cases h

/-- **connect_no_iface**: dialling peers never writes to the interface; all it emits are handshake datagrams -/
theorem connect_no_iface (env : CryptoEnv) (o : Oracle) (n : Node) (addrs : List NAddr) :
    (∀ b, Out.iface b ∉ (connect env o { node := n } addrs).outs) ∧
    ∀ x ∈ (connect env o { node := n } addrs).outs, IsHs x := by
  have hall : ∀ x ∈ (connect env o { node := n } addrs).outs, IsHs x := by
    intro x hx
    rcases (connect_ext env o { node := n } addrs).mem hx with h | h
    · cases h
    · exact h
  refine ⟨fun b hb => ?_, hall⟩
  obtain ⟨d, b', h⟩ := hall _ hb
  cases h

/-- **housekeep_sends_no_payload**: every datagram the housekeeping emits is a handshake datagram, the seal of a ROTATION message, or the
    seal (by `send_message … NODE_INFO`) of the node info of some node state (`HkOut`, with the seals recorded in the log of the step);
    and every genuine seal logged during the step has a plaintext that starts with the ROTATION or the NODE_INFO type byte.
    So the housekeeping never sends payload (`MESSAGE_TYPE_DATA`). -/
theorem housekeep_sends_no_payload (env : CryptoEnv) (o : Oracle) (n : Node) (now : Int) :
    (∀ x ∈ (housekeep env o n now).outs, HkOut (housekeep env o n now).log x) ∧
    ∀ ct b, (ct, b) ∈ (housekeep env o n now).log → ∀ k nn p, b = .sealed k nn p →
      p.head? = some Generated.MESSAGE_TYPE_ROTATION ∨ p.head? = some Generated.MESSAGE_TYPE_NODE_INFO :=
  housekeep_hk env o n now

/-- the same on the wire: a datagram emitted by the housekeeping starts with the handshake marker, or it is a message of type ROTATION or
    NODE_INFO — in the clear (session in unencrypted mode) or as 8 header bytes followed by a ciphertext whose seal, logged in this
    step, is the seal of that message.  None of the types is `MESSAGE_TYPE_DATA`. -/
theorem housekeep_never_sends_data (env : CryptoEnv) (o : Oracle) (n : Node) (now : Int) (d : NAddr) (bytes : Bytes)
    (h : Out.dgram d bytes ∈ (housekeep env o n now).outs) :
    bytes.head? = some Generated.INIT_MESSAGE_FIRST_BYTE ∨
    ∃ ty body, (ty = Generated.MESSAGE_TYPE_ROTATION ∨ ty = Generated.MESSAGE_TYPE_NODE_INFO) ∧ ty ≠ Generated.MESSAGE_TYPE_DATA ∧
      (bytes = ty :: body ∨
       ∃ hdr ct b, bytes = hdr ++ ct ∧ (ct, b) ∈ (housekeep env o n now).log ∧ ∀ k nn p, b = .sealed k nn p → p = ty :: body) := by
  have key : ∀ (pc pc' : PeerCrypto) (ty : Nat) (body ct : Bytes) (log : Init.SealLog),
      PeerCrypto.sealMsg pc (ty :: body) ct = (pc', .ok (bytes, log)) → (∀ e ∈ log, e ∈ (housekeep env o n now).log) →
      (bytes = ty :: body ∨
       ∃ hdr ct b, bytes = hdr ++ ct ∧ (ct, b) ∈ (housekeep env o n now).log ∧ ∀ k nn p, b = .sealed k nn p → p = ty :: body) := by
    intro pc pc' ty body ct log hs hm
    rcases sealMsg_wire pc pc' _ ct bytes log hs with ⟨_, hb, _⟩ | ⟨_, hdr, b, hb, hl, hp⟩
    · exact Or.inl hb
    · exact Or.inr ⟨hdr, ct, b, hb, hm _ (by rw [hl]; exact List.mem_singleton.2 rfl), hp⟩
  have hx := (housekeep_hk env o n now).1 _ h
  generalize hL : (housekeep env o n now).log = L at hx key
  cases hx with
  | hs d b => exact Or.inl rfl
  | rot d pc pc' body ct bytes log hs hm =>
    exact Or.inr ⟨_, body, Or.inl rfl, by decide, key pc pc' _ body ct log hs hm⟩
  | info d pc pc' m ct bytes log hs hm =>
    exact Or.inr ⟨_, _, Or.inr rfl, by decide, key pc pc' _ _ ct log hs hm⟩

/-! ## 3. what a frame read from the interface causes -/

/-- **emit_known**: a frame whose destination the table maps to peer `a` (the first peer address with that id) is sealed as a DATA message by
    the session stored for `a` and sent to `a` — exactly one datagram, no other destination — or nothing at all if that session cannot
    seal. -/
theorem emit_known (o : Oracle) (n : Node) (now : Int) (data : Bytes) (s dst : Addr) (pid : PeerId) (a : NAddr)
    (hp : parseAddrs n data = some (s, dst)) (hl : (n.table.lookup now dst).2 = some pid)
    (ha : (n.peers.map (·.1)).find? (fun a => addrId a = pid) = some a) :
    ∃ p, lookupA n.peers a = some p ∧
      (handleIface o n now data).outs =
        match (PeerCrypto.sendMessage p.crypto Generated.MESSAGE_TYPE_DATA data (rndFor o { node := n } a).2.1.ct).2 with
        | .ok (bytes, _) => [.dgram a bytes]
        | .error _ => [] := by
  have hmem : a ∈ n.peers.map (·.1) := List.mem_of_find?_eq_some ha
  have hsome := (lookupA_isSome_iff n.peers a).2 hmem
  cases hpa : lookupA n.peers a with
  | none => rw [hpa] at hsome; cases hsome
  | some p =>
    refine ⟨p, rfl, ?_⟩
    rw [handleIface_hit o n now data hp hl ha]
    show ((sendMsg o { node := n } a Generated.MESSAGE_TYPE_DATA data).getD { node := n }).outs = _
    rw [sendMsg_outs o n _ a _ _ rfl rfl]
    simp only [sealFor, hpa]
    split <;> rename_i heq <;> simp [heq]

/-- the destination of an output (`none` for a frame written to the interface) -/
def dstOf : Out → Option NAddr
  | .dgram d _ => some d
  | .iface _ => none

/-- **emit_unknown_broadcast** (C13: "destinations unknown in their VLAN go to all peers"): in switch / hub mode a frame for which the table
    has no next hop causes exactly one datagram for every peer whose session can seal, in the order of the peer list, each being the DATA
    message sealed by that peer's session as stored in `n` (`sealFor`), and nothing else.  Peer addresses pairwise distinct. -/
theorem emit_unknown_broadcast (o : Oracle) (n : Node) (now : Int) (data : Bytes) (s dst : Addr)
    (hp : parseAddrs n data = some (s, dst)) (hl : (n.table.lookup now dst).2 = none) (hb : n.cfg.broadcast = true)
    (hnd : (n.peers.map (·.1)).Nodup) :
    (handleIface o n now data).outs =
      (n.peers.map (·.1)).filterMap (fun a => (sealFor o n Generated.MESSAGE_TYPE_DATA data a).map (Out.dgram a)) := by
  rw [handleIface_flood o n now data hp hl hb]
  exact broadcastMsg_outs o n Generated.MESSAGE_TYPE_DATA data hnd

/-- the destinations of the flooded copies form a sublist of the peer list: every peer at most once, in order, nobody else -/
theorem broadcast_dests_sublist (o : Oracle) (n : Node) (now : Int) (data : Bytes) (s dst : Addr)
    (hp : parseAddrs n data = some (s, dst)) (hl : (n.table.lookup now dst).2 = none) (hb : n.cfg.broadcast = true)
    (hnd : (n.peers.map (·.1)).Nodup) :
    ((handleIface o n now data).outs.filterMap dstOf).Sublist (n.peers.map (·.1)) ∧
    ∀ x ∈ (handleIface o n now data).outs, (dstOf x).isSome = true := by
  rw [emit_unknown_broadcast o n now data s dst hp hl hb hnd, List.filterMap_filterMap]
  refine ⟨?_, ?_⟩
  · have : (fun a => ((sealFor o n Generated.MESSAGE_TYPE_DATA data a).map (Out.dgram a)).bind dstOf) =
        Option.guard (fun a => (sealFor o n Generated.MESSAGE_TYPE_DATA data a).isSome) :=
      funext fun a => by cases h : sealFor o n Generated.MESSAGE_TYPE_DATA data a <;> simp [Option.guard, h, dstOf]
    rw [this, List.filterMap_eq_filter]
    exact List.filter_sublist
  · intro x hx
    obtain ⟨a, _, hx⟩ := List.mem_filterMap.1 hx
    cases hsf : sealFor o n Generated.MESSAGE_TYPE_DATA data a with
    | none => rw [hsf] at hx; cases hx
    | some b => rw [hsf] at hx; cases hx; rfl

/-- each flooded copy is the DATA message with exactly the frame's bytes, sealed by the session that `n` stores for its destination -/
theorem broadcast_each_is_seal (o : Oracle) (n : Node) (now : Int) (data : Bytes) (s dst : Addr)
    (hp : parseAddrs n data = some (s, dst)) (hl : (n.table.lookup now dst).2 = none) (hb : n.cfg.broadcast = true)
    (hnd : (n.peers.map (·.1)).Nodup) (a : NAddr) (bytes : Bytes) (h : Out.dgram a bytes ∈ (handleIface o n now data).outs) :
    ∃ p pc' log, lookupA n.peers a = some p ∧
      PeerCrypto.sendMessage p.crypto Generated.MESSAGE_TYPE_DATA data (rndFor o { node := n } a).2.1.ct = (pc', .ok (bytes, log)) := by
  rw [emit_unknown_broadcast o n now data s dst hp hl hb hnd, List.mem_filterMap] at h
  obtain ⟨a', _, hx⟩ := h
  cases hsf : sealFor o n Generated.MESSAGE_TYPE_DATA data a' with
  | none => rw [hsf] at hx; cases hx
  | some b =>
    rw [hsf] at hx
    cases hx
    exact (sealFor_some o n _ data a bytes).1 hsf

/-- **"go to all peers"**: if every peer's session can seal, the destinations of the flooded copies are exactly the peer list — one copy
    per peer -/
theorem broadcast_reaches_all (o : Oracle) (n : Node) (now : Int) (data : Bytes) (s dst : Addr)
    (hp : parseAddrs n data = some (s, dst)) (hl : (n.table.lookup now dst).2 = none) (hb : n.cfg.broadcast = true)
    (hnd : (n.peers.map (·.1)).Nodup)
    (hseal : ∀ a p, lookupA n.peers a = some p → ∀ ct, ∃ r, (PeerCrypto.sendMessage p.crypto Generated.MESSAGE_TYPE_DATA data ct).2 = .ok r) :
    (handleIface o n now data).outs.filterMap dstOf = n.peers.map (·.1) ∧
    (handleIface o n now data).outs.length = n.peers.length := by
  rw [emit_unknown_broadcast o n now data s dst hp hl hb hnd]
  have hall : ∀ a ∈ n.peers.map (·.1), ∃ b, sealFor o n Generated.MESSAGE_TYPE_DATA data a = some b := by
    intro a ha
    have hsome := (lookupA_isSome_iff n.peers a).2 ha
    cases hpa : lookupA n.peers a with
    | none => rw [hpa] at hsome; cases hsome
    | some p =>
      obtain ⟨r, hr⟩ := hseal a p hpa (rndFor o { node := n } a).2.1.ct
      rcases r with ⟨b, log⟩
      exact ⟨b, by simp only [sealFor, hpa, hr]⟩
  have key : ∀ l : List NAddr, (∀ a ∈ l, ∃ b, sealFor o n Generated.MESSAGE_TYPE_DATA data a = some b) →
      (l.filterMap (fun a => (sealFor o n Generated.MESSAGE_TYPE_DATA data a).map (Out.dgram a))).filterMap dstOf = l ∧
      (l.filterMap (fun a => (sealFor o n Generated.MESSAGE_TYPE_DATA data a).map (Out.dgram a))).length = l.length := by
    intro l
    induction l with
    | nil => intro _; exact ⟨rfl, rfl⟩
    | cons a l ih =>
      intro h
      obtain ⟨b, hb⟩ := h a (List.mem_cons_self ..)
      have ih' := ih (fun x hx => h x (List.mem_cons_of_mem _ hx))
      rw [List.filterMap_cons, hb]
      simp only [Option.map_some, List.filterMap_cons, dstOf, List.length_cons, ih'.1, ih'.2, and_self]
  have := key _ hall
  rw [List.length_map] at this
  exact this

/-- **emit_unknown_router**: in router mode (no broadcast) a packet for which the table has no next hop is sent nowhere and counted as dropped
    (re-export of `C11Node.unknown_dest_dropped`) -/
theorem emit_unknown_router (o : Oracle) (n : Node) (now : Int) (data : Bytes) (s d : Addr)
    (hp : parseAddrs n data = some (s, d)) (hl : (n.table.lookup now d).2 = none) (hb : n.cfg.broadcast = false) :
    (handleIface o n now data).outs = [] ∧ (handleIface o n now data).node.droppedOut = n.droppedOut + 1 :=
  C11Node.unknown_dest_dropped o n now data s d hp hl hb

/-! ## 4. two nodes, one hop -/

/-- the receiving side: if the session that node B holds for the sender's address opens the datagram as the DATA message `data`, then all
    B does is write `data` — byte-identical, exactly once — to its interface (nothing at all if `data` does not parse as a frame / packet
    at B); in particular no datagram goes to anybody (no relaying, no reply), and nothing else reaches the interface. -/
theorem delivered_exactly_once (env : CryptoEnv) (bodyOf : Init.BodyOf) (o : Oracle) (nB : Node) (now : Int) (srcA : NAddr)
    (bytes tail data : Bytes) (pB : Peer) (pc : PeerCrypto) (out : Bytes) (log' : Init.SealLog)
    (hpB : lookupA nB.peers (mappedAddr srcA) = some pB)
    (hopen : PeerCrypto.handleMessage env bodyOf payloadOk pB.crypto bytes tail
        (rndFor o { node := nB } (mappedAddr srcA)).1 (rndFor o { node := nB } (mappedAddr srcA)).2.1 =
      .ok pc out (.message Generated.MESSAGE_TYPE_DATA data) log') :
    (handleNet env bodyOf o nB now srcA bytes tail).1.outs = if (parseAddrs nB data).isSome = true then [Out.iface data] else [] :=
  (handleNet_data env bodyOf o nB now srcA bytes tail data pB pc out log' hpB hopen).1

/-- **one_hop_exactly_once**: node A reads the frame `data` from its interface, its table names B's address as next hop and A's session for
    B seals it into `bytes`; the session B holds for A's address opens `bytes` as that DATA message.  Then A emits exactly the one
    datagram `bytes` to B, and all B does with it is write `data` byte-identical and exactly once to its interface (when `data` parses
    at B; otherwise nothing) — B sends no datagram to anyone. -/
theorem one_hop_exactly_once (env : CryptoEnv) (bodyOf : Init.BodyOf) (oA oB : Oracle) (nA nB : Node) (nowA nowB : Int)
    (data : Bytes) (s dst : Addr) (pid : PeerId) (addrA addrB : NAddr) (pA pB : Peer) (pA' : PeerCrypto)
    (bytes tail : Bytes) (log : Init.SealLog) (pc : PeerCrypto) (out : Bytes) (log' : Init.SealLog)
    (hp : parseAddrs nA data = some (s, dst)) (hl : (nA.table.lookup nowA dst).2 = some pid)
    (ha : (nA.peers.map (·.1)).find? (fun a => addrId a = pid) = some addrB)
    (hpA : lookupA nA.peers addrB = some pA)
    (hseal : PeerCrypto.sendMessage pA.crypto Generated.MESSAGE_TYPE_DATA data (rndFor oA { node := nA } addrB).2.1.ct = (pA', .ok (bytes, log)))
    (hpB : lookupA nB.peers (mappedAddr addrA) = some pB)
    (hopen : PeerCrypto.handleMessage env bodyOf payloadOk pB.crypto bytes tail
        (rndFor oB { node := nB } (mappedAddr addrA)).1 (rndFor oB { node := nB } (mappedAddr addrA)).2.1 =
      .ok pc out (.message Generated.MESSAGE_TYPE_DATA data) log') :
    (handleIface oA nA nowA data).outs = [.dgram addrB bytes] ∧
    (handleNet env bodyOf oB nB nowB addrA bytes tail).1.outs = (if (parseAddrs nB data).isSome = true then [Out.iface data] else []) ∧
    (∀ d b, Out.dgram d b ∉ (handleNet env bodyOf oB nB nowB addrA bytes tail).1.outs) ∧
    (∀ b, Out.iface b ∈ (handleNet env bodyOf oB nB nowB addrA bytes tail).1.outs → b = data) := by
  have hB := delivered_exactly_once env bodyOf oB nB nowB addrA bytes tail data pB pc out log' hpB hopen
  refine ⟨?_, hB, ?_, ?_⟩
  · obtain ⟨p, hp', ho⟩ := emit_known oA nA nowA data s dst pid addrB hp hl ha
    rw [hpA] at hp'
    cases hp'
    rw [ho, hseal]
  · intro d b hm
    rw [hB] at hm
    split at hm
    · simp at hm
    · cases hm
  · intro b hm
    rw [hB] at hm
    split at hm
    · simp only [List.mem_singleton, Out.iface.injEq] at hm; exact hm
    · cases hm

open VpnCloud.Spec.C04 in
/-- **one_hop_in_sync**: the same with the hypothesis "B opens what A sealed" discharged by `session_roundtrip`: the two sessions are
    encrypted, their cores are in sync (same key in A's current slot, opposite halves, B's window floor not above the nonce, counter within
    56 bits), the ideal AEAD opens the ciphertext A emitted as what A sealed (`hbody`), and both nodes run the same device type.  Then the
    frame A read is delivered to B's interface byte-identical and exactly once, and B emits nothing else. -/
theorem one_hop_in_sync (env : CryptoEnv) (bodyOf : Init.BodyOf) (oA oB : Oracle) (nA nB : Node) (nowA nowB : Int)
    (data : Bytes) (s dst : Addr) (pid : PeerId) (addrA addrB : NAddr) (pA pB : Peer) (pA' : PeerCrypto)
    (bytes tail : Bytes) (log : Init.SealLog) (cs cr : Core) (ks kr : SlotKey) (v : Nat)
    (hp : parseAddrs nA data = some (s, dst)) (hl : (nA.table.lookup nowA dst).2 = some pid)
    (ha : (nA.peers.map (·.1)).find? (fun a => addrId a = pid) = some addrB)
    (hpA : lookupA nA.peers addrB = some pA)
    (hseal : PeerCrypto.sendMessage pA.crypto Generated.MESSAGE_TYPE_DATA data (rndFor oA { node := nA } addrB).2.1.ct = (pA', .ok (bytes, log)))
    (hpB : lookupA nB.peers (mappedAddr addrA) = some pB)
    (huA : pA.crypto.unencrypted = false) (huB : pB.crypto.unencrypted = false)
    (hcA : pA.crypto.core = some cs) (hcB : pB.crypto.core = some cr)
    (hs : cs.slots[cs.cur]? = some ks) (hr : cr.slots[cs.cur]? = some kr) (hcur : cs.cur < 4) (hkey : kr.key = ks.key)
    (hhalf : cr.half = !cs.half) (hsend : ks.send + 1 = base cs.half + v) (hv : v < 2 ^ 56) (hmin : kr.min ≤ ks.send + 1)
    (hbody : ∀ e ∈ log, bodyOf e.1 = e.2) (hmode : nB.cfg.tap = nA.cfg.tap) :
    (handleIface oA nA nowA data).outs = [.dgram addrB bytes] ∧
    (handleNet env bodyOf oB nB nowB addrA bytes tail).1.outs = [Out.iface data] := by
  obtain ⟨pB', hopen⟩ := session_roundtrip env bodyOf payloadOk pA.crypto pB.crypto pA' cs cr ks kr v Generated.MESSAGE_TYPE_DATA data
    (rndFor oA { node := nA } addrB).2.1.ct bytes tail log (rndFor oB { node := nB } (mappedAddr addrA)).1
    (rndFor oB { node := nB } (mappedAddr addrA)).2.1 huA huB hcA hcB hs hr hcur hkey hhalf hsend hv hmin (by decide) hseal hbody
  have h := one_hop_exactly_once env bodyOf oA oB nA nB nowA nowB data s dst pid addrA addrB pA pB pA' bytes tail log pB' [] [] hp hl ha hpA
    hseal hpB hopen
  refine ⟨h.1, ?_⟩
  have hpar : parseAddrs nB data = some (s, dst) := by
    rw [← hp]; unfold parseAddrs; rw [hmode]
  rw [h.2.1, hpar]
  rfl

/-! ## non-vacuity (toy cryptography of `InitLemmas.Toy`), and the counterexample to `iface_write_only_from_peer_data` without `PendFreshAt` -/
section NonVacuity
open VpnCloud.Proofs.InitLemmas

private def aA : NAddr := .v6 (List.replicate 16 0) 1
private def aB : NAddr := .v6 (List.replicate 16 0) 2
private def aC : NAddr := .v6 (List.replicate 16 0) 3
private def cfg0 (bc : Bool) : NodeCfg :=
  { tap := false, learning := false, broadcast := bc, peerTimeout := 300, peerTimeoutPublish := 300, updateFreq := 10,
    claims := [], key := [7, 7, 7, 7], trusted := [[9, 9, 9, 9]], algos := Toy.algos }
/-- the ciphertext bytes of every emitted datagram are `[1, 2, 3]` -/
private def o0 : Oracle :=
  { emitted := fun _ _ => List.replicate 8 0 ++ [1, 2, 3], rotProp := fun _ => 0, rotPend := fun _ => 0, starts := fun _ => [] }
/-- an IPv4 packet 10.0.0.1 → 10.0.0.2 -/
private def pkt : Bytes := 69 :: (List.replicate 11 0 ++ [10, 0, 0, 1, 10, 0, 0, 2])
/-- A's session for B and B's session for A: same key 7 in slot 0, opposite halves -/
private def sessA : PeerCrypto := { init := none, core := some (Core.new 7 true 9 [5, 6, 7, 8]) }
private def sessB : PeerCrypto := { init := none, core := some (Core.new 7 false 8 [0, 0, 0, 0]) }
private def sessU : PeerCrypto := { init := none, unencrypted := true }
private def peerOf (pc : PeerCrypto) : Peer := { addrs := [], timeout := 1000, peerTimeout := 300, nodeId := List.replicate 16 1, crypto := pc }
private def tbl0 : Table := { cacheTimeout := 300, claimTimeout := 300 }
/-- node A (router mode): one peer B (id 2) that claims 10.0.0.0/8 -/
private def nA : Node :=
  { nodeId := List.replicate 16 8, addr := aA, cfg := cfg0 false, peers := [(aB, peerOf sessA)],
    table := { tbl0 with claims := [⟨2, ⟨[10, 0, 0, 0], 8⟩, 2000⟩] } }
/-- node B: one peer A -/
private def nB : Node := { nodeId := List.replicate 16 9, addr := aB, cfg := cfg0 false, peers := [(aA, peerOf sessB)], table := tbl0 }
/-- a switch-like node (broadcast on) with two peers and an empty table -/
private def nS : Node :=
  { nodeId := List.replicate 16 8, addr := aA, cfg := cfg0 true, peers := [(aB, peerOf sessA), (aC, peerOf sessU)], table := tbl0 }
/-- what A's session puts on the wire for `pkt`: key slot 0, counter HALF + 6, ciphertext `[1, 2, 3]` -/
private def wire : Bytes := 0 :: Bytes.ofBE 7 (HALF + 6) ++ [1, 2, 3]
/-- ideal AEAD: every ciphertext opens as the seal A produced -/
private def bodyAB : Init.BodyOf := fun _ => .sealed 7 (HALF + 6) (Generated.MESSAGE_TYPE_DATA :: pkt)

/-- `iface_write_only_from_peer_data`, hypothesis and premise hold together: B gets `wire` from its peer A and writes `pkt` to the interface -/
example : PendFreshAt nB (mappedAddr aA) ∧ Out.iface pkt ∈ (handleNet Toy.env bodyAB o0 nB 100 aA wire []).1.outs :=
  ⟨fun _ hp _ => absurd hp (by decide), by decide⟩

/-- … and `PendFreshAt` holds with a pending handshake present: after dialling C, node B has a pending session for C, without core -/
example : (connect Toy.env o0 { node := nB } [aC]).node.pending.map (·.1) = [aC] ∧
    PendFreshAt (connect Toy.env o0 { node := nB } [aC]).node aC := by
  refine ⟨by decide, fun pc _ hq => ?_⟩
  have hm := lookupA_some_mem hq
  have hl : (connect Toy.env o0 { node := nB } [aC]).node.pending.map (fun x => (x.2.unencrypted, x.2.core)) = [(false, none)] := by decide
  have := List.mem_map_of_mem (f := fun x : NAddr × PeerCrypto => (x.2.unencrypted, x.2.core)) hm
  rw [hl] at this
  simp only [List.mem_singleton, Prod.mk.injEq] at this
  exact this

/-- COUNTEREXAMPLE to `iface_write_only_from_peer_data` without `PendFreshAt`: a node without peers whose pending session for `aA` is in unencrypted mode hands
    the body of a DATA datagram from `aA` to the interface, although `aA` is not a peer -/
private def nBad : Node := { nB with peers := [], pending := [(aA, sessU)] }

example : lookupA nBad.peers (mappedAddr aA) = none ∧
    Out.iface pkt ∈ (handleNet Toy.env bodyAB o0 nBad 100 aA (Generated.MESSAGE_TYPE_DATA :: pkt) []).1.outs := by decide

example : ¬ (∀ (env : CryptoEnv) (bodyOf : Init.BodyOf) (o : Oracle) (n : Node) (now : Int) (src : NAddr) (data tail b : Bytes),
    Out.iface b ∈ (handleNet env bodyOf o n now src data tail).1.outs → ∃ p, lookupA n.peers (mappedAddr src) = some p) := by
  intro h
  obtain ⟨p, hp⟩ := h Toy.env bodyAB o0 nBad 100 aA (Generated.MESSAGE_TYPE_DATA :: pkt) [] pkt (by decide)
  have : lookupA nBad.peers (mappedAddr aA) = none := by decide
  rw [this] at hp
  cases hp

/-- `emit_known`: the hypotheses hold for A and `pkt`, and A emits exactly `wire` to B -/
example : parseAddrs nA pkt = some ([10, 0, 0, 1], [10, 0, 0, 2]) ∧ (nA.table.lookup 100 [10, 0, 0, 2]).2 = some 2 ∧
    (nA.peers.map (·.1)).find? (fun a => addrId a = 2) = some aB ∧ (handleIface o0 nA 100 pkt).outs = [.dgram aB wire] := by decide

/-- `emit_unknown_broadcast` / `broadcast_reaches_all`: the hypotheses hold for the switch-like node, and the frame goes to both peers -/
example : parseAddrs nS pkt = some ([10, 0, 0, 1], [10, 0, 0, 2]) ∧ (nS.table.lookup 100 [10, 0, 0, 2]).2 = none ∧ nS.cfg.broadcast = true ∧
    (nS.peers.map (·.1)).Nodup ∧
    (∀ a p, lookupA nS.peers a = some p → ∀ ct, ∃ r, (PeerCrypto.sendMessage p.crypto Generated.MESSAGE_TYPE_DATA pkt ct).2 = .ok r) ∧
    (handleIface o0 nS 100 pkt).outs = [.dgram aB wire, .dgram aC (Generated.MESSAGE_TYPE_DATA :: pkt)] := by
  refine ⟨by decide, by decide, rfl, by decide, ?_, by decide⟩
  intro a p hp ct
  have hm := lookupA_some_mem hp
  simp only [nS, List.mem_cons, Prod.mk.injEq, List.not_mem_nil, or_false] at hm
  rcases hm with ⟨_, rfl⟩ | ⟨_, rfl⟩
  · exact ⟨_, rfl⟩
  · exact ⟨_, rfl⟩

/-- `emit_unknown_router`: the hypotheses hold for B (router mode, empty table) -/
example : parseAddrs nB pkt = some ([10, 0, 0, 1], [10, 0, 0, 2]) ∧ (nB.table.lookup 100 [10, 0, 0, 2]).2 = none ∧ nB.cfg.broadcast = false ∧
    (handleIface o0 nB 100 pkt).outs = [] := by decide

/-- `one_hop_in_sync` / `one_hop_exactly_once` / `session_roundtrip`: all hypotheses hold for A, B and `pkt` … -/
example : (handleIface o0 nA 100 pkt).outs = [.dgram aB wire] ∧ (handleNet Toy.env bodyAB o0 nB 200 aA wire []).1.outs = [Out.iface pkt] :=
  one_hop_in_sync Toy.env bodyAB o0 o0 nA nB 100 200 pkt [10, 0, 0, 1] [10, 0, 0, 2] 2 aA aB (peerOf sessA) (peerOf sessB)
    { sessA with core := some ((Core.new 7 true 9 [5, 6, 7, 8]).encrypt (Generated.MESSAGE_TYPE_DATA :: pkt)).1 }
    wire [] [([1, 2, 3], .sealed 7 (HALF + 6) (Generated.MESSAGE_TYPE_DATA :: pkt))]
    (Core.new 7 true 9 [5, 6, 7, 8]) (Core.new 7 false 8 [0, 0, 0, 0]) (SlotKey.new 7 true 5) (SlotKey.new 7 false 0) 6
    (by decide) (by decide) (by decide) rfl rfl rfl rfl rfl rfl rfl (by decide) (by decide) (by decide) rfl rfl
    (by decide) (by decide) (by decide)
    (by intro e he; simp only [List.mem_singleton] at he; subst he; rfl) rfl

/-- … and the result is what the model computes -/
example : (handleNet Toy.env bodyAB o0 nB 200 aA wire []).1.outs = [Out.iface pkt] := by decide

/-- housekeeping does emit something (so `housekeep_sends_no_payload` is not about an empty list): with the announcement due, node S sends
    its node info to both peers, and neither datagram is a DATA message -/
example : (housekeep Toy.env o0 nS 100).outs.length = 2 := by decide

/-- remark on the model (reported, not relied upon): `broadcastMsg` goes on with the next peer when a session cannot seal, whereas the `?`
    in the loop of `broadcast_msg` (src/cloud.rs) leaves the loop at the first failing `send_message`.  Witness: first peer without core
    (cannot seal), second peer in unencrypted mode — the model still emits the copy for the second peer.  A peer session that cannot seal
    does not occur in reachable states (a session enters `peers` with a core or the `unencrypted` flag), and all statements above that
    say "to all peers" assume that every session can seal. -/
example : (handleIface o0 { nS with peers := [(aB, peerOf { init := none }), (aC, peerOf sessU)] } 100 pkt).outs =
    [.dgram aC (Generated.MESSAGE_TYPE_DATA :: pkt)] := by decide

end NonVacuity

end VpnCloud.Proofs.C10More
