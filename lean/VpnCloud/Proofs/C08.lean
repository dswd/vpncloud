import VpnCloud.Proofs.Lemmas.Node.DatagramLemmas
/-
  C08 — unauthenticated datagrams: a handshake datagram that `read_from` rejects under the node's trusted
  keys, and a non-handshake datagram from an unknown address, are dropped without panic, output or change
  of the routes, of the peer addresses and of the addresses with a pending handshake.
  `node_reject_pure` has two hypotheses besides its case: the state is regular (`Regular`: every handshake object verifies
  against the node's trusted keys; it holds in every reachable state, `C01More.regular_reach`) and the window is not empty
  (`rest ≠ []`, which the proof does not use: an empty window is rejected as well).  That the stored sessions themselves stay as they are is `C02More.rejected_no_state`.
  `unknown_sender_ignored` has no hypothesis besides its case.
-/
namespace VpnCloud.Proofs.C08

open VpnCloud.Node
open VpnCloud.Proofs.AssocLemmas VpnCloud.Proofs.NodeLemmas

/-- a node state is *regular* if every session it holds verifies handshake messages against the node's trusted keys -/
def Regular (n : Node) : Prop :=
  (∀ a p, (a, p) ∈ n.peers → ∀ i, p.crypto.init = some i → i.trusted = n.cfg.trusted) ∧
  (∀ a pc, (a, pc) ∈ n.pending → ∀ i, pc.init = some i → i.trusted = n.cfg.trusted)

/-- the part of `unauth_no_panic` (DESIGN.md §5, C08) for handshake datagrams: a datagram with the handshake marker whose content `read_from` rejects under the node's trusted keys is dropped:
    no panic, nothing sent, nothing written to the interface, peers / pending handshakes / routes unchanged -/
theorem node_reject_pure (env : CryptoEnv) (bodyOf : Init.BodyOf) (o : Oracle) (n : Node) (now : Int) (src : NAddr) (rest tail : Bytes) (e : InitErr)
    (hreg : Regular n) (hne : rest ≠ []) (h : InitMsg.readFrom env rest n.cfg.trusted = .error e) :
    let r := handleNet env bodyOf o n now src (Generated.INIT_MESSAGE_FIRST_BYTE :: rest) tail
    r.1.panicked = false ∧ r.1.outs = [] ∧ r.1.node.table = n.table ∧
    r.1.node.peers.map (·.1) = n.peers.map (·.1) ∧ r.1.node.pending.map (·.1) = n.pending.map (·.1) ∧ r.1.node.own = n.own := by
  show Traceless n (handleNet env bodyOf o n now src (Generated.INIT_MESSAGE_FIRST_BYTE :: rest) tail).1
  -- every session of a regular node rejects the datagram, and so does a throw-away responder
  have rej : ∀ pc rnd rr, (∀ i, pc.init = some i → i.trusted = n.cfg.trusted) →
      ∃ e', PeerCrypto.handleMessage env bodyOf payloadOk pc (Generated.INIT_MESSAGE_FIRST_BYTE :: rest) tail rnd rr = .err pc e' ∧
        e' ≠ .cryptoInitFatal :=
    fun pc rnd rr htr => handleMessage_reject env bodyOf payloadOk pc n.cfg.trusted rest tail rnd rr e htr h
  obtain ⟨ht, _, he, _⟩ := dispatch_refused env bodyOf o n now (mappedAddr src) (Generated.INIT_MESSAGE_FIRST_BYTE :: rest) tail
    (· ≠ .cryptoInitFatal) (fun p hp _ => rej _ _ _ (hreg.1 _ _ (lookupA_some_mem hp)))
    (fun pc hq _ => rej _ _ _ (hreg.2 _ _ (lookupA_some_mem hq)))
    (fun _ => ⟨_, rej _ _ _ (fun i hi => by cases hi; rfl)⟩)
  rw [handleNet_eq, finish_of_not_fatal _ _ _ (fun h2 => he _ h2 rfl)]
  exact ht

/-- a datagram without the handshake marker from an address that is neither a peer nor has a handshake pending is ignored -/
theorem unknown_sender_ignored (env : CryptoEnv) (bodyOf : Init.BodyOf) (o : Oracle) (n : Node) (now : Int) (src : NAddr) (data tail : Bytes)
    (hinit : data.head? ≠ some Generated.INIT_MESSAGE_FIRST_BYTE)
    (hp : lookupA n.peers (mappedAddr src) = none) (hq : lookupA n.pending (mappedAddr src) = none) :
    let r := handleNet env bodyOf o n now src data tail
    r.1.panicked = false ∧ r.1.outs = [] ∧ r.1.node = { n with droppedIn := n.droppedIn + 1 } := by
  rw [handleNet_eq]
  unfold dispatch
  simp only [hp, hq, hinit, if_false]
  rw [finish_of_not_fatal _ _ _ (by simp)]
  exact ⟨rfl, rfl, rfl⟩

/-! ## non-vacuity: the hypotheses are satisfiable (toy cryptography of `InitLemmas.Toy`) -/
section NonVacuity
open VpnCloud.Proofs.InitLemmas

private def s : NAddr := .v6 (List.replicate 16 0) 1
/-- a node with one established peer whose session still holds a handshake object, and one pending handshake -/
private def n : Node :=
  { nodeId := List.replicate 16 9, addr := .v6 (List.replicate 16 0) 3,
    cfg := { tap := false, learning := false, broadcast := false, peerTimeout := 300, peerTimeoutPublish := 300, updateFreq := 10,
             claims := [], key := [7, 7, 7, 7], trusted := [[9, 9, 9, 9]], algos := Toy.algos },
    peers := [(s, { addrs := [], timeout := 0, peerTimeout := 300, nodeId := List.replicate 16 1, crypto := { init := some Toy.st } })],
    pending := [(.v6 (List.replicate 16 0) 2, { init := some Toy.st })],
    table := { cacheTimeout := 300, claimTimeout := 300 } }

example : Regular n := by
  constructor
  · intro a p hm i hi
    simp only [n, List.mem_singleton, Prod.mk.injEq] at hm
    obtain ⟨_, rfl⟩ := hm
    cases hi; rfl
  · intro a pc hm i hi
    simp only [n, List.mem_singleton, Prod.mk.injEq] at hm
    obtain ⟨_, rfl⟩ := hm
    cases hi; rfl

/-- a pong with an altered signed byte is rejected under the node's trusted keys -/
example : InitMsg.readFrom Toy.env ((Toy.pong Toy.algos 0).set 1 7) n.cfg.trusted = .error .crypto := by decide

end NonVacuity

end VpnCloud.Proofs.C08
