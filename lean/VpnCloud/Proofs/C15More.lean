import VpnCloud.Proofs.Lemmas.Node.C15MoreLemmas
import VpnCloud.Proofs.Lemmas.Node.NetStepLemmas
import VpnCloud.Proofs.C16
/-
  C15 at node level (beside `C15Node`): the announcement `housekeep` schedules is safe for every configuration, the announcement
  reaches every peer, node information / keepalives (and nothing else) refresh the expiry of a peer, a timed argument for
  one direction sender → receiver (a healthy peer never expires — also one that joined after the sender's last scheduling, since
  `add_new_peer` makes the next announcement due at once; a silent one is removed one second after its expiry),
  and the reconnect list is retried forever.
-/
namespace VpnCloud.Proofs.C15More

open VpnCloud.Node
open VpnCloud.Proofs.AssocLemmas VpnCloud.Proofs.NodeLemmas VpnCloud.Proofs.NodeInvLemmas
open VpnCloud.Proofs.C15MoreLemmas

/-! ## 1. the announcement that `housekeep` schedules -/

/-- **housekeep_schedules_safe**: whenever the housekeeping tick finds the announcement due, it schedules the next one `d` seconds
    ahead, where `d` is at most one second or strictly shorter than the timeout advertised by every peer that survived the tick —
    for every configured `updateFreq` (keepalive) and every advertised peer timeout; no hypothesis is needed (not even that the
    tick did not panic, nor that the advertised timeouts fit `u16`: `C15.interval_safe` covers all natural numbers). -/
theorem housekeep_schedules_safe (env : CryptoEnv) (o : Oracle) (n : Node) (now : Int) (hdue : n.nextPeers ≤ now) :
    ∃ d : Nat, (housekeep env o n now).node.nextPeers = now + d ∧
      (d ≤ 1 ∨ ∀ a p, (a, p) ∈ (housekeep env o n now).node.peers → d < p.peerTimeout) := by
  obtain ⟨bc, _, _, d, _, hsafe, hfr, _⟩ := housekeep_of_due env o n now hdue
  refine ⟨d, frame_proj hfr (·.node.nextPeers), ?_⟩
  rw [frame_proj hfr (·.node.peers)]
  exact hsafe

/-- the same for one peer, in the form the timed argument uses (`SafeDelays`): the delay until the next announcement is at most one
    second or strictly below the timeout this peer advertised -/
theorem housekeep_delay_safe_for_peer (env : CryptoEnv) (o : Oracle) (n : Node) (now : Int) (hdue : n.nextPeers ≤ now)
    (a : NAddr) (p : Peer) (hmem : (a, p) ∈ (housekeep env o n now).node.peers) :
    now ≤ (housekeep env o n now).node.nextPeers ∧
    ((housekeep env o n now).node.nextPeers - now ≤ 1 ∨ (housekeep env o n now).node.nextPeers - now < p.peerTimeout) := by
  obtain ⟨d, h1, h2⟩ := housekeep_schedules_safe env o n now hdue
  rw [h1]
  refine ⟨by omega, ?_⟩
  rcases h2 with h | h
  · left; omega
  · right; have := h a p hmem; omega

/-- `housekeep_schedules_safe` under the hypothesis that the tick did not panic, which the proof does not use -/
theorem housekeep_schedules_safe' (env : CryptoEnv) (o : Oracle) (n : Node) (now : Int)
    (_hp : (housekeep env o n now).panicked = false) (hdue : n.nextPeers ≤ now) :
    ∃ d : Nat, (housekeep env o n now).node.nextPeers = now + d ∧
      (d ≤ 1 ∨ ∀ a p, (a, p) ∈ (housekeep env o n now).node.peers → d < p.peerTimeout) :=
  housekeep_schedules_safe env o n now hdue

/-- a tick before the announcement is due leaves the schedule alone -/
theorem housekeep_keeps_schedule (env : CryptoEnv) (o : Oracle) (n : Node) (now : Int) (hnot : n.nextPeers > now) :
    (housekeep env o n now).node.nextPeers = n.nextPeers := by
  rw [frame_proj (housekeep_not_due env o n now (by omega)) (·.node.nextPeers), sched_nextPeers (preAnnounce_sched env o n now)]

/-- `housekeep` never panics because of the interval: the panic flag after the tick is the one after the broadcast (or, if no
    announcement is due, after the session ticks) -/
theorem housekeep_interval_no_panic (env : CryptoEnv) (o : Oracle) (n : Node) (now : Int) :
    (housekeep env o n now).panicked =
      (if n.nextPeers ≤ now then
        (broadcastMsg o (preAnnounce env o n now) Generated.MESSAGE_TYPE_NODE_INFO
          (Codec.encodeNodeInfo (createNodeInfo (preAnnounce env o n now).node))).panicked
       else (preAnnounce env o n now).panicked) := by
  split
  · rename_i hdue
    obtain ⟨bc, hbc, _, _, _, _, hfr, _⟩ := housekeep_of_due env o n now hdue
    rw [← hbc]
    exact frame_proj hfr (·.panicked)
  · rename_i hdue
    exact frame_proj (housekeep_not_due env o n now hdue) (·.panicked)

/-! ## 2. the announcement reaches every peer -/

/-- what the node announces at a tick: its id, its claims, its own addresses, the peers left after the removal of the expired ones,
    and `peer_timeout_publish` as the timeout its peers must respect -/
theorem announced_info (env : CryptoEnv) (o : Oracle) (n : Node) (now : Int) :
    (createNodeInfo (preAnnounce env o n now).node).peerTimeout = some n.cfg.peerTimeoutPublish ∧
    (createNodeInfo (preAnnounce env o n now).node).nodeId = n.nodeId ∧
    (createNodeInfo (preAnnounce env o n now).node).claims = n.cfg.claims ∧
    (createNodeInfo (preAnnounce env o n now).node).addrs = n.own := by
  have h := preAnnounce_sched env o n now
  unfold createNodeInfo
  simp only []
  rw [sched_cfg h, sched_nodeId h, sched_own h]
  exact ⟨rfl, rfl, rfl, rfl⟩

/-- **announce_reaches_every_peer**: when the announcement is due (and the peer addresses are pairwise distinct), every peer that is
    still a peer after the tick and whose session can seal has been sent one datagram in this tick that is `send_message(NODE_INFO, …)`
    of its session (the session it had after the per-second session housekeeping, `p3.crypto`) applied to the encoded node
    information of `announced_info`; the record after the tick is the earlier one with the session state after sealing, and the
    seal is in the seal log of the tick. -/
theorem announce_reaches_every_peer (env : CryptoEnv) (o : Oracle) (n : Node) (now : Int) (hdue : n.nextPeers ≤ now)
    (hnd : (n.peers.map (·.1)).Nodup) (a : NAddr) (p : Peer) (hmem : (a, p) ∈ (housekeep env o n now).node.peers)
    (hseal : canSeal p.crypto) :
    ∃ p3, lookupA (preAnnounce env o n now).node.peers a = some p3 ∧
      Sent Generated.MESSAGE_TYPE_NODE_INFO (Codec.encodeNodeInfo (createNodeInfo (preAnnounce env o n now).node)) a p3 p
        (housekeep env o n now).outs (housekeep env o n now).log := by
  -- `a` was a peer when the broadcast started (the last stages keep the peer addresses), and its one record afterwards is `p`
  have hlk : lookupA (housekeep env o n now).node.peers a = some p :=
    lookupA_of_mem_nodup ((TickLemmas.housekeep_tick env o n now).elim fun _ hL => hL.nodup hnd) hmem
  cases hl3 : lookupA (preAnnounce env o n now).node.peers a with
  | none =>
    have hk : (housekeep env o n now).node.peers.map (·.1) = (preAnnounce env o n now).node.peers.map (·.1) := by
      rw [frame_proj (housekeep_tail env o n now) (·.node.peers)]
      exact TickLemmas.hkAnnounce_keys o _ now
    exact absurd (hk ▸ mem_key hmem) ((lookupA_none_iff _ _).1 hl3)
  | some p3 =>
    obtain ⟨h1, h2⟩ := housekeep_announces env o n now hdue hnd a p3 hl3
    by_cases hs3 : canSeal p3.crypto
    · obtain ⟨p', hp', hsent⟩ := h1 hs3
      rw [hlk, Option.some.injEq] at hp'
      exact ⟨p3, rfl, hp' ▸ hsent⟩
    · rw [hlk, Option.some.injEq] at h2
      exact absurd (h2 hs3 ▸ hseal) hs3

/-- if the announced node information is well-formed (sizes within the limits of the wire format), whoever decodes the announced bytes —
    also with stale bytes behind them — reads `peer_timeout_publish` as the advertised timeout -/
theorem announced_timeout_decodes (env : CryptoEnv) (o : Oracle) (n : Node) (now : Int) (tail : Bytes)
    (hwf : VpnCloud.Spec.C16.WF (createNodeInfo (preAnnounce env o n now).node) = true) :
    ∃ info, Codec.decodeNodeInfo (Codec.encodeNodeInfo (createNodeInfo (preAnnounce env o n now).node) ++ tail) = some info ∧
      info.peerTimeout = some n.cfg.peerTimeoutPublish :=
  ⟨_, VpnCloud.Proofs.C16.nodeinfo_roundtrip _ hwf tail, (announced_info env o n now).1⟩

/-! ## 3. what refreshes the expiry of a peer -/

/-- the situation of theorem 3: a datagram `data` without the handshake marker arrives from `src`, which is the established peer `p`,
    and the session of `p` opens it as a message of type `ty` with content `body` (new session state `pc`) -/
structure FromPeer (env : CryptoEnv) (bodyOf : Init.BodyOf) (o : Oracle) (n : Node) (src : NAddr) (data tail : Bytes)
    (p : Peer) (pc : PeerCrypto) (ty : Nat) (body : Bytes) : Prop where
  peer : lookupA n.peers (mappedAddr src) = some p
  plain : data.head? ≠ some Generated.INIT_MESSAGE_FIRST_BYTE
  opened : ∃ out log, PeerCrypto.handleMessage env bodyOf payloadOk p.crypto data tail (rndFor o { node := n } (mappedAddr src)).1
            (rndFor o { node := n } (mappedAddr src)).2.1 = .ok pc out (.message ty body) log

/-- the peer list after the message: by message type -/
theorem peers_after_message {env : CryptoEnv} {bodyOf : Init.BodyOf} {o : Oracle} {n : Node} {src : NAddr} {data tail : Bytes}
    {p : Peer} {pc : PeerCrypto} {ty : Nat} {body : Bytes} (h : FromPeer env bodyOf o n src data tail p pc ty body) (now : Int) :
    (handleNet env bodyOf o n now src data tail).1.node.peers =
      if ty = Generated.MESSAGE_TYPE_KEEPALIVE then
        insertA n.peers (mappedAddr src) (refreshed { p with crypto := pc } (now + n.cfg.peerTimeout) (mappedAddr src) none)
      else if ty = Generated.MESSAGE_TYPE_NODE_INFO then
        match Codec.decodeNodeInfo body with
        | some i => insertA n.peers (mappedAddr src) (refreshed { p with crypto := pc } (now + n.cfg.peerTimeout) (mappedAddr src) (some i))
        | none => insertA n.peers (mappedAddr src) { p with crypto := pc }
      else if ty = Generated.MESSAGE_TYPE_CLOSE then eraseA n.peers (mappedAddr src)
      else insertA n.peers (mappedAddr src) { p with crypto := pc } := by
  obtain ⟨out, log, hm⟩ := h.opened
  rw [handleNet_established env bodyOf o n now src data tail p pc out _ log h.peer h.plain hm, finish_peers]
  rw [handleResult_message_peers env o _ now (mappedAddr src) ty body out { p with crypto := pc } (lookupA_insertA_self _ _ _)]
  simp only [addLog_node, insertA_insertA, eraseA_insertA_self]
  rfl

/-- **refresh_sets_expiry**: a keepalive, or a node information message that decodes, from an established peer sets the expiry of exactly
    that peer to `now + peer_timeout` (own configured timeout); session state is the one the session layer returned, the advertised
    timeout and node id of the record stay -/
theorem refresh_sets_expiry {env : CryptoEnv} {bodyOf : Init.BodyOf} {o : Oracle} {n : Node} {src : NAddr} {data tail : Bytes}
    {p : Peer} {pc : PeerCrypto} {ty : Nat} {body : Bytes} (h : FromPeer env bodyOf o n src data tail p pc ty body) (now : Int)
    (hty : ty = Generated.MESSAGE_TYPE_KEEPALIVE ∨
           (ty = Generated.MESSAGE_TYPE_NODE_INFO ∧ ∃ info, Codec.decodeNodeInfo body = some info)) :
    ∃ p', lookupA (handleNet env bodyOf o n now src data tail).1.node.peers (mappedAddr src) = some p' ∧
      p'.timeout = now + n.cfg.peerTimeout ∧ p'.crypto = pc ∧ p'.peerTimeout = p.peerTimeout ∧ p'.nodeId = p.nodeId := by
  rw [peers_after_message h now]
  rcases hty with rfl | ⟨rfl, info, hinfo⟩
  · rw [if_pos rfl, lookupA_insertA_self]
    exact ⟨_, rfl, rfl, rfl, rfl, rfl⟩
  · rw [if_neg (by decide), if_pos rfl]
    simp only [hinfo]
    rw [lookupA_insertA_self]
    exact ⟨_, rfl, rfl, rfl, rfl, rfl⟩

/-- a message from an established peer touches no other peer record (for every message type) -/
theorem message_keeps_other_peers {env : CryptoEnv} {bodyOf : Init.BodyOf} {o : Oracle} {n : Node} {src : NAddr} {data tail : Bytes}
    {p : Peer} {pc : PeerCrypto} {ty : Nat} {body : Bytes} (h : FromPeer env bodyOf o n src data tail p pc ty body) (now : Int)
    (b : NAddr) (hb : b ≠ mappedAddr src) :
    lookupA (handleNet env bodyOf o n now src data tail).1.node.peers b = lookupA n.peers b := by
  rw [peers_after_message h now]
  split
  · exact lookupA_insertA_ne _ _ hb
  · split
    · split
      · exact lookupA_insertA_ne _ _ hb
      · exact lookupA_insertA_ne _ _ hb
    · split
      · exact lookupA_eraseA_ne _ hb
      · exact lookupA_insertA_ne _ _ hb

/-- **data_does_not_refresh**: payload from a peer does NOT extend its expiry (only node information and keepalives count): after
    a DATA message — in fact after every message other than keepalive, decodable node information and close — the record of the sender
    is the old one with the new session state, in particular `timeout = p.timeout` -/
theorem data_does_not_refresh {env : CryptoEnv} {bodyOf : Init.BodyOf} {o : Oracle} {n : Node} {src : NAddr} {data tail : Bytes}
    {p : Peer} {pc : PeerCrypto} {ty : Nat} {body : Bytes} (h : FromPeer env bodyOf o n src data tail p pc ty body) (now : Int)
    (hty : ty = Generated.MESSAGE_TYPE_DATA ∨
           (ty ≠ Generated.MESSAGE_TYPE_KEEPALIVE ∧ ty ≠ Generated.MESSAGE_TYPE_CLOSE ∧
            (ty = Generated.MESSAGE_TYPE_NODE_INFO → Codec.decodeNodeInfo body = none))) :
    lookupA (handleNet env bodyOf o n now src data tail).1.node.peers (mappedAddr src) = some { p with crypto := pc } ∧
    ({ p with crypto := pc } : Peer).timeout = p.timeout := by
  refine ⟨?_, rfl⟩
  rw [peers_after_message h now]
  have hty' : ty ≠ Generated.MESSAGE_TYPE_KEEPALIVE ∧ ty ≠ Generated.MESSAGE_TYPE_CLOSE ∧
            (ty = Generated.MESSAGE_TYPE_NODE_INFO → Codec.decodeNodeInfo body = none) := by
    rcases hty with rfl | h'
    · exact ⟨by decide, by decide, fun h => absurd h (by decide)⟩
    · exact h'
  obtain ⟨h1, h2, h3⟩ := hty'
  rw [if_neg h1]
  split
  · rename_i hni
    simp only [h3 hni]
    exact lookupA_insertA_self _ _ _
  · exact lookupA_insertA_self _ _ _

/-! ## 4. a timed argument for one direction: sender S announces to receiver R -/

/-- time, S's next announcement, R's expiry for S -/
structure TState where
  t : Int
  next : Int
  expiry : Int
  deriving Repr, DecidableEq

/-- S's housekeeping at time `s.t`: if the announcement is due it arrives at R (which sets the expiry to `t + T`, theorem
    `refresh_sets_expiry`) and the next one is scheduled `d t` seconds ahead -/
def sHousekeep (T : Nat) (d : Int → Nat) (s : TState) : TState :=
  if Generated.announceDue s.next s.t then { s with expiry := s.t + T, next := s.t + d s.t } else s

/-- R's housekeeping test at time `s.t` (the generated guard `peerExpired`, as in `housekeep`) -/
def rRemoves (s : TState) : Bool := Generated.peerExpired s.expiry s.t

/-- one second: the clock advances, then both nodes run their housekeeping; `rFirst` says whether R's test runs before S's
    announcement arrives.  Returns the new state and whether R removed S in this second. -/
def tick (T : Nat) (d : Int → Nat) (rFirst : Bool) (s : TState) : TState × Bool :=
  let s1 := { s with t := s.t + 1 }
  if rFirst then (sHousekeep T d s1, rRemoves s1)
  else (sHousekeep T d s1, rRemoves (sHousekeep T d s1))

/-- a run: one boolean (order of the two housekeeping calls) per second; returns the final state and whether R removed S in
    any of the seconds -/
def run (T : Nat) (d : Int → Nat) : List Bool → TState → TState × Bool
  | [], s => (s, false)
  | b :: bs, s => ((run T d bs (tick T d b s).1).1, (tick T d b s).2 || (run T d bs (tick T d b s).1).2)

/-- the inductive invariant: the expiry is at least one second ahead and S's next announcement is due in the next second or
    not later than the expiry -/
def TInv (s : TState) : Prop := s.t + 1 ≤ s.expiry ∧ (s.next ≤ s.t + 1 ∨ s.next ≤ s.expiry)

/-- the guarantee of `housekeep_schedules_safe` about the delays S chooses, `Tadv` = the timeout R advertises -/
def SafeDelays (Tadv : Nat) (d : Int → Nat) : Prop := ∀ t, d t ≤ 1 ∨ d t < Tadv

/-- the invariant holds when the announcement has just arrived: right after S's housekeeping announced at time `t`
    (expiry `t + T`, next `t + d t`) -/
theorem tinv_after_announcement (T Tadv : Nat) (d : Int → Nat) (hT : 1 ≤ T) (hadv : Tadv ≤ T) (hd : SafeDelays Tadv d)
    (s : TState) (hdue : s.next ≤ s.t) : TInv (sHousekeep T d s) := by
  have := hd s.t
  unfold sHousekeep TInv
  rw [if_pos (show Generated.announceDue s.next s.t = true by
    simp only [Generated.announceDue, decide_eq_true_eq]; exact hdue)]
  simp only []
  omega

/-- S's housekeeping at a time that R's expiry has not passed, with the next announcement due or not later than the expiry, re-establishes
    the invariant: a due announcement does (`tinv_after_announcement`), and otherwise the state stays and `t < next ≤ expiry` -/
theorem sHousekeep_tinv (T Tadv : Nat) (d : Int → Nat) (hT : 1 ≤ T) (hadv : Tadv ≤ T) (hd : SafeDelays Tadv d) (s : TState)
    (h1 : s.t ≤ s.expiry) (h2 : s.next ≤ s.t ∨ s.next ≤ s.expiry) : TInv (sHousekeep T d s) := by
  by_cases hdue : s.next ≤ s.t
  · exact tinv_after_announcement T Tadv d hT hadv hd s hdue
  · unfold sHousekeep TInv
    rw [if_neg (by simp only [Generated.announceDue, decide_eq_true_eq]; exact hdue)]
    omega

theorem rRemoves_false (s : TState) (h : s.t ≤ s.expiry) : rRemoves s = false := by
  simp only [rRemoves, Generated.peerExpired, decide_eq_false_iff_not]
  omega

/-- one second keeps the invariant and removes nobody, whichever of the two housekeeping calls comes first: R tests at a time its
    expiry — the old one, or the one the announcement has just written — has not passed -/
theorem tick_inv (T Tadv : Nat) (d : Int → Nat) (hT : 1 ≤ T) (hadv : Tadv ≤ T) (hd : SafeDelays Tadv d) (b : Bool) (s : TState)
    (h : TInv s) : TInv (tick T d b s).1 ∧ (tick T d b s).2 = false := by
  have hs : TInv (sHousekeep T d { s with t := s.t + 1 }) := sHousekeep_tinv T Tadv d hT hadv hd _ h.1 h.2
  refine ⟨by cases b <;> exact hs, ?_⟩
  cases b
  · exact rRemoves_false _ (Int.le_trans (Int.le_add_one (Int.le_refl _)) hs.1)
  · exact rRemoves_false _ h.1

/-- **healthy_never_expires**: if the receiver's own timeout `T` is at least one second, advertises `Tadv ≤ T`, and the sender
    chooses its delays as `housekeep_schedules_safe` guarantees, then from every state that satisfies the invariant the receiver
    never finds the sender expired — for every number of seconds and for every order of the two housekeeping calls within each
    second; and the invariant holds again at the end. -/
theorem healthy_never_expires (T Tadv : Nat) (d : Int → Nat) (hT : 1 ≤ T) (hadv : Tadv ≤ T) (hd : SafeDelays Tadv d)
    (order : List Bool) (s : TState) (h : TInv s) : (run T d order s).2 = false ∧ TInv (run T d order s).1 := by
  induction order generalizing s with
  | nil => exact ⟨rfl, h⟩
  | cons b bs ih =>
    obtain ⟨hi, hr⟩ := tick_inv T Tadv d hT hadv hd b s h
    obtain ⟨ih1, ih2⟩ := ih _ hi
    exact ⟨by simp only [run, hr, ih1, Bool.or_self], ih2⟩

/-- non-vacuity: `T = 300`, advertised `300`, delay `90` (the default configuration): the state right after an announcement at
    time 0 satisfies the invariant -/
example : SafeDelays 300 (fun _ => 90) ∧ TInv { t := 0, next := 90, expiry := 300 } :=
  ⟨fun _ => Or.inr (by show (90 : Nat) < 300; omega), by unfold TInv; decide⟩

/-- `Tadv ≤ T` for the real node: it publishes `peer_timeout as u16`, i.e. the configured value modulo 65536 (in the model
    `NodeCfg.peerTimeoutPublish` is an independent field, so `Tadv ≤ T` stays a hypothesis of `healthy_never_expires`) -/
theorem publish_le_own (peerTimeout : Nat) : peerTimeout % 65536 ≤ peerTimeout := Nat.mod_le _ _

/-- `1 ≤ T` is necessary: with `T = 0` (and the only delays `SafeDelays 0` allows, `d ≤ 1`) a state that satisfies the invariant
    is followed by a second in which R, testing before the announcement arrives, removes S -/
theorem timeout_zero_expires :
    SafeDelays 0 (fun _ => 1) ∧ TInv { t := 0, next := 1, expiry := 1 } ∧
    (run 0 (fun _ => 1) [true, true] { t := 0, next := 1, expiry := 1 }).2 = true := by
  refine ⟨fun _ => Or.inl (Nat.le_refl _), by unfold TInv; decide, by decide⟩

/-- `Tadv ≤ T` is necessary in `healthy_never_expires`: a receiver that advertises more (here 300) than it applies (here 10) removes a sender that
    keeps to `SafeDelays` -/
theorem advertised_above_own_expires :
    SafeDelays 300 (fun _ => 90) ∧ TInv { t := 0, next := 1, expiry := 10 } ∧
    (run 10 (fun _ => 90) (List.replicate 12 false) { t := 0, next := 1, expiry := 10 }).2 = true := by
  refine ⟨fun _ => Or.inr (by show (90 : Nat) < 300; omega), by unfold TInv; decide, by decide⟩

/-- the second disjunct of the invariant is needed: a state in which S's next announcement is later than R's expiry (here: S scheduled
    90 s ahead, R applies `T = 30`) is followed by a removal of the healthy S.  Without the line `next_peers = min(next_peers, now)` of
    `add_new_peer` such a state arises after every handshake with a peer whose timeout is shorter than S's pending interval; `join`
    below describes the handshake with that line. -/
theorem second_disjunct_needed :
    SafeDelays 30 (fun _ => 1) ∧ ¬ TInv { t := 0, next := 90, expiry := 30 } ∧
    (run 30 (fun _ => 1) (List.replicate 31 false) { t := 0, next := 90, expiry := 30 }).2 = true := by
  refine ⟨fun _ => Or.inl (Nat.le_refl _), by unfold TInv; decide, by decide⟩

/-- the handshake in the timed system, completed at both ends in the second `s.t`: R stores S with expiry `t + T`
    (`handshake_sets_expiry`) and S pulls its pending announcement forward to `t` (`add_new_peer`: `next_peers = min(next_peers, now)`,
    `new_peer_announced_next_tick`) — whatever S had scheduled before, and whatever R's expiry was -/
def join (T : Nat) (s : TState) : TState := { s with next := min s.next s.t, expiry := s.t + T }

/-- the handshake establishes the invariant, with NO hypothesis on what S had scheduled before it -/
theorem tinv_after_join (T : Nat) (hT : 1 ≤ T) (s : TState) : TInv (join T s) := by
  unfold TInv join
  simp only []
  omega

/-- **joined_peer_never_expires**: a peer that joins at any moment — in particular after the sender's last scheduling, with an
    arbitrary pending `next` — is never found expired by the receiver afterwards.  Remaining timing assumptions: both ends complete the
    handshake in the same second (`join`), housekeeping runs every second at both ends (in either order) and an announcement that is
    sent arrives within the second (`tick`), the receiver's own timeout is at least one second (`hT`) and it advertises at most its own
    timeout (`hadv`), and the delays S chooses after the handshake are the ones of `housekeep_schedules_safe` for a peer list that
    contains R (`hd`; by `new_peer_announced_next_tick` the first of them is chosen at S's next tick, with R on the list). -/
theorem joined_peer_never_expires (T Tadv : Nat) (d : Int → Nat) (hT : 1 ≤ T) (hadv : Tadv ≤ T) (hd : SafeDelays Tadv d)
    (order : List Bool) (s : TState) : (run T d order (join T s)).2 = false ∧ TInv (run T d order (join T s)).1 :=
  healthy_never_expires T Tadv d hT hadv hd order (join T s) (tinv_after_join T hT s)

/-- the first announcement after the handshake goes out in S's next housekeeping, one second later at the latest, and R's expiry is
    then renewed — for every pending `next` -/
theorem join_announces_next_tick (T : Nat) (d : Int → Nat) (b : Bool) (s : TState) :
    (tick T d b (join T s)).1.expiry = s.t + 1 + T ∧ (tick T d b (join T s)).1.next = s.t + 1 + d (s.t + 1) := by
  have hdue : Generated.announceDue (min s.next s.t) (s.t + 1) = true := by
    simp only [Generated.announceDue, decide_eq_true_eq]; omega
  unfold tick sHousekeep join
  cases b <;> simp only [hdue, if_true, Bool.false_eq_true, if_false, and_self]

/-- non-vacuity, on the state of `second_disjunct_needed`: S had scheduled 90 s ahead and R applies `T = 30`; after the handshake
    (`join`) the same 31 seconds pass without a removal -/
example : SafeDelays 30 (fun _ => 1) ∧ join 30 { t := 0, next := 90, expiry := 0 } = { t := 0, next := 0, expiry := 30 } ∧
    (run 30 (fun _ => 1) (List.replicate 31 false) (join 30 { t := 0, next := 90, expiry := 0 })).2 = false :=
  ⟨fun _ => Or.inl (Nat.le_refl _), by decide, by decide⟩

/-! ### the converse: a silent sender -/

/-- one second in which nothing arrives from S: the clock advances and R tests -/
def silentTick (s : TState) : TState × Bool := ({ s with t := s.t + 1 }, rRemoves { s with t := s.t + 1 })

/-- `k` silent seconds -/
def silentRun : Nat → TState → TState × Bool
  | 0, s => (s, false)
  | k + 1, s => ((silentRun k (silentTick s).1).1, (silentTick s).2 || (silentRun k (silentTick s).1).2)

theorem silentRun_state (k : Nat) (s : TState) : (silentRun k s).1 = { s with t := s.t + k } := by
  induction k generalizing s with
  | zero => simp [silentRun]
  | succ k ih =>
    simp only [silentRun, ih, silentTick]
    congr 1
    omega

/-- R removes S within `k` silent seconds iff the clock passes the expiry within them -/
theorem silentRun_removed_iff (k : Nat) (s : TState) (h : s.t ≤ s.expiry) :
    (silentRun k s).2 = true ↔ s.expiry < s.t + k := by
  induction k generalizing s with
  | zero =>
    simp only [silentRun]
    constructor
    · intro h'; cases h'
    · intro h'; omega
  | succ k ih =>
    simp only [silentRun, silentTick, rRemoves, Generated.peerExpired, Bool.or_eq_true, decide_eq_true_eq]
    by_cases hlt : s.expiry < s.t + 1
    · constructor
      · intro _; omega
      · intro _; exact Or.inl hlt
    · have := ih { s with t := s.t + 1 } (by simp only []; omega)
      simp only [] at this
      rw [this]
      constructor
      · rintro (h' | h') <;> omega
      · intro h'; exact Or.inr (by omega)

/-- **silent_removed**: if nothing arrives from S, R keeps S exactly until the clock shows `expiry + 1`: no removal in the seconds
    up to `expiry`, removal in the second after -/
theorem silent_removed (s : TState) (h : s.t ≤ s.expiry) :
    (silentRun (s.expiry - s.t).toNat s).2 = false ∧
    (silentRun ((s.expiry - s.t).toNat + 1) s).2 = true ∧
    (silentRun ((s.expiry - s.t).toNat + 1) s).1.t = s.expiry + 1 := by
  refine ⟨?_, ?_, ?_⟩
  · cases hr : (silentRun (s.expiry - s.t).toNat s).2 with
    | false => rfl
    | true => have := (silentRun_removed_iff _ s h).1 hr; omega
  · exact (silentRun_removed_iff _ s h).2 (by omega)
  · rw [silentRun_state]; simp only []; omega

/-! ### links between the timed system and the node model -/

/-- R's housekeeping test in the node model is the test of the timed system: with pairwise distinct peer addresses, a peer whose expiry
    has passed (`rRemoves`) is gone after the tick, and a peer that is still there after the tick had not expired and keeps its expiry
    (`housekeep` never extends an expiry) -/
theorem silent_removed_node (env : CryptoEnv) (o : Oracle) (n : Node) (now : Int) (a : NAddr) (p : Peer)
    (hnd : (n.peers.map (·.1)).Nodup) (hp : lookupA n.peers a = some p) :
    (rRemoves { t := now, next := n.nextPeers, expiry := p.timeout } = true → lookupA (housekeep env o n now).node.peers a = none) ∧
    (∀ p', lookupA (housekeep env o n now).node.peers a = some p' →
      rRemoves { t := now, next := n.nextPeers, expiry := p.timeout } = false ∧ p'.timeout = p.timeout) := by
  obtain ⟨L, hL⟩ := TickLemmas.housekeep_tick env o n now
  rcases hL.fate hnd hp with ⟨_, hgone, _⟩ | ⟨_, hlive, p', hp', ht⟩
  · exact ⟨fun _ => hgone, fun p' hp' => by rw [hgone] at hp'; cases hp'⟩
  · refine ⟨fun hr => absurd (by simpa [rRemoves] using hr) hlive, fun q hq => ?_⟩
    rw [hp', Option.some.injEq] at hq
    exact ⟨by simpa [rRemoves] using hlive, hq ▸ ht⟩

/-- **expired_peer_redialled**: a peer whose expiry has passed is removed at the tick AND dialled again in the same tick (a handshake
    datagram goes to its address) — provided the peer addresses are pairwise distinct and stored in mapped form (as the node always
    stores them), the address is not one of the node's own addresses and no handshake with it is pending already -/
theorem expired_peer_redialled (env : CryptoEnv) (o : Oracle) (n : Node) (now : Int) (a : NAddr) (p : Peer)
    (hnd : (n.peers.map (·.1)).Nodup) (hmapped : ∀ b ∈ n.peers.map (·.1), mappedAddr b = b)
    (hp : lookupA n.peers a = some p) (hexp : p.timeout < now)
    (hown : n.own.contains a = false) (hpend : lookupA n.pending a = none) :
    lookupA (housekeep env o n now).node.peers a = none ∧ HsTo a (housekeep env o n now).outs := by
  refine ⟨(silent_removed_node env o n now a p hnd hp).1 (by simpa [rRemoves] using hexp), ?_⟩
  have h1 := hkDead_redials env o n now a p hnd hmapped hp hexp hown hpend
  have hg : Grows (hkDead env o n now) (housekeep env o n now) := by
    refine Ext.trans (Ext.trans (Ext.trans ?_ (cryptoHousekeep_loops env o _ now).outs) (hkAnnounce_grows o _ now))
      (housekeep_tail_grows env o n now)
    exact Ext.of_eq rfl
  exact h1.mono (fun x hx => hg.mem hx)

/-- the handshake establishes the first half of the invariant at R: `add_new_peer` stores the peer with expiry `now + peer_timeout`
    (and the timeout the peer advertised, default 300 s) -/
theorem handshake_sets_expiry (env : CryptoEnv) (o : Oracle) (c : Ctx) (now : Int) (a : NAddr) (info : NodeInfo) (pc : PeerCrypto)
    (hp : lookupA c.node.pending a = some pc) :
    ∃ p, lookupA (addNewPeer env o c now a info).node.peers a = some p ∧ p.timeout = now + c.node.cfg.peerTimeout ∧
      p.peerTimeout = info.peerTimeout.getD Generated.DEFAULT_PEER_TIMEOUT ∧ p.crypto = pc ∧ p.nodeId = info.nodeId := by
  rw [C15MoreLemmas.addNewPeer_eq hp]
  simp only []
  rw [updatePeerInfo_peers env o _ now a (some info) ?p ?hl]
  case hl => exact lookupA_insertA_self _ _ _
  rw [lookupA_insertA_self]
  exact ⟨_, rfl, rfl, rfl, rfl, rfl⟩

/-- the second half of the invariant, at S: `add_new_peer` (with a pending handshake object) makes the next announcement due at once,
    `next_peers = min(next_peers, now)` -/
theorem handshake_pulls_schedule (env : CryptoEnv) (o : Oracle) (c : Ctx) (now : Int) (a : NAddr) (info : NodeInfo) (pc : PeerCrypto)
    (hp : lookupA c.node.pending a = some pc) :
    (addNewPeer env o c now a info).node.nextPeers = min c.node.nextPeers now ∧ (addNewPeer env o c now a info).node.nextPeers ≤ now := by
  rw [addNewPeer_nextPeers env o c now a info pc hp]
  exact ⟨rfl, Int.min_le_right _ _⟩

/-- **handshake_schedule** (`add_new_peer` sets `next_peers = min(next_peers, now)`; without that line no datagram touches `next_peers`): a datagram either
    leaves the announcement schedule alone — and then adds no address to the peer list —, or (a completed handshake) lowers it to
    `min next_peers now` — and then its sender is a peer afterwards.  Nothing else happens to `next_peers` in `handle_net_message`. -/
theorem handshake_schedule (env : CryptoEnv) (bodyOf : Init.BodyOf) (o : Oracle) (n : Node) (now : Int) (src : NAddr) (data tail : Bytes) :
    ((handleNet env bodyOf o n now src data tail).1.node.nextPeers = n.nextPeers ∧
      ∀ b, b ∈ (handleNet env bodyOf o n now src data tail).1.node.peers.map (·.1) → b ∈ n.peers.map (·.1)) ∨
    ((handleNet env bodyOf o n now src data tail).1.node.nextPeers = min n.nextPeers now ∧
      mappedAddr src ∈ (handleNet env bodyOf o n now src data tail).1.node.peers.map (·.1)) := by
  cases NetStepLemmas.handleNet_netStep env bodyOf o n now src data tail with
  | same h1 h2 _ => exact Or.inl ⟨h2, fun _ hb => h1 ▸ hb⟩
  | join _ _ _ h2 h3 _ => exact Or.inr ⟨h3, (h2 _).2 (Or.inl rfl)⟩
  | leave _ _ _ _ _ _ _ _ h4 h5 _ => exact Or.inl ⟨h5, fun _ hb => key_mem_eraseA (h4 ▸ hb)⟩

/-- in particular the schedule is never pushed back by a datagram -/
theorem datagram_never_delays_schedule (env : CryptoEnv) (bodyOf : Init.BodyOf) (o : Oracle) (n : Node) (now : Int) (src : NAddr) (data tail : Bytes) :
    (handleNet env bodyOf o n now src data tail).1.node.nextPeers ≤ n.nextPeers := by
  rcases handshake_schedule env bodyOf o n now src data tail with ⟨h, _⟩ | ⟨h, _⟩
  · rw [h]; exact Int.le_refl _
  · rw [h]; exact Int.min_le_left _ _

/-- every datagram that is not a handshake datagram (first byte other than `0xff`: data, node information, keepalive, close, rotation,
    garbage) leaves the announcement schedule unchanged -/
theorem plain_datagram_keeps_schedule (env : CryptoEnv) (bodyOf : Init.BodyOf) (o : Oracle) (n : Node) (now : Int) (src : NAddr) (data tail : Bytes)
    (hplain : data.head? ≠ some Generated.INIT_MESSAGE_FIRST_BYTE) :
    (handleNet env bodyOf o n now src data tail).1.node.nextPeers = n.nextPeers := by
  cases NetStepLemmas.handleNet_netStep env bodyOf o n now src data tail with
  | same _ h2 _ => exact h2
  | join _ _ h1 _ _ _ => exact absurd h1 hplain
  | leave _ _ _ _ _ _ _ _ _ h5 _ => exact h5

/-- **new_peer_announced_next_tick**: if handling a datagram at time `now` adds the peer `a` (not a peer before, a peer after), then `a`
    is the sender, the announcement is due afterwards (`next_peers ≤ now`), and therefore the next housekeeping tick — at any time
    `t ≥ now`, as long as no other tick came first — (1) schedules the following announcement `d` seconds ahead with `d ≤ 1` or `d`
    strictly below the timeout advertised by every peer left after the tick, `a` included (the interval is computed from the peer list
    that contains `a`, `C15.interval_safe`), and (2) sends the node information to every peer left after the tick whose session can
    seal, `a` included (for pairwise distinct peer addresses). -/
theorem new_peer_announced_next_tick (env : CryptoEnv) (bodyOf : Init.BodyOf) (o : Oracle) (n : Node) (now : Int) (src : NAddr)
    (data tail : Bytes) (a : NAddr) (hbefore : a ∉ n.peers.map (·.1))
    (hafter : a ∈ (handleNet env bodyOf o n now src data tail).1.node.peers.map (·.1)) :
    a = mappedAddr src ∧ (handleNet env bodyOf o n now src data tail).1.node.nextPeers ≤ now ∧
    ∀ (o' : Oracle) (t : Int), now ≤ t →
      (∃ d : Nat, (housekeep env o' (handleNet env bodyOf o n now src data tail).1.node t).node.nextPeers = t + d ∧
        (d ≤ 1 ∨ ∀ b p, (b, p) ∈ (housekeep env o' (handleNet env bodyOf o n now src data tail).1.node t).node.peers → d < p.peerTimeout)) ∧
      (((handleNet env bodyOf o n now src data tail).1.node.peers.map (·.1)).Nodup →
        ∀ b p, (b, p) ∈ (housekeep env o' (handleNet env bodyOf o n now src data tail).1.node t).node.peers → canSeal p.crypto →
          ∃ p3, lookupA (preAnnounce env o' (handleNet env bodyOf o n now src data tail).1.node t).node.peers b = some p3 ∧
            Sent Generated.MESSAGE_TYPE_NODE_INFO
              (Codec.encodeNodeInfo (createNodeInfo (preAnnounce env o' (handleNet env bodyOf o n now src data tail).1.node t).node)) b p3 p
              (housekeep env o' (handleNet env bodyOf o n now src data tail).1.node t).outs
              (housekeep env o' (handleNet env bodyOf o n now src data tail).1.node t).log) := by
  -- an address joins only as the sender of a completed handshake, which pulls the schedule to `now`
  obtain ⟨hsrc, hdue⟩ : a = mappedAddr src ∧ (handleNet env bodyOf o n now src data tail).1.node.nextPeers ≤ now := by
    cases NetStepLemmas.handleNet_netStep env bodyOf o n now src data tail with
    | same h1 _ _ => exact absurd (h1 ▸ hafter) hbefore
    | join _ _ _ h2 h3 _ => exact ⟨((h2 a).1 hafter).resolve_right hbefore, h3 ▸ Int.min_le_right _ _⟩
    | leave _ _ _ _ _ _ _ _ h4 _ _ => exact absurd (key_mem_eraseA (h4 ▸ hafter)) hbefore
  refine ⟨hsrc, hdue, fun o' t ht => ⟨?_, fun hnd b p hmem hseal => ?_⟩⟩
  · exact housekeep_schedules_safe env o' _ t (Int.le_trans hdue ht)
  · exact announce_reaches_every_peer env o' _ t (Int.le_trans hdue ht) hnd b p hmem hseal

/-- the delay chosen at that tick, for the new peer itself, in the form the timed argument uses (`SafeDelays`) -/
theorem new_peer_delay_safe (env : CryptoEnv) (bodyOf : Init.BodyOf) (o : Oracle) (n : Node) (now : Int) (src : NAddr)
    (data tail : Bytes) (a : NAddr) (hbefore : a ∉ n.peers.map (·.1))
    (hafter : a ∈ (handleNet env bodyOf o n now src data tail).1.node.peers.map (·.1))
    (o' : Oracle) (t : Int) (ht : now ≤ t) (p : Peer)
    (hmem : (a, p) ∈ (housekeep env o' (handleNet env bodyOf o n now src data tail).1.node t).node.peers) :
    t ≤ (housekeep env o' (handleNet env bodyOf o n now src data tail).1.node t).node.nextPeers ∧
    ((housekeep env o' (handleNet env bodyOf o n now src data tail).1.node t).node.nextPeers - t ≤ 1 ∨
     (housekeep env o' (handleNet env bodyOf o n now src data tail).1.node t).node.nextPeers - t < p.peerTimeout) :=
  housekeep_delay_safe_for_peer env o' _ t
    (Int.le_trans (new_peer_announced_next_tick env bodyOf o n now src data tail a hbefore hafter).2.1 ht) a p hmem

/-- the invariant holds right after R stored S iff S's pending announcement is not later than R's new expiry (or due within a second);
    since S's `add_new_peer` makes it due at once this is always the case (`tinv_after_join`) -/
theorem tinv_after_handshake (T : Nat) (hT : 1 ≤ T) (t next : Int) :
    TInv { t := t, next := next, expiry := t + T } ↔ (next ≤ t + 1 ∨ next ≤ t + T) := by
  unfold TInv
  simp only []
  constructor
  · exact fun h => h.2
  · exact fun h => ⟨by omega, h⟩

/-! ## 5. configured peers are retried forever -/

theorem map_rcUpdate_spec (peers : List (NAddr × Peer)) (now : Int) (l : List Reconnect) :
    (l.map (rcUpdate peers now)).map (·.resolved) = l.map (·.resolved) ∧
    ∀ (i : Nat) (e' : Reconnect), (l.map (rcUpdate peers now))[i]? = some e' →
      ∃ e : Reconnect, l[i]? = some e ∧ e'.resolved = e.resolved ∧
        e'.timeout ≤ max e.timeout Generated.MAX_RECONNECT_INTERVAL ∧
        e'.next ≤ max e.next (now + Generated.MAX_RECONNECT_INTERVAL) := by
  refine ⟨?_, ?_⟩
  · rw [List.map_map]
    apply List.map_congr_left
    intro e _
    exact (rcUpdate_spec peers now e).1
  · intro i e' h
    rw [List.getElem?_map] at h
    cases hi : l[i]? with
    | none => rw [hi] at h; cases h
    | some e =>
      rw [hi] at h
      cases h
      exact ⟨e, rfl, rcUpdate_spec peers now e⟩

/-- **reconnect_forever** (`reconnect_to_peers`): no entry of the reconnect list is ever dropped or added and the addresses of each entry
    stay; position by position the back-off stays at most `max old 3600` and the next attempt is due no later than `max old (now + 3600)` -/
theorem reconnect_forever (env : CryptoEnv) (o : Oracle) (c : Ctx) (now : Int) :
    (reconnectToPeers env o c now).node.reconnect.map (·.resolved) = c.node.reconnect.map (·.resolved) ∧
    ∀ (i : Nat) (e' : Reconnect), (reconnectToPeers env o c now).node.reconnect[i]? = some e' →
      ∃ e : Reconnect, c.node.reconnect[i]? = some e ∧ e'.resolved = e.resolved ∧
        e'.timeout ≤ max e.timeout Generated.MAX_RECONNECT_INTERVAL ∧
        e'.next ≤ max e.next (now + Generated.MAX_RECONNECT_INTERVAL) := by
  rw [reconnectToPeers_reconnect]
  exact map_rcUpdate_spec _ now _

/-- the reconnect list after a whole housekeeping tick: entry by entry the bookkeeping of `rcUpdate`, with the peers left after the tick -/
theorem housekeep_reconnect (env : CryptoEnv) (o : Oracle) (n : Node) (now : Int) :
    (housekeep env o n now).node.reconnect = n.reconnect.map (rcUpdate (housekeep env o n now).node.peers now) := by
  have hp : (housekeep env o n now).node.peers = (preReconnect env o n now).node.peers :=
    frame_proj (housekeep_tail env o n now) (·.node.peers)
  rw [hp, housekeep_eq'', hkOwn_reconnect, reconnectToPeers_reconnect, (preReconnect_rest env o n now).1]

/-- **reconnect_forever** for the whole tick -/
theorem housekeep_reconnect_forever (env : CryptoEnv) (o : Oracle) (n : Node) (now : Int) :
    (housekeep env o n now).node.reconnect.map (·.resolved) = n.reconnect.map (·.resolved) ∧
    ∀ (i : Nat) (e' : Reconnect), (housekeep env o n now).node.reconnect[i]? = some e' →
      ∃ e : Reconnect, n.reconnect[i]? = some e ∧ e'.resolved = e.resolved ∧
        e'.timeout ≤ max e.timeout Generated.MAX_RECONNECT_INTERVAL ∧
        e'.next ≤ max e.next (now + Generated.MAX_RECONNECT_INTERVAL) := by
  rw [housekeep_reconnect]
  exact map_rcUpdate_spec _ now _

/-- **due entries are dialled** (`reconnect_to_peers`): an entry that is due, none of whose addresses (in mapped form) is an own address, a
    peer or pending, and which shares no address with a due entry before it in the list, is dialled — the step emits a handshake
    datagram (first byte `0xff`) to each of its resolved addresses -/
theorem reconnect_dials (env : CryptoEnv) (o : Oracle) (c : Ctx) (now : Int) (pre post : List Reconnect) (e : Reconnect)
    (hsplit : c.node.reconnect = pre ++ e :: post) (hdue : e.next ≤ now)
    (hfresh : ∀ a ∈ e.resolved, c.node.own.contains (mappedAddr a) = false ∧ lookupA c.node.peers (mappedAddr a) = none ∧
      lookupA c.node.pending (mappedAddr a) = none)
    (hpre : ∀ e' ∈ pre, e'.next ≤ now → ∀ a ∈ e.resolved, ∀ a' ∈ e'.resolved, mappedAddr a ≠ mappedAddr a') :
    ∃ ex, (reconnectToPeers env o c now).outs = c.outs ++ ex ∧ ∀ a ∈ e.resolved, HsTo (mappedAddr a) ex := by
  -- the fold split at `e`: the entries before it leave own addresses and peers alone (`hfr`) and, dialling only addresses of due
  -- entries among them, make no address of `e` pending (`hpend`, by `hpre`), so the addresses of `e` are still fresh when its turn
  -- comes (`hf`) and `connect` dials them
  show ∃ ex, (rcDial env o c now).outs = c.outs ++ ex ∧ _
  unfold rcDial
  rw [hsplit, List.foldl_append, List.foldl_cons]
  generalize hcp : pre.foldl (dialStep env o now) c = cp
  have hfr : undialled cp = undialled c := by rw [← hcp]; exact foldl_keep undialled _ (dialStep_frame env o now) _ _
  have hown : cp.node.own = c.node.own := frame_proj hfr (·.node.own)
  have hpeers : cp.node.peers = c.node.peers := frame_proj hfr (·.node.peers)
  obtain ⟨ex0, ho0, _⟩ : Ext IsHs c.outs cp.outs := by rw [← hcp]; exact Ext.foldl _ (dialStep_ext env o now) _ _
  have hpend : PendSub (fun b => ∀ a ∈ e.resolved, b ≠ mappedAddr a) cp := by
    rw [← hcp]
    refine foldl_inv_mem (PendSub _) _ _ _ ?_ (fun b hb a ha heq => (lookupA_none_iff _ _).1 (hfresh a ha).2.2 (heq ▸ hb))
    intro c' e' he' hc'
    unfold dialStep
    split
    · exact hc'
    · rename_i hnd
      simp only [Generated.reconnectNotDue, decide_eq_true_eq] at hnd
      exact connect_pendSub env o _ c' _ hc' fun a' ha' a ha heq => hpre e' he' (by omega) a ha a' ha' heq.symm
  have hstep : dialStep env o now cp e = connect env o cp e.resolved := by
    unfold dialStep; rw [if_neg (by simp only [Generated.reconnectNotDue, decide_eq_true_eq]; omega)]
  have hf : ∀ a ∈ e.resolved, cp.node.own.contains (mappedAddr a) = false ∧ lookupA cp.node.peers (mappedAddr a) = none ∧
      lookupA cp.node.pending (mappedAddr a) = none := by
    intro a ha
    obtain ⟨h1, h2, _⟩ := hfresh a ha
    refine ⟨by rw [hown]; exact h1, by rw [hpeers]; exact h2, ?_⟩
    rw [lookupA_none_iff]
    exact fun hmem => hpend _ hmem a ha rfl
  obtain ⟨ex1, ho1, h1⟩ := connect_fresh env o cp e.resolved hf
  obtain ⟨ex2, ho2, _⟩ : Ext IsHs (dialStep env o now cp e).outs (post.foldl (dialStep env o now) (dialStep env o now cp e)).outs :=
    Ext.foldl _ (dialStep_ext env o now) _ _
  refine ⟨ex0 ++ ex1 ++ ex2, ?_, ?_⟩
  · rw [ho2, hstep, ho1, ho0]; simp
  · intro a ha
    exact (h1 a ha).mono (fun x hx => List.mem_append_left _ (List.mem_append_right _ hx))

/-- **due entries are dialled** (whole tick): an entry of the reconnect list that is due at the tick, none of whose addresses is an own
    address, the address of a peer or of a pending handshake before the tick (`hfresh`; the last conjunct only matters for peer
    addresses stored in unmapped IPv4 form, which the node never does), and which shares no address with a due entry before it,
    is sent a handshake datagram at each of its resolved addresses in this tick -/
theorem housekeep_dials (env : CryptoEnv) (o : Oracle) (n : Node) (now : Int) (pre post : List Reconnect) (e : Reconnect)
    (hsplit : n.reconnect = pre ++ e :: post) (hdue : e.next ≤ now)
    (hfresh : ∀ a ∈ e.resolved, n.own.contains (mappedAddr a) = false ∧ mappedAddr a ∉ n.peers.map (·.1) ∧
      mappedAddr a ∉ n.pending.map (·.1) ∧ mappedAddr a ∉ (n.peers.map (·.1)).map mappedAddr)
    (hpre : ∀ e' ∈ pre, e'.next ≤ now → ∀ a ∈ e.resolved, ∀ a' ∈ e'.resolved, mappedAddr a ≠ mappedAddr a') :
    ∀ a ∈ e.resolved, HsTo (mappedAddr a) (housekeep env o n now).outs := by
  obtain ⟨hrc, hown, hkeys, hP⟩ := preReconnect_rest env o n now
  obtain ⟨ex, ho, h⟩ := reconnect_dials env o (preReconnect env o n now) now pre post e (hrc.trans hsplit) hdue
    (by
      intro a ha
      obtain ⟨h1, h2, h3, h4⟩ := hfresh a ha
      refine ⟨by rw [hown]; exact h1, ?_, ?_⟩
      · rw [lookupA_none_iff]; exact fun hm => h2 (hkeys _ hm)
      · rw [lookupA_none_iff]
        intro hm
        rcases hP _ hm with hk | hk
        · exact h3 hk
        · exact h4 hk)
    hpre
  intro a ha
  rw [housekeep_eq'', hkOwn_outs, ho]
  exact (h a ha).mono (fun x hx => List.mem_append_right _ hx)

/-! ## non-vacuity -/
section Examples
open VpnCloud.Proofs.InitLemmas

def s1 : NAddr := .v6 (List.replicate 16 0) 1
def s2 : NAddr := .v6 (List.replicate 16 0) 2
def cfg0 : NodeCfg :=
  { tap := false, learning := false, broadcast := false, peerTimeout := 300, peerTimeoutPublish := 300, updateFreq := 10,
    claims := [], key := [7, 7, 7, 7], trusted := [[9, 9, 9, 9]], algos := Toy.algos }
def o0 : Oracle := { emitted := fun _ _ => [], rotProp := fun _ => 0, rotPend := fun _ => 0, starts := fun _ => [] }
def p1 : Peer :=
  { addrs := [], timeout := 1000, peerTimeout := 300, nodeId := List.replicate 16 1, crypto := { init := none, unencrypted := true } }
/-- a node with one established peer `s1` (session in unencrypted mode), an announcement that has been due since second 50 and a
    configured peer `s2` whose next attempt has been due since second 90 -/
private def nA : Node :=
  { nodeId := List.replicate 16 9, addr := .v6 (List.replicate 16 0) 3, cfg := cfg0, table := { cacheTimeout := 300, claimTimeout := 300 },
    peers := [(s1, p1)], nextPeers := 50, reconnect := [{ resolved := [s2], next := 90 }] }

/-- theorem 1: the announcement is due at second 100 and is rescheduled 10 s ahead (`min 10 (max (300 / 2 - 60) 1)`) -/
example : nA.nextPeers ≤ 100 ∧ (housekeep Toy.env o0 nA 100).node.nextPeers = 110 := by decide

/-- theorem 2: all hypotheses of `announce_reaches_every_peer` hold of `nA` at second 100 for the peer `s1` -/
example : nA.nextPeers ≤ 100 ∧ (nA.peers.map (·.1)).Nodup ∧
    ∃ p, (s1, p) ∈ (housekeep Toy.env o0 nA 100).node.peers ∧ canSeal p.crypto := by
  refine ⟨by decide, by decide, ?_⟩
  have h : (lookupA (housekeep Toy.env o0 nA 100).node.peers s1).isSome = true := by decide
  cases hl : lookupA (housekeep Toy.env o0 nA 100).node.peers s1 with
  | none => rw [hl] at h; cases h
  | some p =>
    refine ⟨p, lookupA_some_mem hl, Or.inl ?_⟩
    have h2 : (lookupA (housekeep Toy.env o0 nA 100).node.peers s1).map (·.crypto.unencrypted) = some true := by decide
    rw [hl] at h2
    simpa using h2

/-- … and the tick emits the announcement to `s1` (type byte 1) and a handshake datagram to `s2` -/
example : (housekeep Toy.env o0 nA 100).outs.map (fun x => match x with | .dgram d b => (some d, b.head?) | .iface _ => (none, none)) =
    [(some s1, some Generated.MESSAGE_TYPE_NODE_INFO), (some s2, some Generated.INIT_MESSAGE_FIRST_BYTE)] := by decide

/-- theorem 3: a keepalive (`[2]`) from `s1` meets `FromPeer`, and the expiry becomes `100 + 300` -/
example : FromPeer Toy.env (fun _ => .garbage 0) o0 nA s1 [2] [] p1 p1.crypto Generated.MESSAGE_TYPE_KEEPALIVE [] :=
  ⟨rfl, by decide, [], [], rfl⟩
example : (lookupA (handleNet Toy.env (fun _ => .garbage 0) o0 nA 100 s1 [2] []).1.node.peers s1).map (·.timeout) = some 400 := by decide
/-- … while a data message (type byte 0, an IPv4 packet) leaves it at 1000 -/
example : (lookupA (handleNet Toy.env (fun _ => .garbage 0) o0 nA 100 s1
    (0 :: 69 :: (List.replicate 11 0 ++ [10, 0, 0, 1, 10, 0, 0, 2])) []).1.node.peers s1).map (·.timeout) = some 1000 := by decide

/-- theorem 5: the hypotheses of `housekeep_dials` hold of `nA` at second 100 for its (only) reconnect entry -/
example : nA.reconnect = [] ++ { resolved := [s2], next := 90 } :: [] ∧ (90 : Int) ≤ 100 ∧
    (∀ a ∈ [s2], nA.own.contains (mappedAddr a) = false ∧ mappedAddr a ∉ nA.peers.map (·.1) ∧
      mappedAddr a ∉ nA.pending.map (·.1) ∧ mappedAddr a ∉ (nA.peers.map (·.1)).map mappedAddr) := by
  refine ⟨rfl, by decide, by decide⟩

/-- `expired_peer_redialled`: the same node with the expiry of `s1` in the past meets all hypotheses at second 100 -/
private def nB : Node := { nA with peers := [(s1, { p1 with timeout := 50 })] }
example : (nB.peers.map (·.1)).Nodup ∧ (∀ b ∈ nB.peers.map (·.1), mappedAddr b = b) ∧
    lookupA nB.peers s1 = some { p1 with timeout := 50 } ∧ ({ p1 with timeout := 50 } : Peer).timeout < 100 ∧
    nB.own.contains s1 = false ∧ lookupA nB.pending s1 = none :=
  ⟨by decide, by decide, rfl, by decide, by decide, rfl⟩

/-- `FromPeer` for the data message above -/
example : FromPeer Toy.env (fun _ => .garbage 0) o0 nA s1 (0 :: 69 :: (List.replicate 11 0 ++ [10, 0, 0, 1, 10, 0, 0, 2])) [] p1 p1.crypto
    Generated.MESSAGE_TYPE_DATA (69 :: (List.replicate 11 0 ++ [10, 0, 0, 1, 10, 0, 0, 2])) :=
  ⟨rfl, by decide, [], [], rfl⟩

/-- `announced_timeout_decodes`: the node information `nA` announces at second 100 is well-formed -/
example : VpnCloud.Spec.C16.WF (createNodeInfo (preAnnounce Toy.env o0 nA 100).node) = true := by decide

/-- `reconnect_dials`: the hypotheses hold of `nA` itself at second 100 -/
example : ({ node := nA } : Ctx).node.reconnect = [] ++ { resolved := [s2], next := 90 } :: [] ∧ (90 : Int) ≤ 100 ∧
    (∀ a ∈ [s2], nA.own.contains (mappedAddr a) = false ∧ lookupA nA.peers (mappedAddr a) = none ∧
      lookupA nA.pending (mappedAddr a) = none) := by
  refine ⟨rfl, by decide, ?_⟩
  intro a ha
  rw [List.mem_singleton.1 ha]
  exact ⟨by decide, rfl, rfl⟩

/-- `silent_removed_node`: `nA` has pairwise distinct peer addresses and `s1` is a peer; `silent_removed`: a state before its expiry -/
example : (nA.peers.map (·.1)).Nodup ∧ lookupA nA.peers s1 = some p1 := ⟨by decide, rfl⟩
example : ({ t := 100, next := 110, expiry := 400 } : TState).t ≤ ({ t := 100, next := 110, expiry := 400 } : TState).expiry := by decide

/-- `handshake_sets_expiry`: a context with a pending handshake for `s2` -/
example : lookupA ({ node := { nA with pending := [(s2, { init := none, unencrypted := true })] } } : Ctx).node.pending s2 =
    some { init := none, unencrypted := true } := rfl

/-- the hypothesis `hpre` of `reconnect_dials` / `housekeep_dials` is needed: a second due entry that shares the address `s2` with an
    earlier due entry is skipped as a whole (`connect` returns when any address is already pending), so its other address
    (port 4) is not dialled in this tick -/
example : (housekeep Toy.env o0 { nA with reconnect := [{ resolved := [s2], next := 90 },
      { resolved := [s2, .v6 (List.replicate 16 0) 4], next := 90 }] } 100).outs.map
      (fun x => match x with | .dgram d _ => some d | .iface _ => none) = [some s1, some s2] := by decide

/-- the situation in which a healthy node expires without that line of `add_new_peer`, at node level: a node without peers and with the default keepalive
    (`update_freq = 90` for `peer_timeout = 300`) schedules its next announcement 90 s ahead (`min 90 (max (300 / 2 - 60) 1)`) … -/
example : (housekeep Toy.env o0 { nA with peers := [], reconnect := [], nextPeers := 0, cfg := { cfg0 with updateFreq := 90 } } 0).node.nextPeers = 90 := by
  decide

/-! `new_peer_announced_next_tick`: a node with one established peer `s1`, a pending handshake with `s2` and the next announcement
    scheduled for second 5000 receives, at second 100, the genuine pong of `s2`, which advertises a timeout of 30 s -/
def cfgH : NodeCfg := { cfg0 with trusted := [[9, 9, 9, 9], [7, 7, 7, 7]], algos := Toy.algosPlain }
def istH : InitSt := { Toy.st with nodeId := List.replicate 16 9, trusted := cfgH.trusted, algos := Toy.algosPlain }
def nH : Node :=
  { nodeId := List.replicate 16 9, addr := .v6 (List.replicate 16 0) 3, cfg := cfgH, table := { cacheTimeout := 300, claimTimeout := 300 },
    peers := [(s1, p1)], pending := [(s2, { init := some istH })], nextPeers := 5000 }
def infoH : NodeInfo := { nodeId := List.replicate 16 2, peers := [], claims := [], peerTimeout := some 30, addrs := [] }
def pongH : Bytes :=
  Generated.INIT_MESSAGE_FIRST_BYTE ::
    InitMsg.writeTo (.pong (List.replicate 20 2) [6] Toy.algosPlain (Codec.encodeNodeInfo infoH)) [0, 0, 0, 1] [9, 9, 9, 9] [9, 9, 0, 0]
private def nH' : Node := (handleNet Toy.env (Toy.body 0) o0 nH 100 s2 pongH []).1.node

/-- the hypotheses hold (`s2` is not a peer before and is one after), the schedule drops from 5000 to 100, the new record has the
    expiry `100 + 300` and the advertised timeout 30 … -/
example : s2 ∉ nH.peers.map (·.1) ∧ s2 ∈ nH'.peers.map (·.1) ∧ nH.nextPeers = 5000 ∧ nH'.nextPeers = 100 ∧
    (nH'.peers.map (·.1)).Nodup ∧ (lookupA nH'.peers s2).map (fun p => (p.timeout, p.peerTimeout)) = some (400, 30) := by
  decide +kernel

/-- … and the tick of second 100 announces to both peers and schedules the next announcement one second ahead
    (`min 10 (max (30 / 2 - 60) 1) = 1`, computed with the timeout of the new peer) -/
example : (housekeep Toy.env o0 nH' 100).node.nextPeers = 101 ∧
    (housekeep Toy.env o0 nH' 100).outs.map (fun x => match x with | .dgram d b => (some d, b.head?) | .iface _ => (none, none)) =
      [(some s1, some Generated.MESSAGE_TYPE_NODE_INFO), (some s2, some Generated.MESSAGE_TYPE_NODE_INFO)] := by
  decide +kernel

/-- `handshake_pulls_schedule`: the context of `handshake_sets_expiry` above; `plain_datagram_keeps_schedule`: the keepalive `[2]` -/
example : ([2] : Bytes).head? ≠ some Generated.INIT_MESSAGE_FIRST_BYTE := by decide

end Examples
end VpnCloud.Proofs.C15More
