import VpnCloud.Proofs.Lemmas.Node.HousekeepStages
/-
  C15: timing parameters.  The announcement interval and the default keepalive (both regenerated from
  the Rust source) never panic and stay below the peer timeout; the reconnect back-off is bounded by
  one hour and never drops an entry.
-/
namespace VpnCloud.Proofs.C15
open VpnCloud.Node
open VpnCloud.Proofs.NodeLemmas

/- The two expressions are regenerated from the Rust source on every run.  Each evaluates (`rfl`) to `some` of a term in `min`, `max`,
   truncated subtraction and division by a literal, about which `omega` decides; an expression with a panic check that can fail does
   not evaluate to `some _`, and the proof fails. -/

/-- **interval_safe**: for every own setting and every minimum of the advertised peer timeouts the announcement delay is computed without panic and is at most
    one second or strictly shorter than that minimum -/
theorem interval_safe (updateFreq minPeerTimeout : Nat) :
    ∃ d, Generated.housekeepInterval updateFreq minPeerTimeout = some d ∧ (d ≤ 1 ∨ d < minPeerTimeout) :=
  ⟨_, rfl, by omega⟩

/-- the default keepalive never panics and is at most one second or shorter than the node's own peer timeout -/
theorem keepalive_default_safe (peerTimeout : Nat) :
    ∃ d, Generated.defaultKeepalive peerTimeout = some d ∧ (d ≤ 1 ∨ d < peerTimeout) :=
  ⟨_, rfl, by omega⟩

/-- the back-off step on one entry `e0` of the reconnect list -/
theorem backoff_entry (peers : List (NAddr × Peer)) (now : Int) (e0 : Reconnect) (h0 : e0.timeout ≤ Generated.MAX_RECONNECT_INTERVAL) :
    (C15MoreLemmas.rcUpdate peers now e0).timeout ≤ Generated.MAX_RECONNECT_INTERVAL ∧
    ((C15MoreLemmas.rcUpdate peers now e0).next ≤ now + Generated.MAX_RECONNECT_INTERVAL ∨ (C15MoreLemmas.rcUpdate peers now e0).next = e0.next) := by
  unfold C15MoreLemmas.rcUpdate
  extract_lets e1
  have h1 : e1.timeout ≤ Generated.MAX_RECONNECT_INTERVAL ∧ (e1.next ≤ now + Generated.MAX_RECONNECT_INTERVAL ∨ e1.next = e0.next) := by
    unfold e1
    split
    · exact ⟨(by decide : 1 ≤ Generated.MAX_RECONNECT_INTERVAL), Or.inl (Int.add_le_add_left (by decide) now)⟩
    · exact ⟨h0, Or.inr rfl⟩
  clear_value e1
  by_cases hd : Generated.reconnectNotDue e1.next now = true
  · rw [if_pos hd]; exact h1
  · rw [if_neg hd]
    dsimp only
    generalize (if Generated.backoffDoubles (e1.tries + 1) = true then ((0 : Nat), e1.timeout * 2) else (e1.tries + 1, e1.timeout)) = p
    obtain ⟨tr, t⟩ := p
    have clamp : (if Generated.backoffCapped t = true then Generated.MAX_RECONNECT_INTERVAL else t) ≤ Generated.MAX_RECONNECT_INTERVAL := by
      unfold Generated.backoffCapped
      split
      · exact Nat.le_refl _
      · rename_i h; exact Nat.le_of_not_gt (by simpa using h)
    exact ⟨clamp, Or.inl (Int.add_le_add_left (Int.ofNat_le.2 clamp) now)⟩

/-- **backoff_bounded**: the reconnect interval never exceeds one hour and entries are never dropped (configured peers are retried forever) -/
theorem backoff_bounded (env : CryptoEnv) (o : Oracle) (c : Ctx) (now : Int)
    (h : ∀ e ∈ c.node.reconnect, e.timeout ≤ Generated.MAX_RECONNECT_INTERVAL) :
    (reconnectToPeers env o c now).node.reconnect.length = c.node.reconnect.length ∧
    ∀ e ∈ (reconnectToPeers env o c now).node.reconnect, e.timeout ≤ Generated.MAX_RECONNECT_INTERVAL ∧ (e.next ≤ now + Generated.MAX_RECONNECT_INTERVAL ∨ ∃ e0 ∈ c.node.reconnect, e0.next = e.next) := by
  rw [frame_proj (C15MoreLemmas.reconnectToPeers_frame env o c now) (·.node.reconnect)]
  simp only [List.length_map, List.mem_map, true_and]
  rintro e ⟨e0, he0, rfl⟩
  exact (backoff_entry _ now e0 (h e0 he0)).imp id (Or.imp_right fun h => ⟨e0, he0, h.symm⟩)
end VpnCloud.Proofs.C15

namespace VpnCloud.Proofs.C15More
open VpnCloud.Node

/-- the announcement interval is computed without panic for every configuration and every set of peers -/
theorem announceInterval_ne_none (updateFreq minPeerTimeout : Nat) : announceInterval updateFreq minPeerTimeout ≠ none := by
  obtain ⟨d, hd, _⟩ := C15.interval_safe updateFreq minPeerTimeout
  unfold announceInterval
  rw [hd]
  exact fun h => by cases h

end VpnCloud.Proofs.C15More
