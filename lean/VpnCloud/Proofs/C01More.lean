import VpnCloud.Proofs.Lemmas.Node.C01MoreLemmas
import VpnCloud.Proofs.C08Node
import VpnCloud.Proofs.C12Node
/-
  C01 / C14 at node level: who can become a peer (1), a node never becomes its own peer (2), no reply to rejected handshake
  datagrams, routes and learned addresses only from peers (3), own addresses are adopted and not dialled (4).

  Steps and histories are those of `C08Node` (`StepAny` / `ReachAny`: any cryptography, oracle, input, time).
-/
namespace VpnCloud.Proofs.C01More

open VpnCloud.Node
open VpnCloud.Proofs.AssocLemmas VpnCloud.Proofs.NodeLemmas VpnCloud.Proofs.NodeInvLemmas VpnCloud.Proofs.InitLemmas
open VpnCloud.Proofs.C01MoreLemmas
open VpnCloud.Proofs.C08 (Regular)
open VpnCloud.Proofs.C08Node (StepAny ReachAny)

/-! ## 1. a peer is added only after a completed handshake under a trusted key -/

/-- the handshake object that processes a datagram from `s` when `s` is not an established peer is the pending attempt stored for `s`,
    or — if there is none — a fresh `newAttempt` (`Crypto::peer_instance`) -/
theorem hsObject_spec (o : Oracle) (n : Node) (s : NAddr) :
    lookupA n.pending s = some (hsObject o n s) ∨
    (lookupA n.pending s = none ∧ hsObject o n s = newAttempt n ((rndFor o { node := n } s).2.2.getD [])) := by
  unfold hsObject
  cases lookupA n.pending s with
  | none => exact Or.inr ⟨rfl, rfl⟩
  | some pc => exact Or.inl rfl

theorem hsObject_sessP {P : Bytes → List Bytes → Prop} (o : Oracle) (n : Node) (s : NAddr) (hnew : P n.nodeId n.cfg.trusted) (h : NodeP P n) :
    SessP P (hsObject o n s) := by
  rcases hsObject_spec o n s with h1 | ⟨_, h2⟩
  · exact h.2 s _ (lookupA_some_mem h1)
  · rw [h2]; exact newAttempt_sessP P n _ hnew

/-- **peer_added_only_after_success**: if processing a datagram makes its sender a peer that was none before, then the datagram carried
    the handshake marker, it was processed by the handshake object for the sender (the pending attempt, or a fresh responder), and that
    object reported a completed handshake whose payload decodes as node information.  No other path of `handle_net_message` creates a peer. -/
theorem peer_added_only_after_success (env : CryptoEnv) (bodyOf : Init.BodyOf) (o : Oracle) (n : Node) (now : Int) (src : NAddr) (data tail : Bytes)
    (hin : mappedAddr src ∈ (handleNet env bodyOf o n now src data tail).1.node.peers.map (·.1))
    (hnot : mappedAddr src ∉ n.peers.map (·.1)) :
    data.head? = some Generated.INIT_MESSAGE_FIRST_BYTE ∧
    ∃ pc' out res log payload info,
      PeerCrypto.handleMessage env bodyOf payloadOk (hsObject o n (mappedAddr src)) data tail
        (rndFor o { node := n } (mappedAddr src)).1 (rndFor o { node := n } (mappedAddr src)).2.1 = .ok pc' out res log ∧
      (res = .initialized payload ∨ res = .initializedWithReply payload) ∧ Codec.decodeNodeInfo payload = some info := by
  cases NetStepLemmas.handleNet_netStep env bodyOf o n now src data tail with
  | same h1 _ _ => exact absurd (h1 ▸ hin) hnot
  | leave p _ _ _ _ hp _ _ _ _ _ => exact absurd (mem_key (lookupA_some_mem hp)) hnot
  | join info hj hinit _ _ _ =>
    obtain ⟨pc, pc', out, res, log, pl, ho, hm, hres, hd⟩ := hj
    have hobj : hsObject o n (mappedAddr src) = pc := by
      unfold hsObject
      rcases ho with h | ⟨h, rfl⟩ <;> rw [h]
    exact ⟨hinit, pc', out, res, log, pl, info, hobj ▸ hm, hres, hd⟩

/-- **new_peer_proved_trusted_key**: in a regular state (all handshake objects verify against the node's trusted keys), a datagram that
    makes its sender a new peer is `0xff :: w` where `read_from` accepts the window `w` under a key `k` the node trusts: `w` carries the
    salted hash of `k` and a signature that verifies under `k` over the bytes in front of it. -/
theorem new_peer_proved_trusted_key (env : CryptoEnv) (bodyOf : Init.BodyOf) (o : Oracle) (n : Node) (now : Int) (src : NAddr) (data tail : Bytes)
    (hreg : Regular n)
    (hin : mappedAddr src ∈ (handleNet env bodyOf o n now src data tail).1.node.peers.map (·.1))
    (hnot : mappedAddr src ∉ n.peers.map (·.1)) :
    ∃ w m k, data = Generated.INIT_MESSAGE_FIRST_BYTE :: w ∧ InitMsg.readFrom env w n.cfg.trusted = .ok (m, k) ∧ k ∈ n.cfg.trusted ∧
      env.keyHash k (w.take 4) = (w.drop 4).take 4 ∧
      ∃ signed sig rest, w = signed ++ [sig.length] ++ sig ++ rest ∧ env.sigVerify k signed sig = true := by
  obtain ⟨_, pc', out, res, log, payload, info, hm, hres, _⟩ := peer_added_only_after_success env bodyOf o n now src data tail hin hnot
  obtain ⟨w, ist, ist', o', p, ini, l, hdata, hi, hh⟩ :=
    handleMessage_init_inv env bodyOf payloadOk _ data tail _ _ pc' out res log hm ⟨payload, hres⟩
  have htr : ist.trusted = n.cfg.trusted :=
    hsObject_sessP (P := fun _ t => t = n.cfg.trusted) o n (mappedAddr src) rfl ((regular_iff n).1 hreg) ist hi
  obtain ⟨m, k, hr, _⟩ := C01.success_needs_trusted_signature env bodyOf payloadOk ist ist' w _ o' p ini l hh
  rw [htr] at hr
  obtain ⟨hk, hkh, hsig⟩ := C01.readFrom_accept_genuine env w n.cfg.trusted m k hr
  exact ⟨w, m, k, hdata, hr, hk, hkh, hsig⟩

/-! ### the node's identity never changes; `Regular` is an invariant -/

theorem ni_step {P : Bytes → List Bytes → Prop} {N : Bytes} {K : NodeCfg} {A : NAddr} {n : Node} {c : Ctx}
    (hs : StepAny n c) (h : NI P N K A { node := n }) : NI P N K A c := by
  -- with no own address to protect (`own0 = []`) the responder's session needs no excuse either.  `GI_stepAny` is owed, in this order:
  -- `T` is false, a message (`sokNK`), a fresh responder (`attNK`), a tick (`tokNK`), the reset of the own addresses keeps `C`
  have h0 := (nk_iff (own0 := []) (pend0 := []) (s := none) h.new _).1 ⟨h, PK.triv none _⟩
  exact ((nk_iff h.new c).2 (C08Node.GI_stepAny _ hs h0 id (sokNK h.new) (fun src => attNK h.new n h0 src (Or.inr (Or.inr List.not_mem_nil)))
    (tokNK h.new) (fun _ _ _ _ hc => ⟨hc.1, nofun⟩))).1

theorem cfg_const_step {n : Node} {c : Ctx} (hs : StepAny n c) : c.node.cfg = n.cfg ∧ c.node.nodeId = n.nodeId ∧ c.node.addr = n.addr :=
  have h := ni_step hs (NI.triv { node := n })
  ⟨h.cfg, h.nodeId, h.addr⟩

/-- **cfg_const**: configuration (in particular the trusted keys), node id and listen address are the same in every reachable state -/
theorem cfg_const {n0 n : Node} (h : ReachAny n0 n) : n.cfg = n0.cfg ∧ n.nodeId = n0.nodeId ∧ n.addr = n0.addr := by
  induction h with
  | init => exact ⟨rfl, rfl, rfl⟩
  | step _ hs ih =>
    obtain ⟨h1, h2, h3⟩ := cfg_const_step hs
    exact ⟨h1.trans ih.1, h2.trans ih.2.1, h3.trans ih.2.2⟩

/-- every handshake object of the node carries the node's own id (what the self-connection check compares with) -/
def OwnId (n : Node) : Prop :=
  (∀ a p, (a, p) ∈ n.peers → ∀ i, p.crypto.init = some i → i.nodeId = n.nodeId) ∧
  (∀ a pc, (a, pc) ∈ n.pending → ∀ i, pc.init = some i → i.nodeId = n.nodeId)

private theorem nodeP_step {P : Bytes → List Bytes → Prop} {n : Node} {c : Ctx} (hs : StepAny n c) (hnew : P n.nodeId n.cfg.trusted)
    (h : NodeP P n) : NodeP P c.node :=
  (ni_step hs (NI.of_nodeP n hnew h)).nodeP

/-- **regular_preserved**: every operation (`handle_net_message`, `handle_interface_data`, `housekeep`, `connect`) keeps the state regular -/
theorem regular_preserved {n : Node} {c : Ctx} (hs : StepAny n c) (h : Regular n) : Regular c.node := by
  have h1 : NodeP (fun _ t => t = n.cfg.trusted) c.node := nodeP_step hs rfl h
  rw [← (cfg_const_step hs).1] at h1
  exact h1

theorem regular_handleNet (env : CryptoEnv) (bodyOf : Init.BodyOf) (o : Oracle) (n : Node) (now : Int) (src : NAddr) (data tail : Bytes)
    (h : Regular n) : Regular (handleNet env bodyOf o n now src data tail).1.node :=
  regular_preserved (.net env bodyOf o n now src data tail) h

theorem regular_handleIface (o : Oracle) (n : Node) (now : Int) (data : Bytes) (h : Regular n) : Regular (handleIface o n now data).node :=
  regular_preserved (.iface o n now data) h

theorem regular_housekeep (env : CryptoEnv) (o : Oracle) (n : Node) (now : Int) (h : Regular n) : Regular (housekeep env o n now).node :=
  regular_preserved (.tick env o n now) h

theorem regular_connect (env : CryptoEnv) (o : Oracle) (n : Node) (addrs : List NAddr) (h : Regular n) :
    Regular (connect env o { node := n } addrs).node :=
  regular_preserved (.dial env o n addrs) h

theorem ownId_preserved {n : Node} {c : Ctx} (hs : StepAny n c) (h : OwnId n) : OwnId c.node := by
  have h1 : NodeP (fun i _ => i = n.nodeId) c.node := nodeP_step hs rfl h
  rw [← (cfg_const_step hs).2.1] at h1
  exact h1

/-- `Regular` and `OwnId` hold in every state reachable from a node without peers and without pending attempts -/
theorem regular_reach {n0 n : Node} (h0 : n0.peers = [] ∧ n0.pending = []) (h : ReachAny n0 n) : Regular n ∧ OwnId n := by
  induction h with
  | init =>
    have e1 : ∀ a p, (a, p) ∉ n0.peers := by rw [h0.1]; exact fun _ _ => List.not_mem_nil
    have e2 : ∀ a pc, (a, pc) ∉ n0.pending := by rw [h0.2]; exact fun _ _ => List.not_mem_nil
    exact ⟨⟨fun a p hm => absurd hm (e1 a p), fun a pc hm => absurd hm (e2 a pc)⟩,
      ⟨fun a p hm => absurd hm (e1 a p), fun a pc hm => absurd hm (e2 a pc)⟩⟩
  | step _ hs ih => exact ⟨regular_preserved hs ih.1, ownId_preserved hs ih.2⟩

/-- **new peers in all histories**: in every history from a node without sessions, whoever becomes a new peer in a step sent a handshake
    datagram whose window `read_from` accepts under a key of the INITIAL configuration's trusted list -/
theorem new_peer_trusted_in_history (n0 n : Node) (h0 : n0.peers = [] ∧ n0.pending = []) (h : ReachAny n0 n)
    (env : CryptoEnv) (bodyOf : Init.BodyOf) (o : Oracle) (now : Int) (src : NAddr) (data tail : Bytes)
    (hin : mappedAddr src ∈ (handleNet env bodyOf o n now src data tail).1.node.peers.map (·.1))
    (hnot : mappedAddr src ∉ n.peers.map (·.1)) :
    ∃ w m k, data = Generated.INIT_MESSAGE_FIRST_BYTE :: w ∧ InitMsg.readFrom env w n0.cfg.trusted = .ok (m, k) ∧ k ∈ n0.cfg.trusted ∧
      ∃ signed sig rest, w = signed ++ [sig.length] ++ sig ++ rest ∧ env.sigVerify k signed sig = true := by
  obtain ⟨w, m, k, h1, h2, h3, _, h5⟩ := new_peer_proved_trusted_key env bodyOf o n now src data tail (regular_reach h0 h).1 hin hnot
  rw [(cfg_const h).1] at h2 h3
  exact ⟨w, m, k, h1, h2, h3, h5⟩

/-! ## 2. C14: a handshake datagram of the node itself never adds a peer -/

theorem self_refused (env : CryptoEnv) (bodyOf : Init.BodyOf) (o : Oracle) (n : Node) (now : Int) (src : NAddr) (w tail : Bytes)
    (m : InitMsg) (k salt : Bytes) (hreg : Regular n) (hown : OwnId n)
    (hr : InitMsg.readFrom env w n.cfg.trusted = .ok (m, k)) (hs : salt.length = 4) (hh : m.hash = salt ++ env.nodeHash salt n.nodeId) :
    SelfRefused n (mappedAddr src) (handleNet env bodyOf o n now src (Generated.INIT_MESSAGE_FIRST_BYTE :: w) tail) := by
  rw [handleNet_eq]
  exact dispatch_self env bodyOf o n now (mappedAddr src) w tail m k salt
    ⟨fun a p hm i hi => ⟨hown.1 a p hm i hi, hreg.1 a p hm i hi⟩, fun a pc hm i hi => ⟨hown.2 a pc hm i hi, hreg.2 a pc hm i hi⟩⟩ hr hs hh

/-- **self_handshake_never_adds_peer**: a handshake datagram that `read_from` accepts and whose salted node-id hash was derived from the
    receiving node's own id — by whatever address it arrives, whatever is known about that address (unknown, pending attempt, established
    peer with or without a lingering handshake object) — is refused: no peer is added, nothing is sent or delivered, routes and own
    addresses are unchanged, no panic; of the pending attempts at most the one for the sender is removed. -/
theorem self_handshake_never_adds_peer (env : CryptoEnv) (bodyOf : Init.BodyOf) (o : Oracle) (n : Node) (now : Int) (src : NAddr) (w tail : Bytes)
    (m : InitMsg) (k salt : Bytes) (hreg : Regular n) (hown : OwnId n)
    (hr : InitMsg.readFrom env w n.cfg.trusted = .ok (m, k)) (hs : salt.length = 4) (hh : m.hash = salt ++ env.nodeHash salt n.nodeId) :
    let r := handleNet env bodyOf o n now src (Generated.INIT_MESSAGE_FIRST_BYTE :: w) tail
    r.1.node.peers.map (·.1) = n.peers.map (·.1) ∧ r.1.outs = [] ∧ r.1.panicked = false ∧ r.1.node.table = n.table ∧ r.1.node.own = n.own ∧
    (r.1.node.pending.map (·.1) = n.pending.map (·.1) ∨
     r.1.node.pending.map (·.1) = (n.pending.map (·.1)).filter (fun b => b ≠ mappedAddr src)) := by
  intro r
  have h := (self_refused env bodyOf o n now src w tail m k salt hreg hown hr hs hh).refused
  exact ⟨h.peers, h.outs, h.panicked, h.table, h.own, h.pending.imp id (fun x => x.2)⟩

/-- **self_handshake_closes_attempt**: … and if the pending attempt stored for the sender (if any) still has its handshake object, the
    error is the fatal "connected to self", and after the step no attempt is pending for the sender: the stored attempt is removed, a
    throw-away responder is not stored. -/
theorem self_handshake_closes_attempt (env : CryptoEnv) (bodyOf : Init.BodyOf) (o : Oracle) (n : Node) (now : Int) (src : NAddr) (w tail : Bytes)
    (m : InitMsg) (k salt : Bytes) (hreg : Regular n) (hown : OwnId n)
    (hpend : ∀ pc, lookupA n.pending (mappedAddr src) = some pc → pc.init.isSome = true)
    (hr : InitMsg.readFrom env w n.cfg.trusted = .ok (m, k)) (hs : salt.length = 4) (hh : m.hash = salt ++ env.nodeHash salt n.nodeId) :
    let r := handleNet env bodyOf o n now src (Generated.INIT_MESSAGE_FIRST_BYTE :: w) tail
    r.2 = some .cryptoInitFatal ∧ lookupA r.1.node.pending (mappedAddr src) = none ∧
    r.1.node.pending.map (·.1) = (n.pending.map (·.1)).filter (fun b => b ≠ mappedAddr src) := by
  intro r
  have h := self_refused env bodyOf o n now src w tail m k salt hreg hown hr hs hh
  obtain ⟨h1, h2⟩ := h.closed hpend
  refine ⟨h1, h2, ?_⟩
  rcases h.refused.pending with h3 | h3
  · -- keys unchanged and no attempt for the sender afterwards: then there was none before
    rw [h3]
    have : mappedAddr src ∉ n.pending.map (·.1) := by
      rw [← h3, ← lookupA_none_iff]; exact h2
    symm
    rw [List.filter_eq_self]
    intro b hb
    simp only [ne_eq, decide_not, Bool.not_eq_true', decide_eq_false_iff_not]
    intro hbe
    exact this (hbe ▸ hb)
  · exact h3.2

/-! ### the hypothesis `hpend` holds in all reachable states: pending sessions keep a live handshake object -/

/-- every operation keeps "every pending session has a handshake object that is neither closing nor waiting to close"
    (a session whose handshake completes is moved to `peers` in the same step; one whose handshake object gives up is removed) -/
theorem pendLive_preserved {n : Node} {c : Ctx} (hs : StepAny n c) (h : PendLive n) : PendLive c.node := by
  rw [pendLive_iff]
  have h0 := (pendLive_iff { node := n }).1 h
  exact C08Node.GI_stepAny _ hs h0 id (fun env bodyOf a pc inPeers data tail rnd rr hpc => (sokD env bodyOf pc inPeers data tail rnd rr hpc).ns a)
    (fun _ => SD.q_att n) (SI.tok tokD)

/-- pending sessions are live in every state reachable from a node without pending attempts -/
theorem pendLive_reach {n0 n : Node} (h0 : n0.pending = []) (h : ReachAny n0 n) : PendLive n := by
  induction h with
  | init => intro a pc hm; rw [h0] at hm; cases hm
  | step _ hs ih => exact pendLive_preserved hs ih

/-- `PendLive` gives the hypothesis `hpend` of `self_handshake_closes_attempt` for every source address -/
theorem pendLive_hpend {n : Node} (h : PendLive n) (s : NAddr) : ∀ pc, lookupA n.pending s = some pc → pc.init.isSome = true :=
  fun pc hq => (h s pc (lookupA_some_mem hq)).isSome

/-- **a node never becomes its own peer, in all histories**: in every state reachable from a node without sessions, a handshake datagram
    that `read_from` accepts under the (initial = current) trusted keys and whose salted node-id hash was derived from the node's own id
    adds no peer, emits nothing, ends with the fatal "connected to self" error and leaves no attempt pending for its source address -/
theorem self_handshake_in_history (n0 n : Node) (h0 : n0.peers = [] ∧ n0.pending = []) (h : ReachAny n0 n)
    (env : CryptoEnv) (bodyOf : Init.BodyOf) (o : Oracle) (now : Int) (src : NAddr) (w tail : Bytes) (m : InitMsg) (k salt : Bytes)
    (hr : InitMsg.readFrom env w n0.cfg.trusted = .ok (m, k)) (hs : salt.length = 4) (hh : m.hash = salt ++ env.nodeHash salt n0.nodeId) :
    let r := handleNet env bodyOf o n now src (Generated.INIT_MESSAGE_FIRST_BYTE :: w) tail
    r.1.node.peers.map (·.1) = n.peers.map (·.1) ∧ r.1.outs = [] ∧ r.1.panicked = false ∧
    r.2 = some .cryptoInitFatal ∧ lookupA r.1.node.pending (mappedAddr src) = none := by
  obtain ⟨hreg, hown⟩ := regular_reach h0 h
  obtain ⟨hc1, hc2, _⟩ := cfg_const h
  rw [← hc1] at hr
  rw [← hc2] at hh
  have ha := self_handshake_never_adds_peer env bodyOf o n now src w tail m k salt hreg hown hr hs hh
  have hb := self_handshake_closes_attempt env bodyOf o n now src w tail m k salt hreg hown
    (pendLive_hpend (pendLive_reach h0.2 h) _) hr hs hh
  exact ⟨ha.1, ha.2.1, ha.2.2.1, hb.1, hb.2.1⟩

/-! ## 3. no reply to rejected handshake datagrams; routes and learned addresses only from the sender, only if it is a peer -/

/-- **no_reply_to_rejected** (restated from `C08.node_reject_pure`): a handshake datagram whose window `read_from` rejects under the
    node's trusted keys gets no reply (no output at all), creates no peer, alters no pending handshake key, no route, no own address -/
theorem no_reply_to_rejected (env : CryptoEnv) (bodyOf : Init.BodyOf) (o : Oracle) (n : Node) (now : Int) (src : NAddr) (rest tail : Bytes) (e : InitErr)
    (hreg : Regular n) (hne : rest ≠ []) (h : InitMsg.readFrom env rest n.cfg.trusted = .error e) :
    let r := handleNet env bodyOf o n now src (Generated.INIT_MESSAGE_FIRST_BYTE :: rest) tail
    r.1.panicked = false ∧ r.1.outs = [] ∧ r.1.node.table = n.table ∧
    r.1.node.peers.map (·.1) = n.peers.map (·.1) ∧ r.1.node.pending.map (·.1) = n.pending.map (·.1) ∧ r.1.node.own = n.own :=
  C08.node_reject_pure env bodyOf o n now src rest tail e hreg hne h

/-- **table_changes_only_for_sender**: processing a datagram performs at most ONE table operation, and that for the id of the sender:
    claims are set (`set_claims`) only if the sender is an established peer after the step; an address is learned only for the sender, and —
    if the pending session of a non-peer sender is fresh — only if the sender is a peer; or the sender's entries are removed. -/
theorem table_changes_only_for_sender (env : CryptoEnv) (bodyOf : Init.BodyOf) (o : Oracle) (n : Node) (now : Int) (src : NAddr) (data tail : Bytes) :
    TblCase n.table now (mappedAddr src)
      (SenderFresh n (mappedAddr src) → mappedAddr src ∈ (handleNet env bodyOf o n now src data tail).1.node.peers.map (·.1))
      (handleNet env bodyOf o n now src data tail).1 :=
  (handleNet_tbl env bodyOf o n now src data tail).mono And.left

/-- **routes_only_from_peers**: at any time `now > 0`, every claim entry in the table after a datagram was processed that was not there
    before belongs to the sender (`peer = addrId (mappedAddr src)`), and the sender is an established peer after the step.
    (`0 < now` is added: see the counterexample below.) -/
theorem routes_only_from_peers (env : CryptoEnv) (bodyOf : Init.BodyOf) (o : Oracle) (n : Node) (now : Int) (src : NAddr) (data tail : Bytes)
    (hnow : 0 < now) :
    ∀ e ∈ (handleNet env bodyOf o n now src data tail).1.node.table.claims, e ∉ n.table.claims →
      e.peer = addrId (mappedAddr src) ∧ mappedAddr src ∈ (handleNet env bodyOf o n now src data tail).1.node.peers.map (·.1) := by
  intro e he hnew
  cases table_changes_only_for_sender env bodyOf o n now src data tail with
  | same h => rw [h] at he; exact absurd he hnew
  | learn a h l => rw [h] at he; exact absurd he hnew
  | set cs h k =>
    rw [h] at he
    rcases (TableLemmas.mem_setClaims_claims _ _ _ _ e he).1 with h1 | h1
    · exact absurd h1 hnew
    · exact ⟨h1, k⟩
  | remove h =>
    rw [h, TableLemmas.removeClaims_claims _ _ _ hnow] at he
    exact absurd (List.mem_filter.1 he).1 hnew

/-- **learned_only_from_peers**: at any time `now > 0`, if the pending session of a sender that is not a peer is fresh (no crypto core, not
    in unencrypted mode — an invariant of all reachable states, `C12Node.PendFresh`), every cache entry after the step that was not there
    before (a learned address, or an entry marked as expired) names the sender, and the sender is an established peer after the step. -/
theorem learned_only_from_peers (env : CryptoEnv) (bodyOf : Init.BodyOf) (o : Oracle) (n : Node) (now : Int) (src : NAddr) (data tail : Bytes)
    (hnow : 0 < now) (hfresh : SenderFresh n (mappedAddr src)) :
    ∀ v ∈ (handleNet env bodyOf o n now src data tail).1.node.table.cache, v ∉ n.table.cache →
      v.peer = addrId (mappedAddr src) ∧ mappedAddr src ∈ (handleNet env bodyOf o n now src data tail).1.node.peers.map (·.1) := by
  intro v hv hnew
  cases table_changes_only_for_sender env bodyOf o n now src data tail with
  | same h => rw [h] at hv; exact absurd hv hnew
  | learn a h l =>
    rw [h] at hv
    rcases TableLemmas.mem_cacheInsert.1 hv with rfl | h1
    · exact ⟨rfl, l hfresh⟩
    · exact absurd h1.1 hnew
  | set cs h k =>
    rw [h] at hv
    rcases (TableLemmas.mem_setClaims_cache _ _ _ _ v hv).1 with h1 | h1
    · exact absurd h1 hnew
    · exact ⟨h1, k⟩
  | remove h =>
    rw [h, TableLemmas.removeClaims_cache _ _ _ hnow] at hv
    exact absurd (List.mem_filter.1 hv).1 hnew

/-- the hypothesis of `learned_only_from_peers` holds in every state with fresh pending sessions (`C12Node.PendFresh`, an invariant) -/
theorem senderFresh_of_pendFresh (n : Node) (s : NAddr) (h : C12Node.PendFresh n) : SenderFresh n s :=
  fun pc _ hq => h s pc (lookupA_some_mem hq)

/-! ## 4. C14: addresses listed under the node's own id are adopted as own addresses and not dialled -/

/-- **own_addresses_adopted_not_dialled** (one entry): an entry of a peer list that carries the node's own id, none of whose addresses is
    the address of a current peer, causes no datagram and no pending attempt; all its addresses are own addresses afterwards (and `own`
    gains nothing else); peers are untouched. -/
theorem own_addresses_adopted_not_dialled (env : CryptoEnv) (o : Oracle) (c : Ctx) (pi : PeerInfo)
    (hid : pi.nodeId = some c.node.nodeId) (hnp : ∀ a ∈ pi.addrs, a ∉ c.node.peers.map (·.1)) :
    (connectToPeers env o c [pi]).outs = c.outs ∧ (connectToPeers env o c [pi]).node.pending = c.node.pending ∧
    (connectToPeers env o c [pi]).node.peers = c.node.peers ∧
    (∀ a ∈ pi.addrs, a ∈ (connectToPeers env o c [pi]).node.own) ∧
    (∀ a, a ∈ (connectToPeers env o c [pi]).node.own ↔ a ∈ c.node.own ∨ a ∈ pi.addrs) := by
  rw [connectToPeers_own_entry env o c pi hid hnp]
  refine ⟨rfl, rfl, rfl, fun a ha => ?_, fun a => ?_⟩
  · show a ∈ pi.addrs.foldl (fun own a => if own.contains a then own else own ++ [a]) c.node.own
    rw [mem_foldl_adopt]; exact Or.inr ha
  · show a ∈ pi.addrs.foldl (fun own a => if own.contains a then own else own ++ [a]) c.node.own ↔ _
    rw [mem_foldl_adopt]

/-- **own_entries_adopted** (the whole peer list): the addresses of EVERY entry that carries the node's own id and names no current peer
    are own addresses after `connect_to_peers` -/
theorem own_entries_adopted (env : CryptoEnv) (o : Oracle) (c : Ctx) (infos : List PeerInfo) (pi : PeerInfo) (hpi : pi ∈ infos)
    (hid : pi.nodeId = some c.node.nodeId) (hnp : ∀ a ∈ pi.addrs, a ∉ c.node.peers.map (·.1)) :
    ∀ a ∈ pi.addrs, a ∈ (connectToPeers env o c infos).node.own :=
  fun a ha => (connectToPeers_own env o infos c a).2 (Or.inr ⟨pi, hpi, hid, hnp, ha⟩)

/-- **dialled_only_foreign** (the whole peer list): everything `connect_to_peers` emits is a handshake datagram, and every address it dials
    (destination of such a datagram / new key of `pending`) is the (mapped) address of an entry that does NOT carry the node's own id,
    and was not an own address when `connect_to_peers` began; own addresses only grow. -/
theorem dialled_only_foreign (env : CryptoEnv) (o : Oracle) (c : Ctx) (infos : List PeerInfo) :
    (∃ ex, (connectToPeers env o c infos).outs = c.outs ++ ex ∧ ∀ x ∈ ex, ∃ d b, x = .dgram d (Generated.INIT_MESSAGE_FIRST_BYTE :: b) ∧
      d ∉ c.node.own ∧ ∃ pi ∈ infos, pi.nodeId ≠ some c.node.nodeId ∧ d ∈ pi.addrs.map mappedAddr) ∧
    (∀ a, a ∈ (connectToPeers env o c infos).node.pending.map (·.1) → a ∈ c.node.pending.map (·.1) ∨
      (a ∉ c.node.own ∧ ∃ pi ∈ infos, pi.nodeId ≠ some c.node.nodeId ∧ a ∈ pi.addrs.map mappedAddr)) ∧
    (∀ a ∈ c.node.own, a ∈ (connectToPeers env o c infos).node.own) := by
  obtain ⟨h1, h2⟩ := connectToPeers_dials env o infos c
  exact ⟨h1.outs, h1.pending, h2⟩

/-- **connect_skips_own**: `connect` (and `connect_sock`) emit only handshake datagrams, to (mapped) addresses from their argument that are
    not own addresses; new keys of `pending` likewise; own addresses are not changed -/
theorem connect_skips_own (env : CryptoEnv) (o : Oracle) (c : Ctx) (addrs : List NAddr) :
    (∃ ex, (connect env o c addrs).outs = c.outs ++ ex ∧ ∀ x ∈ ex, ∃ d b, x = .dgram d (Generated.INIT_MESSAGE_FIRST_BYTE :: b) ∧
      d ∈ addrs.map mappedAddr ∧ d ∉ c.node.own) ∧
    (∀ a, a ∈ (connect env o c addrs).node.pending.map (·.1) → a ∈ c.node.pending.map (·.1) ∨ (a ∈ addrs.map mappedAddr ∧ a ∉ c.node.own)) ∧
    (connect env o c addrs).node.own = c.node.own := by
  obtain ⟨h1, h2⟩ := connect_dials env o c addrs
  exact ⟨h1.outs, h1.pending, h2⟩

/-- the same for a single `connect_sock` -/
theorem connectSock_skips_own (env : CryptoEnv) (o : Oracle) (c : Ctx) (a0 : NAddr) :
    (∃ ex, (connectSock env o c a0).outs = c.outs ++ ex ∧ ∀ x ∈ ex, ∃ d b, x = .dgram d (Generated.INIT_MESSAGE_FIRST_BYTE :: b) ∧
      d = mappedAddr a0 ∧ d ∉ c.node.own ∧ d ∉ c.node.peers.map (·.1) ∧ d ∉ c.node.pending.map (·.1)) ∧
    (∀ a, a ∈ (connectSock env o c a0).node.pending.map (·.1) → a ∈ c.node.pending.map (·.1) ∨
      (a = mappedAddr a0 ∧ a ∉ c.node.own ∧ a ∉ c.node.peers.map (·.1) ∧ a ∉ c.node.pending.map (·.1))) ∧
    (connectSock env o c a0).node.own = c.node.own :=
  ⟨(connectSock_dials env o c a0).outs, (connectSock_dials env o c a0).pending, connectSock_own env o c a0⟩

/-- **own_never_dialled** (`handle_net_message`): a pending attempt that exists after the step and did not exist before is for an
    address that was NOT an own address when the step began — or for the sender of the datagram itself (the node answers a handshake
    from any address: that is a response, not a dial; see the example below).  This holds although `own` grows during the step:
    it only grows, and every dial is checked against the current list. -/
theorem own_never_dialled_net (env : CryptoEnv) (bodyOf : Init.BodyOf) (o : Oracle) (n : Node) (now : Int) (src : NAddr) (data tail : Bytes) :
    ∀ a, a ∈ (handleNet env bodyOf o n now src data tail).1.node.pending.map (·.1) →
      a ∈ n.pending.map (·.1) ∨ a = mappedAddr src ∨ a ∉ n.own := by
  intro a ha
  have h0 := (nk_iff (s := some (mappedAddr src)) trivial _).1 ⟨NI.triv { node := n }, PK.init _ _⟩
  rcases ((nk_iff trivial _).2 (handleNet_GI _ env bodyOf o n now src data tail h0 (fun pc inPeers => sokNK trivial env bodyOf _ pc inPeers data tail)
    (attNK trivial n h0 _ (Or.inr (Or.inl rfl))) nofun)).2.pending a ha with h1 | h1 | h1
  · exact Or.inl h1
  · exact Or.inr (Or.inl (Option.some.inj h1))
  · exact Or.inr (Or.inr h1)

/-- **own_never_dialled** (`housekeep`): re-dialling timed-out peers, failed sessions and reconnect entries never creates a pending attempt
    for an address that was an own address when the tick began (the reset of the own addresses is the last thing `housekeep` does) -/
theorem own_never_dialled_tick (env : CryptoEnv) (o : Oracle) (n : Node) (now : Int) :
    ∀ a, a ∈ (housekeep env o n now).node.pending.map (·.1) → a ∈ n.pending.map (·.1) ∨ a ∉ n.own := by
  intro a ha
  rw [housekeep_eq, frame_proj (hkOwn_frame _ now) (·.node.pending)] at ha
  have h0 := (nk_iff (s := none) trivial _).1 ⟨NI.triv { node := n }, PK.init _ _⟩
  rcases ((nk_iff trivial _).2 (hkCore_GI _ env o n now h0 (tokNK trivial) nofun)).2.pending a ha with h1 | h1 | h1
  · exact Or.inl h1
  · cases h1
  · exact Or.inr h1

/-- **own_never_dialled** (`connect`) -/
theorem own_never_dialled_connect (env : CryptoEnv) (o : Oracle) (n : Node) (addrs : List NAddr) :
    ∀ a, a ∈ (connect env o { node := n } addrs).node.pending.map (·.1) → a ∈ n.pending.map (·.1) ∨ a ∉ n.own :=
  fun a ha => ((connect_dials env o { node := n } addrs).1.pending a ha).imp id (·.2)

/-- **own_never_dialled** (`handle_interface_data`): the pending attempts are left alone -/
theorem own_never_dialled_iface (o : Oracle) (n : Node) (now : Int) (data : Bytes) :
    (handleIface o n now data).node.pending = n.pending := by
  have hsend : ∀ (c : Ctx) (a : NAddr) (ty : Nat) (body : Bytes), ((sendMsg o c a ty body).getD c).node.pending = c.node.pending :=
    fun c a ty body => frame_proj (sendMsg_frame o c a ty body) (·.node.pending)
  exact handleIface_cases (M := fun c => c.node.pending = n.pending) o n now data rfl (fun _ _ => hsend _ _ _ _) (fun _ => rfl)
    (fun _ => foldl_inv (fun c => c.node.pending = n.pending) _ (fun c a hc => (hsend c a _ _).trans hc) _ _ rfl) (fun _ => rfl)

/-! ## non-vacuity of every hypothesis, and the counterexamples to the statements without the added hypotheses
    (toy cryptography of `InitLemmas.Toy`; `decide +kernel` evaluates closed terms of the executable model) -/
section NonVacuity

private def s : NAddr := .v6 (List.replicate 16 0) 1
private def s2 : NAddr := .v6 (List.replicate 16 0) 2
private def s3 : NAddr := .v6 (List.replicate 16 0) 3
private def s4 : NAddr := .v6 (List.replicate 16 0) 4
private def cfg0 : NodeCfg :=
  { tap := false, learning := true, broadcast := false, peerTimeout := 300, peerTimeoutPublish := 300, updateFreq := 10,
    claims := [], key := [7, 7, 7, 7], trusted := [[9, 9, 9, 9], [7, 7, 7, 7]], algos := Toy.algosPlain }
private def o0 : Oracle := { emitted := fun _ _ => [], rotProp := fun _ => 0, rotPend := fun _ => 0, starts := fun _ => [] }
private def nid : Bytes := List.replicate 16 9
/-- a handshake object of the node: an initiator that has sent its ping -/
private def ist : InitSt := { Toy.st with nodeId := nid, trusted := cfg0.trusted, algos := Toy.algosPlain }
private def p1 : Peer := { addrs := [], timeout := 1000, peerTimeout := 300, nodeId := List.replicate 16 1, crypto := { init := none, unencrypted := true } }
/-- a node (trusting the key `9999` and its own key `7777`) with an established unencrypted peer `s` that has one claim, and a pending attempt for `s2` -/
private def n1 : Node :=
  { nodeId := nid, addr := s3, cfg := cfg0, peers := [(s, p1)], pending := [(s2, { init := some ist })],
    table := { cacheTimeout := 300, claimTimeout := 300, claims := [⟨1, ⟨[10, 0, 0, 0], 8⟩, 2000⟩] } }
/-- node information of the peer behind `s2`: one claim, and an entry that lists `s4` under the id of `n1` itself -/
private def peerInfo : NodeInfo :=
  { nodeId := List.replicate 16 2, peers := [{ nodeId := some nid, addrs := [s4] }], claims := [⟨[10, 2, 0, 0], 16⟩], peerTimeout := none, addrs := [] }
/-- a genuine pong, signed by the trusted key `9999`, with that node information as payload -/
private def pong : Bytes :=
  InitMsg.writeTo (.pong (List.replicate 20 2) [6] Toy.algosPlain (Codec.encodeNodeInfo peerInfo)) [0, 0, 0, 1] [9, 9, 9, 9] [9, 9, 0, 0]
/-- a genuine ping of the same peer -/
private def ping : Bytes := InitMsg.writeTo (.ping (List.replicate 20 2) [6] Toy.algosPlain) [0, 0, 0, 1] [9, 9, 9, 9] [9, 9, 0, 0]
/-- a ping of the node itself (signed with its own, trusted key `7777`): the salted hash is derived from its own node id -/
private def selfHash : Bytes := [3, 3, 3, 3] ++ Toy.env.nodeHash [3, 3, 3, 3] nid
private def selfPing : Bytes := InitMsg.writeTo (.ping selfHash [6] Toy.algosPlain) [0, 0, 0, 1] [7, 7, 7, 7] [7, 7, 0, 0]

private theorem n1_regular : Regular n1 ∧ OwnId n1 := by
  refine ⟨⟨?_, ?_⟩, ⟨?_, ?_⟩⟩
  all_goals
    intro a p hm i hi
    simp only [n1, List.mem_singleton, Prod.mk.injEq] at hm
    obtain ⟨_, rfl⟩ := hm
    first
      | (cases hi; rfl)
      | cases hi

/-- the step of `n1` on the genuine pong from `s2`, evaluated once -/
private theorem pong_step :
    (handleNet Toy.env (Toy.body 0) o0 n1 100 s2 (Generated.INIT_MESSAGE_FIRST_BYTE :: pong) []).1.node.peers.map (·.1) = [s, s2] ∧
    (handleNet Toy.env (Toy.body 0) o0 n1 100 s2 (Generated.INIT_MESSAGE_FIRST_BYTE :: pong) []).1.node.table.claims.map (·.peer) = [1, 2] ∧
    (handleNet Toy.env (Toy.body 0) o0 n1 100 s2 (Generated.INIT_MESSAGE_FIRST_BYTE :: pong) []).1.node.own = [s4] ∧
    (handleNet Toy.env (Toy.body 0) o0 n1 100 s2 (Generated.INIT_MESSAGE_FIRST_BYTE :: pong) []).1.node.pending = [] := by
  decide +kernel

/-- 1. the hypotheses of `peer_added_only_after_success` / `new_peer_proved_trusted_key` are met: the genuine pong makes `s2` a new peer of the regular node `n1` … -/
example : Regular n1 ∧
    mappedAddr s2 ∈ (handleNet Toy.env (Toy.body 0) o0 n1 100 s2 (Generated.INIT_MESSAGE_FIRST_BYTE :: pong) []).1.node.peers.map (·.1) ∧
    mappedAddr s2 ∉ n1.peers.map (·.1) :=
  ⟨n1_regular.1, by rw [pong_step.1]; decide, by decide⟩

/-- … its claims are accepted (claim entries of the ids 1 and 2 afterwards), and the address listed under the node's own id is adopted, not dialled -/
example : (handleNet Toy.env (Toy.body 0) o0 n1 100 s2 (Generated.INIT_MESSAGE_FIRST_BYTE :: pong) []).1.node.table.claims.map (·.peer) = [1, 2] ∧
    (handleNet Toy.env (Toy.body 0) o0 n1 100 s2 (Generated.INIT_MESSAGE_FIRST_BYTE :: pong) []).1.node.own = [s4] ∧
    (handleNet Toy.env (Toy.body 0) o0 n1 100 s2 (Generated.INIT_MESSAGE_FIRST_BYTE :: pong) []).1.node.pending = [] :=
  pong_step.2

/-- a reachable state (hypothesis of `regular_reach`, `cfg_const`, `new_peer_trusted_in_history`): dial, then the pong arrives -/
example : ReachAny { n1 with peers := [], pending := [] }
    (handleNet Toy.env (Toy.body 0) o0 (connect Toy.env o0 { node := { n1 with peers := [], pending := [] } } [s2]).node 100 s2
      (Generated.INIT_MESSAGE_FIRST_BYTE :: pong) []).1.node :=
  .step (.step .init (.dial Toy.env o0 _ [s2])) (.net Toy.env (Toy.body 0) o0 _ 100 s2 _ [])

/-- 2. the hypotheses of `self_handshake_never_adds_peer` / `self_handshake_closes_attempt` are met by `n1` and its own ping arriving from `s2` … -/
example : Regular n1 ∧ OwnId n1 ∧ (∀ pc, lookupA n1.pending (mappedAddr s2) = some pc → pc.init.isSome = true) ∧
    InitMsg.readFrom Toy.env selfPing n1.cfg.trusted = .ok (.ping selfHash [6] Toy.algosPlain, [7, 7, 7, 7]) ∧
    ([3, 3, 3, 3] : Bytes).length = 4 ∧ (InitMsg.ping selfHash [6] Toy.algosPlain).hash = [3, 3, 3, 3] ++ Toy.env.nodeHash [3, 3, 3, 3] n1.nodeId := by
  refine ⟨n1_regular.1, n1_regular.2, ?_, by decide +kernel, rfl, rfl⟩
  intro pc h
  have : pc = { init := some ist } := by
    have h' : some ({ init := some ist } : PeerCrypto) = some pc := h
    cases h'; rfl
  rw [this]; rfl

/-- … and the attempt pending for `s2` is closed -/
example : (handleNet Toy.env (Toy.body 0) o0 n1 100 s2 (Generated.INIT_MESSAGE_FIRST_BYTE :: selfPing) []).1.node.pending.map (·.1) = [] ∧
    (handleNet Toy.env (Toy.body 0) o0 n1 100 s2 (Generated.INIT_MESSAGE_FIRST_BYTE :: selfPing) []).2 = some .cryptoInitFatal := by
  decide +kernel

/-- `hpend` of `self_handshake_closes_attempt` is needed: a pending session that has lost its handshake object answers with the state
    error, which is not fatal, and stays stored (no peer is added all the same) -/
example : let n1b : Node := { n1 with pending := [(s2, { init := none })] }
    Regular n1b ∧ OwnId n1b ∧
    (handleNet Toy.env (Toy.body 0) o0 n1b 100 s2 (Generated.INIT_MESSAGE_FIRST_BYTE :: selfPing) []).1.node.pending.map (·.1) = [s2] ∧
    (handleNet Toy.env (Toy.body 0) o0 n1b 100 s2 (Generated.INIT_MESSAGE_FIRST_BYTE :: selfPing) []).2 = some .state := by
  refine ⟨?_, ?_, by decide +kernel⟩
  · refine ⟨n1_regular.1.1, ?_⟩
    intro a pc hm i hi
    simp only [List.mem_singleton, Prod.mk.injEq] at hm
    obtain ⟨_, rfl⟩ := hm
    cases hi
  · refine ⟨n1_regular.2.1, ?_⟩
    intro a pc hm i hi
    simp only [List.mem_singleton, Prod.mk.injEq] at hm
    obtain ⟨_, rfl⟩ := hm
    cases hi

/-- 3. `0 < now` in `routes_only_from_peers` / `learned_only_from_peers` is needed.  A peer with an encrypted session and one claim says
    goodbye (a sealed `MESSAGE_TYPE_CLOSE`) at time 0: its claim is marked with the timeout 0, which is not in the past at time 0, so the
    table afterwards holds a claim entry that was not there before although the sender is no peer any more -/
private def p3 : Peer := { addrs := [], timeout := 1000, peerTimeout := 300, nodeId := List.replicate 16 1, crypto := { init := none, core := some (Core.new 5 false 1 []) } }
private def n3 : Node := { n1 with peers := [(s, p3)] }
private def closeSeal : Init.BodyOf := fun _ => .sealed 5 (HALF + 5) [Generated.MESSAGE_TYPE_CLOSE]
private def dgram24 : Bytes := [0, 0, 0, 0, 0, 0, 0, 5] ++ List.replicate 16 170

theorem routes_only_from_peers_needs_now :
    ¬ (∀ (env : CryptoEnv) (bodyOf : Init.BodyOf) (o : Oracle) (n : Node) (now : Int) (src : NAddr) (data tail : Bytes),
        ∀ e ∈ (handleNet env bodyOf o n now src data tail).1.node.table.claims, e ∉ n.table.claims →
          e.peer = addrId (mappedAddr src) ∧ mappedAddr src ∈ (handleNet env bodyOf o n now src data tail).1.node.peers.map (·.1)) := by
  intro h
  have h1 : (handleNet Toy.env closeSeal o0 n3 0 s dgram24 []).1.node.table.claims = [⟨1, ⟨[10, 0, 0, 0], 8⟩, 0⟩] := by decide +kernel
  have h2 : (handleNet Toy.env closeSeal o0 n3 0 s dgram24 []).1.node.peers.map (·.1) = [] := by decide +kernel
  have := (h Toy.env closeSeal o0 n3 0 s dgram24 [] ⟨1, ⟨[10, 0, 0, 0], 8⟩, 0⟩ (by rw [h1]; exact List.mem_singleton.2 rfl) (by decide +kernel)).2
  rw [h2] at this
  cases this

/-- `SenderFresh` in `learned_only_from_peers` is needed (and satisfiable: `n1` has fresh pending sessions).  A pending session in
    unencrypted mode passes a data packet on, and in learning mode its source address is cached for the sender, which is no peer -/
example : SenderFresh n1 (mappedAddr s2) ∧ C12Node.PendFresh n1 := by
  have hp : C12Node.PendFresh n1 := by
    intro a pc hm
    simp only [n1, List.mem_singleton, Prod.mk.injEq] at hm
    obtain ⟨_, rfl⟩ := hm
    exact ⟨rfl, rfl⟩
  exact ⟨senderFresh_of_pendFresh n1 _ hp, hp⟩

private def nBad : Node := { n1 with peers := [], pending := [(s2, { init := none, unencrypted := true })] }
private def pkt : Bytes := 0 :: 69 :: (List.replicate 11 0 ++ [10, 0, 0, 1, 10, 0, 0, 2])

theorem learned_only_from_peers_needs_fresh :
    ¬ (∀ (env : CryptoEnv) (bodyOf : Init.BodyOf) (o : Oracle) (n : Node) (now : Int) (src : NAddr) (data tail : Bytes), 0 < now →
        ∀ v ∈ (handleNet env bodyOf o n now src data tail).1.node.table.cache, v ∉ n.table.cache →
          v.peer = addrId (mappedAddr src) ∧ mappedAddr src ∈ (handleNet env bodyOf o n now src data tail).1.node.peers.map (·.1)) := by
  intro h
  have h1 : (handleNet Toy.env (fun _ => .garbage 0) o0 nBad 100 s2 pkt []).1.node.table.cache = [⟨[10, 0, 0, 1], 2, 400⟩] := by decide +kernel
  have h2 : (handleNet Toy.env (fun _ => .garbage 0) o0 nBad 100 s2 pkt []).1.node.peers.map (·.1) = [] := by decide +kernel
  have := (h Toy.env (fun _ => .garbage 0) o0 nBad 100 s2 pkt [] (by decide) ⟨[10, 0, 0, 1], 2, 400⟩ (by rw [h1]; exact List.mem_singleton.2 rfl)
    (by intro hm; cases hm)).2
  rw [h2] at this
  cases this

/-- learning does happen for a peer: a data packet of the unencrypted peer `s` (id 1) is delivered and its source address cached for `s` -/
example : (handleNet Toy.env (Toy.body 0) o0 n1 100 s pkt []).1.node.table.cache = [⟨[10, 0, 0, 1], 1, 400⟩] ∧
    mappedAddr s ∈ (handleNet Toy.env (Toy.body 0) o0 n1 100 s pkt []).1.node.peers.map (·.1) := by
  decide +kernel

/-- 4. the hypotheses of `own_addresses_adopted_not_dialled` are met: an entry with the node's own id and an address that is no peer -/
example : let pi : PeerInfo := { nodeId := some nid, addrs := [s4] }
    pi.nodeId = some ({ node := n1 } : Ctx).node.nodeId ∧ (∀ a ∈ pi.addrs, a ∉ ({ node := n1 } : Ctx).node.peers.map (·.1)) ∧
    (connectToPeers Toy.env o0 { node := n1 } [pi]).node.own = [s4] := by
  refine ⟨rfl, ?_, by decide +kernel⟩
  intro a ha
  simp only [List.mem_singleton] at ha
  subst ha
  decide +kernel

/-- … while the same address under a foreign id is dialled -/
example : (connectToPeers Toy.env o0 { node := n1 } [{ nodeId := some (List.replicate 16 5), addrs := [s4] }]).node.pending.map (·.1) = [s2, s4] ∧
    (connectToPeers Toy.env o0 { node := n1 } [{ nodeId := some (List.replicate 16 5), addrs := [s4] }]).outs.length = 1 := by
  decide +kernel

/-- observation (model = Rust: `own_addresses.push(*addr)` stores the listed address as it is, `connect` compares the MAPPED address):
    an IPv4 address listed under the node's own id is adopted in its IPv4 form, and a later entry of the same list that names the same
    address under a foreign id is dialled all the same, because its mapped form is not in `own`.  "Adopted, hence not dialled" holds for
    addresses listed in mapped (IPv6) form only; `dialled_only_foreign` is stated accordingly (mapped address not in `own` at the start). -/
example : let a4 : NAddr := .v4 [10, 0, 0, 9] 5000
    (connectToPeers Toy.env o0 { node := n1 } [{ nodeId := some nid, addrs := [a4] }, { nodeId := some (List.replicate 16 5), addrs := [a4] }]).node.own = [a4] ∧
    (connectToPeers Toy.env o0 { node := n1 } [{ nodeId := some nid, addrs := [a4] }, { nodeId := some (List.replicate 16 5), addrs := [a4] }]).node.pending.map (·.1) =
      [s2, mappedAddr a4] := by
  decide +kernel

/-- `own_never_dialled_net`: the disjunct "or the sender itself" is needed.  A genuine ping of a trusted peer that arrives from an address
    in `own` is answered, and the responder is stored as pending attempt for that address -/
theorem own_never_dialled_needs_sender :
    ¬ (∀ (env : CryptoEnv) (bodyOf : Init.BodyOf) (o : Oracle) (n : Node) (now : Int) (src : NAddr) (data tail : Bytes),
        ∀ a, a ∈ (handleNet env bodyOf o n now src data tail).1.node.pending.map (·.1) → a ∈ n.pending.map (·.1) ∨ a ∉ n.own) := by
  intro h
  have h1 : (handleNet Toy.env (Toy.body 0) o0 { n1 with own := [s4] } 100 s4 (Generated.INIT_MESSAGE_FIRST_BYTE :: ping) []).1.node.pending.map (·.1) = [s2, s4] := by
    decide +kernel
  rcases h Toy.env (Toy.body 0) o0 { n1 with own := [s4] } 100 s4 (Generated.INIT_MESSAGE_FIRST_BYTE :: ping) [] s4 (by rw [h1]; decide) with h2 | h2
  · revert h2; decide
  · exact h2 (List.mem_singleton.2 rfl)

end NonVacuity

end VpnCloud.Proofs.C01More
