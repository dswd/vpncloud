import VpnCloud.Proofs.Lemmas.Node.RotPanicLemmas
/-
  C08 at node level, over ALL histories: no operation of the node panics.

  The model marks these panic sites:
  * `ecdh_private_key.take().unwrap()` when a pong arrives (`Init.handleInit`): excluded by the session invariant
    "a handshake object that awaits a pong holds its ephemeral key" (`InitWF`);
  * `take_prefix` on an empty opened message (`PeerCrypto.handleMessage`): excluded by the hypothesis `NonEmptySeals`
    on the ideal AEAD.  Nothing the receiving node does excludes it: from a well-formed state, a 24-byte datagram that
    opens as the seal of the EMPTY plaintext under the session key panics (example at the end) — only the holder of the
    session key can produce it;
  * `derive_key(..).unwrap()` in `RotationState::process_message` (`PeerCrypto.rotatePanics`, checked by `PeerCrypto.handleMessage`
    before `handleRotate`): X25519 agreement fails on a peer key that is not 32 bytes long, and `RotationMessage::read_from` accepts
    any key length.  Excluded by the hypothesis `ValidRotKeys` on the ideal AEAD (what opens as a genuine seal of a ROTATION message
    carries 32-byte keys).  Again nothing the receiving node does excludes it: from a well-formed state, a datagram that opens as the
    seal of a rotation message with a 5-byte proposed key panics (example at the end; `Proofs/RotPanic.lean`: `keyholder_can_panic`) —
    only the holder of the session key can produce it (`RotPanic.panic_needs_session_seal`, `RotPanic.outsider_cannot_reach_site`);
  * the interval expression of `housekeep`: never panics, for every configuration and every advertised peer timeout
    (`C15.interval_safe`), so no range condition on the configuration is needed;
  * the `.inl none` branch of the stage check in `handleInit` is syntactically dead; `every_second` has no panic site.

  `NodeWF` is `InitWF` for the session of every pending handshake, and the stronger "does not await a pong at all" for
  the session of every peer: `InitWF` alone is not inductive for peers, because a session in `peers` that fails after
  `take()` (no common algorithm, payload rejected) is kept — only a *pending* session is closed by the fatal error.
  Sessions enter `peers` only after a completed handshake, when they wait to close, so the stronger statement holds.

  `NonEmptySeals` also speaks about the seals of honest nodes (payload and rotation messages, and the handshake payload
  sealed in pong / peng).  The last section proves that a node of this model never produces an empty seal
  (`own_seals_nonempty`), so the hypothesis is consistent with every run in which all key holders run this code.
  Likewise `ValidRotKeys`: every rotation message the session layer seals is written from 32-byte keys
  (`RotPanic.own_rotation_messages_valid`, at session level).
-/
namespace VpnCloud.Proofs.C08Node

open VpnCloud.Node
open VpnCloud.Proofs.SessionInvLemmas VpnCloud.Proofs.NodeInvLemmas

/-- hypothesis on the ideal AEAD: what opens as a genuine seal contains at least the type byte -/
abbrev NonEmptySeals (bodyOf : Init.BodyOf) : Prop := NodeInvLemmas.NonEmptySeals bodyOf

example (bodyOf : Init.BodyOf) : NonEmptySeals bodyOf ↔ ∀ ct k n p, bodyOf ct = .sealed k n p → p ≠ [] := Iff.rfl

/-- hypothesis on the ideal AEAD: what opens as a genuine seal of a ROTATION message carries X25519 public keys, i.e. if its body parses
    (`RotationMessage::read_from`) the proposed key and the confirmed key (if present) have exactly 32 bytes -/
abbrev ValidRotKeys (bodyOf : Init.BodyOf) : Prop := NodeInvLemmas.ValidRotKeys bodyOf

example (bodyOf : Init.BodyOf) : ValidRotKeys bodyOf ↔ ∀ ct k n body, bodyOf ct = .sealed k n (Generated.MESSAGE_TYPE_ROTATION :: body) →
    ∀ bm, Codec.readRotMsg body = some bm → bm.propose.length = 32 ∧ ∀ c, bm.confirm = some c → c.length = 32 := Iff.rfl

/-- well-formed sessions: a pending handshake that awaits a pong holds its ephemeral key; the handshake object of an established peer
    (if it still has one) does not await a pong -/
def NodeWF (n : Node) : Prop :=
  (∀ a pc, (a, pc) ∈ n.pending → ∀ i, pc.init = some i → i.stage = Generated.STAGE_PONG → i.ecdh.isSome = true) ∧
  (∀ a p, (a, p) ∈ n.peers → ∀ i, p.crypto.init = some i → i.stage ≠ Generated.STAGE_PONG)

theorem sendPing_wf (env : CryptoEnv) (ist : InitSt) (rnd : Rand) : InitWF (Init.sendPing env ist rnd).1 := fun _ => rfl

def SB : SI where
  Q := PendOK
  R := PeerOK
  T := False
  P := True
  L := False
  q_new := fun env n hash rnd ist _ => OnInit.set _ (sendPing_wf env ist rnd)
  q_att := fun n hash => newAttempt_onInit n hash fun hp => absurd hp (by decide : Generated.STAGE_PING ≠ Generated.STAGE_PONG)
  r_seal := fun pc ty body ct h => h.of_init (sealMsg_init pc (ty :: body) ct)

theorem wf_iff (c : Ctx) : (c.panicked = false ∧ NodeWF c.node) ↔ GI SB.ns c := by
  unfold NodeWF
  rw [SB.gi_iff]
  exact ⟨fun ⟨hp, hq, hr⟩ => ⟨hq, hr, nofun, fun _ => hp, nofun⟩, fun ⟨hq, hr, _, hp, _⟩ => ⟨hp trivial, hq, hr⟩⟩

theorem sok (env : CryptoEnv) (bodyOf : Init.BodyOf) (hb : NonEmptySeals bodyOf) (hv : ValidRotKeys bodyOf) (pc : PeerCrypto) (inPeers : Bool) (data tail : Bytes)
    (rnd : Rand) (rr : RotRand) (h : if inPeers then SB.R pc else SB.Q pc) :
    SOK SB inPeers (PeerCrypto.handleMessage env bodyOf payloadOk pc data tail rnd rr) := by
  cases inPeers with
  | true =>
    exact .of_peers (handleMessage_peerOK env bodyOf payloadOk pc data tail rnd rr h)
      (fun _ => handleMessage_no_panic env bodyOf payloadOk pc data tail rnd rr hb hv (PeerOK.pendOK h)) id
  | false =>
    exact .of_hands (handleMessage_pendOK env bodyOf payloadOk pc data tail rnd rr h) nofun
      (fun _ => handleMessage_no_panic env bodyOf payloadOk pc data tail rnd rr hb hv h) id

theorem tok (pc : PeerCrypto) (rr : RotRand) :
    (SB.Q pc → TOK SB SB.Q (PeerCrypto.everySecond pc rr)) ∧ (SB.R pc → TOK SB SB.R (PeerCrypto.everySecond pc rr)) := by
  exact ⟨fun hq => ⟨fun _ => everySecond_no_panic pc rr, fun _ _ _ _ hr => everySecond_onInit initWF_tick hq hr, nofun⟩,
    fun hq => ⟨fun _ => everySecond_no_panic pc rr, fun _ _ _ _ hr => everySecond_onInit (Φ := fun i => i.stage ≠ Generated.STAGE_PONG) notPong_tick hq hr, nofun⟩⟩

theorem handleNet_no_panic (env : CryptoEnv) (bodyOf : Init.BodyOf) (o : Oracle) (n : Node) (now : Int) (src : NAddr) (data tail : Bytes)
    (hwf : NodeWF n) (hb : NonEmptySeals bodyOf) (hv : ValidRotKeys bodyOf) :
    (Node.handleNet env bodyOf o n now src data tail).1.panicked = false ∧ NodeWF (Node.handleNet env bodyOf o n now src data tail).1.node := by
  rw [wf_iff]
  exact handleNet_GI SB.ns env bodyOf o n now src data tail ((wf_iff { node := n }).1 ⟨rfl, hwf⟩)
    (fun pc inPeers rnd rr hpc => (sok env bodyOf hb hv pc inPeers data tail rnd rr hpc).ns _) (SB.q_att n) (fun hf => hf.elim)

theorem handleIface_no_panic (o : Oracle) (n : Node) (now : Int) (data : Bytes) (hwf : NodeWF n) :
    (Node.handleIface o n now data).panicked = false ∧ NodeWF (Node.handleIface o n now data).node := by
  rw [wf_iff]
  exact handleIface_GI SB.ns o n now data ((wf_iff { node := n }).1 ⟨rfl, hwf⟩)

theorem housekeep_no_panic (env : CryptoEnv) (o : Oracle) (n : Node) (now : Int) (hwf : NodeWF n) :
    (Node.housekeep env o n now).panicked = false ∧ NodeWF (Node.housekeep env o n now).node := by
  rw [wf_iff]
  exact housekeep_GI SB.ns env o n now ((wf_iff { node := n }).1 ⟨rfl, hwf⟩) (SI.tok tok) (fun hf => hf.elim)

theorem connect_no_panic (env : CryptoEnv) (o : Oracle) (n : Node) (addrs : List NAddr) (hwf : NodeWF n) :
    (Node.connect env o { node := n } addrs).panicked = false ∧ NodeWF (Node.connect env o { node := n } addrs).node := by
  rw [wf_iff]
  exact connect_GI SB.ns env o { node := n } addrs ((wf_iff { node := n }).1 ⟨rfl, hwf⟩)

/-- one operation of the node and the step context it ends in (outputs, panic flag, new state): ANY cryptography, oracle, input and time;
    the network's view of ciphertexts is only required to satisfy `NonEmptySeals` and `ValidRotKeys` -/
inductive Step : Node → Ctx → Prop
  | net (env : CryptoEnv) (bodyOf : Init.BodyOf) (o : Oracle) (n : Node) (now : Int) (src : NAddr) (data tail : Bytes) :
      NonEmptySeals bodyOf → ValidRotKeys bodyOf → Step n (Node.handleNet env bodyOf o n now src data tail).1
  | iface (o : Oracle) (n : Node) (now : Int) (data : Bytes) : Step n (Node.handleIface o n now data)
  | tick (env : CryptoEnv) (o : Oracle) (n : Node) (now : Int) : Step n (Node.housekeep env o n now)
  | dial (env : CryptoEnv) (o : Oracle) (n : Node) (addrs : List NAddr) : Step n (Node.connect env o { node := n } addrs)

inductive Reach (n0 : Node) : Node → Prop
  | init : Reach n0 n0
  | step {n : Node} {c : Ctx} : Reach n0 n → Step n c → Reach n0 c.node

theorem step_no_panic {n : Node} {c : Ctx} (h : NodeWF n) (hs : Step n c) : c.panicked = false ∧ NodeWF c.node := by
  cases hs with
  | net env bodyOf o _ now src data tail hb hv => exact handleNet_no_panic env bodyOf o n now src data tail h hb hv
  | iface o _ now data => exact handleIface_no_panic o n now data h
  | tick env o _ now => exact housekeep_no_panic env o n now h
  | dial env o _ addrs => exact connect_no_panic env o n addrs h

theorem wf_reach {n0 n : Node} (h0 : NodeWF n0) (h : Reach n0 n) : NodeWF n := by
  induction h with
  | init => exact h0
  | step _ hs ih => exact (step_no_panic ih hs).2

/-- **never panics**: in every history that starts from a node without sessions, no step panics (for every configuration: the interval
    expression of `housekeep` has no panicking input) -/
theorem never_panics (n0 n : Node) (c : Ctx) (h0 : n0.peers = [] ∧ n0.pending = []) (h : Reach n0 n) (hs : Step n c) : c.panicked = false := by
  refine (step_no_panic (wf_reach ?_ h) hs).1
  obtain ⟨h1, h2⟩ := h0
  refine ⟨?_, ?_⟩
  · intro a pc hm; rw [h2] at hm; cases hm
  · intro a p hm; rw [h1] at hm; cases hm

/-- … and more generally from every well-formed node -/
theorem never_panics' (n0 n : Node) (c : Ctx) (h0 : NodeWF n0) (h : Reach n0 n) (hs : Step n c) : c.panicked = false :=
  (step_no_panic (wf_reach h0 h) hs).1

/-! ## `NonEmptySeals` is consistent with what the node itself seals

  `NonEmptySeals` speaks about every ciphertext, hence also about the seals an honest node produces.  Those are: payload messages
  (`type :: body`), rotation messages (`MESSAGE_TYPE_ROTATION :: …`) and the handshake payload (`InitSt.payload`) in pong / peng.
  The handshake payload of every handshake object the node creates is `encodeNodeInfo (createNodeInfo n)`, which starts with the tag
  byte of the node-id part, and `handle_init` / `every_second` never change it.  So every seal in the log of every step is non-empty:
  a node of this model never violates `NonEmptySeals` itself.  (A peer that holds the session key but does not run this code can.) -/

theorem encodeNodeInfo_ne_nil (i : NodeInfo) : Codec.encodeNodeInfo i ≠ [] := by
  simp [Codec.encodeNodeInfo, Codec.encodePart]

theorem sendPing_payload (env : CryptoEnv) (ist : InitSt) (rnd : Rand) : (Init.sendPing env ist rnd).1.payload = ist.payload :=
  InitLemmas.init_sendMessage_payload env { ist with ecdh := some rnd.ecdhPub } Generated.STAGE_PING rnd

/-- one operation, for ANY view of the ciphertexts (no hypothesis on the AEAD here) -/
inductive StepAny : Node → Ctx → Prop
  | net (env : CryptoEnv) (bodyOf : Init.BodyOf) (o : Oracle) (n : Node) (now : Int) (src : NAddr) (data tail : Bytes) :
      StepAny n (Node.handleNet env bodyOf o n now src data tail).1
  | iface (o : Oracle) (n : Node) (now : Int) (data : Bytes) : StepAny n (Node.handleIface o n now data)
  | tick (env : CryptoEnv) (o : Oracle) (n : Node) (now : Int) : StepAny n (Node.housekeep env o n now)
  | dial (env : CryptoEnv) (o : Oracle) (n : Node) (addrs : List NAddr) : StepAny n (Node.connect env o { node := n } addrs)

inductive ReachAny (n0 : Node) : Node → Prop
  | init : ReachAny n0 n0
  | step {n : Node} {c : Ctx} : ReachAny n0 n → StepAny n c → ReachAny n0 c.node

/-- an instance of the generic invariant that does not track the table (that needs `0 < now`) is kept by every operation -/
theorem GI_stepAny (S : NS) {n : Node} {c : Ctx} (hs : StepAny n c) (h : GI S { node := n }) (hT : ¬ S.T)
    (hm : ∀ env bodyOf (a : NAddr) (pc : PeerCrypto) (inPeers : Bool) data tail (rnd : Rand) (rr : RotRand), (if inPeers then S.R a pc else S.Q a pc) →
      MsgOK S a inPeers (PeerCrypto.handleMessage env bodyOf payloadOk pc data tail rnd rr))
    (hatt : ∀ src hash, S.Q src (newAttempt n hash))
    (ht : ∀ a pc rr, (S.Q a pc → TickOK S (S.Q a) (PeerCrypto.everySecond pc rr)) ∧ (S.R a pc → TickOK S (S.R a) (PeerCrypto.everySecond pc rr)))
    (hown : ∀ i k a own, S.C i k a own → S.C i k a (k.advertise ++ [a]) := by exact fun _ _ _ _ h => h) : GI S c := by
  cases hs with
  | net env bodyOf o _ now src data tail =>
    exact handleNet_GI S env bodyOf o n now src data tail h (fun pc inPeers rnd rr hpc => hm env bodyOf _ pc inPeers data tail rnd rr hpc) (hatt _) (fun h => absurd h hT)
  | iface o _ now data => exact handleIface_GI S o n now data h
  | tick env o _ now => exact housekeep_GI S env o n now h ht (fun h => absurd h hT) hown
  | dial env o _ addrs => exact connect_GI S env o { node := n } addrs h

section Seals
open VpnCloud.Proofs.LogPLemmas VpnCloud.Proofs.RotPanicLemmas
variable {P : Bytes → Prop}

/-- the three kinds of plaintext a node seals all satisfy `P`: rotation messages as `write_to` writes them, node infos (the handshake
    payload in pong / peng) and payload messages `type :: body` of a type other than ROTATION (`assert_ne!` in the Rust) -/
structure SealsP (P : Bytes → Prop) : Prop where
  rot : ∀ m : Rot.Msg, P (Generated.MESSAGE_TYPE_ROTATION :: Codec.writeRotMsg (PeerCrypto.rotMsgToBytes m))
  info : ∀ i : NodeInfo, P (Codec.encodeNodeInfo i)
  other : ∀ ty body, ty ≠ Generated.MESSAGE_TYPE_ROTATION → P (ty :: body)

def PayN (P : Bytes → Prop) (n : Node) : Prop :=
  (∀ a pc, (a, pc) ∈ n.pending → PayP P pc) ∧ (∀ a p, (a, p) ∈ n.peers → PayP P p.crypto)

theorem PayN.of_empty {n : Node} (h : n.peers = [] ∧ n.pending = []) : PayN P n := by
  refine ⟨?_, ?_⟩
  · intro a pc hm; rw [h.2] at hm; cases hm
  · intro a p hm; rw [h.1] at hm; cases hm

def SP (hP : SealsP P) : SI where
  Q := PayP P
  R := PayP P
  T := False
  P := False
  L := True
  q_new := by
    intro env n hash rnd ist hist
    refine OnInit.set _ ?_
    rw [sendPing_payload]
    exact newAttempt_onInit (Φ := fun i => P i.payload) n hash (hP.info _) ist hist
  q_att := fun n hash => newAttempt_onInit n hash (hP.info _)
  r_seal := fun pc ty body ct h => h.of_init (sealMsg_init pc (ty :: body) ct)
  LG := LogP P
  lg_nil := logP_nil
  lg_append := fun _ _ h1 h2 => h1.append h2
  lg_send := fun pc ty body ct bytes log hty h => sealMsg_logP pc (ty :: body) ct bytes log h (hP.other ty body hty)

theorem payN_iff (hP : SealsP P) (c : Ctx) : (LogP P c.log ∧ PayN P c.node) ↔ GI (SP hP).ns c := by
  unfold PayN
  rw [(SP hP).gi_iff]
  exact ⟨fun ⟨hl, hq, hr⟩ => ⟨hq, hr, nofun, nofun, fun _ => hl⟩, fun ⟨hq, hr, _, _, hl⟩ => ⟨hl trivial, hq, hr⟩⟩

theorem sokP (hP : SealsP P) (env : CryptoEnv) (bodyOf : Init.BodyOf) (a : NAddr) (pc : PeerCrypto) (inPeers : Bool) (data tail : Bytes)
    (rnd : Rand) (rr : RotRand) (h : if inPeers then (SP hP).R pc else (SP hP).Q pc) :
    MsgOK (SP hP).ns a inPeers (PeerCrypto.handleMessage env bodyOf payloadOk pc data tail rnd rr) := by
  have hp : PayP P pc := by
    cases inPeers
    · exact h
    · exact h
  have hg := handleMessage_payP hP.rot env bodyOf payloadOk pc data tail rnd rr
  generalize PeerCrypto.handleMessage env bodyOf payloadOk pc data tail rnd rr = r at hg
  refine .of_leaves (X := PayP P) ?_ (fun _ h => ⟨h, fun _ => h⟩) id id ?_
  · cases r with
    | panic => trivial
    | err => exact hg hp
    | ok => exact (hg hp).1
  · intro _ pc' out res log hr
    subst hr
    exact (hg hp).2

theorem tokP (hP : SealsP P) (pc : PeerCrypto) (rr : RotRand) :
    ((SP hP).Q pc → TOK (SP hP) (SP hP).Q (PeerCrypto.everySecond pc rr)) ∧ ((SP hP).R pc → TOK (SP hP) (SP hP).R (PeerCrypto.everySecond pc rr)) := by
  have key : PayP P pc → TOK (SP hP) (PayP P) (PeerCrypto.everySecond pc rr) := by
    intro hq
    refine ⟨nofun, fun _ _ _ _ hr => everySecond_onInit (Φ := fun i => P i.payload) (fun i hi => by rw [InitLemmas.init_everySecond_payload]; exact hi) hq hr, ?_⟩
    -- what `every_second` seals is a rotation message
    intro _ pc' out res log hr ct b hm k n p hb
    obtain ⟨m, hp⟩ := everySecond_logRot hr ct b hm k n p hb
    rw [hp]; exact hP.rot m
  exact ⟨key, key⟩

theorem stepAny_seals (hP : SealsP P) {n : Node} {c : Ctx} (h : PayN P n) (hs : StepAny n c) : LogP P c.log ∧ PayN P c.node := by
  rw [payN_iff hP]
  exact GI_stepAny _ hs ((payN_iff hP { node := n }).1 ⟨logP_nil, h⟩) id
    (sokP hP) (fun _ => (SP hP).q_att n) (SI.tok (tokP hP))

theorem payN_reach (hP : SealsP P) {n0 n : Node} (h0 : PayN P n0) (h : ReachAny n0 n) : PayN P n := by
  induction h with
  | init => exact h0
  | step _ hs ih => exact (stepAny_seals hP ih hs).2

/-- in every history from a node without sessions, whatever the network does, every seal in the log of every step has a plaintext with `P` -/
theorem own_seals (hP : SealsP P) (n0 n : Node) (c : Ctx) (h0 : n0.peers = [] ∧ n0.pending = []) (h : ReachAny n0 n) (hs : StepAny n c) :
    LogP P c.log :=
  (stepAny_seals hP (payN_reach hP (PayN.of_empty h0) h) hs).1

end Seals

/-- **every seal a node ever produces has a non-empty plaintext**: in every history from a node without sessions, whatever the
    network does, every entry of the seal log of every step is the seal of a non-empty plaintext -/
theorem own_seals_nonempty (n0 n : Node) (c : Ctx) (h0 : n0.peers = [] ∧ n0.pending = []) (h : ReachAny n0 n) (hs : StepAny n c) :
    ∀ ct k nonce p, (ct, Body.sealed k nonce p) ∈ c.log → p ≠ [] := by
  intro ct k nonce p hm
  have hP : SealsP (· ≠ []) := ⟨fun _ => List.cons_ne_nil _ _, encodeNodeInfo_ne_nil, fun _ _ _ => List.cons_ne_nil _ _⟩
  exact own_seals hP n0 n c h0 h hs ct _ hm k nonce p rfl

/-! ## non-vacuity; the invariant and the hypothesis on the AEAD are both needed -/
section Examples
open VpnCloud.Proofs.InitLemmas

private def s : NAddr := .v6 (List.replicate 16 0) 1
private def s2 : NAddr := .v6 (List.replicate 16 0) 2
private def cfg0 : NodeCfg :=
  { tap := false, learning := false, broadcast := false, peerTimeout := 300, peerTimeoutPublish := 300, updateFreq := 10,
    claims := [], key := [7, 7, 7, 7], trusted := [[9, 9, 9, 9]], algos := Toy.algos }
private def o0 : Oracle := { emitted := fun _ _ => [], rotProp := fun _ => 0, rotPend := fun _ => 0, starts := fun _ => [] }
private def n0 : Node :=
  { nodeId := List.replicate 16 9, addr := .v6 (List.replicate 16 0) 3, cfg := cfg0, table := { cacheTimeout := 300, claimTimeout := 300 } }

/-- non-vacuity: a node with an established peer (session with core, no handshake object) and a pending handshake that awaits a pong and
    holds its key is well-formed -/
private def n1 : Node :=
  { n0 with
    peers := [(s, { addrs := [], timeout := 1000, peerTimeout := 300, nodeId := List.replicate 16 1,
                    crypto := { init := none, core := some (Core.new 5 false 1 []) } })],
    pending := [(s2, { init := some Toy.st })] }

private theorem n1_wf : NodeWF n1 := by
  constructor
  · intro a pc hm i hi _
    simp only [n1, List.mem_singleton, Prod.mk.injEq] at hm
    obtain ⟨_, rfl⟩ := hm
    cases hi; rfl
  · intro a p hm i hi
    simp only [n1, List.mem_singleton, Prod.mk.injEq] at hm
    obtain ⟨_, rfl⟩ := hm
    cases hi

example : NodeWF n1 := n1_wf

/-- the invariant is needed: a pending handshake that awaits a pong WITHOUT holding its key panics on a valid pong of a trusted peer
    (`ecdh_private_key.take().unwrap()`) -/
private def nNoKey : Node := { n0 with pending := [(s2, { init := some { Toy.st with ecdh := none } })] }

example : (handleNet Toy.env (Toy.body 0) o0 nNoKey 100 s2 (Generated.INIT_MESSAGE_FIRST_BYTE :: Toy.pong Toy.algos 0) []).1.panicked = true := by
  decide

/-- `NonEmptySeals` is needed: if the peer that holds the session key seals an EMPTY plaintext (8 header bytes + 16 tag bytes on the wire),
    the receiving node opens it and panics in `take_prefix` — from a well-formed state -/
private def emptySeal : Init.BodyOf := fun _ => .sealed 5 (HALF + 5) []
private def dgram24 : Bytes := [0, 0, 0, 0, 0, 0, 0, 5] ++ List.replicate 16 170

example : NodeWF n1 ∧ (handleNet Toy.env emptySeal o0 n1 100 s dgram24 []).1.panicked = true := by
  exact ⟨n1_wf, by decide⟩

/-- a node whose established peer has a rotation state (the one of the handshake initiator: id 0, nothing proposed) -/
private def n2 : Node :=
  { n0 with
    peers := [(s, { addrs := [], timeout := 1000, peerTimeout := 300, nodeId := List.replicate 16 1,
                    crypto := { init := none, core := some (Core.new 5 false 1 []), rot := some (PeerCrypto.initSide false 0) } })] }

private theorem n2_wf : NodeWF n2 := by
  constructor
  · intro a pc hm; cases hm
  · intro a p hm i hi
    simp only [n2, List.mem_singleton, Prod.mk.injEq] at hm
    obtain ⟨_, rfl⟩ := hm
    cases hi

/-- `ValidRotKeys` is needed: if the peer that holds the session key seals a ROTATION message with id 1 whose proposed key has FIVE bytes
    (plaintext `10 | 00 00 00 00 00 00 00 01 | 05 | 01 02 03 04 05 | 00`), the receiving node opens it and panics in
    `derive_key(private_key, msg.propose)` — from a well-formed state, and although no genuine seal is empty -/
private def shortKey : Init.BodyOf := fun _ => .sealed 5 (HALF + 5) [Generated.MESSAGE_TYPE_ROTATION, 0, 0, 0, 0, 0, 0, 0, 1, 5, 1, 2, 3, 4, 5, 0]

example : NodeWF n2 ∧ NonEmptySeals shortKey ∧ ¬ ValidRotKeys shortKey ∧ (handleNet Toy.env shortKey o0 n2 100 s dgram24 []).1.panicked = true := by
  refine ⟨n2_wf, ?_, ?_, by decide⟩
  · intro ct k n p h
    simp only [shortKey, Body.sealed.injEq] at h
    rw [← h.2.2]; decide
  · intro hv
    have h := hv [] 5 (HALF + 5) [0, 0, 0, 0, 0, 0, 0, 1, 5, 1, 2, 3, 4, 5, 0] rfl ⟨1, [1, 2, 3, 4, 5], none⟩ (by decide)
    exact absurd h.1 (by decide)

/-- non-vacuity of `NonEmptySeals` and `ValidRotKeys` together: an AEAD view with a genuine seal of a rotation message as `write_to` writes
    it (id 1, public key number 5) satisfies both, and the node hands it to `handle_rotate_message` without panic -/
private def goodRot : Init.BodyOf := fun ct =>
  if ct = List.replicate 16 170 then .sealed 5 (HALF + 5) (Generated.MESSAGE_TYPE_ROTATION :: Codec.writeRotMsg (PeerCrypto.rotMsgToBytes ⟨1, 5, none⟩))
  else .garbage ct.length

example : NonEmptySeals goodRot ∧ ValidRotKeys goodRot ∧ NodeWF n2 ∧ (handleNet Toy.env goodRot o0 n2 100 s dgram24 []).1.panicked = false ∧
    (handleNet Toy.env goodRot o0 n2 100 s dgram24 []).2 = none := by
  have h1 : NonEmptySeals goodRot := by
    intro ct k n p h
    unfold goodRot at h
    split at h
    · simp only [Body.sealed.injEq] at h
      rw [← h.2.2]; simp
    · cases h
  have h2 : ValidRotKeys goodRot := by
    intro ct k n body h
    unfold goodRot at h
    split at h
    · simp only [Body.sealed.injEq, List.cons.injEq, true_and] at h
      rw [← h.2.2]
      exact VpnCloud.Proofs.RotPanicLemmas.written_keysOK _
    · cases h
  exact ⟨h1, h2, n2_wf, (handleNet_no_panic Toy.env goodRot o0 n2 100 s dgram24 [] n2_wf h1 h2).1, by decide +kernel⟩

/-- the seal log is not trivially empty: a broadcast frame is sealed once for the peer, and the logged plaintext is `type :: frame` -/
example : (handleIface o0 { n1 with cfg := { cfg0 with broadcast := true } } 100 (69 :: (List.replicate 11 0 ++ [10, 0, 0, 1, 10, 0, 0, 2]))).log.map (·.2) =
    [.sealed 5 1 (0 :: 69 :: (List.replicate 11 0 ++ [10, 0, 0, 1, 10, 0, 0, 2]))] := by
  decide

/-- a two-step history from the empty node -/
example : Reach n0 (housekeep Toy.env o0 (connect Toy.env o0 { node := n0 } [s]).node 100).node :=
  .step (.step .init (.dial Toy.env o0 n0 [s])) (.tick Toy.env o0 _ 100)

end Examples
end VpnCloud.Proofs.C08Node
