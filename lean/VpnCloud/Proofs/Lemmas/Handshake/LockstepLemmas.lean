import VpnCloud.Proofs.Lemmas.Handshake.InitLemmas
/-
  `sendMessage` and `decryptPayload` in closed form; the results of an answered ping and of an accepted pong in closed form
  (`pingRes_some` / `_none`, `pongRes_some` / `_none`: state, datagram, seal log, and for every class `D` of throw-away keys the
  `CoreKeys` of the new core and what it opened), on which the key-binding theorems of `C05`, `C05Agree` and the invariants of the
  layers above rest; the state of slot 0 of a handshake core through seal / open (`Slot0`, for `Proofs/C05Lockstep.lean`).
-/
namespace VpnCloud.Proofs.LockstepLemmas

open VpnCloud.Init VpnCloud.InitMsg VpnCloud.Spec.C04
open VpnCloud.Proofs.InitLemmas VpnCloud.Proofs.CoreLemmas
open VpnCloud.Proofs.C05AgreeLemmas (CoreKeys)

theorem sendMessage_ping (env : CryptoEnv) (st : InitSt) (rnd : Rand) :
    sendMessage env st Generated.STAGE_PING rnd =
      ({ st with last := some (writeTo (.ping st.hash rnd.ecdhPub st.algos) rnd.salt (env.keyHash st.ownKey rnd.salt) rnd.sig) },
       writeTo (.ping st.hash rnd.ecdhPub st.algos) rnd.salt (env.keyHash st.ownKey rnd.salt) rnd.sig, []) := rfl

theorem sendMessage_pong (env : CryptoEnv) (st : InitSt) (rnd : Rand) :
    sendMessage env st Generated.STAGE_PONG rnd =
      ({ (encryptPayload st rnd).1 with
          last := some (writeTo (.pong st.hash rnd.ecdhPub st.algos (encryptPayload st rnd).2.1) rnd.salt (env.keyHash st.ownKey rnd.salt) rnd.sig) },
       writeTo (.pong st.hash rnd.ecdhPub st.algos (encryptPayload st rnd).2.1) rnd.salt (env.keyHash st.ownKey rnd.salt) rnd.sig,
       (encryptPayload st rnd).2.2) := rfl

theorem sendMessage_peng (env : CryptoEnv) (st : InitSt) (rnd : Rand) :
    sendMessage env st Generated.STAGE_PENG rnd =
      ({ (encryptPayload st rnd).1 with
          last := some (writeTo (.peng st.hash (encryptPayload st rnd).2.1) rnd.salt (env.keyHash st.ownKey rnd.salt) rnd.sig) },
       writeTo (.peng st.hash (encryptPayload st rnd).2.1) rnd.salt (env.keyHash st.ownKey rnd.salt) rnd.sig,
       (encryptPayload st rnd).2.2) := rfl

theorem encryptPayload_none (st : InitSt) (rnd : Rand) (h : st.crypto = none) : encryptPayload st rnd = (st, st.payload, []) := by
  unfold encryptPayload; rw [h]

theorem encryptPayload_some (st : InitSt) (rnd : Rand) (c : Core) (h : st.crypto = some c) :
    encryptPayload st rnd =
      ({ st with crypto := some (c.encrypt st.payload).1 }, (c.encrypt st.payload).2.hdr ++ rnd.ct, [(rnd.ct, (c.encrypt st.payload).2.body)]) := by
  unfold encryptPayload; rw [h]

theorem decryptPayload_ok (s : InitSt) (bodyOf : BodyOf) (data : Bytes) (c : Core) (p : Bytes) (h : s.crypto = some c)
    (hd : (c.decrypt { hdr := data.take 8, body := bodyOf (data.drop 8) }).2 = .ok p) :
    decryptPayload s bodyOf data = ({ s with crypto := some (c.decrypt { hdr := data.take 8, body := bodyOf (data.drop 8) }).1 }, some p) := by
  unfold decryptPayload
  rw [h]
  simp only
  generalize c.decrypt { hdr := data.take 8, body := bodyOf (data.drop 8) } = r at hd
  obtain ⟨c', res⟩ := r
  simp only at hd
  subst hd
  rfl

theorem encrypt_body {K : KeyRef} {H : Bool} {c : Core} (p : Bytes) (h : CoreOK K H c) (hcur : c.cur = 0) :
    ∃ n, (c.encrypt p).2.body = .sealed K n p ∧ (c.encrypt p).2.hdr.length = 8 := by
  have h1 := h.1
  cases hk : c.slots[0]? with
  | none => rw [hk] at h1; cases h1
  | some k =>
    rw [hk] at h1
    rw [encrypt_eq c p k (by rw [hcur]; exact hk), ← Option.some.inj h1]
    exact ⟨_, rfl, by simp [Bytes.ofBE_length]⟩

theorem decryptPayload_keys {bodyOf : BodyOf} {s s' : InitSt} {pl p : Bytes} {core : Core} {K : KeyRef} {H : Bool} {D : KeyRef → Prop}
    (hd : decryptPayload s bodyOf pl = (s', some p)) (hc : s.crypto = some core) (hk : CoreKeys K H D core) :
    ∃ core', s' = { s with crypto := some core' } ∧ CoreKeys K H D core' ∧
      ∃ n, bodyOf (pl.drop 8) = .sealed K n p ∨ ∃ k', D k' ∧ bodyOf (pl.drop 8) = .sealed k' n p := by
  obtain ⟨h3, h2⟩ := decryptPayload_some _ _ _ _ hc _ _ hd
  exact ⟨_, h2, CoreKeys_decrypt _ hk, CoreKeys_opens _ _ hk h3⟩

theorem encryptPayload_keys (st : InitSt) (rnd : Rand) (core : Core) (K : KeyRef) (H : Bool) (hc : st.crypto = some core)
    (hk : CoreOK K H core) (hcur : core.cur = 0) :
    ∃ n, (encryptPayload st rnd).1 = { st with crypto := some (core.encrypt st.payload).1 } ∧
      ((encryptPayload st rnd).2.1).drop 8 = rnd.ct ∧ ((encryptPayload st rnd).2.1).length = 8 + rnd.ct.length ∧
      (encryptPayload st rnd).2.2 = [(rnd.ct, .sealed K n st.payload)] := by
  obtain ⟨n, hb, hl⟩ := encrypt_body st.payload hk hcur
  rw [encryptPayload_some st rnd core hc]
  refine ⟨n, rfl, ?_, ?_, ?_⟩
  · exact List.drop_left' hl
  · simp only [List.length_append, hl]
  · simp only [hb]

/-- the datagram of message `m` of `st` with the random parts `rnd` -/
def _root_.VpnCloud.Proofs.C05AgreeLemmas.wireOf (env : CryptoEnv) (st : InitSt) (m : InitMsg) (rnd : Rand) : Bytes :=
  writeTo m rnd.salt (env.keyHash st.ownKey rnd.salt) rnd.sig

open VpnCloud.Proofs.C05AgreeLemmas (wireOf)

theorem pingRes_some (env : CryptoEnv) (st0 : InitSt) (h e : Bytes) (c : Cipher) (rnd : Rand) :
    ∃ core n pl, pingRes env st0 h e (some c) rnd =
        .ok { st0 with retries := 0, selected := some c, crypto := some core,
                       last := some (wireOf env st0 (.pong st0.hash rnd.ecdhPub st0.algos pl) rnd), stage := Generated.STAGE_PENG }
          (wireOf env st0 (.pong st0.hash rnd.ecdhPub st0.algos pl) rnd, .continue,
           [(rnd.ct, .sealed (masterKey c rnd.ecdhPub e) n st0.payload)]) ∧
      pl.drop 8 = rnd.ct ∧ pl.length = 8 + rnd.ct.length ∧
      ∀ D : KeyRef → Prop, D rnd.dummy → CoreKeys (masterKey c rnd.ecdhPub e) (bytesGt st0.hash h) D core := by
  have hc : (pingSt st0 h e (some c) rnd).crypto =
      some (Core.new (masterKey c rnd.ecdhPub e) (bytesGt st0.hash h) rnd.dummy (rnd.start :: rnd.starts123)) := rfl
  obtain ⟨n, e1, e2, e3, e4⟩ := encryptPayload_keys (pingSt st0 h e (some c) rnd) rnd _ _ _ hc (CoreOK_new _ _ _ _) rfl
  refine ⟨?core, n, (encryptPayload (pingSt st0 h e (some c) rnd) rnd).2.1, ?eq, e2, e3, ?keys⟩
  case eq =>
    unfold pingRes
    rw [sendMessage_pong]
    simp only [e1, e4]
    rfl
  exact fun D hD => CoreKeys_encrypt _ (CoreKeys_new _ _ D _ _ hD)

theorem pingRes_none (env : CryptoEnv) (st0 : InitSt) (h e : Bytes) (rnd : Rand) (hcr : st0.crypto = none) :
    pingRes env st0 h e none rnd =
      .ok { st0 with retries := 0, selected := none,
                     last := some (wireOf env st0 (.pong st0.hash rnd.ecdhPub st0.algos st0.payload) rnd), stage := Generated.STAGE_PENG }
        (wireOf env st0 (.pong st0.hash rnd.ecdhPub st0.algos st0.payload) rnd, .continue, []) := by
  have hc : (pingSt st0 h e none rnd).crypto = none := hcr
  unfold pingRes
  rw [sendMessage_pong, encryptPayload_none _ _ hc]
  rfl

theorem pongRes_some (env : CryptoEnv) (bodyOf : BodyOf) (st : InitSt) (own eb hb : Bytes) (c : Cipher) (rnd : Rand) (pl : Bytes)
    (st5 : InitSt) (p : Bytes) (hd : decryptPayload (pongSt st own eb hb (some c) rnd) bodyOf pl = (st5, some p)) :
    ∃ core n pl', pongRes env st5 rnd p =
        .ok { st with retries := 0, ecdh := none, selected := some c, crypto := some core,
                      last := some (wireOf env st (.peng st.hash pl') rnd), stage := Generated.WAITING_TO_CLOSE,
                      closeTime := Generated.CLOSE_TIME }
          (wireOf env st (.peng st.hash pl') rnd, .success p true, [(rnd.ct, .sealed (masterKey c own eb) n st.payload)]) ∧
      pl'.drop 8 = rnd.ct ∧ pl'.length = 8 + rnd.ct.length ∧
      ∀ D : KeyRef → Prop, D rnd.dummy → CoreKeys (masterKey c own eb) (bytesGt st.hash hb) D core ∧
        ∃ m, bodyOf (pl.drop 8) = .sealed (masterKey c own eb) m p ∨ ∃ k', D k' ∧ bodyOf (pl.drop 8) = .sealed k' m p := by
  have hk0 := fun D hD => CoreKeys_new (masterKey c own eb) (bytesGt st.hash hb) D rnd.dummy (rnd.start :: rnd.starts123) hD
  obtain ⟨hdec, h5⟩ := decryptPayload_some _ _ _ _ (rfl : (pongSt st own eb hb (some c) rnd).crypto = some (Core.new _ _ _ _)) _ _ hd
  obtain ⟨n, e1, e2, e3, e4⟩ := encryptPayload_keys st5 rnd _ _ _ (by rw [h5]) (CoreKeys_decrypt _ (hk0 (fun _ => True) trivial)).1
    (C04Session.step_cur _ (.open _))
  refine ⟨?core, n, (encryptPayload st5 rnd).2.1, ?eq, e2, e3, ?keys⟩
  case eq =>
    unfold pongRes
    rw [sendMessage_peng]
    simp only [e1, e4]
    rw [h5]
    rfl
  exact fun D hD => ⟨CoreKeys_encrypt _ (CoreKeys_decrypt _ (hk0 D hD)), CoreKeys_opens _ _ (hk0 D hD) hdec⟩

theorem pongRes_none (env : CryptoEnv) (bodyOf : BodyOf) (st : InitSt) (own eb hb : Bytes) (rnd : Rand) (pl : Bytes)
    (st5 : InitSt) (p : Bytes) (hcr : st.crypto = none) (hd : decryptPayload (pongSt st own eb hb none rnd) bodyOf pl = (st5, some p)) :
    p = pl ∧ pongRes env st5 rnd p =
      .ok { st with retries := 0, ecdh := none, selected := none,
                    last := some (wireOf env st (.peng st.hash st.payload) rnd), stage := Generated.WAITING_TO_CLOSE,
                    closeTime := Generated.CLOSE_TIME }
        (wireOf env st (.peng st.hash st.payload) rnd, .success p true, []) := by
  have hnone : (pongSt st own eb hb none rnd).crypto = none := hcr
  rw [decryptPayload_none _ _ _ hnone] at hd
  simp only [Prod.mk.injEq, Option.some.injEq] at hd
  obtain ⟨h5, hp⟩ := hd
  subst h5
  refine ⟨hp.symm, ?_⟩
  unfold pongRes
  rw [sendMessage_peng, encryptPayload_none _ _ hnone]
  rfl

/-- what the handshake needs to know about a core: it sends from slot 0, its nonce half, and key / send counter / window floor of slot 0 -/
structure Slot0 (c : Core) (K : KeyRef) (half : Bool) (send : Nat) : Prop where
  cur : c.cur = 0
  half : c.half = half
  slot : ∃ k, c.slots[0]? = some k ∧ k.key = K ∧ k.send = send ∧ k.min = 0

theorem slot0_new (K : KeyRef) (h : Bool) (d : KeyRef) (s : Nat) (ss : List Nat) :
    Slot0 (Core.new K h d (s :: ss)) K h (base h + s) :=
  ⟨rfl, rfl, _, rfl, rfl, rfl, rfl⟩

theorem slot0_coreOK {c : Core} {K : KeyRef} {h : Bool} {s : Nat} (hc : Slot0 c K h s) : CoreOK K h c := by
  obtain ⟨_, hh, k, hk, hkey, _, _⟩ := hc
  exact ⟨by rw [hk]; simp [hkey], hh⟩

theorem slot0_decrypt {c : Core} {K : KeyRef} {h : Bool} {s : Nat} (d : Dgram) (hc : Slot0 c K h s) : Slot0 (c.decrypt d).1 K h s := by
  obtain ⟨hcur, hh, k, hk, hkey, hsend, hmin⟩ := hc
  obtain ⟨e1, e2, e3, _⟩ := C04Session.slotStep_accept_key k (c.reconstruct d.counter)
  refine ⟨(C04Session.step_cur c (.open d)).trans hcur, (C04Session.step_half c (.open d)).trans hh, _,
    C04Session.step_slot c (.open d) 0 k hk, ?_⟩
  simp only [C04Session.slotAfter]
  split
  · exact ⟨e1.trans hkey, e2.trans hsend, e3.trans hmin⟩
  · exact ⟨hkey, hsend, hmin⟩

theorem slot0_encrypt {c : Core} {K : KeyRef} {h : Bool} {s : Nat} (p : Bytes) (hc : Slot0 c K h s) (hlt : s + 1 < NONCE_MOD) :
    (c.encrypt p).2 = { hdr := 0 :: Bytes.ofBE 7 (s + 1), body := .sealed K (s + 1) p } ∧ Slot0 (c.encrypt p).1 K h (s + 1) := by
  obtain ⟨hcur, hh, k, hk, hkey, hsend, hmin⟩ := hc
  have hk' : c.slots[c.cur]? = some k := by rw [hcur]; exact hk
  obtain ⟨e2, e1⟩ := C04.encrypt_spec c p k hk' (by rw [hsend]; exact hlt)
  rw [e2, e1]
  have hl : 0 < c.slots.length := (List.getElem?_eq_some_iff.1 hk).1
  refine ⟨by rw [hcur, hkey, hsend], hcur, hh, ?_⟩
  simp only [hcur]
  exact ⟨_, List.getElem?_set_self hl, hkey, by simp only [hsend], hmin⟩

theorem slot0_opens {c : Core} {K : KeyRef} {h : Bool} {s : Nat} (hc : Slot0 c K (!h) s) (v : Nat) (hv : v < 2 ^ 56) (p : Bytes) :
    (c.decrypt { hdr := 0 :: Bytes.ofBE 7 (base h + v), body := .sealed K (base h + v) p }).2 = .ok p := by
  obtain ⟨_, hh, k, hk, hkey, _, hmin⟩ := hc
  rw [← hkey]
  exact (C02.opens_sealed c 0 k h v p (by decide) hk hh hv (by rw [hmin]; exact Nat.zero_le _)).1

theorem hash_ne_of_beVal {h1 h2 : Bytes} (h : Bytes.beVal h1 ≠ Bytes.beVal h2) : h1 ≠ h2 := by
  intro e; rw [e] at h; exact h rfl

theorem first_nonce_lt (h : Bool) (s : Nat) (hs : s < 2 ^ 48) : base h + s + 1 < NONCE_MOD := by
  rw [pow48] at hs
  rw [nonce_mod_eq]
  cases h <;> simp only [base, half_eq, if_true, Bool.false_eq_true, if_false] <;> omega

theorem start_succ_lt (s : Nat) (hs : s < 2 ^ 48) : s + 1 < 2 ^ 56 := by
  rw [pow48] at hs; rw [pow56]; omega

end VpnCloud.Proofs.LockstepLemmas
