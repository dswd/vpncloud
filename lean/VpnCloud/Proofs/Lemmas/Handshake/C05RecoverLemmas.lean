import VpnCloud.Proofs.C05Agree
/-
  Helper lemmas for `Proofs/C05Recover.lean` (recovery of one pair of handshake objects once delivery is reliable).

  The invariant `RI` is ghost-free: it describes the stored last message of every object and every logged signature of the run in
  terms of the CURRENT states of the two objects (`Mine`): which ephemeral key a ping carries, under which key and with which header
  the payload of a pong / peng was sealed (`Field`), and that the peer's handshake core — if the peer still waits — holds that key
  (`HasCore`).  It is preserved by every step of `StepW` (= `C05Agree.Step` with slot-0 counter starts `< 2^48`, as the Rust draws
  them) as long as `bodyOf` is the ideal AEAD on the seal log (`Opens`).
-/
namespace VpnCloud.Proofs.C05RecoverLemmas

open VpnCloud.Init VpnCloud.InitMsg VpnCloud.Spec.C04
open VpnCloud.Proofs.InitLemmas VpnCloud.Proofs.C05AgreeLemmas VpnCloud.Proofs.LockstepLemmas
open VpnCloud.Proofs.C05Lockstep (EcdhWF Opens firstNonce firstNonce_eq sealed_take_drop)
open VpnCloud.Proofs.C16Init (msgWF)
open VpnCloud.Proofs.InitMsgLemmas

abbrev PING := Generated.STAGE_PING
abbrev PONG := Generated.STAGE_PONG
abbrev PENG := Generated.STAGE_PENG
abbrev WAIT := Generated.WAITING_TO_CLOSE
abbrev CLOSING := Generated.CLOSING

/-- the payload field `pl` of a pong / peng carrying `payload`: with a cipher, key id 0, the 7 low bytes of the first nonce of a fresh
    core of half `h` (slot-0 counter start `< 2^48`) and a ciphertext that the seal log records as `payload` sealed under `K c` with
    that nonce; without cipher the payload itself -/
def Field (sel : Option Cipher) (seals : SealLog) (h : Bool) (K : Cipher → KeyRef) (payload pl : Bytes) : Prop :=
  match sel with
  | some c => ∃ start ct, start < 2 ^ 48 ∧ pl = 0 :: Bytes.ofBE 7 (firstNonce h start) ++ ct ∧
      (ct, Body.sealed (K c) (firstNonce h start) payload) ∈ seals
  | none => pl = payload

/-- the handshake core of `x`: with a cipher, a core that sends from slot 0, of half `h`, with key `K c` in slot 0 and window floor 0;
    without cipher none -/
def HasCore (sel : Option Cipher) (x : InitSt) (K : Cipher → KeyRef) (h : Bool) : Prop :=
  match sel with
  | some c => ∃ core s, x.crypto = some core ∧ Slot0 core (K c) h s
  | none => x.crypto = none

/-- what a signed message of object `x` (peer `y`) says, in terms of the current states -/
def Mine (sel : Option Cipher) (x y : InitSt) (seals : SealLog) : InitMsg → Prop
  | .ping _ e al => al = x.algos ∧ EcdhWF e ∧ x.stage ≠ PING ∧ (x.stage = PONG → x.ecdh = some e) ∧
      (x.stage = PENG → bytesGt y.hash x.hash = true)
  | .pong _ e al pl => al = x.algos ∧ EcdhWF e ∧ (x.stage = PENG ∨ x.stage = CLOSING) ∧ y.stage ≠ PING ∧
      ∃ pe, EcdhWF pe ∧ (y.stage = PONG → y.ecdh = some pe) ∧
        Field sel seals (bytesGt x.hash y.hash) (fun c => masterKey c e pe) x.payload pl ∧
        (x.stage = PENG → HasCore sel x (fun c => masterKey c e pe) (bytesGt x.hash y.hash))
  | .peng _ pl => (x.stage = WAIT ∨ x.stage = CLOSING) ∧ (y.stage = PENG ∨ y.stage = CLOSING) ∧
      ∃ K, Field sel seals (bytesGt x.hash y.hash) K x.payload pl ∧ (y.stage = PENG → HasCore sel y K (bytesGt y.hash x.hash))

/-- the stored last message of `x` is a message of stage `k` of `x` that says what `Mine` says -/
def LastIs (sel : Option Cipher) (x y : InitSt) (seals : SealLog) (k : Nat) : Prop :=
  ∃ m salt kh tail, x.last = some (signedRegion m salt kh ++ tail) ∧ salt.length = 4 ∧ kh.length = 4 ∧ msgWF m ∧
    m.hash = x.hash ∧ m.stage = k ∧ Mine sel x y seals m

def StageOK (n : Nat) : Prop := n = PING ∨ n = PONG ∨ n = PENG ∨ n = WAIT ∨ n = CLOSING

theorem stage_ping {m : InitMsg} (h : m.stage = PING) : ∃ hs e al, m = .ping hs e al := by
  cases m <;> first | exact ⟨_, _, _, rfl⟩ | cases h

theorem stage_pong {m : InitMsg} (h : m.stage = PONG) : ∃ hs e al pl, m = .pong hs e al pl := by
  cases m <;> first | exact ⟨_, _, _, _, rfl⟩ | cases h

theorem stage_peng {m : InitMsg} (h : m.stage = PENG) : ∃ hs pl, m = .peng hs pl := by
  cases m <;> first | exact ⟨_, _, rfl⟩ | cases h

section
variable {sel : Option Cipher} {x y : InitSt} {seals : SealLog}

theorem LastIs.ping (h : LastIs sel x y seals PING) : ∃ e al salt kh tail,
    x.last = some (signedRegion (.ping x.hash e al) salt kh ++ tail) ∧ Mine sel x y seals (.ping x.hash e al) := by
  obtain ⟨m, salt, kh, tail, h1, _, _, _, h5, h6, h7⟩ := h
  obtain ⟨hs, e, al, rfl⟩ := stage_ping h6
  cases (h5 : hs = x.hash)
  exact ⟨e, al, salt, kh, tail, h1, h7⟩

theorem LastIs.pong (h : LastIs sel x y seals PONG) : ∃ e al pl salt kh tail,
    x.last = some (signedRegion (.pong x.hash e al pl) salt kh ++ tail) ∧ Mine sel x y seals (.pong x.hash e al pl) := by
  obtain ⟨m, salt, kh, tail, h1, _, _, _, h5, h6, h7⟩ := h
  obtain ⟨hs, e, al, pl, rfl⟩ := stage_pong h6
  cases (h5 : hs = x.hash)
  exact ⟨e, al, pl, salt, kh, tail, h1, h7⟩

theorem LastIs.peng (h : LastIs sel x y seals PENG) : ∃ pl salt kh tail,
    x.last = some (signedRegion (.peng x.hash pl) salt kh ++ tail) ∧ Mine sel x y seals (.peng x.hash pl) := by
  obtain ⟨m, salt, kh, tail, h1, _, _, _, h5, h6, h7⟩ := h
  obtain ⟨hs, pl, rfl⟩ := stage_peng h6
  cases (h5 : hs = x.hash)
  exact ⟨pl, salt, kh, tail, h1, h7⟩

end

/-- **the classes of one object** (peer `y`, successes reported so far `dn`) -/
structure Obj (sel : Option Cipher) (x y : InitSt) (seals : SealLog) (dn : List (Bytes × Bool)) : Prop where
  st : StageOK x.stage
  /-- fresh: nothing sent, no key, no core -/
  o2 : x.stage = PING → x.last = none ∧ x.ecdh = none ∧ x.crypto = none
  /-- initiator awaiting pong: `last` is its ping (which carries its ephemeral key, see `Mine`), no core -/
  o3 : x.stage = PONG → x.crypto = none ∧ LastIs sel x y seals PING
  /-- responder awaiting peng: `last` is its pong (whose `Mine` describes the core) -/
  o4 : x.stage = PENG → LastIs sel x y seals PONG
  /-- completed initiator: `last` is its peng, success reported -/
  o5 : x.stage = WAIT → LastIs sel x y seals PENG ∧ dn ≠ []
  pl : sel = none → x.crypto = none

def SigInvR (sel : Option Cipher) (x y : InitSt) (sigs : List (Bytes × Bytes)) (seals : SealLog) : Prop :=
  ∀ k r, (k, r) ∈ sigs → ∃ m salt kh, r = signedRegion m salt kh ∧ salt.length = 4 ∧ kh.length = 4 ∧ msgWF m ∧
    ((m.hash = x.hash ∧ Mine sel x y seals m) ∨ (m.hash = y.hash ∧ Mine sel y x seals m))

/-- the static hypotheses of the recovery argument: the negotiation of the two algorithm sets succeeds with the same result at both
    ends, each payload parser accepts the other's payload, neither salted hash is the salted hash of the other's node id -/
structure Good (env : CryptoEnv) (ok : Bytes → Bool) (sel : Option Cipher) (x y : InitSt) : Prop where
  selX : selectAlgorithm x.algos y.algos = .ok sel
  selY : selectAlgorithm y.algos x.algos = .ok sel
  okX : ok x.payload = true
  okY : ok y.payload = true
  selfX : checkSaltedNodeIdHash env y.hash x.nodeId = false
  selfY : checkSaltedNodeIdHash env x.hash y.nodeId = false

theorem Good.sel_eq {env : CryptoEnv} {ok : Bytes → Bool} {sel sel' : Option Cipher} {x y : InitSt} (h : Good env ok sel x y)
    (hsel : selectAlgorithm x.algos y.algos = .ok sel') : sel' = sel := by
  have := hsel.symm.trans h.selX
  simpa using this

theorem Good.swap {env : CryptoEnv} {ok : Bytes → Bool} {sel : Option Cipher} {x y : InitSt} (h : Good env ok sel x y) :
    Good env ok sel y x := ⟨h.selY, h.selX, h.okY, h.okX, h.selfY, h.selfX⟩

theorem Good.static {env : CryptoEnv} {ok : Bytes → Bool} {sel : Option Cipher} {x x' y : InitSt} (h : Good env ok sel x y)
    (hs : Static x x') : Good env ok sel x' y := by
  obtain ⟨h1, h2, h3, _, _, h6⟩ := hs
  exact ⟨by rw [h6]; exact h.selX, by rw [h6]; exact h.selY, by rw [h3]; exact h.okX, h.okY, by rw [h1]; exact h.selfX,
    by rw [h2]; exact h.selfY⟩

/-- **the recovery invariant** of the pair -/
structure RI (env : CryptoEnv) (ok : Bytes → Bool) (sel : Option Cipher) (x y : InitSt) (dx dy : List (Bytes × Bool))
    (sigs : List (Bytes × Bytes)) (seals : SealLog) : Prop where
  ox : Obj sel x y seals dx
  oy : Obj sel y x seals dy
  sig : SigInvR sel x y sigs seals
  wx : WfObj x
  wy : WfObj y
  hne : Bytes.beVal x.hash ≠ Bytes.beVal y.hash
  /-- the two objects never both wait for a peng -/
  noRR : ¬ (x.stage = PENG ∧ y.stage = PENG)
  good : Good env ok sel x y

section
variable {env : CryptoEnv} {ok : Bytes → Bool} {sel : Option Cipher} {x y : InitSt} {dx dy : List (Bytes × Bool)}
  {sigs : List (Bytes × Bytes)} {seals : SealLog}

theorem RI.swap (h : RI env ok sel x y dx dy sigs seals) : RI env ok sel y x dy dx sigs seals :=
  ⟨h.oy, h.ox, SigLog.mono h.sig fun _ _ => Or.symm, h.wy, h.wx, fun e => h.hne e.symm, fun e => h.noRR ⟨e.2, e.1⟩, h.good.swap⟩

theorem Field.mono {sel : Option Cipher} {seals seals' : SealLog} {h : Bool} {K : Cipher → KeyRef} {payload pl : Bytes}
    (hf : Field sel seals h K payload pl) (hs : ∀ e ∈ seals, e ∈ seals') : Field sel seals' h K payload pl := by
  unfold Field at hf ⊢
  cases sel with
  | none => exact hf
  | some c =>
    obtain ⟨start, ct, h1, h2, h3⟩ := hf
    exact ⟨start, ct, h1, h2, hs _ h3⟩

/-- a transition of `x` that sends nothing new: the stage stays or becomes CLOSING, in stage PENG the core may have tried to open
    something -/
structure Trans (x x' : InitSt) : Prop where
  static : Static x x'
  st : StageOK x'.stage
  last : x'.last = x.last
  cr : x.crypto = none → x'.crypto = none
  t1 : x'.stage = PING → x.stage = PING ∧ x'.ecdh = x.ecdh
  t2 : x'.stage = PONG → x.stage = PONG ∧ x'.ecdh = x.ecdh
  t3 : x'.stage = PENG → x.stage = PENG ∧ (x'.crypto = x.crypto ∨ ∃ c d, x.crypto = some c ∧ x'.crypto = some (c.decrypt d).1)
  t4 : x'.stage = WAIT → x.stage = WAIT

theorem Trans.stay {x x' : InitSt} (t : Trans x x') (k : Nat) (hk : k = PENG ∨ k = WAIT)
    (h : x.stage = k ∨ x.stage = CLOSING) : x'.stage = k ∨ x'.stage = CLOSING := by
  rcases t.st with e | e | e | e | e
  · have := (t.t1 e).1; rcases h with h | h <;> rcases hk with hk | hk <;> (rw [this] at h; try rw [hk] at h) <;> exact absurd h (by decide)
  · have := (t.t2 e).1; rcases h with h | h <;> rcases hk with hk | hk <;> (rw [this] at h; try rw [hk] at h) <;> exact absurd h (by decide)
  · have := (t.t3 e).1
    rcases h with h | h
    · rw [this] at h; left; rw [e, h]
    · rw [this] at h; exact absurd h (by decide)
  · have := t.t4 e
    rcases h with h | h
    · rw [this] at h; left; rw [e, h]
    · rw [this] at h; exact absurd h (by decide)
  · exact Or.inr e

theorem HasCore.trans {sel : Option Cipher} {x x' : InitSt} {K : Cipher → KeyRef} {h : Bool} (hc : HasCore sel x K h)
    (cr : x.crypto = none → x'.crypto = none)
    (t : x'.crypto = x.crypto ∨ ∃ c d, x.crypto = some c ∧ x'.crypto = some (c.decrypt d).1) : HasCore sel x' K h := by
  unfold HasCore at hc ⊢
  cases sel with
  | none => exact cr hc
  | some c =>
    obtain ⟨core, s, h1, h2⟩ := hc
    rcases t with t | ⟨c0, d, t1, t2⟩
    · exact ⟨core, s, by rw [t]; exact h1, h2⟩
    · rw [h1] at t1
      cases t1
      exact ⟨_, s, t2, slot0_decrypt d h2⟩


theorem Trans.notPing {x x' : InitSt} (t : Trans x x') (h : x.stage ≠ PING) : x'.stage ≠ PING :=
  fun e => h (t.t1 e).1

theorem Mine.self {sel : Option Cipher} {x x' y : InitSt} {seals : SealLog} {m : InitMsg} (h : Mine sel x y seals m)
    (t : Trans x x') : Mine sel x' y seals m := by
  obtain ⟨_, hh, hp, _, _, ha⟩ := t.static
  cases m with
  | ping hs e al =>
    obtain ⟨h1, h2, h3, h4, h5⟩ := h
    refine ⟨by rw [ha]; exact h1, h2, t.notPing h3, ?_, ?_⟩
    · intro e'; rw [(t.t2 e').2]; exact h4 (t.t2 e').1
    · intro e'; rw [hh]; exact h5 (t.t3 e').1
  | pong hs e al pl =>
    obtain ⟨h1, h2, h3, h4, pe, h5, h6, h7, h8⟩ := h
    refine ⟨by rw [ha]; exact h1, h2, t.stay PENG (Or.inl rfl) h3, h4, pe, h5, h6, by rw [hh, hp]; exact h7, ?_⟩
    intro e'
    rw [hh]
    exact (h8 (t.t3 e').1).trans t.cr (t.t3 e').2
  | peng hs pl =>
    obtain ⟨h1, h2, K, h3, h4⟩ := h
    exact ⟨t.stay WAIT (Or.inr rfl) h1, h2, K, by rw [hh, hp]; exact h3, by rw [hh]; exact h4⟩

theorem Mine.peer {sel : Option Cipher} {x x' y : InitSt} {seals : SealLog} {m : InitMsg} (h : Mine sel y x seals m)
    (t : Trans x x') : Mine sel y x' seals m := by
  obtain ⟨_, hh, hp, _, _, ha⟩ := t.static
  cases m with
  | ping hs e al =>
    obtain ⟨h1, h2, h3, h4, h5⟩ := h
    exact ⟨h1, h2, h3, h4, by rw [hh]; exact h5⟩
  | pong hs e al pl =>
    obtain ⟨h1, h2, h3, h4, pe, h5, h6, h7, h8⟩ := h
    refine ⟨h1, h2, h3, t.notPing h4, pe, h5, ?_, by rw [hh]; exact h7, by rw [hh]; exact h8⟩
    intro e'; rw [(t.t2 e').2]; exact h6 (t.t2 e').1
  | peng hs pl =>
    obtain ⟨h1, h2, K, h3, h4⟩ := h
    refine ⟨h1, t.stay PENG (Or.inl rfl) h2, K, by rw [hh]; exact h3, ?_⟩
    intro e'
    rw [hh]
    exact (h4 (t.t3 e').1).trans t.cr (t.t3 e').2

theorem Mine.mono {sel : Option Cipher} {x y : InitSt} {seals seals' : SealLog} {m : InitMsg} (h : Mine sel x y seals m)
    (hs : ∀ e ∈ seals, e ∈ seals') : Mine sel x y seals' m := by
  cases m with
  | ping hs e al => exact h
  | pong hh e al pl =>
    obtain ⟨h1, h2, h3, h4, pe, h5, h6, h7, h8⟩ := h
    exact ⟨h1, h2, h3, h4, pe, h5, h6, h7.mono hs, h8⟩
  | peng hh pl =>
    obtain ⟨h1, h2, K, h3, h4⟩ := h
    exact ⟨h1, h2, K, h3.mono hs, h4⟩

/-- the object invariant of the peer of a stepping object: only what its messages say has to be carried over -/
theorem Obj.map {sel : Option Cipher} {y x x' : InitSt} {seals seals' : SealLog} {dn : List (Bytes × Bool)} (h : Obj sel y x seals dn)
    (f : ∀ m, m.hash = y.hash → Mine sel y x seals m → Mine sel y x' seals' m) : Obj sel y x' seals' dn := by
  have g : ∀ k, LastIs sel y x seals k → LastIs sel y x' seals' k := by
    rintro k ⟨m, salt, kh, tail, h1, h2, h3, h4, h5, h6, h7⟩
    exact ⟨m, salt, kh, tail, h1, h2, h3, h4, h5, h6, f m h5 h7⟩
  exact ⟨h.st, h.o2, fun e => ⟨(h.o3 e).1, g _ (h.o3 e).2⟩, fun e => g _ (h.o4 e), fun e => ⟨g _ (h.o5 e).1, (h.o5 e).2⟩, h.pl⟩

theorem Obj.trans {sel : Option Cipher} {x x' y : InitSt} {seals : SealLog} {dn dn' : List (Bytes × Bool)} (h : Obj sel x y seals dn)
    (t : Trans x x') (hd : dn ≠ [] → dn' ≠ []) : Obj sel x' y seals dn' := by
  have g : ∀ k, LastIs sel x y seals k → LastIs sel x' y seals k := by
    rintro k ⟨m, salt, kh, tail, h1, h2, h3, h4, h5, h6, h7⟩
    exact ⟨m, salt, kh, tail, by rw [t.last]; exact h1, h2, h3, h4, by rw [t.static.2.1]; exact h5, h6, h7.self t⟩
  refine ⟨t.st, ?_, ?_, ?_, ?_, fun e => t.cr (h.pl e)⟩
  · intro e
    obtain ⟨e1, e2⟩ := t.t1 e
    obtain ⟨a1, a2, a3⟩ := h.o2 e1
    exact ⟨by rw [t.last]; exact a1, by rw [e2]; exact a2, t.cr a3⟩
  · intro e
    obtain ⟨e1, _⟩ := t.t2 e
    exact ⟨t.cr (h.o3 e1).1, g _ (h.o3 e1).2⟩
  · intro e; exact g _ (h.o4 (t.t3 e).1)
  · intro e; exact ⟨g _ (h.o5 (t.t4 e)).1, hd (h.o5 (t.t4 e)).2⟩

theorem RI.trans (h : RI env ok sel x y dx dy sigs seals) {x' : InitSt} {dx' : List (Bytes × Bool)} (t : Trans x x')
    (hd : dx ≠ [] → dx' ≠ []) : RI env ok sel x' y dx' dy sigs seals := by
  have hh : x'.hash = x.hash := t.static.2.1
  refine ⟨h.ox.trans t hd, h.oy.map (fun m _ hm => hm.peer t), SigLog.mono h.sig fun k m h5 => ?_, h.wx.of_static t.static, h.wy,
    by rw [hh]; exact h.hne, ?_, h.good.static t.static⟩
  · rcases h5 with ⟨h5, h6⟩ | ⟨h5, h6⟩
    · exact Or.inl ⟨by rw [hh]; exact h5, h6.self t⟩
    · exact Or.inr ⟨h5, h6.peer t⟩
  · intro e
    exact h.noRR ⟨(t.t3 e.1).1, e.2⟩

theorem Trans.refl' (hst : StageOK x.stage) : Trans x x :=
  ⟨Static.refl x, hst, rfl, fun h => h, fun e => ⟨e, rfl⟩, fun e => ⟨e, rfl⟩, fun e => ⟨e, Or.inl rfl⟩, fun e => e⟩

theorem Trans.restage (hst : StageOK x.stage) (s' ct rt : Nat) (hs : s' = x.stage ∨ s' = CLOSING) :
    Trans x { x with stage := s', closeTime := ct, retries := rt } := by
  refine ⟨⟨rfl, rfl, rfl, rfl, rfl, rfl⟩, ?_, rfl, fun h => h, ?_, ?_, ?_, ?_⟩
  · rcases hs with hs | hs
    · show StageOK s'; rw [hs]; exact hst
    · exact Or.inr (Or.inr (Or.inr (Or.inr hs)))
  all_goals
    intro e
    have e' : s' = _ := e
    rcases hs with hs | hs
    · first | exact ⟨hs ▸ e', rfl⟩ | exact ⟨hs ▸ e', Or.inl rfl⟩ | exact hs ▸ e'
    · rw [hs] at e'; exact absurd e' (by decide)

theorem RI.bridge (h : RI env ok sel x y dx dy sigs seals) {w : Bytes} {m : InitMsg} {k : Bytes}
    (hI : I1 env sigs x.trusted w) (hr : readFrom env w x.trusted = .ok (m, k)) (hne : x.hash ≠ m.hash) :
    m.hash = y.hash ∧ Mine sel y x seals m := by
  obtain ⟨_, h5 | h5, _⟩ := read_signed h.sig hI hr
  · exact absurd h5.1.symm hne
  · exact h5


theorem sealed_field_length (n : Nat) (ct : Bytes) : (0 :: Bytes.ofBE 7 n ++ ct).length = 8 + ct.length := by
  simp only [List.length_append, List.length_cons, Bytes.ofBE_length]

theorem pingRes_field (env : CryptoEnv) (st0 : InitSt) (h e : Bytes) (sel : Option Cipher) (rnd : Rand) (seals : SealLog)
    (hs : rnd.start < 2 ^ 48) (hcr : sel = none → st0.crypto = none) (hct : rnd.ct.length + 8 < 65536)
    (hp : st0.payload.length < 65536) :
    ∃ cr pl log, pingRes env st0 h e sel rnd =
        .ok { st0 with retries := 0, selected := sel, crypto := cr,
                       last := some (wireOf env st0 (.pong st0.hash rnd.ecdhPub st0.algos pl) rnd), stage := PENG }
          (wireOf env st0 (.pong st0.hash rnd.ecdhPub st0.algos pl) rnd, .continue, log) ∧
      pl.length < 65536 ∧ Field sel (seals ++ log) (bytesGt st0.hash h) (fun c => masterKey c rnd.ecdhPub e) st0.payload pl ∧
      HasCore sel { st0 with crypto := cr } (fun c => masterKey c rnd.ecdhPub e) (bytesGt st0.hash h) ∧ (sel = none → cr = none) := by
  cases sel with
  | none =>
    exact ⟨st0.crypto, st0.payload, [], pingRes_none env st0 h e rnd (hcr rfl), hp, rfl, hcr rfl, fun _ => hcr rfl⟩
  | some c =>
    have hc : (pingSt st0 h e (some c) rnd).crypto =
        some (Core.new (masterKey c rnd.ecdhPub e) (bytesGt st0.hash h) rnd.dummy (rnd.start :: rnd.starts123)) := rfl
    have h0 := slot0_new (masterKey c rnd.ecdhPub e) (bytesGt st0.hash h) rnd.dummy rnd.start rnd.starts123
    obtain ⟨e1, e2⟩ := slot0_encrypt (pingSt st0 h e (some c) rnd).payload h0 (first_nonce_lt _ _ hs)
    refine ⟨_, 0 :: Bytes.ofBE 7 (firstNonce (bytesGt st0.hash h) rnd.start) ++ rnd.ct, _, ?_,
      by rw [sealed_field_length]; omega,
      ⟨rnd.start, rnd.ct, hs, rfl, List.mem_append_right _ (List.mem_singleton.2 rfl)⟩, ⟨_, _, rfl, e2⟩, fun hc => (by cases hc)⟩
    unfold pingRes
    rw [sendMessage_pong, encryptPayload_some _ _ _ hc]
    simp only [e1]
    rfl

theorem pongRes_field (env : CryptoEnv) (bodyOf : BodyOf) (st : InitSt) (own eb hb : Bytes) (sel : Option Cipher) (rnd : Rand)
    (pl : Bytes) (st5 : InitSt) (p : Bytes) (seals : SealLog) (hs : rnd.start < 2 ^ 48) (hcr : sel = none → st.crypto = none)
    (hct : rnd.ct.length + 8 < 65536) (hp : st.payload.length < 65536)
    (hd : decryptPayload (pongSt st own eb hb sel rnd) bodyOf pl = (st5, some p)) :
    ∃ cr pl' log, pongRes env st5 rnd p =
        .ok { st with retries := 0, ecdh := none, selected := sel, crypto := cr,
                      last := some (wireOf env st (.peng st.hash pl') rnd), stage := WAIT, closeTime := Generated.CLOSE_TIME }
          (wireOf env st (.peng st.hash pl') rnd, .success p true, log) ∧
      pl'.length < 65536 ∧ Field sel (seals ++ log) (bytesGt st.hash hb) (fun c => masterKey c own eb) st.payload pl' ∧
      (sel = none → cr = none) := by
  cases sel with
  | none =>
    exact ⟨st.crypto, st.payload, [], (pongRes_none env bodyOf st own eb hb rnd pl st5 p (hcr rfl) hd).2, hp, rfl, fun _ => hcr rfl⟩
  | some c =>
    have hsome : (pongSt st own eb hb (some c) rnd).crypto =
        some (Core.new (masterKey c own eb) (bytesGt st.hash hb) rnd.dummy (rnd.start :: rnd.starts123)) := rfl
    obtain ⟨_, h2⟩ := decryptPayload_some _ _ _ _ hsome _ _ hd
    have hc5 : st5.crypto = some ((Core.new (masterKey c own eb) (bytesGt st.hash hb) rnd.dummy (rnd.start :: rnd.starts123)).decrypt
        { hdr := pl.take 8, body := bodyOf (pl.drop 8) }).1 := by rw [h2]
    have h0 := slot0_new (masterKey c own eb) (bytesGt st.hash hb) rnd.dummy rnd.start rnd.starts123
    have h1 := slot0_decrypt { hdr := pl.take 8, body := bodyOf (pl.drop 8) } h0
    obtain ⟨e1, e2⟩ := slot0_encrypt st5.payload h1 (first_nonce_lt _ _ hs)
    refine ⟨?cr, 0 :: Bytes.ofBE 7 (firstNonce (bytesGt st.hash hb) rnd.start) ++ rnd.ct, _, ?eq, by rw [sealed_field_length]; omega,
      ⟨rnd.start, rnd.ct, hs, rfl, List.mem_append_right _ (List.mem_singleton.2 rfl)⟩, nofun⟩
    case eq =>
      unfold pongRes
      rw [sendMessage_peng, encryptPayload_some _ _ _ hc5]
      simp only [e1]
      rw [h2]
      rfl

/-- **a genuine payload field opens** at an object whose core holds the key it was sealed under, in the other half -/
theorem field_opens (bodyOf : BodyOf) (sel : Option Cipher) (seals : SealLog) (s : InitSt) (K : Cipher → KeyRef) (hx : Bool)
    (pl payload : Bytes) (hop : Opens bodyOf seals) (hf : Field sel seals hx K payload pl) (hc : HasCore sel s K (!hx)) :
    ∃ st2, decryptPayload s bodyOf pl = (st2, some payload) := by
  cases sel with
  | none =>
    rw [decryptPayload_none _ _ _ hc, show pl = payload from hf]
    exact ⟨_, rfl⟩
  | some c =>
    obtain ⟨start, ct, h1, h2, h3⟩ := hf
    obtain ⟨core, s0, hc1, hc2⟩ := hc
    have hbody : bodyOf ct = .sealed (K c) (firstNonce hx start) payload := hop _ h3
    obtain ⟨et, ed⟩ := sealed_take_drop (firstNonce hx start) ct
    have hopen := slot0_opens (h := hx) hc2 (start + 1) (start_succ_lt _ h1) payload
    rw [← firstNonce_eq] at hopen
    exact ⟨_, decryptPayload_ok s bodyOf pl core payload hc1 (by rw [h2, et, ed, hbody]; exact hopen)⟩


theorem msg_stage_cases (m : InitMsg) : m.stage = PING ∨ m.stage = PONG ∨ m.stage = PENG := by
  cases m <;> simp [InitMsg.stage]

theorem early_stage {n : Nat} (h : n = PING ∨ n = PONG) : n ≠ PENG ∧ n ≠ WAIT ∧ n ≠ CLOSING := by
  rcases h with e | e <;> rw [e] <;> decide

theorem Mine.peer_big {sel : Option Cipher} {x x' y : InitSt} {seals seals' : SealLog} {m : InitMsg} (h : Mine sel y x seals m)
    (hold : x.stage = PING ∨ x.stage = PONG) (hh : x'.hash = x.hash) (hsub : ∀ e ∈ seals, e ∈ seals')
    (h1' : x'.stage ≠ PING) (h2' : x'.stage = PONG → x.stage = PING) : Mine sel y x' seals' m := by
  cases m with
  | ping hs e al =>
    obtain ⟨h1, h2, h3, h4, h5⟩ := h
    exact ⟨h1, h2, h3, h4, by rw [hh]; exact h5⟩
  | pong hs e al pl =>
    obtain ⟨h1, h2, h3, h4, pe, h5, h6, h7, h8⟩ := h
    refine ⟨h1, h2, h3, h1', pe, h5, ?_, by rw [hh]; exact h7.mono hsub, by rw [hh]; exact h8⟩
    intro e'
    exact absurd (h2' e') h4
  | peng hs pl => exact (h.2.1.elim (early_stage hold).1 (early_stage hold).2.2).elim

/-- a transition of `x` from stage PING / PONG that stores and signs the new message `m` (stage of `x` afterwards: one after the
    stage of `m`: `hstage` adds 1 to the stage code of the message, which is right for the values of `Generated.STAGE_PING` …
    `WAITING_TO_CLOSE`).  The three calls give the arguments one group per line: `hst hsub` / the message, its wire split and
    `hlast hsalt hkh` / `hwf hmh` / `hmine` / `hstage hold hgt` / `h2' hcr hpl hdn` / `hsg hnoRR`. -/
theorem RI.big (h : RI env ok sel x y dx dy sigs seals) {x' : InitSt} {dx' : List (Bytes × Bool)} {sg : List (Bytes × Bytes)}
    {seals' : SealLog} (hst : Static x x') (hsub : ∀ e ∈ seals, e ∈ seals')
    (m : InitMsg) (salt kh tail : Bytes) (hlast : x'.last = some (signedRegion m salt kh ++ tail)) (hsalt : salt.length = 4)
    (hkh : kh.length = 4) (hwf : msgWF m) (hmh : m.hash = x.hash) (hmine : Mine sel x' y seals' m)
    (hstage : x'.stage = m.stage + 1) (hold : x.stage = PING ∨ x.stage = PONG)
    (hgt : x'.stage = PENG → x.stage = PONG → bytesGt y.hash x.hash = true)
    (h2' : x'.stage = PONG → x.stage = PING)
    (hcr : x'.stage = PONG → x'.crypto = none) (hpl : sel = none → x'.crypto = none) (hdn : x'.stage = WAIT → dx' ≠ [])
    (hsg : ∀ k r, (k, r) ∈ sg → r = signedRegion m salt kh)
    (hnoRR : ¬ (x'.stage = PENG ∧ y.stage = PENG)) :
    RI env ok sel x' y dx' dy (sigs ++ sg) seals' := by
  have hh : x'.hash = x.hash := hst.2.1
  have h1' : x'.stage ≠ PING := by
    rw [hstage]; rcases msg_stage_cases m with e | e | e <;> rw [e] <;> decide
  have hlastIs : LastIs sel x' y seals' m.stage := ⟨m, salt, kh, tail, hlast, hsalt, hkh, hwf, by rw [hh]; exact hmh, rfl, hmine⟩
  have hpeer : ∀ m0, Mine sel y x seals m0 → Mine sel y x' seals' m0 := fun m0 h0 => h0.peer_big hold hh hsub h1' h2'
  -- the old pings of `x` (there are some only when `x` awaits the pong, i.e. when it now switches roles or completes)
  have hself : ∀ hs e al, Mine sel x y seals (.ping hs e al) → Mine sel x' y seals' (.ping hs e al) := by
    intro hs e al ⟨a1, a2, a3, _, _⟩
    exact ⟨a1.trans hst.2.2.2.2.2.symm, a2, h1', fun e' => absurd (h2' e') a3, fun e' => by rw [hh]; exact hgt e' (hold.resolve_left a3)⟩
  refine ⟨⟨?_, ?_, ?_, ?_, ?_, hpl⟩, h.oy.map (fun m0 _ h0 => hpeer m0 h0),
    (SigLog.mono h.sig fun k m0 a5 => ?_).append fun k r hk =>
      ⟨m, salt, kh, hsg k r hk, hsalt, hkh, hwf, Or.inl ⟨by rw [hh]; exact hmh, hmine⟩⟩,
    h.wx.of_static hst, h.wy, by rw [hh]; exact h.hne, hnoRR, h.good.static hst⟩
  · rw [hstage]
    rcases msg_stage_cases m with e | e | e <;> rw [e]
    · exact Or.inr (Or.inl rfl)
    · exact Or.inr (Or.inr (Or.inl rfl))
    · exact Or.inr (Or.inr (Or.inr (Or.inl rfl)))
  · intro e; exact absurd e h1'
  · intro e
    have : m.stage = PING := Nat.succ.inj (hstage.symm.trans e)
    exact ⟨hcr e, this ▸ hlastIs⟩
  · intro e
    have : m.stage = PONG := Nat.succ.inj (hstage.symm.trans e)
    exact this ▸ hlastIs
  · intro e
    have : m.stage = PENG := Nat.succ.inj (hstage.symm.trans e)
    exact ⟨this ▸ hlastIs, hdn e⟩
  · rcases a5 with ⟨a5, a6⟩ | ⟨a5, a6⟩
    · refine Or.inl ⟨by rw [hh]; exact a5, ?_⟩
      cases m0 with
      | ping hs e al => exact hself hs e al a6
      | pong hs e al pl => exact (a6.2.2.1.elim (early_stage hold).1 (early_stage hold).2.2).elim
      | peng hs pl => exact (a6.1.elim (early_stage hold).2.1 (early_stage hold).2.2).elim
    · exact Or.inr ⟨a5, hpeer m0 a6⟩

theorem RI.ping (h : RI env ok sel x y dx dy sigs seals) {rnd : Rand} (hs : x.stage = PING) (hrnd : RandOK env x rnd) :
    RI env ok sel (sendPing env x rnd).1 y dx dy (sigs ++ newSig x (sendPing env x rnd).1 (sendPing env x rnd).2 rnd) (seals ++ []) := by
  rw [sendPing_wire]
  refine h.big ⟨rfl, rfl, rfl, rfl, rfl, rfl⟩ (fun e he => List.mem_append_left _ he)
    (.ping x.hash rnd.ecdhPub x.algos) rnd.salt (env.keyHash x.ownKey rnd.salt) _ (by rw [wireOf_split]) hrnd.salt hrnd.keyHash
    ⟨h.wx.hash, by rw [hrnd.ecdh.1]; decide, h.wx.algos⟩ rfl
    ⟨rfl, hrnd.ecdh, (show PONG ≠ PING by decide), fun _ => rfl, fun e => absurd (show PONG = PENG from e) (by decide)⟩
    rfl (Or.inl hs) (fun e _ => absurd (show PONG = PENG from e) (by decide))
    (fun _ => hs) (fun _ => (h.ox.o2 hs).2.2) (fun e => h.ox.pl e) (fun e => absurd (show PONG = WAIT from e) (by decide))
    (fun k r hk => newSig_wire hk) (fun e => absurd (show PONG = PENG from e.1) (by decide))


theorem RI.pingOk (h : RI env ok sel x y dx dy sigs seals) {w : Bytes} {rnd : Rand}
    (hI : I1 env sigs x.trusted w) (hrnd : RandOK env x rnd) (hstart : rnd.start < 2 ^ 48)
    {hh e : Bytes} {al : Algos} {k : Bytes} {st0 : InitSt} {sel' : Option Cipher}
    (hr : readFrom env w x.trusted = .ok (.ping hh e al, k)) (hne : x.hash ≠ hh)
    (hst0 : PingFrom x hh st0)
    (hsel : selectAlgorithm x.algos al = .ok sel') {st' : InitSt} {out : Bytes} {log : SealLog}
    (hres : pingRes env st0 hh e sel' rnd = .ok st' (out, .continue, log)) :
    RI env ok sel st' y dx dy (sigs ++ newSig x st' out rnd) (seals ++ log) := by
  obtain ⟨hhy, hmsg⟩ := h.bridge hI hr hne
  have hhy' : hh = y.hash := hhy
  subst hhy'
  obtain ⟨hal, he, hyp, hye, hyr⟩ := hmsg
  subst hal
  obtain rfl := h.good.sel_eq hsel
  have hb := pingBase_of hst0
  have hown : st0.ownKey = x.ownKey := hb.static.2.2.2.1
  have hha : st0.hash = x.hash := hb.static.2.1
  have hpa : st0.payload = x.payload := hb.static.2.2.1
  have halg : st0.algos = x.algos := hb.static.2.2.2.2.2
  have hold : x.stage = PING ∨ x.stage = PONG := hb.stage
  have hxcr : x.crypto = none := by
    rcases hold with e' | e'
    · exact (h.ox.o2 e').2.2
    · exact (h.ox.o3 e').1
  -- an initiator answers only the ping of the larger salted hash
  have hgt : x.stage = PONG → bytesGt y.hash x.hash = true := by
    intro e'
    rcases hst0 with ⟨_, e''⟩ | ⟨_, _, e''⟩
    · exact absurd (e''.symm.trans e') (by decide)
    · exact e''
  -- the two objects are not both responders
  have hnoRR : y.stage ≠ PENG := by
    intro e'
    obtain ⟨_, _, _, _, _, _, _, hm⟩ := (h.oy.o4 e').pong
    rcases hst0 with ⟨_, e''⟩ | ⟨_, _, e''⟩
    · exact hm.2.2.2.1 e''
    · have := C05.halves_opposite x.hash y.hash h.hne
      rw [hyr e', e''] at this
      cases this
  obtain ⟨cr, pl, log0, heq, hlen, hf, hc, hn⟩ := pingRes_field env st0 y.hash e sel' rnd seals hstart
    (fun _ => hb.crypto.trans hxcr) hrnd.ct (by rw [hpa]; exact h.wx.payload)
  cases heq.symm.trans hres
  exact h.big (Static.trans hb.static ⟨rfl, rfl, rfl, rfl, rfl, rfl⟩) (fun e he => List.mem_append_left _ he)
    (.pong st0.hash rnd.ecdhPub st0.algos pl) rnd.salt (env.keyHash x.ownKey rnd.salt) _ (by rw [wireOf_split, hown]) hrnd.salt hrnd.keyHash
    ⟨by rw [hha]; exact h.wx.hash, by rw [hrnd.ecdh.1]; decide, by rw [halg]; exact h.wx.algos, hlen⟩ hha
    ⟨rfl, hrnd.ecdh, Or.inl rfl, hyp, e, he, hye, hf, fun _ => hc⟩
    rfl hold (fun _ => hgt)
    (fun e' => absurd (show PENG = PONG from e') (by decide)) (fun e' => absurd (show PENG = PONG from e') (by decide)) hn
      (fun e' => absurd (show PENG = WAIT from e') (by decide))
    (fun k r hk => by rw [wireOf_congr env _ rnd hown] at hk; exact newSig_wire hk) (fun e' => hnoRR e'.2)


theorem Field.congr {sel : Option Cipher} {seals : SealLog} {K K' : Cipher → KeyRef} {h : Bool} {payload pl : Bytes}
    (hf : Field sel seals h K payload pl) (hk : ∀ c, K c = K' c) : Field sel seals h K' payload pl := by
  unfold Field at hf ⊢
  cases sel with
  | none => exact hf
  | some c =>
    obtain ⟨start, ct, h1, h2, h3⟩ := hf
    exact ⟨start, ct, h1, h2, hk c ▸ h3⟩

/-- what an initiator awaiting the pong learns from a pong it reads (via (I1)): it is the peer's pong, made for this initiator's key -/
theorem RI.pong_facts (h : RI env ok sel x y dx dy sigs seals) {w : Bytes} (hI : I1 env sigs x.trusted w)
    {hb eb : Bytes} {ab : Algos} {pl k own : Bytes}
    (hr : readFrom env w x.trusted = .ok (.pong hb eb ab pl, k)) (hne : x.hash ≠ hb)
    (hs : x.stage = PONG) (hown : x.ecdh = some own) :
    hb = y.hash ∧ ab = y.algos ∧ EcdhWF eb ∧ EcdhWF own ∧ (y.stage = PENG ∨ y.stage = CLOSING) ∧
      Field sel seals (bytesGt y.hash x.hash) (fun c => masterKey c eb own) y.payload pl ∧
      (y.stage = PENG → HasCore sel y (fun c => masterKey c eb own) (bytesGt y.hash x.hash)) := by
  obtain ⟨hhy, hmsg⟩ := h.bridge hI hr hne
  obtain ⟨h1, h2, h3, _, pe, h5, h6, h7, h8⟩ := hmsg
  have : some pe = some own := (h6 hs).symm.trans hown
  cases this
  exact ⟨hhy, h1, h2, h5, h3, h7, h8⟩

/-- **the genuine pong is accepted**: under the ideal AEAD the payload of the pong an initiator reads opens as the peer's payload
    (it was sealed by the peer's fresh core: the other half, the same pair of ephemeral keys) -/
theorem RI.pong_accepts (h : RI env ok sel x y dx dy sigs seals) (bodyOf : BodyOf) (hop : Opens bodyOf seals) {w : Bytes}
    (hI : I1 env sigs x.trusted w) {hb eb : Bytes} {ab : Algos} {pl k own : Bytes} (rnd : Rand)
    (hr : readFrom env w x.trusted = .ok (.pong hb eb ab pl, k)) (hne : x.hash ≠ hb)
    (hs : x.stage = PONG) (hown : x.ecdh = some own) :
    selectAlgorithm x.algos ab = .ok sel ∧ ∃ st5, decryptPayload (pongSt x own eb hb sel rnd) bodyOf pl = (st5, some y.payload) := by
  obtain ⟨rfl, rfl, heb, hown', _, hf, _⟩ := h.pong_facts hI hr hne hs hown
  refine ⟨h.good.selX, field_opens bodyOf sel seals _ _ _ pl y.payload hop hf ?_⟩
  cases sel with
  | none => exact (h.ox.o3 hs).1
  | some c =>
    refine ⟨_, base (bytesGt x.hash y.hash) + rnd.start, rfl, ?_⟩
    rw [← C05.halves_opposite _ _ h.hne]
    show Slot0 _ (masterKey c eb own) _ _
    rw [C05.masterKey_comm_wf c eb own ⟨heb.2, hown'.2⟩ (by rw [heb.1, hown'.1])]
    exact slot0_new _ _ _ _ _

theorem RI.pongOk (h : RI env ok sel x y dx dy sigs seals) (bodyOf : BodyOf) {w : Bytes} {rnd : Rand}
    (hI : I1 env sigs x.trusted w) (hrnd : RandOK env x rnd) (hstart : rnd.start < 2 ^ 48)
    {hb eb : Bytes} {ab : Algos} {pl k own : Bytes} {sel' : Option Cipher} {st5 : InitSt} {p : Bytes}
    (hr : readFrom env w x.trusted = .ok (.pong hb eb ab pl, k)) (hne : x.hash ≠ hb)
    (hs : x.stage = PONG) (hown : x.ecdh = some own) (hsel : selectAlgorithm x.algos ab = .ok sel')
    (hd : decryptPayload (pongSt x own eb hb sel' rnd) bodyOf pl = (st5, some p)) {st' : InitSt} {out : Bytes} {log : SealLog}
    (hres : pongRes env st5 rnd p = .ok st' (out, .success p true, log)) :
    RI env ok sel st' y ((p, true) :: dx) dy (sigs ++ newSig x st' out rnd) (seals ++ log) := by
  obtain ⟨rfl, rfl, heb, hownwf, hys, _, hyc⟩ := h.pong_facts hI hr hne hs hown
  obtain rfl := h.good.sel_eq hsel
  have hcomm : ∀ c, masterKey c eb own = masterKey c own eb := fun c =>
    C05.masterKey_comm_wf c eb own ⟨heb.2, hownwf.2⟩ (by rw [heb.1, hownwf.1])
  obtain ⟨cr, pl', log0, heq, hlen, hf, hn⟩ := pongRes_field env bodyOf x own eb y.hash sel' rnd pl st5 p seals hstart
    (fun _ => (h.ox.o3 hs).1) hrnd.ct h.wx.payload hd
  cases heq.symm.trans hres
  exact h.big ⟨rfl, rfl, rfl, rfl, rfl, rfl⟩ (fun e he => List.mem_append_left _ he)
    (.peng x.hash pl') rnd.salt (env.keyHash x.ownKey rnd.salt) _ (by rw [wireOf_split]) hrnd.salt hrnd.keyHash
    ⟨h.wx.hash, hlen⟩ rfl
    ⟨Or.inl rfl, hys, fun c' => masterKey c' own eb, hf, fun e' => (funext hcomm : (fun c => masterKey c eb own) = _) ▸ hyc e'⟩
    rfl (Or.inr hs) (fun e' _ => absurd (show WAIT = PENG from e') (by decide))
    (fun e' => absurd (show WAIT = PONG from e') (by decide)) (fun e' => absurd (show WAIT = PONG from e') (by decide)) hn
      (fun _ => List.cons_ne_nil _ _)
    (fun k r hk => newSig_wire hk) (fun e' => absurd (show WAIT = PENG from e'.1) (by decide))


theorem Trans.pengStep {bodyOf : BodyOf} {x : InitSt} {pl : Bytes} {cr : Option Core} (hs : x.stage = PENG)
    (hc : CoreStep bodyOf x pl cr) (s' : Nat) (hs' : s' = PENG ∨ s' = CLOSING) :
    Trans x { x with retries := 0, crypto := cr, stage := s' } := by
  have hcr : x.crypto = none → cr = none := by
    intro e
    rcases hc with ⟨_, h2⟩ | ⟨c0, h1, _⟩
    · exact h2
    · rw [e] at h1; cases h1
  refine ⟨⟨rfl, rfl, rfl, rfl, rfl, rfl⟩, ?_, rfl, hcr, ?_, ?_, ?_, ?_⟩
  · rcases hs' with e | e
    · exact Or.inr (Or.inr (Or.inl e))
    · exact Or.inr (Or.inr (Or.inr (Or.inr e)))
  · intro e
    have e' : s' = PING := e
    rcases hs' with e2 | e2 <;> (rw [e2] at e'; exact absurd e' (by decide))
  · intro e
    have e' : s' = PONG := e
    rcases hs' with e2 | e2 <;> (rw [e2] at e'; exact absurd e' (by decide))
  · intro _
    refine ⟨hs, ?_⟩
    rcases hc with ⟨h1, h2⟩ | ⟨c0, h1, h2⟩
    · left; show cr = x.crypto; rw [h1, h2]
    · right; exact ⟨c0, _, h1, h2⟩
  · intro e
    have e' : s' = WAIT := e
    rcases hs' with e2 | e2 <;> (rw [e2] at e'; exact absurd e' (by decide))

theorem RI.tick (h : RI env ok sel x y dx dy sigs seals) : RI env ok sel (everySecond x).1 y dx dy sigs seals := by
  obtain ⟨s', ct, rt, hs, he⟩ := everySecond_fst x
  rw [he]
  exact h.trans (Trans.restage h.ox.st s' ct rt hs) (fun e => e)

/-- **every delivery preserves the invariant**, whatever `handle_init` returns.  Under the ideal AEAD the negotiation and a genuine
    pong never fail: an error leaves the object as it was, or a responder with a core that tried to open something. -/
theorem RI.deliver (h : RI env ok sel x y dx dy sigs seals) (bodyOf : BodyOf) {w : Bytes} (rnd : Rand) (hI : I1 env sigs x.trusted w) :
    match handleInit env bodyOf ok x w rnd with
    | .ok st' (out, res, log) => RandOK env x rnd → rnd.start < 2 ^ 48 →
        RI env ok sel st' y (doneOf res ++ dx) dy (sigs ++ newSig x st' out rnd) (seals ++ log)
    | .err st' _ => Opens bodyOf seals → RI env ok sel st' y dx dy sigs seals
    | .panic => True := by
  have he := handleInit_eff env bodyOf ok x w rnd
  generalize handleInit env bodyOf ok x w rnd = R at he
  cases he with
  | quietErr e => exact fun _ => h
  | quietOk o ho =>
    intro _ _
    rw [newSig_last_same _ _ _ _ rfl, List.append_nil, List.append_nil]
    exact h
  | panic => trivial
  | pingErr hh e al k st0 er hr hne hst0 hsel =>
    exfalso
    obtain ⟨_, hmsg⟩ := h.bridge hI hr hne
    have hal : al = y.algos := hmsg.1
    rw [hal, h.good.selX] at hsel
    cases hsel
  | pingOk hh e al k st0 sel' hr hne hst0 hsel =>
    exact fun hrnd hstart => h.pingOk hI hrnd hstart hr hne hst0 hsel rfl
  | pongSelErr hb eb ab pl k own er hr hne hstage hown hsel =>
    exfalso
    obtain ⟨_, hal, _⟩ := h.pong_facts hI hr hne hstage hown
    rw [hal, h.good.selX] at hsel
    cases hsel
  | pongFail hb eb ab pl k own sel' st5 r hr hne hstage hown hsel hd hbad =>
    intro hop
    exfalso
    obtain ⟨hsel2, st6, hd2⟩ := h.pong_accepts bodyOf hop hI rnd hr hne hstage hown
    cases hsel.symm.trans hsel2
    cases hd.symm.trans hd2
    exact absurd ((hbad _ rfl).symm.trans h.good.okY) (by decide)
  | pongOk hb eb ab pl k own sel' st5 p hr hne hstage hown hsel hd hok =>
    exact fun hrnd hstart => h.pongOk bodyOf hI hrnd hstart hr hne hstage hown hsel hd rfl
  | pengFail hb pl k st2 r hr hne hstage hd =>
    intro _
    obtain ⟨cr, hcs, rfl⟩ := decryptPayload_step hd
    exact h.trans (Trans.pengStep (s' := x.stage) hstage hcs (Or.inl hstage)) (fun e => e)
  | pengOk hb pl k st2 p hr hne hstage hd hok =>
    intro _ _
    obtain ⟨cr, hcs, hst2⟩ := decryptPayload_step hd
    have hl : ({ st2 with stage := CLOSING } : InitSt).last = x.last := by rw [hst2]
    rw [newSig_last_same _ _ _ _ hl, List.append_nil, List.append_nil, hst2]
    exact h.trans (Trans.pengStep hstage hcs CLOSING (Or.inr rfl)) (fun _ => List.cons_ne_nil _ _)


/-! ## progress: what a reliably delivered datagram does -/

/-- `w` is (starts with the signed region of) a well-formed message of stage `k` with salted hash `hash` -/
def IsMsg (w : Bytes) (k : Nat) (hash : Bytes) : Prop :=
  ∃ m salt kh tail, w = signedRegion m salt kh ++ tail ∧ salt.length = 4 ∧ kh.length = 4 ∧ msgWF m ∧ m.stage = k ∧ m.hash = hash

theorem IsMsg.ne_nil {w : Bytes} {k : Nat} {hash : Bytes} (h : IsMsg w k hash) : w ≠ [] := by
  obtain ⟨m, salt, kh, tail, rfl, h1, _⟩ := h
  intro e
  have := congrArg List.length e
  rw [signedRegion_eq] at this
  simp only [List.length_append, List.length_nil] at this
  omega

theorem IsMsg.read {env : CryptoEnv} {w : Bytes} {k : Nat} {hash : Bytes} (h : IsMsg w k hash) {T : List Bytes} {m : InitMsg} {key : Bytes}
    (hr : readFrom env w T = .ok (m, key)) : m.stage = k ∧ m.hash = hash := by
  obtain ⟨m', salt, kh, tail, rfl, h1, h2, h3, h4, h5⟩ := h
  have := readFrom_signed_inv env m' salt kh tail T m key h3 h1 h2 hr
  subst this
  exact ⟨h4, h5⟩

theorem LastIs.isMsg {sel : Option Cipher} {x y : InitSt} {seals : SealLog} {k : Nat} (h : LastIs sel x y seals k) :
    ∃ w, x.last = some w ∧ IsMsg w k x.hash := by
  obtain ⟨m, salt, kh, tail, h1, h2, h3, h4, h5, h6, _⟩ := h
  exact ⟨_, h1, m, salt, kh, tail, rfl, h2, h3, h4, h6, h5⟩

theorem LastIs.out {sel : Option Cipher} {x y : InitSt} {seals : SealLog} {k : Nat} {out : Bytes} (h : LastIs sel x y seals k)
    (hl : x.last = some out) : IsMsg out k x.hash := by
  obtain ⟨w, hw1, hw2⟩ := h.isMsg
  rw [hl] at hw1
  cases hw1
  exact hw2

theorem RI.read (h : RI env ok sel x y dx dy sigs seals) (bodyOf : BodyOf) {w : Bytes} (rnd : Rand) {k : Nat}
    (hw : IsMsg w k y.hash) (hreads : ∃ m key, readFrom env w x.trusted = .ok (m, key)) :
    ∃ m key, readFrom env w x.trusted = .ok (m, key) ∧ m.stage = k ∧ m.hash = y.hash ∧
      (∀ st0, stageCheck x k y.hash = .inl (some st0) → handleInit env bodyOf ok x w rnd = handleMsg env bodyOf ok st0 m rnd) ∧
      (∀ o, stageCheck x k y.hash = .inr o → handleInit env bodyOf ok x w rnd = o) := by
  obtain ⟨m, key, hr⟩ := hreads
  obtain ⟨hk, hh⟩ := hw.read hr
  have hgen := handleInit_read env bodyOf ok x w rnd m key hr (by rw [hh]; exact hash_ne_of_beVal h.hne) (by rw [hh]; exact h.good.selfX)
  rw [hk, hh] at hgen
  exact ⟨m, key, hr, hk, hh, fun st0 e => by rw [hgen, e], fun o e => by rw [hgen, e]⟩

/-- **a delivered ping is answered** by a fresh object, and by an initiator with the smaller salted hash (role switch) -/
theorem RI.ping_answered (h : RI env ok sel x y dx dy sigs seals) (bodyOf : BodyOf) {w : Bytes} (rnd : Rand)
    (hI : I1 env sigs x.trusted w) (hw : IsMsg w PING y.hash) (hreads : ∃ m key, readFrom env w x.trusted = .ok (m, key))
    (hx : x.stage = PING ∨ (x.stage = PONG ∧ bytesGt y.hash x.hash = true)) :
    ∃ st' out log, handleInit env bodyOf ok x w rnd = .ok st' (out, .continue, log) ∧ st'.stage = PENG ∧ st'.last = some out := by
  obtain ⟨m, key, hr, hk, hh, hgen⟩ := h.read bodyOf rnd hw hreads
  obtain ⟨hs, e, al, rfl⟩ := stage_ping hk
  cases (hh : hs = y.hash)
  obtain ⟨_, (hal : al = y.algos), _⟩ := h.bridge hI hr (hash_ne_of_beVal h.hne)
  subst hal
  have hst0 : ∃ st0, stageCheck x PING y.hash = .inl (some st0) ∧ st0.algos = x.algos := by
    rcases hx with hx | ⟨hx, hg⟩
    · exact ⟨x, stageCheck_same hx.symm _, rfl⟩
    · exact ⟨resetSt x, by rw [stageCheck_ping_at_pong x y.hash hx, if_pos hg], rfl⟩
  obtain ⟨st0, hsc, halg⟩ := hst0
  rw [hgen.1 st0 hsc, handleMsg_ping_ok env bodyOf ok st0 y.hash e y.algos rnd sel (by rw [halg]; exact h.good.selX)]
  exact ⟨_, _, _, rfl, rfl, by rw [sendMessage_pong]⟩

theorem RI.ping_ignored (h : RI env ok sel x y dx dy sigs seals) (bodyOf : BodyOf) {w : Bytes} {rnd : Rand}
    (hw : IsMsg w PING y.hash) (hreads : ∃ m key, readFrom env w x.trusted = .ok (m, key))
    (hx : x.stage = PONG) (hg : bytesGt y.hash x.hash = false) :
    handleInit env bodyOf ok x w rnd = .ok x ([], .continue, []) := by
  obtain ⟨m, key, _, _, _, _, hgen⟩ := h.read bodyOf rnd hw hreads
  exact hgen _ (by rw [stageCheck_ping_at_pong x y.hash hx, if_neg (by rw [hg]; decide)])

theorem RI.pong_completes (h : RI env ok sel x y dx dy sigs seals) (bodyOf : BodyOf) (hop : Opens bodyOf seals) {w : Bytes} (rnd : Rand)
    (hI : I1 env sigs x.trusted w) (hw : IsMsg w PONG y.hash) (hreads : ∃ m key, readFrom env w x.trusted = .ok (m, key))
    (hx : x.stage = PONG) :
    ∃ st' out log, handleInit env bodyOf ok x w rnd = .ok st' (out, .success y.payload true, log) ∧ st'.stage = WAIT ∧
      st'.last = some out := by
  obtain ⟨m, key, hr, hk, hh, hgen⟩ := h.read bodyOf rnd hw hreads
  obtain ⟨hs, eb, ab, pl, rfl⟩ := stage_pong hk
  cases (hh : hs = y.hash)
  -- the initiator holds its ephemeral key
  obtain ⟨own, _, _, _, _, _, hm0⟩ := (h.ox.o3 hx).2.ping
  have hown : x.ecdh = some own := hm0.2.2.2.1 hx
  obtain ⟨hsel, st5, hd⟩ := h.pong_accepts bodyOf hop hI rnd hr (hash_ne_of_beVal h.hne) hx hown
  rw [hgen.1 x (stageCheck_same hx.symm _), handleMsg_pong_ok env bodyOf ok x y.hash eb ab pl rnd own sel st5 y.payload hown hsel hd h.good.okY]
  exact ⟨_, _, _, rfl, rfl, by rw [sendMessage_peng]⟩

theorem RI.peng_completes (h : RI env ok sel x y dx dy sigs seals) (bodyOf : BodyOf) (hop : Opens bodyOf seals) {w : Bytes} (rnd : Rand)
    (hI : I1 env sigs x.trusted w) (hw : IsMsg w PENG y.hash) (hreads : ∃ m key, readFrom env w x.trusted = .ok (m, key))
    (hx : x.stage = PENG) :
    ∃ st', handleInit env bodyOf ok x w rnd = .ok st' ([], .success y.payload false, []) ∧ st'.stage = CLOSING := by
  obtain ⟨m, key, hr, hk, hh, hgen⟩ := h.read bodyOf rnd hw hreads
  obtain ⟨hs, pl, rfl⟩ := stage_peng hk
  cases (hh : hs = y.hash)
  obtain ⟨_, _, _, K, hf, hc⟩ := h.bridge hI hr (hash_ne_of_beVal h.hne)
  obtain ⟨st2, hd⟩ := field_opens bodyOf sel seals { x with retries := 0 } K (bytesGt y.hash x.hash) pl y.payload hop hf
    (by rw [← C05.halves_opposite x.hash y.hash h.hne]; exact hc hx)
  rw [hgen.1 x (stageCheck_same hx.symm _), handleMsg_peng_ok env bodyOf ok x y.hash pl rnd st2 y.payload hd h.good.okY]
  exact ⟨_, rfl, rfl⟩

/-- a delivered message of another stage makes a waiting responder / completed initiator repeat its last message -/
theorem RI.repeats (h : RI env ok sel x y dx dy sigs seals) (bodyOf : BodyOf) {w : Bytes} {rnd : Rand} {k : Nat}
    (hw : IsMsg w k y.hash) (hreads : ∃ m key, readFrom env w x.trusted = .ok (m, key))
    (hx : x.stage = PENG ∨ x.stage = WAIT) (hk : k ≠ x.stage) :
    ∃ l, x.last = some l ∧ IsMsg l (if x.stage = PENG then PONG else PENG) x.hash ∧
      handleInit env bodyOf ok x w rnd = .ok x (l, .continue, []) := by
  obtain ⟨m, key, _, _, _, _, hgen⟩ := h.read bodyOf rnd hw hreads
  have hl : ∃ l, x.last = some l ∧ IsMsg l (if x.stage = PENG then PONG else PENG) x.hash := by
    rcases hx with hx | hx
    · rw [if_pos hx]; exact (h.ox.o4 hx).isMsg
    · rw [if_neg (by rw [hx]; decide)]; exact (h.ox.o5 hx).1.isMsg
  obtain ⟨l, hl1, hl2⟩ := hl
  refine ⟨l, hl1, hl2, hgen _ ?_⟩
  have hne : x.stage ≠ PONG ∧ x.stage ≠ CLOSING := by rcases hx with hx | hx <;> rw [hx] <;> decide
  unfold stageCheck
  rw [if_pos hk, if_neg (fun e => hne.1 e.1), if_neg hne.2, hl1]

theorem RI.closed_ignores (h : RI env ok sel x y dx dy sigs seals) (bodyOf : BodyOf) {w : Bytes} {rnd : Rand} {k : Nat}
    (hw : IsMsg w k y.hash) (hreads : ∃ m key, readFrom env w x.trusted = .ok (m, key))
    (hx : x.stage = CLOSING) (hk : k ≠ CLOSING) :
    handleInit env bodyOf ok x w rnd = .ok x ([], .continue, []) := by
  obtain ⟨m, key, _, _, _, _, hgen⟩ := h.read bodyOf rnd hw hreads
  refine hgen _ ?_
  have n1 : ¬ (x.stage = PONG ∧ k = PING) := by
    rintro ⟨e, _⟩
    rw [hx] at e; exact absurd e (by decide)
  unfold stageCheck
  rw [if_pos (by rw [hx]; exact hk), if_neg n1, if_pos hx]

end

end VpnCloud.Proofs.C05RecoverLemmas
