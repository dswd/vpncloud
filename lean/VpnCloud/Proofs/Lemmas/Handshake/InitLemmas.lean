import VpnCloud.Model.Init
import VpnCloud.Proofs.Lemmas.Core.C04SessionLemmas
import VpnCloud.Proofs.Lemmas.Codec.InitMsgLemmas
/-
  `InitMsg.readFrom` and `Init.handleInit` for the handshake properties C01 / C05.  `handleInit` is staged into the stage check and
  the per-message part (`handleInit_eq`) and has two views: equations for a delivery whose branch is known (`handleInit_read`,
  `handleInit_accept`, `handleMsg_ping_ok` / `_pong_ok` / `_peng_ok`), and the relation `Eff` listing every outcome (`handleInit_eff`),
  on which the inversions (`handleInit_success_cases`, `Eff.answered`) and the frame (`Static`, `Eff.static`) rest.  Then what the
  injectivity of the symbolic master key (`C05.masterKey_inj`) rests on (`beVal_inj`, `keyList_inj`), the handshake core keeps its key and
  half (`CoreOK`; `CoreKeys`: and opens only what was sealed under its key or a throw-away key), one case lemma for each of `decryptPayload`,
  `sendMessage`, `every_second`, and the toy instances (`Toy`) for the examples.
-/
namespace VpnCloud.Proofs.InitLemmas

open VpnCloud.InitMsg VpnCloud.Init
open VpnCloud.Proofs.CodecLemmas VpnCloud.Proofs.InitMsgLemmas

theorem readFrom_ok_inv (env : CryptoEnv) (w : Bytes) (T : List Bytes) (m : InitMsg) (k : Bytes)
    (h : readFrom env w T = .ok (m, k)) :
    T.find? (fun tk => env.keyHash tk (w.take 4) = (w.drop 4).take 4) = some k ∧
    ∃ signed sig rest, w = signed ++ [sig.length] ++ sig ++ rest ∧ env.sigVerify k signed sig = true := by
  obtain ⟨salt, r1, khash, r2, f, r3, siglen, r4, sig, rest, h1, h2, hf, h3, h4, h5, hv, _⟩ := readFrom_ok h
  obtain ⟨e1, l1⟩ := take?_some h1
  obtain ⟨e2, l2⟩ := take?_some h2
  obtain ⟨pre, e3⟩ := ((readFields_spec _ _ _).2 _ _ h3).1
  have e4 := readU8_some h4
  obtain ⟨e5, l5⟩ := take?_some h5
  have hsalt : w.take 4 = salt := by rw [e1, List.take_left' l1]
  have hkh : (w.drop 4).take 4 = khash := by rw [e1, List.drop_left' l1, e2, List.take_left' l2]
  refine ⟨by rw [hsalt, hkh]; exact hf, salt ++ khash ++ pre, sig, rest, ?_, ?_⟩
  · rw [e1, e2, e3, e4, e5, l5]; simp
  · have : w.take (w.length - r3.length) = salt ++ khash ++ pre := by
      have hw : w = (salt ++ khash ++ pre) ++ r3 := by rw [e1, e2, e3]; simp
      rw [hw, List.length_append, Nat.add_sub_cancel, List.take_left' rfl]
    rw [this] at hv
    exact hv

abbrev Res := Outcome (Bytes × InitResult × SealLog)

def stageCheck (st : InitSt) (stage : Nat) (hash : Bytes) : Option InitSt ⊕ Res :=
  if stage ≠ st.stage then
    if st.stage = Generated.STAGE_PONG ∧ stage = Generated.STAGE_PING then
      if bytesGt hash st.hash then .inl (some { st with stage := Generated.STAGE_PING, last := none, ecdh := none })
      else .inr (.ok st ([], .continue, []))
    else if st.stage = Generated.CLOSING then .inr (.ok st ([], .continue, []))
    else match st.last with
      | some l => .inr (.ok st (l, .continue, []))
      | none => .inr (.err st .cryptoInitFatal)
  else .inl (some st)

/-- state of the initiator after the negotiation, before the pong payload is opened -/
def pongSt (st0 : InitSt) (own eb hb : Bytes) (sel : Option Cipher) (rnd : Rand) : InitSt :=
  let st3 := { st0 with retries := 0, ecdh := none, selected := sel }
  match sel with
  | some c => { st3 with crypto := some (Core.new (masterKey c own eb) (bytesGt st3.hash hb) rnd.dummy (rnd.start :: rnd.starts123)) }
  | none => st3

def handleMsg (env : CryptoEnv) (bodyOf : BodyOf) (payloadOk : Bytes → Bool) (st0 : InitSt) (msg : InitMsg) (rnd : Rand) : Res :=
  let st1 := { st0 with retries := 0 }
  match msg with
  | .ping h ecdh algos =>
    match selectAlgorithm st1.algos algos with
    | .error e => .err st1 e
    | .ok sel =>
      let st2 := { st1 with selected := sel }
      let st3 := match sel with
        | some c => { st2 with crypto := some (Core.new (masterKey c rnd.ecdhPub ecdh) (bytesGt st2.hash h) rnd.dummy (rnd.start :: rnd.starts123)) }
        | none => st2
      let (st4, out, log) := sendMessage env st3 Generated.STAGE_PONG rnd
      .ok { st4 with stage := Generated.STAGE_PENG } (out, .continue, log)
  | .pong h ecdh algos payload =>
    match st1.ecdh with
    | none => .panic
    | some own =>
      let st2 := { st1 with ecdh := none }
      match selectAlgorithm st2.algos algos with
      | .error e => .err st2 e
      | .ok sel =>
        match decryptPayload (pongSt st0 own ecdh h sel rnd) bodyOf payload with
        | (st5, none) => .err st5 .cryptoInitFatal
        | (st5, some p) =>
          if !payloadOk p then .err st5 .cryptoInitFatal else
          let (st6, out, log) := sendMessage env st5 Generated.STAGE_PENG rnd
          .ok { st6 with stage := Generated.WAITING_TO_CLOSE, closeTime := Generated.CLOSE_TIME } (out, .success p true, log)
  | .peng _ payload =>
    match decryptPayload st1 bodyOf payload with
    | (st2, none) => .err st2 .cryptoInitFatal
    | (st2, some p) =>
      if !payloadOk p then .err st2 .cryptoInitFatal else
      .ok { st2 with stage := Generated.CLOSING } ([], .success p false, [])

theorem handleInit_eq (env : CryptoEnv) (bodyOf : BodyOf) (payloadOk : Bytes → Bool) (st : InitSt) (w : Bytes) (rnd : Rand) :
    handleInit env bodyOf payloadOk st w rnd =
    match readFrom env w st.trusted with
    | .error e => .err st e
    | .ok (msg, _) =>
      if st.hash = msg.hash || checkSaltedNodeIdHash env msg.hash st.nodeId then .err st .cryptoInitFatal
      else match stageCheck st msg.stage msg.hash with
        | .inr o => o
        | .inl none => .panic
        | .inl (some st0) => handleMsg env bodyOf payloadOk st0 msg rnd := by
  unfold handleInit
  cases hr : readFrom env w st.trusted with
  | error e => rfl
  | ok p =>
    obtain ⟨msg, k⟩ := p
    simp only
    by_cases hc : (st.hash = msg.hash || checkSaltedNodeIdHash env msg.hash st.nodeId) = true
    · rw [if_pos hc, if_pos hc]
    · rw [if_neg hc, if_neg hc]
      rfl

theorem stageCheck_spec (st : InitSt) (stage : Nat) (hash : Bytes) :
    (stage = st.stage ∧ stageCheck st stage hash = .inl (some st)) ∨
    (stage = Generated.STAGE_PING ∧ st.stage = Generated.STAGE_PONG ∧ bytesGt hash st.hash = true ∧
      stageCheck st stage hash = .inl (some { st with stage := Generated.STAGE_PING, last := none, ecdh := none })) ∨
    stageCheck st stage hash = .inr (.ok st ([], .continue, [])) ∨
    (∃ l, st.last = some l ∧ stageCheck st stage hash = .inr (.ok st (l, .continue, []))) ∨
    stageCheck st stage hash = .inr (.err st .cryptoInitFatal) := by
  unfold stageCheck
  by_cases h1 : stage ≠ st.stage
  · rw [if_pos h1]
    by_cases h2 : st.stage = Generated.STAGE_PONG ∧ stage = Generated.STAGE_PING
    · rw [if_pos h2]
      by_cases h3 : bytesGt hash st.hash = true
      · rw [if_pos h3]; exact .inr (.inl ⟨h2.2, h2.1, h3, rfl⟩)
      · rw [if_neg h3]; exact .inr (.inr (.inl rfl))
    · rw [if_neg h2]
      by_cases h3 : st.stage = Generated.CLOSING
      · rw [if_pos h3]; exact .inr (.inr (.inl rfl))
      · rw [if_neg h3]
        cases st.last with
        | none => exact .inr (.inr (.inr (.inr rfl)))
        | some l => exact .inr (.inr (.inr (.inl ⟨l, rfl, rfl⟩)))
  · rw [if_neg h1]; exact .inl ⟨Classical.not_not.mp h1, rfl⟩

/-! ## a delivery whose branch is known -/

/-- the state after the role switch of a dual open -/
def _root_.VpnCloud.Proofs.C05AgreeLemmas.resetSt (st : InitSt) : InitSt :=
  { st with stage := Generated.STAGE_PING, last := none, ecdh := none }

open VpnCloud.Proofs.C05AgreeLemmas (resetSt)

/-- `st0` is the state from which `st` answers a ping of salted hash `h`: `st` itself at stage PING, or — at stage PONG, `h` being the
    greater hash — `st` after the role switch of a dual open -/
abbrev PingFrom (st : InitSt) (h : Bytes) (st0 : InitSt) : Prop :=
  (st0 = st ∧ st.stage = Generated.STAGE_PING) ∨ (st0 = resetSt st ∧ st.stage = Generated.STAGE_PONG ∧ bytesGt h st.hash = true)

theorem stageCheck_same {x : InitSt} {k : Nat} (hk : k = x.stage) (hash : Bytes) : stageCheck x k hash = .inl (some x) := by
  unfold stageCheck
  rw [if_neg (fun hn => hn hk)]

theorem stageCheck_ping_at_pong (st : InitSt) (h : Bytes) (hs : st.stage = Generated.STAGE_PONG) :
    stageCheck st Generated.STAGE_PING h =
      if bytesGt h st.hash then .inl (some (resetSt st)) else .inr (.ok st ([], .continue, [])) := by
  unfold stageCheck
  rw [if_pos (by rw [hs]; decide), if_pos ⟨hs, rfl⟩]
  rfl

theorem handleInit_read (env : CryptoEnv) (bodyOf : BodyOf) (ok : Bytes → Bool) (st : InitSt) (w : Bytes) (rnd : Rand)
    (m : InitMsg) (k : Bytes) (hr : readFrom env w st.trusted = .ok (m, k)) (hne : st.hash ≠ m.hash)
    (hself : checkSaltedNodeIdHash env m.hash st.nodeId = false) :
    handleInit env bodyOf ok st w rnd =
      (match stageCheck st m.stage m.hash with
       | .inr o => o
       | .inl none => .panic
       | .inl (some st0) => handleMsg env bodyOf ok st0 m rnd) := by
  have hc : ¬ (st.hash = m.hash || checkSaltedNodeIdHash env m.hash st.nodeId) = true := by
    simp [hne, hself]
  rw [handleInit_eq, hr]
  simp only
  rw [if_neg hc]

theorem handleInit_accept (env : CryptoEnv) (bodyOf : BodyOf) (ok : Bytes → Bool) (st : InitSt) (w : Bytes) (rnd : Rand)
    (m : InitMsg) (k : Bytes) (hr : readFrom env w st.trusted = .ok (m, k)) (hne : st.hash ≠ m.hash)
    (hself : checkSaltedNodeIdHash env m.hash st.nodeId = false) (hst : m.stage = st.stage) :
    handleInit env bodyOf ok st w rnd = handleMsg env bodyOf ok st m rnd := by
  rw [handleInit_read env bodyOf ok st w rnd m k hr hne hself, stageCheck_same hst]

/-- state of the responder after the negotiation, before the pong is built -/
def pingSt (st0 : InitSt) (h e : Bytes) (sel : Option Cipher) (rnd : Rand) : InitSt :=
  match sel with
  | some c =>
    { st0 with
      retries := 0
      selected := some c
      crypto := some (Core.new (masterKey c rnd.ecdhPub e) (bytesGt st0.hash h) rnd.dummy (rnd.start :: rnd.starts123)) }
  | none => { st0 with retries := 0, selected := none }

def pingRes (env : CryptoEnv) (st0 : InitSt) (h e : Bytes) (sel : Option Cipher) (rnd : Rand) : Res :=
  .ok { (sendMessage env (pingSt st0 h e sel rnd) Generated.STAGE_PONG rnd).1 with stage := Generated.STAGE_PENG }
    ((sendMessage env (pingSt st0 h e sel rnd) Generated.STAGE_PONG rnd).2.1, .continue,
     (sendMessage env (pingSt st0 h e sel rnd) Generated.STAGE_PONG rnd).2.2)

def pongRes (env : CryptoEnv) (st5 : InitSt) (rnd : Rand) (p : Bytes) : Res :=
  .ok { (sendMessage env st5 Generated.STAGE_PENG rnd).1 with stage := Generated.WAITING_TO_CLOSE, closeTime := Generated.CLOSE_TIME }
    ((sendMessage env st5 Generated.STAGE_PENG rnd).2.1, .success p true, (sendMessage env st5 Generated.STAGE_PENG rnd).2.2)

theorem handleMsg_ping_ok (env : CryptoEnv) (bodyOf : BodyOf) (ok : Bytes → Bool) (st0 : InitSt) (h e : Bytes) (algos : Algos) (rnd : Rand)
    (sel : Option Cipher) (hsel : selectAlgorithm st0.algos algos = .ok sel) :
    handleMsg env bodyOf ok st0 (.ping h e algos) rnd = pingRes env st0 h e sel rnd := by
  simp only [handleMsg, hsel]
  cases sel <;> rfl

theorem handleMsg_pong_ok (env : CryptoEnv) (bodyOf : BodyOf) (ok : Bytes → Bool) (st0 : InitSt) (hb eb : Bytes) (ab : Algos) (pl : Bytes)
    (rnd : Rand) (own : Bytes) (sel : Option Cipher) (st5 : InitSt) (p : Bytes)
    (hown : st0.ecdh = some own) (hsel : selectAlgorithm st0.algos ab = .ok sel)
    (hd : decryptPayload (pongSt st0 own eb hb sel rnd) bodyOf pl = (st5, some p)) (hok : ok p = true) :
    handleMsg env bodyOf ok st0 (.pong hb eb ab pl) rnd = pongRes env st5 rnd p := by
  simp only [handleMsg, hown, hsel, hd, hok]
  rfl

theorem handleMsg_peng_ok (env : CryptoEnv) (bodyOf : BodyOf) (ok : Bytes → Bool) (st0 : InitSt) (hb pl : Bytes) (rnd : Rand)
    (st2 : InitSt) (p : Bytes) (hd : decryptPayload { st0 with retries := 0 } bodyOf pl = (st2, some p)) (hok : ok p = true) :
    handleMsg env bodyOf ok st0 (.peng hb pl) rnd = .ok { st2 with stage := Generated.CLOSING } ([], .success p false, []) := by
  simp only [handleMsg, hd, hok]
  rfl

/-! ## every outcome of `handleInit` -/

inductive Eff (env : CryptoEnv) (bodyOf : BodyOf) (ok : Bytes → Bool) (st : InitSt) (w : Bytes) (rnd : Rand) : Res → Prop
  /-- rejected, ignored or answered by the last message again: the state is unchanged -/
  | quietErr (e : InitErr) : Eff env bodyOf ok st w rnd (.err st e)
  | quietOk (out : Bytes) (h : out = [] ∨ st.last = some out) : Eff env bodyOf ok st w rnd (.ok st (out, .continue, []))
  | panic (hstage : st.stage = Generated.STAGE_PONG) (hown : st.ecdh = none) : Eff env bodyOf ok st w rnd .panic
  | pingErr (h e : Bytes) (al : Algos) (k : Bytes) (st0 : InitSt) (er : InitErr)
      (hr : readFrom env w st.trusted = .ok (.ping h e al, k)) (hne : st.hash ≠ h)
      (hst0 : PingFrom st h st0)
      (hsel : selectAlgorithm st.algos al = .error er) : Eff env bodyOf ok st w rnd (.err { st0 with retries := 0 } er)
  | pingOk (h e : Bytes) (al : Algos) (k : Bytes) (st0 : InitSt) (sel : Option Cipher)
      (hr : readFrom env w st.trusted = .ok (.ping h e al, k)) (hne : st.hash ≠ h)
      (hst0 : PingFrom st h st0)
      (hsel : selectAlgorithm st.algos al = .ok sel) : Eff env bodyOf ok st w rnd (pingRes env st0 h e sel rnd)
  | pongSelErr (hb eb : Bytes) (ab : Algos) (pl k own : Bytes) (er : InitErr)
      (hr : readFrom env w st.trusted = .ok (.pong hb eb ab pl, k)) (hne : st.hash ≠ hb)
      (hstage : st.stage = Generated.STAGE_PONG) (hown : st.ecdh = some own)
      (hsel : selectAlgorithm st.algos ab = .error er) : Eff env bodyOf ok st w rnd (.err { st with retries := 0, ecdh := none } er)
  | pongFail (hb eb : Bytes) (ab : Algos) (pl k own : Bytes) (sel : Option Cipher) (st5 : InitSt) (r : Option Bytes)
      (hr : readFrom env w st.trusted = .ok (.pong hb eb ab pl, k)) (hne : st.hash ≠ hb)
      (hstage : st.stage = Generated.STAGE_PONG) (hown : st.ecdh = some own)
      (hsel : selectAlgorithm st.algos ab = .ok sel)
      (hd : decryptPayload (pongSt st own eb hb sel rnd) bodyOf pl = (st5, r)) (hbad : ∀ p, r = some p → ok p = false) :
      Eff env bodyOf ok st w rnd (.err st5 .cryptoInitFatal)
  | pongOk (hb eb : Bytes) (ab : Algos) (pl k own : Bytes) (sel : Option Cipher) (st5 : InitSt) (p : Bytes)
      (hr : readFrom env w st.trusted = .ok (.pong hb eb ab pl, k)) (hne : st.hash ≠ hb)
      (hstage : st.stage = Generated.STAGE_PONG) (hown : st.ecdh = some own)
      (hsel : selectAlgorithm st.algos ab = .ok sel)
      (hd : decryptPayload (pongSt st own eb hb sel rnd) bodyOf pl = (st5, some p)) (hok : ok p = true) :
      Eff env bodyOf ok st w rnd (pongRes env st5 rnd p)
  | pengFail (hb pl k : Bytes) (st2 : InitSt) (r : Option Bytes)
      (hr : readFrom env w st.trusted = .ok (.peng hb pl, k)) (hne : st.hash ≠ hb)
      (hstage : st.stage = Generated.STAGE_PENG)
      (hd : decryptPayload { st with retries := 0 } bodyOf pl = (st2, r)) (hbad : ∀ p, r = some p → ok p = false) :
      Eff env bodyOf ok st w rnd (.err st2 .cryptoInitFatal)
  | pengOk (hb pl k : Bytes) (st2 : InitSt) (p : Bytes)
      (hr : readFrom env w st.trusted = .ok (.peng hb pl, k)) (hne : st.hash ≠ hb)
      (hstage : st.stage = Generated.STAGE_PENG)
      (hd : decryptPayload { st with retries := 0 } bodyOf pl = (st2, some p)) (hok : ok p = true) :
      Eff env bodyOf ok st w rnd (.ok { st2 with stage := Generated.CLOSING } ([], .success p false, []))

theorem handleMsg_eff (env : CryptoEnv) (bodyOf : BodyOf) (ok : Bytes → Bool) (st : InitSt) (w : Bytes) (rnd : Rand)
    (m : InitMsg) (k : Bytes) (st0 : InitSt) (hr : readFrom env w st.trusted = .ok (m, k)) (hne : st.hash ≠ m.hash)
    (hst0 : (st0 = st ∧ m.stage = st.stage) ∨
      (st0 = resetSt st ∧ m.stage = Generated.STAGE_PING ∧ st.stage = Generated.STAGE_PONG ∧ bytesGt m.hash st.hash = true)) :
    Eff env bodyOf ok st w rnd (handleMsg env bodyOf ok st0 m rnd) := by
  have halg : st0.algos = st.algos := by rcases hst0 with ⟨rfl, _⟩ | ⟨rfl, _⟩ <;> rfl
  cases m with
  | ping h e al =>
    have hp : PingFrom st h st0 := by
      rcases hst0 with ⟨h1, h2⟩ | ⟨h1, _, h3, h4⟩
      · exact Or.inl ⟨h1, h2.symm⟩
      · exact Or.inr ⟨h1, h3, h4⟩
    cases hsel : selectAlgorithm st0.algos al with
    | error er =>
      have : handleMsg env bodyOf ok st0 (.ping h e al) rnd = .err { st0 with retries := 0 } er := by simp only [handleMsg, hsel]
      rw [this]
      exact .pingErr h e al k st0 er hr hne hp (halg ▸ hsel)
    | ok sel =>
      rw [handleMsg_ping_ok env bodyOf ok st0 h e al rnd sel hsel]
      exact .pingOk h e al k st0 sel hr hne hp (halg ▸ hsel)
  | pong hb eb ab pl =>
    -- only a ping can trigger the role switch
    obtain ⟨rfl, hstage⟩ : st0 = st ∧ st.stage = Generated.STAGE_PONG := by
      rcases hst0 with ⟨h1, h2⟩ | ⟨_, h2, _⟩
      · exact ⟨h1, h2.symm⟩
      · exact absurd h2 (show Generated.STAGE_PONG ≠ Generated.STAGE_PING by decide)
    cases hown : st0.ecdh with
    | none =>
      have : handleMsg env bodyOf ok st0 (.pong hb eb ab pl) rnd = .panic := by simp only [handleMsg, hown]
      rw [this]; exact .panic hstage hown
    | some own =>
      cases hsel : selectAlgorithm st0.algos ab with
      | error er =>
        have : handleMsg env bodyOf ok st0 (.pong hb eb ab pl) rnd = .err { st0 with retries := 0, ecdh := none } er := by
          simp only [handleMsg, hown, hsel]
        rw [this]
        exact .pongSelErr hb eb ab pl k own er hr hne hstage hown hsel
      | ok sel =>
        cases hd : decryptPayload (pongSt st0 own eb hb sel rnd) bodyOf pl with
        | mk st5 r =>
          by_cases hok : ∃ p, r = some p ∧ ok p = true
          · obtain ⟨p, rfl, hok⟩ := hok
            rw [handleMsg_pong_ok env bodyOf ok st0 hb eb ab pl rnd own sel st5 p hown hsel hd hok]
            exact .pongOk hb eb ab pl k own sel st5 p hr hne hstage hown hsel hd hok
          · have hbad : ∀ p, r = some p → ok p = false := fun p hp => by
              cases h : ok p
              · rfl
              · exact absurd ⟨p, hp, h⟩ hok
            have : handleMsg env bodyOf ok st0 (.pong hb eb ab pl) rnd = .err st5 .cryptoInitFatal := by
              simp only [handleMsg, hown, hsel, hd]
              cases r with
              | none => rfl
              | some p => simp only [hbad p rfl]; rfl
            rw [this]
            exact .pongFail hb eb ab pl k own sel st5 r hr hne hstage hown hsel hd hbad
  | peng hb pl =>
    obtain ⟨rfl, hstage⟩ : st0 = st ∧ st.stage = Generated.STAGE_PENG := by
      rcases hst0 with ⟨h1, h2⟩ | ⟨_, h2, _⟩
      · exact ⟨h1, h2.symm⟩
      · exact absurd h2 (show Generated.STAGE_PENG ≠ Generated.STAGE_PING by decide)
    cases hd : decryptPayload { st0 with retries := 0 } bodyOf pl with
    | mk st2 r =>
      by_cases hok : ∃ p, r = some p ∧ ok p = true
      · obtain ⟨p, rfl, hok⟩ := hok
        rw [handleMsg_peng_ok env bodyOf ok st0 hb pl rnd st2 p hd hok]
        exact .pengOk hb pl k st2 p hr hne hstage hd hok
      · have hbad : ∀ p, r = some p → ok p = false := fun p hp => by
          cases h : ok p
          · rfl
          · exact absurd ⟨p, hp, h⟩ hok
        have : handleMsg env bodyOf ok st0 (.peng hb pl) rnd = .err st2 .cryptoInitFatal := by
          simp only [handleMsg, hd]
          cases r with
          | none => rfl
          | some p => simp only [hbad p rfl]; rfl
        rw [this]
        exact .pengFail hb pl k st2 r hr hne hstage hd hbad

theorem handleInit_eff (env : CryptoEnv) (bodyOf : BodyOf) (ok : Bytes → Bool) (st : InitSt) (w : Bytes) (rnd : Rand) :
    Eff env bodyOf ok st w rnd (handleInit env bodyOf ok st w rnd) := by
  rw [handleInit_eq]
  cases hr : readFrom env w st.trusted with
  | error e => exact .quietErr e
  | ok mk =>
    obtain ⟨m, k⟩ := mk
    simp only
    by_cases hc : (st.hash = m.hash || checkSaltedNodeIdHash env m.hash st.nodeId) = true
    · rw [if_pos hc]; exact .quietErr _
    · rw [if_neg hc]
      have hne : st.hash ≠ m.hash := by
        intro e; apply hc; simp [e]
      rcases stageCheck_spec st m.stage m.hash with ⟨h2, hs⟩ | ⟨h2, h3, h4, hs⟩ | hs | ⟨l, hl, hs⟩ | hs <;> rw [hs]
      · exact handleMsg_eff env bodyOf ok st w rnd m k st hr hne (Or.inl ⟨rfl, h2⟩)
      · exact handleMsg_eff env bodyOf ok st w rnd m k _ hr hne (Or.inr ⟨rfl, h2, h3, h4⟩)
      · exact .quietOk [] (Or.inl rfl)
      · exact .quietOk l (Or.inr hl)
      · exact .quietErr _

theorem handleInit_success_cases (env : CryptoEnv) (bodyOf : BodyOf) (ok : Bytes → Bool) (st st' : InitSt) (w : Bytes) (rnd : Rand)
    (out p : Bytes) (ini : Bool) (log : SealLog) (h : handleInit env bodyOf ok st w rnd = .ok st' (out, .success p ini, log)) :
    ok p = true ∧
    ((ini = true ∧ st.stage = Generated.STAGE_PONG ∧ ∃ st5,
      st' = { (sendMessage env st5 Generated.STAGE_PENG rnd).1 with stage := Generated.WAITING_TO_CLOSE, closeTime := Generated.CLOSE_TIME } ∧
      ∃ hb eb ab pl k own sel, readFrom env w st.trusted = .ok (.pong hb eb ab pl, k) ∧ st.ecdh = some own ∧
        selectAlgorithm st.algos ab = .ok sel ∧ decryptPayload (pongSt st own eb hb sel rnd) bodyOf pl = (st5, some p)) ∨
    (ini = false ∧ st.stage = Generated.STAGE_PENG ∧ ∃ st2, st' = { st2 with stage := Generated.CLOSING } ∧
      ∃ hb pl k, readFrom env w st.trusted = .ok (.peng hb pl, k) ∧
        decryptPayload { st with retries := 0 } bodyOf pl = (st2, some p))) := by
  have he := handleInit_eff env bodyOf ok st w rnd
  rw [h] at he
  generalize hR : (Outcome.ok st' (out, .success p ini, log) : Res) = R at he
  cases he with
  | quietErr | panic | pingErr | pongSelErr | pongFail | pengFail | quietOk | pingOk => cases hR
  | pongOk hb eb ab pl k own sel st5 p' hr _ hstage hown hsel hd hok =>
    cases hR
    exact ⟨hok, .inl ⟨rfl, hstage, st5, rfl, hb, eb, ab, pl, k, own, sel, hr, hown, hsel, hd⟩⟩
  | pengOk hb pl k st2 p' hr _ hstage hd hok =>
    cases hR
    exact ⟨hok, .inr ⟨rfl, hstage, st2, rfl, hb, pl, k, hr, hd⟩⟩

theorem Eff.answered {env : CryptoEnv} {bodyOf : BodyOf} {ok : Bytes → Bool} {st st1 : InitSt} {w : Bytes} {rnd : Rand}
    {r : Bytes × InitResult × SealLog} (e : Eff env bodyOf ok st w rnd (.ok st1 r)) (hs : st.stage ≠ Generated.STAGE_PENG)
    (hs1 : st1.stage = Generated.STAGE_PENG) :
    ∃ h ea al k st0 sel, readFrom env w st.trusted = .ok (.ping h ea al, k) ∧ selectAlgorithm st.algos al = .ok sel ∧
      PingFrom st h st0 ∧ .ok st1 r = pingRes env st0 h ea sel rnd := by
  generalize hR : (Outcome.ok st1 r : Res) = R at e
  cases e with
  | quietErr | panic | pingErr | pongSelErr | pongFail | pengFail => cases hR
  | quietOk o ho =>
    simp only [Outcome.ok.injEq] at hR
    rw [hR.1] at hs1; exact absurd hs1 hs
  | pongOk =>
    unfold pongRes at hR
    simp only [Outcome.ok.injEq] at hR
    rw [hR.1] at hs1; exact absurd hs1 (by decide : Generated.WAITING_TO_CLOSE ≠ Generated.STAGE_PENG)
  | pengOk _ _ _ _ _ _ _ hstage => exact absurd hstage hs
  | pingOk h ea al k st0 sel hr _ hst0 hsel => exact ⟨h, ea, al, k, st0, sel, hr, hsel, hst0, rfl⟩

theorem beVal_inj : ∀ (a b : Bytes), Bytes.WF a → Bytes.WF b → a.length = b.length → Bytes.beVal a = Bytes.beVal b → a = b := by
  intro a
  induction a with
  | nil => intro b _ _ hl _; cases b with
    | nil => rfl
    | cons => cases hl
  | cons x a ih =>
    intro b ha hb hl hv
    cases b with
    | nil => cases hl
    | cons y b =>
      rw [Bytes.wf_cons] at ha hb
      simp only [List.length_cons, Nat.add_right_cancel_iff] at hl
      have la := Bytes.beVal_lt a ha.2
      have lb := Bytes.beVal_lt b hb.2
      simp only [Bytes.beVal, hl] at hv la
      have hxy : x = y := by
        rcases Nat.lt_trichotomy x y with h | h | h
        · have := Nat.mul_le_mul_right (256 ^ b.length) (show x + 1 ≤ y from h)
          rw [Nat.add_mul, Nat.one_mul] at this
          omega
        · exact h
        · have := Nat.mul_le_mul_right (256 ^ b.length) (show y + 1 ≤ x from h)
          rw [Nat.add_mul, Nat.one_mul] at this
          omega
      subst hxy
      rw [ih b ha.2 hb.2 hl (by omega)]

theorem masterKey_eq_of (c : Cipher) (a b : Bytes) :
    masterKey c a b = if Bytes.beVal a ≤ Bytes.beVal b then Bytes.beVal ((10 + c.wireId) :: (a.length % 256) :: (a ++ b))
      else Bytes.beVal ((10 + c.wireId) :: (b.length % 256) :: (b ++ a)) := by
  unfold masterKey
  split <;> rfl

theorem keyList_inj (c c' : Cipher) (a b a' b' : Bytes) (hw : Bytes.WF a ∧ Bytes.WF b ∧ Bytes.WF a' ∧ Bytes.WF b')
    (hl : a.length = 32 ∧ b.length = 32 ∧ a'.length = 32 ∧ b'.length = 32)
    (h : Bytes.beVal ((10 + c.wireId) :: (a.length % 256) :: (a ++ b)) = Bytes.beVal ((10 + c'.wireId) :: (a'.length % 256) :: (a' ++ b'))) :
    c = c' ∧ a = a' ∧ b = b' := by
  obtain ⟨wa, wb, wa', wb'⟩ := hw
  obtain ⟨la, lb, la', lb'⟩ := hl
  have hc : ∀ c : Cipher, 10 + c.wireId < 256 := by intro c; cases c <;> decide
  have := beVal_inj _ _
    (by rw [Bytes.wf_cons, Bytes.wf_cons, Bytes.wf_append]; exact ⟨hc c, Nat.mod_lt _ (by decide), wa, wb⟩)
    (by rw [Bytes.wf_cons, Bytes.wf_cons, Bytes.wf_append]; exact ⟨hc c', Nat.mod_lt _ (by decide), wa', wb'⟩)
    (by simp [la, lb, la', lb']) h
  simp only [List.cons.injEq] at this
  obtain ⟨h1, _, h3⟩ := this
  have := List.append_inj h3 (by rw [la, la'])
  exact ⟨wireId_inj (by omega), this.1, this.2⟩

/-- what the handshake fixes about a core: the key of slot 0 and the nonce half -/
def CoreOK (K : KeyRef) (H : Bool) (c : Core) : Prop := (c.slots[0]?.map (·.key)) = some K ∧ c.half = H

theorem CoreOK_new (K : KeyRef) (H : Bool) (d : KeyRef) (starts : List Nat) : CoreOK K H (Core.new K H d starts) :=
  ⟨rfl, rfl⟩

theorem CoreOK_step (K : KeyRef) (H : Bool) (c : Core) (op : C04Session.SOp) (hop : ∀ K id use start, op ≠ .rotate K id use start)
    (h : CoreOK K H c) : CoreOK K H (C04Session.step c op).1 := by
  refine ⟨?_, (C04Session.step_half c op).trans h.2⟩
  rw [← List.getElem?_map, C04Session.step_keys c op hop, List.getElem?_map]
  exact h.1

/-- slot 0 holds `K`, the nonce half is `H`, and every slot holds `K` or a throw-away key (one satisfying `D`) -/
def _root_.VpnCloud.Proofs.C05AgreeLemmas.CoreKeys (K : KeyRef) (H : Bool) (D : KeyRef → Prop) (c : Core) : Prop :=
  CoreOK K H c ∧ ∀ k ∈ c.slots, k.key = K ∨ D k.key

open VpnCloud.Proofs.C05AgreeLemmas (CoreKeys)

theorem CoreKeys_new (K : KeyRef) (H : Bool) (D : KeyRef → Prop) (d : KeyRef) (starts : List Nat) (hd : D d) :
    CoreKeys K H D (Core.new K H d starts) := by
  refine ⟨CoreOK_new K H d starts, ?_⟩
  intro k hk
  simp only [Core.new, List.mem_cons, List.not_mem_nil, or_false] at hk
  rcases hk with rfl | rfl | rfl | rfl
  · exact Or.inl rfl
  all_goals exact Or.inr hd

theorem CoreKeys_step {K : KeyRef} {H : Bool} {D : KeyRef → Prop} {c : Core} (op : C04Session.SOp)
    (hop : ∀ K id use start, op ≠ .rotate K id use start) (h : CoreKeys K H D c) : CoreKeys K H D (C04Session.step c op).1 := by
  refine ⟨CoreOK_step K H c op hop h.1, fun x hx => ?_⟩
  have hm : x.key ∈ (C04Session.step c op).1.slots.map (·.key) := List.mem_map_of_mem hx
  rw [C04Session.step_keys c op hop] at hm
  obtain ⟨y, hy, hxy⟩ := List.mem_map.1 hm
  rw [← hxy]
  exact h.2 y hy

theorem CoreKeys_decrypt {K : KeyRef} {H : Bool} {D : KeyRef → Prop} {c : Core} (d : Dgram) (h : CoreKeys K H D c) :
    CoreKeys K H D (c.decrypt d).1 := CoreKeys_step (.open d) nofun h

theorem CoreKeys_encrypt {K : KeyRef} {H : Bool} {D : KeyRef → Prop} {c : Core} (p : Bytes) (h : CoreKeys K H D c) :
    CoreKeys K H D (c.encrypt p).1 := CoreKeys_step (.seal p) nofun h

theorem CoreKeys_opens {K : KeyRef} {H : Bool} {D : KeyRef → Prop} {c : Core} (d : Dgram) (p : Bytes) (h : CoreKeys K H D c)
    (hd : (c.decrypt d).2 = .ok p) : ∃ n, d.body = .sealed K n p ∨ ∃ k', D k' ∧ d.body = .sealed k' n p := by
  obtain ⟨_, _, k, hk, hb⟩ := VpnCloud.Proofs.C02.accepted_is_genuine _ _ _ hd
  refine ⟨c.reconstruct d.counter, ?_⟩
  rcases h.2 k (List.mem_of_getElem? hk) with e | e
  · left; rw [hb, e]
  · right; exact ⟨_, e, hb⟩

theorem selectAlgorithm_err (own peer : Algos) (e : InitErr) (h : Init.selectAlgorithm own peer = .error e) : e = .cryptoInitFatal := by
  unfold Init.selectAlgorithm at h
  split at h
  · cases h
  · simp only at h
    split at h
    · simp only [Except.error.injEq] at h; exact h.symm
    · cases h

theorem decryptPayload_none (s : InitSt) (bodyOf : BodyOf) (data : Bytes) (h : s.crypto = none) :
    decryptPayload s bodyOf data = (s, some data) := by
  unfold decryptPayload; rw [h]

theorem decryptPayload_cases (s s' : InitSt) (bodyOf : BodyOf) (data : Bytes) (r : Option Bytes)
    (h : decryptPayload s bodyOf data = (s', r)) :
    (s.crypto = none ∧ s' = s ∧ r = some data) ∨
    (∃ c, s.crypto = some c ∧ s' = { s with crypto := some (c.decrypt { hdr := data.take 8, body := bodyOf (data.drop 8) }).1 } ∧
      ∀ p, r = some p → (c.decrypt { hdr := data.take 8, body := bodyOf (data.drop 8) }).2 = .ok p) := by
  cases hc : s.crypto with
  | none =>
    rw [decryptPayload_none s bodyOf data hc] at h
    simp only [Prod.mk.injEq] at h
    exact Or.inl ⟨rfl, h.1.symm, h.2.symm⟩
  | some c =>
    refine Or.inr ⟨c, rfl, ?_⟩
    unfold decryptPayload at h
    rw [hc] at h
    simp only at h
    split at h
    · rename_i p' hp
      simp only [Prod.mk.injEq] at h
      refine ⟨h.1.symm, ?_⟩
      intro p hp'
      rw [← h.2] at hp'
      simp only [Option.some.injEq] at hp'
      rw [← hp']; exact hp
    · simp only [Prod.mk.injEq] at h
      refine ⟨h.1.symm, ?_⟩
      intro p hp'
      rw [← h.2] at hp'
      cases hp'

theorem decryptPayload_some (s : InitSt) (bodyOf : BodyOf) (data : Bytes) (c : Core) (h : s.crypto = some c) (s' : InitSt) (p : Bytes)
    (hd : decryptPayload s bodyOf data = (s', some p)) :
    (c.decrypt { hdr := data.take 8, body := bodyOf (data.drop 8) }).2 = .ok p ∧
    s' = { s with crypto := some (c.decrypt { hdr := data.take 8, body := bodyOf (data.drop 8) }).1 } := by
  rcases decryptPayload_cases _ _ _ _ _ hd with ⟨hc, _⟩ | ⟨c', hc, hs', hp⟩
  · rw [h] at hc; cases hc
  · rw [h, Option.some.injEq] at hc
    subst hc
    exact ⟨hp p rfl, hs'⟩

theorem encryptPayload_fst (s : InitSt) (rnd : Rand) :
    (encryptPayload s rnd).1 = { s with crypto := s.crypto.map (fun c => (c.encrypt s.payload).1) } := by
  unfold encryptPayload
  split
  · rename_i c h; simp [h]
  · rename_i h; cases s; simp only at h; subst h; rfl

theorem decryptPayload_frame (s s' : InitSt) (bodyOf : BodyOf) (data : Bytes) (r : Option Bytes)
    (h : decryptPayload s bodyOf data = (s', r)) :
    ∃ cr, s' = { s with crypto := cr } ∧ (cr = s.crypto ∨ ∃ c d, s.crypto = some c ∧ cr = some (c.decrypt d).1) := by
  rcases decryptPayload_cases _ _ _ _ _ h with ⟨_, hs, _⟩ | ⟨c, hc, rfl, _⟩
  · exact ⟨s.crypto, hs, Or.inl rfl⟩
  · exact ⟨_, rfl, Or.inr ⟨c, _, hc, rfl⟩⟩

theorem decryptPayload_stage (s s' : InitSt) (bodyOf : Init.BodyOf) (data : Bytes) (r : Option Bytes)
    (h : Init.decryptPayload s bodyOf data = (s', r)) : s'.stage = s.stage := by
  obtain ⟨cr, rfl, _⟩ := decryptPayload_frame s s' bodyOf data r h
  rfl

theorem init_sendMessage_cases (env : CryptoEnv) (st : InitSt) (stage : Nat) (rnd : Rand) :
    ∃ b, sendMessage env st stage rnd = ({ st with last := some b }, b, []) ∨
      sendMessage env st stage rnd = ({ (encryptPayload st rnd).1 with last := some b }, b, (encryptPayload st rnd).2.2) := by
  unfold sendMessage
  by_cases h1 : stage = Generated.STAGE_PING
  · rw [if_pos h1]; exact ⟨_, Or.inl rfl⟩
  · rw [if_neg h1]
    by_cases h2 : stage = Generated.STAGE_PONG
    · rw [if_pos h2]; exact ⟨_, Or.inr rfl⟩
    · rw [if_neg h2]; exact ⟨_, Or.inr rfl⟩

theorem init_sendMessage_frame (env : CryptoEnv) (st : InitSt) (stage : Nat) (rnd : Rand) :
    ∃ cr l, (sendMessage env st stage rnd).1 = { st with crypto := cr, last := l } ∧
      (cr = st.crypto ∨ cr = st.crypto.map (fun c => (c.encrypt st.payload).1)) := by
  obtain ⟨b, h | h⟩ := init_sendMessage_cases env st stage rnd
  · rw [h]; exact ⟨st.crypto, _, rfl, Or.inl rfl⟩
  · rw [h, encryptPayload_fst]; exact ⟨_, _, rfl, Or.inr rfl⟩

theorem everySecond_wait_zero (st : InitSt) (h1 : st.stage = Generated.WAITING_TO_CLOSE) (h2 : st.closeTime = 0) :
    everySecond st = ({ st with stage := Generated.CLOSING }, .ok []) := by
  unfold everySecond
  rw [if_pos h1, if_pos h2]

theorem everySecond_wait (st : InitSt) (h1 : st.stage = Generated.WAITING_TO_CLOSE) (h2 : st.closeTime ≠ 0) :
    everySecond st = ({ st with closeTime := st.closeTime - 1 }, .ok []) := by
  unfold everySecond
  rw [if_pos h1, if_neg h2]

theorem everySecond_closing (st : InitSt) (h : st.stage = Generated.CLOSING) : everySecond st = (st, .ok []) := by
  unfold everySecond
  rw [if_neg (by rw [h]; decide), if_pos h]

theorem everySecond_retry (st : InitSt) (h1 : st.stage ≠ Generated.WAITING_TO_CLOSE) (h2 : st.stage ≠ Generated.CLOSING)
    (h3 : st.retries < Generated.MAX_FAILED_RETRIES) :
    everySecond st = ({ st with retries := st.retries + 1 }, .ok (st.last.getD [])) := by
  unfold everySecond
  rw [if_neg h1, if_neg h2, if_pos h3]

theorem everySecond_give_up (st : InitSt) (h1 : st.stage ≠ Generated.WAITING_TO_CLOSE) (h2 : st.stage ≠ Generated.CLOSING)
    (h3 : ¬ st.retries < Generated.MAX_FAILED_RETRIES) :
    everySecond st = ({ st with stage := Generated.CLOSING }, .error .cryptoInitFatal) := by
  unfold everySecond
  rw [if_neg h1, if_neg h2, if_neg h3]

theorem everySecond_cases (st : InitSt) :
    (st.stage = Generated.WAITING_TO_CLOSE ∧ everySecond st = ({ st with stage := Generated.CLOSING }, .ok [])) ∨
    (st.stage = Generated.WAITING_TO_CLOSE ∧ everySecond st = ({ st with closeTime := st.closeTime - 1 }, .ok [])) ∨
    (st.stage = Generated.CLOSING ∧ everySecond st = (st, .ok [])) ∨
    (st.stage ≠ Generated.WAITING_TO_CLOSE ∧ st.stage ≠ Generated.CLOSING ∧
      everySecond st = ({ st with retries := st.retries + 1 }, .ok (st.last.getD []))) ∨
    (st.stage ≠ Generated.WAITING_TO_CLOSE ∧ st.stage ≠ Generated.CLOSING ∧
      everySecond st = ({ st with stage := Generated.CLOSING }, .error .cryptoInitFatal)) := by
  by_cases h1 : st.stage = Generated.WAITING_TO_CLOSE
  · by_cases h2 : st.closeTime = 0
    · exact .inl ⟨h1, everySecond_wait_zero st h1 h2⟩
    · exact .inr (.inl ⟨h1, everySecond_wait st h1 h2⟩)
  · by_cases h2 : st.stage = Generated.CLOSING
    · exact .inr (.inr (.inl ⟨h2, everySecond_closing st h2⟩))
    · by_cases h3 : st.retries < Generated.MAX_FAILED_RETRIES
      · exact .inr (.inr (.inr (.inl ⟨h1, h2, everySecond_retry st h1 h2 h3⟩)))
      · exact .inr (.inr (.inr (.inr ⟨h1, h2, everySecond_give_up st h1 h2 h3⟩)))

theorem everySecond_fst (x : InitSt) : ∃ s' ct rt, (s' = x.stage ∨ s' = Generated.CLOSING) ∧
    (everySecond x).1 = { x with stage := s', closeTime := ct, retries := rt } := by
  rcases everySecond_cases x with ⟨_, e⟩ | ⟨_, e⟩ | ⟨_, e⟩ | ⟨_, _, e⟩ | ⟨_, _, e⟩ <;> rw [e]
  · exact ⟨_, x.closeTime, x.retries, Or.inr rfl, rfl⟩
  · exact ⟨x.stage, _, x.retries, Or.inl rfl, rfl⟩
  · exact ⟨x.stage, x.closeTime, x.retries, Or.inl rfl, rfl⟩
  · exact ⟨x.stage, x.closeTime, _, Or.inl rfl, rfl⟩
  · exact ⟨_, x.closeTime, x.retries, Or.inr rfl, rfl⟩

theorem init_everySecond_frame (st : InitSt) :
    ((Init.everySecond st).1.stage = st.stage ∨ (Init.everySecond st).1.stage = Generated.CLOSING) ∧ (Init.everySecond st).1.ecdh = st.ecdh := by
  obtain ⟨sg, ct, rt, hs, he⟩ := everySecond_fst st
  rw [he]; exact ⟨hs, rfl⟩

theorem init_everySecond_payload (st : InitSt) : (Init.everySecond st).1.payload = st.payload := by
  obtain ⟨sg, ct, rt, _, he⟩ := everySecond_fst st
  rw [he]

theorem pongSt_eq (st : InitSt) (own eb hb : Bytes) (sel : Option Cipher) (rnd : Rand) :
    pongSt st own eb hb sel rnd = { st with retries := 0, ecdh := none, selected := sel, crypto := (pongSt st own eb hb sel rnd).crypto } := by
  cases sel <;> rfl

theorem pongSt_stage (st0 : InitSt) (own eb hb : Bytes) (sel : Option Cipher) (rnd : Rand) :
    (pongSt st0 own eb hb sel rnd).stage = st0.stage := by cases sel <;> rfl

/-! ## the fields a delivery leaves alone -/

/-- the fields of a handshake object that never change -/
def _root_.VpnCloud.Proofs.C05AgreeLemmas.Static (st st' : InitSt) : Prop :=
  st'.nodeId = st.nodeId ∧ st'.hash = st.hash ∧ st'.payload = st.payload ∧ st'.ownKey = st.ownKey ∧ st'.trusted = st.trusted ∧
  st'.algos = st.algos

open VpnCloud.Proofs.C05AgreeLemmas (Static)

theorem _root_.VpnCloud.Proofs.C05AgreeLemmas.Static.refl (st : InitSt) : Static st st := ⟨rfl, rfl, rfl, rfl, rfl, rfl⟩

theorem _root_.VpnCloud.Proofs.C05AgreeLemmas.Static.trans {a b c : InitSt} (h1 : Static a b) (h2 : Static b c) : Static a c := by
  obtain ⟨a1, a2, a3, a4, a5, a6⟩ := h1
  obtain ⟨b1, b2, b3, b4, b5, b6⟩ := h2
  exact ⟨b1.trans a1, b2.trans a2, b3.trans a3, b4.trans a4, b5.trans a5, b6.trans a6⟩

theorem PingFrom.static {st st0 : InitSt} {h : Bytes} (hb : PingFrom st h st0) : Static st st0 := by
  rcases hb with ⟨rfl, _⟩ | ⟨rfl, _⟩ <;> exact ⟨rfl, rfl, rfl, rfl, rfl, rfl⟩

theorem init_sendMessage_static (env : CryptoEnv) (st : InitSt) (stage : Nat) (rnd : Rand) : Static st (sendMessage env st stage rnd).1 := by
  obtain ⟨cr, l, h, _⟩ := init_sendMessage_frame env st stage rnd
  rw [h]; exact ⟨rfl, rfl, rfl, rfl, rfl, rfl⟩

theorem init_sendMessage_payload (env : CryptoEnv) (st : InitSt) (stage : Nat) (rnd : Rand) :
    (Init.sendMessage env st stage rnd).1.payload = st.payload := (init_sendMessage_static env st stage rnd).2.2.1

theorem decryptPayload_static {s s' : InitSt} {bodyOf : BodyOf} {data : Bytes} {r : Option Bytes}
    (h : decryptPayload s bodyOf data = (s', r)) : Static s s' := by
  obtain ⟨cr, rfl, _⟩ := decryptPayload_frame s s' bodyOf data r h
  exact ⟨rfl, rfl, rfl, rfl, rfl, rfl⟩

theorem pingSt_static (st0 : InitSt) (h e : Bytes) (sel : Option Cipher) (rnd : Rand) : Static st0 (pingSt st0 h e sel rnd) := by
  cases sel <;> exact ⟨rfl, rfl, rfl, rfl, rfl, rfl⟩

theorem pongSt_static (st : InitSt) (own eb hb : Bytes) (sel : Option Cipher) (rnd : Rand) : Static st (pongSt st own eb hb sel rnd) := by
  cases sel <;> exact ⟨rfl, rfl, rfl, rfl, rfl, rfl⟩

theorem Eff.static {env : CryptoEnv} {bodyOf : BodyOf} {ok : Bytes → Bool} {x : InitSt} {w : Bytes} {rnd : Rand} {R : Res}
    (he : Eff env bodyOf ok x w rnd R) :
    match R with
    | .ok st' _ => Static x st'
    | .err st' _ => Static x st'
    | .panic => True := by
  cases he with
  | quietErr e => exact Static.refl x
  | quietOk o ho => exact Static.refl x
  | panic => trivial
  | pingErr hh e al k st0 er hr hne hst0 hsel => exact hst0.static.trans ⟨rfl, rfl, rfl, rfl, rfl, rfl⟩
  | pingOk hh e al k st0 sel hr hne hst0 hsel =>
    exact hst0.static.trans ((pingSt_static st0 hh e sel rnd).trans
      ((init_sendMessage_static env _ Generated.STAGE_PONG rnd).trans ⟨rfl, rfl, rfl, rfl, rfl, rfl⟩))
  | pongSelErr => exact ⟨rfl, rfl, rfl, rfl, rfl, rfl⟩
  | pongFail hb eb ab pl k own sel st5 r hr hne hstage hown hsel hd =>
    exact (pongSt_static x own eb hb sel rnd).trans (decryptPayload_static hd)
  | pongOk hb eb ab pl k own sel st5 p hr hne hstage hown hsel hd hok =>
    exact (pongSt_static x own eb hb sel rnd).trans ((decryptPayload_static hd).trans
      ((init_sendMessage_static env st5 Generated.STAGE_PENG rnd).trans ⟨rfl, rfl, rfl, rfl, rfl, rfl⟩))
  | pengFail hb pl k st2 r hr hne hstage hd =>
    exact Static.trans (b := { x with retries := 0 }) ⟨rfl, rfl, rfl, rfl, rfl, rfl⟩ (decryptPayload_static hd)
  | pengOk hb pl k st2 p hr hne hstage hd hok =>
    exact Static.trans (b := { x with retries := 0 }) ⟨rfl, rfl, rfl, rfl, rfl, rfl⟩
      ((decryptPayload_static hd).trans ⟨rfl, rfl, rfl, rfl, rfl, rfl⟩)

/-! ## toy instances for non-vacuity examples and counterexamples -/

namespace Toy

/-- toy cryptography: "hash" = prefix of the concatenation, a "signature" by `k` over `m` is `k.take 2 ++ m.take 2` -/
def env : CryptoEnv :=
  { keyHash := fun k s => (k ++ s).take 4, nodeHash := fun s i => (s ++ i).take 16, sigVerify := fun k m s => s = k.take 2 ++ m.take 2 }

def algos : Algos := { speeds := [(.aes128, 10)], allowUnencrypted := false }
def algosPlain : Algos := { speeds := [], allowUnencrypted := true }

/-- an initiator that has sent its ping (pending ephemeral key `[5]`) and trusts the key `[9, 9, 9, 9]` -/
def st : InitSt :=
  { nodeId := [1], hash := List.replicate 20 1, payload := [], ownKey := [7, 7, 7, 7], trusted := [[9, 9, 9, 9]],
    ecdh := some [5], stage := Generated.STAGE_PONG, algos := algos }

/-- peer payload addressed to key slot `kid`, counter 5 -/
def pl (kid : Nat) : Bytes := [kid, 0, 0, 0, 0, 0, 0, 5, 170, 170]

/-- a pong of the trusted peer (node hash `2…2`, ephemeral key `[6]`), "signed" with `[9, 9, 0, 0]` -/
def pong (a : Algos) (kid : Nat) : Bytes :=
  writeTo (.pong (List.replicate 20 2) [6] a (pl kid)) [0, 0, 0, 1] [9, 9, 9, 9] [9, 9, 0, 0]

def rnd : Rand := { salt := [0, 0, 0, 2], sig := [7, 7, 0, 0], dummy := 1 }

/-- every ciphertext opens as `[42]`, sealed under `key` with the nonce of counter 5 in the lower-hash side's receive half -/
def body (key : KeyRef) : BodyOf := fun _ => .sealed key (HALF + 5) [42]

end Toy

end VpnCloud.Proofs.InitLemmas
