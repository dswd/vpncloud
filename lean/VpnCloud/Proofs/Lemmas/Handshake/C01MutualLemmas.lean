import VpnCloud.Proofs.C05Agree
/-
  Helper lemmas for `Proofs/C01Mutual.lean` (two nodes become peers exactly when each trusts the other's key).

  The system is the two-party system of `Proofs/C05Agree.lean`.  Its invariant `Inv` identifies the author of a logged
  signature by the salted node-id hash inside the signed message and never looks at keys or trust sets (the trust sets of `Sys`
  are arbitrary; (I1) is the only place where they enter).  Here a second invariant `TInv` is layered on top of it:
    * `KeyInv`  — every logged signature is over a well-formed message of one of the two objects, made with THAT object's key,
                  and if the message is a pong or a peng its author trusts the key of the other object;
    * `lastx/lasty/sent` — the stored last message of each object and every datagram ever sent is the wire form of a logged message
                  of that object (`Wire`);
    * `donex/doney` — an object that reported success implies mutual trust.
-/
namespace VpnCloud.Proofs.C01MutualLemmas

open VpnCloud.Init VpnCloud.InitMsg
open VpnCloud.Proofs.InitLemmas VpnCloud.Proofs.C05AgreeLemmas
open VpnCloud.Proofs.C16Init (msgWF)

/-- message `m`, signed with key `k`, is a message of object `x` (peer `y`): it carries the hash of `x`, the key is the key of `x`, and
    if it is a reply (pong / peng) then `x` trusts the key of `y` -/
def SignedBy (x y : InitSt) (k : Bytes) (m : InitMsg) : Prop :=
  m.hash = x.hash ∧ k = x.ownKey ∧ (m.stage ≠ Generated.STAGE_PING → y.ownKey ∈ x.trusted)

/-- every logged signature is over the signed region of a well-formed message of one of the two objects, made with its key -/
def KeyInv (x y : InitSt) (sigs : List (Bytes × Bytes)) : Prop :=
  ∀ k r, (k, r) ∈ sigs → ∃ m salt kh, r = signedRegion m salt kh ∧ salt.length = 4 ∧ kh.length = 4 ∧ msgWF m ∧
    (SignedBy x y k m ∨ SignedBy y x k m)

/-- `l` is the datagram of a logged well-formed message of object `x` -/
def Wire (x : InitSt) (sigs : List (Bytes × Bytes)) (l : Bytes) : Prop :=
  ∃ m salt kh sig, l = writeTo m salt kh sig ∧ salt.length = 4 ∧ kh.length = 4 ∧ msgWF m ∧ m.hash = x.hash ∧
    (x.ownKey, signedRegion m salt kh) ∈ sigs

def Mutual (x y : InitSt) : Prop := y.ownKey ∈ x.trusted ∧ x.ownKey ∈ y.trusted

theorem Mutual.symm {x y : InitSt} (h : Mutual x y) : Mutual y x := ⟨h.2, h.1⟩

structure TInv (x y : InitSt) (dx dy : List (Bytes × Bool)) (sigs : List (Bytes × Bytes)) (sent : List Bytes) : Prop where
  key : KeyInv x y sigs
  lastx : ∀ l, x.last = some l → Wire x sigs l
  lasty : ∀ l, y.last = some l → Wire y sigs l
  sent : ∀ o ∈ sent, Wire x sigs o ∨ Wire y sigs o
  donex : dx ≠ [] → Mutual x y
  doney : dy ≠ [] → Mutual x y

theorem SignedBy.static_l {x x' y : InitSt} {k : Bytes} {m : InitMsg} (hst : Static x x') (h : SignedBy x y k m) : SignedBy x' y k m := by
  obtain ⟨_, hh, _, hk, ht, _⟩ := hst
  unfold SignedBy
  rw [hh, hk, ht]; exact h

theorem SignedBy.static_r {x y y' : InitSt} {k : Bytes} {m : InitMsg} (hst : Static y y') (h : SignedBy x y k m) : SignedBy x y' k m := by
  obtain ⟨_, _, _, hk, _, _⟩ := hst
  unfold SignedBy
  rw [hk]; exact h

theorem Wire.static {x x' : InitSt} {sigs : List (Bytes × Bytes)} {l : Bytes} (hst : Static x x') (h : Wire x sigs l) : Wire x' sigs l := by
  obtain ⟨_, hh, _, hk, _, _⟩ := hst
  unfold Wire
  rw [hh, hk]; exact h

theorem Wire.mono {x : InitSt} {sigs sg : List (Bytes × Bytes)} {l : Bytes} (h : Wire x sigs l) : Wire x (sigs ++ sg) l := by
  obtain ⟨m, salt, kh, sig, h1, h2, h3, h4, h5, h6⟩ := h
  exact ⟨m, salt, kh, sig, h1, h2, h3, h4, h5, List.mem_append_left _ h6⟩

theorem Mutual.static_l {x x' y : InitSt} (hst : Static x x') (h : Mutual x y) : Mutual x' y := by
  obtain ⟨_, _, _, hk, ht, _⟩ := hst
  unfold Mutual
  rw [hk, ht]; exact h

theorem TInv.swap {x y : InitSt} {dx dy : List (Bytes × Bool)} {sigs : List (Bytes × Bytes)} {sent : List Bytes}
    (t : TInv x y dx dy sigs sent) : TInv y x dy dx sigs sent :=
  ⟨SigLog.mono t.key fun _ _ => Or.symm, t.lasty, t.lastx, fun o ho => (t.sent o ho).symm, fun h => (t.doney h).symm, fun h => (t.donex h).symm⟩

section
variable {x y : InitSt} {dx dy : List (Bytes × Bool)} {sigs : List (Bytes × Bytes)} {sent : List Bytes}

/-- a step of `x`: same static fields, new signatures on messages of `x`, the new last message and the datagram sent are logged -/
theorem TInv.update (t : TInv x y dx dy sigs sent) {x' : InitSt} (hst : Static x x') {sg : List (Bytes × Bytes)} {out : Bytes}
    {dn : List (Bytes × Bool)}
    (hsg : ∀ k r, (k, r) ∈ sg → ∃ m salt kh, r = signedRegion m salt kh ∧ salt.length = 4 ∧ kh.length = 4 ∧ msgWF m ∧ SignedBy x y k m)
    (hlast : ∀ l, x'.last = some l → Wire x (sigs ++ sg) l)
    (hout : out = [] ∨ Wire x (sigs ++ sg) out)
    (hdn : dn ≠ [] → Mutual x y) :
    TInv x' y (dn ++ dx) dy (sigs ++ sg) (if out = [] then sent else sent ++ [out]) := by
  refine ⟨(SigLog.mono t.key fun k m h5 => ?_).append (SigLog.mono hsg fun k m h5 => Or.inl (h5.static_l hst)), ?_, ?_, ?_, ?_, ?_⟩
  · rcases h5 with h5 | h5
    · exact Or.inl (h5.static_l hst)
    · exact Or.inr (h5.static_r hst)
  · intro l hl; exact (hlast l hl).static hst
  · intro l hl; exact (t.lasty l hl).mono
  · intro o ho
    have key : o ∈ sent ∨ (out ≠ [] ∧ o = out) := by
      by_cases he : out = []
      · rw [if_pos he] at ho; exact Or.inl ho
      · rw [if_neg he] at ho
        rcases List.mem_append.1 ho with h | h
        · exact Or.inl h
        · exact Or.inr ⟨he, List.mem_singleton.1 h⟩
    rcases key with h | ⟨he, rfl⟩
    · rcases t.sent o h with h | h
      · exact Or.inl (h.mono.static hst)
      · exact Or.inr h.mono
    · rcases hout with h | h
      · exact absurd h he
      · exact Or.inl (h.static hst)
  · intro hne
    by_cases hd : dn = []
    · subst hd
      exact (t.donex hne).static_l hst
    · exact (hdn hd).static_l hst
  · intro hne; exact (t.doney hne).static_l hst

/-- a step of `x` that signs nothing and sends at most its last message again -/
theorem TInv.update0 (t : TInv x y dx dy sigs sent) {x' : InitSt} (hst : Static x x') (hl : x'.last = x.last ∨ x'.last = none)
    {out : Bytes} (hout : out = [] ∨ x.last = some out) {dn : List (Bytes × Bool)} (hdn : dn ≠ [] → Mutual x y) :
    TInv x' y (dn ++ dx) dy sigs (if out = [] then sent else sent ++ [out]) := by
  have := t.update (x' := x') hst (sg := []) (out := out) (dn := dn) (by intro k r hk; cases hk)
    (by
      intro l hl'
      rcases hl with h | h
      · rw [h] at hl'; exact (t.lastx l hl').mono
      · rw [h] at hl'; cases hl')
    (by
      rcases hout with h | h
      · exact Or.inl h
      · exact Or.inr (t.lastx _ h).mono)
    hdn
  rwa [List.append_nil] at this

/-- **every accepted message of the other node was signed with the key of the peer object, which the receiver trusts** (from I1);
    and if it is a reply, its author trusts the receiver's key -/
theorem KeyInv.bridge (t : KeyInv x y sigs) (env : CryptoEnv) {w : Bytes} {m : InitMsg} {k : Bytes}
    (hI : I1 env sigs x.trusted w) (hr : readFrom env w x.trusted = .ok (m, k)) (hne : x.hash ≠ m.hash) :
    m.hash = y.hash ∧ k = y.ownKey ∧ y.ownKey ∈ x.trusted ∧ (m.stage ≠ Generated.STAGE_PING → x.ownKey ∈ y.trusted) := by
  obtain ⟨hk, ⟨h5, _⟩ | ⟨h5, h6, h7⟩, _⟩ := read_signed t hI hr
  · exact absurd h5.symm hne
  · exact ⟨h5, h6, h6 ▸ hk, h7⟩

theorem newSig_key {st st' : InitSt} {out : Bytes} {rnd : Rand} {k r : Bytes} (h : (k, r) ∈ newSig st st' out rnd) : k = st.ownKey := by
  unfold newSig at h
  split at h
  · simp only [List.mem_singleton, Prod.mk.injEq] at h
    exact h.1
  · cases h

theorem TInv.replied (t : TInv x y dx dy sigs sent) (env : CryptoEnv) {rnd : Rand} (hrnd : RandOK env x rnd) {x' : InitSt}
    (hst : Static x x') {m0 : InitMsg} (hwf : msgWF m0) (hh0 : m0.hash = x.hash)
    (htr : m0.stage ≠ Generated.STAGE_PING → y.ownKey ∈ x.trusted)
    (hlast : x'.last = some (wireOf env x m0 rnd)) {dn : List (Bytes × Bool)} (hdn : dn ≠ [] → Mutual x y) :
    TInv x' y (dn ++ dx) dy (sigs ++ newSig x x' (wireOf env x m0 rnd) rnd)
      (if wireOf env x m0 rnd = [] then sent else sent ++ [wireOf env x m0 rnd]) := by
  have hW : Wire x (sigs ++ newSig x x' (wireOf env x m0 rnd) rnd) (wireOf env x m0 rnd) := by
    by_cases hl : x.last = some (wireOf env x m0 rnd)
    · exact (t.lastx _ hl).mono
    · refine ⟨m0, rnd.salt, env.keyHash x.ownKey rnd.salt, rnd.sig, rfl, hrnd.salt, hrnd.keyHash, hwf, hh0, List.mem_append_right _ ?_⟩
      unfold newSig
      rw [if_pos ⟨hlast, hl⟩, wire_region]
      exact List.mem_singleton.2 rfl
  refine t.update hst ?_ ?_ (Or.inr hW) hdn
  · intro k r hk
    exact ⟨m0, rnd.salt, _, newSig_wire hk, hrnd.salt, hrnd.keyHash, hwf, hh0, newSig_key hk, htr⟩
  · intro l hl
    rw [hlast] at hl
    simp only [Option.some.injEq] at hl
    rw [← hl]; exact hW

end

section
variable {bodyOf : BodyOf} {x y : InitSt} {gx gy : Ghost} {dx dy : List (Bytes × Bool)} {sigs : List (Bytes × Bytes)} {seals : SealLog}
  {sent : List Bytes}

theorem TInv.ping (h : Inv2 bodyOf x y gx gy dx dy sigs seals) (t : TInv x y dx dy sigs sent) (env : CryptoEnv) {rnd : Rand}
    (hrnd : RandOK env x rnd) :
    TInv (sendPing env x rnd).1 y dx dy (sigs ++ newSig x (sendPing env x rnd).1 (sendPing env x rnd).2 rnd)
      (if (sendPing env x rnd).2 = [] then sent else sent ++ [(sendPing env x rnd).2]) := by
  rw [sendPing_wire]
  exact t.replied (dn := []) env hrnd (x' := (sendPing env x rnd).1) ⟨rfl, rfl, rfl, rfl, rfl, rfl⟩
    (m0 := .ping x.hash rnd.ecdhPub x.algos) ⟨h.wx.hash, by rw [hrnd.ecdh.1]; decide, h.wx.algos⟩ rfl
    (fun hs => absurd rfl hs) rfl (fun hd => absurd rfl hd)

theorem everySecond_out (x : InitSt) :
    (match (everySecond x).2 with | .ok o => o | .error _ => []) = [] ∨
    x.last = some (match (everySecond x).2 with | .ok o => o | .error _ => []) := by
  rcases everySecond_cases x with ⟨_, e⟩ | ⟨_, e⟩ | ⟨_, e⟩ | ⟨_, _, e⟩ | ⟨_, _, e⟩ <;> rw [e]
  · exact Or.inl rfl
  · exact Or.inl rfl
  · exact Or.inl rfl
  · cases hl : x.last with
    | none => exact Or.inl rfl
    | some l => exact Or.inr rfl
  · exact Or.inl rfl

theorem TInv.tick (t : TInv x y dx dy sigs sent) :
    TInv (everySecond x).1 y dx dy sigs
      (if (match (everySecond x).2 with | .ok o => o | .error _ => []) = [] then sent
       else sent ++ [match (everySecond x).2 with | .ok o => o | .error _ => []]) := by
  obtain ⟨s', ct, rt, _, he⟩ := everySecond_fst x
  refine t.update0 (dn := []) ?_ ?_ (everySecond_out x) (fun h => absurd rfl h)
  · rw [he]; exact ⟨rfl, rfl, rfl, rfl, rfl, rfl⟩
  · rw [he]; exact Or.inl rfl

theorem TInv.pingOk (h : Inv2 bodyOf x y gx gy dx dy sigs seals) (t : TInv x y dx dy sigs sent) (env : CryptoEnv) {w : Bytes} {rnd : Rand}
    (hI : I1 env sigs x.trusted w) (hrnd : RandOK env x rnd) {hh e : Bytes} {al : Algos} {k : Bytes} {st0 : InitSt} {sel : Option Cipher}
    (hr : readFrom env w x.trusted = .ok (.ping hh e al, k)) (hne : x.hash ≠ hh)
    (hst0 : PingFrom x hh st0)
    (hsel : selectAlgorithm x.algos al = .ok sel) {st' : InitSt} {out : Bytes} {log : SealLog}
    (hres : pingRes env st0 hh e sel rnd = .ok st' (out, .continue, log)) :
    TInv st' y dx dy (sigs ++ newSig x st' out rnd) (if out = [] then sent else sent ++ [out]) := by
  obtain ⟨_, hmsg, _⟩ := h.bridge env hI hr hne
  obtain ⟨hal, _⟩ := hmsg
  subst hal
  obtain ⟨_, _, htrust, _⟩ := t.key.bridge env hI hr hne
  have hb := pingBase_of hst0
  obtain ⟨_, hha, hpa, hown, _, halg⟩ := hb.static
  obtain ⟨cr, pl, log0, heq, hlen, _⟩ := pingRes_ok env st0 hh e sel rnd seals
    (fun hs => by subst hs; exact hb.crypto.trans (h.ox.plain hsel)) hrnd.dummy hrnd.ct (by rw [hpa]; exact h.wx.payload)
  cases heq.symm.trans hres
  rw [wireOf_congr env _ rnd hown]
  refine t.replied (dn := []) env hrnd ?_ (m0 := .pong st0.hash rnd.ecdhPub st0.algos pl)
    ⟨by rw [hha]; exact h.wx.hash, by rw [hrnd.ecdh.1]; decide, by rw [halg]; exact h.wx.algos, hlen⟩ hha (fun _ => htrust) ?_
    (fun hd => absurd rfl hd)
  · exact hb.static.trans ⟨rfl, rfl, rfl, rfl, rfl, rfl⟩
  · rfl

/-- the initiator completes on a pong of the peer: the two ends trust each other's key -/
theorem TInv.pongOk (h : Inv2 bodyOf x y gx gy dx dy sigs seals) (t : TInv x y dx dy sigs sent) (env : CryptoEnv) {w : Bytes} {rnd : Rand}
    (hI : I1 env sigs x.trusted w) (hrnd : RandOK env x rnd) {hb eb : Bytes} {ab : Algos} {pl k own : Bytes} {sel : Option Cipher}
    {st5 : InitSt} {p : Bytes}
    (hr : readFrom env w x.trusted = .ok (.pong hb eb ab pl, k)) (hne : x.hash ≠ hb)
    (hsel : selectAlgorithm x.algos ab = .ok sel)
    (hd : decryptPayload (pongSt x own eb hb sel rnd) bodyOf pl = (st5, some p)) {st' : InitSt} {out : Bytes} {log : SealLog}
    (hres : pongRes env st5 rnd p = .ok st' (out, .success p true, log)) :
    TInv st' y ((p, true) :: dx) dy (sigs ++ newSig x st' out rnd) (if out = [] then sent else sent ++ [out]) := by
  obtain ⟨_, hmsg, _⟩ := h.bridge env hI hr hne
  obtain ⟨hal, _, _⟩ := hmsg
  subst hal
  obtain ⟨_, _, htrust, htrust'⟩ := t.key.bridge env hI hr hne
  have hmut : Mutual x y := ⟨htrust, htrust' (by show Generated.STAGE_PONG ≠ Generated.STAGE_PING; decide)⟩
  obtain ⟨cr, pl', log0, heq, hlen, _⟩ := pongRes_ok env bodyOf x own eb hb sel rnd pl st5 p seals
    (fun hn => by subst hn; exact h.ox.plain hsel) hrnd.dummy hrnd.ct h.wx.payload hd
  cases heq.symm.trans hres
  refine t.replied (dn := [(p, true)]) env hrnd ?_ (m0 := .peng x.hash pl') ⟨h.wx.hash, hlen⟩ rfl (fun _ => htrust) ?_ (fun _ => hmut)
  · exact ⟨rfl, rfl, rfl, rfl, rfl, rfl⟩
  · rfl

/-- **every delivery preserves the trust invariant**, whatever `handle_init` returns: after an error the stored last message is
    unchanged or dropped (role switch) and nothing was signed or sent -/
theorem TInv.deliver (h : Inv2 bodyOf x y gx gy dx dy sigs seals) (t : TInv x y dx dy sigs sent) (env : CryptoEnv) (ok : Bytes → Bool)
    {w : Bytes} (rnd : Rand) (hI : I1 env sigs x.trusted w) :
    match handleInit env bodyOf ok x w rnd with
    | .ok st' (out, res, log) => RandOK env x rnd →
        TInv st' y (doneOf res ++ dx) dy (sigs ++ newSig x st' out rnd) (if out = [] then sent else sent ++ [out])
    | .err st' _ => TInv st' y dx dy sigs sent
    | .panic => True := by
  have herr : ∀ {st' : InitSt}, Static x st' → st'.last = x.last ∨ st'.last = none → TInv st' y dx dy sigs sent := by
    intro st' hs hl
    have := t.update0 (out := []) (dn := []) hs hl (Or.inl rfl) (fun h => absurd rfl h)
    rwa [if_pos rfl] at this
  have he := handleInit_eff env bodyOf ok x w rnd
  generalize handleInit env bodyOf ok x w rnd = R at he
  have hs := he.static
  cases he with
  | quietErr e => exact herr hs (Or.inl rfl)
  | quietOk o ho =>
    intro _
    rw [newSig_last_same _ _ _ _ rfl, List.append_nil]
    exact t.update0 (dn := []) hs (Or.inl rfl) ho (fun hd => absurd rfl hd)
  | panic => trivial
  | pingErr hh e al k st0 er hr hne hst0 hsel =>
    refine herr hs ?_
    rcases hst0 with ⟨rfl, _⟩ | ⟨rfl, _⟩
    · exact Or.inl rfl
    · exact Or.inr rfl
  | pingOk hh e al k st0 sel hr hne hst0 hsel =>
    exact fun hrnd => t.pingOk h env hI hrnd hr hne hst0 hsel rfl
  | pongSelErr => exact herr hs (Or.inl rfl)
  | pongFail hb eb ab pl k own sel st5 r hr hne hstage hown hsel hd =>
    refine herr hs (Or.inl ?_)
    obtain ⟨cr, hcr, _⟩ := decryptPayload_frame _ _ _ _ _ hd
    rw [hcr, pongSt_eq]
  | pongOk hb eb ab pl k own sel st5 p hr hne hstage hown hsel hd hok =>
    exact fun hrnd => t.pongOk h env hI hrnd hr hne hsel hd rfl
  | pengFail hb pl k st2 r hr hne hstage hd =>
    obtain ⟨cr, _, rfl⟩ := decryptPayload_step hd
    exact herr hs (Or.inl rfl)
  | pengOk hb pl k st2 p hr hne hstage hd hok =>
    intro _
    obtain ⟨_, _, htrust, htrust'⟩ := t.key.bridge env hI hr hne
    have hmut : Mutual x y := ⟨htrust, htrust' (by show Generated.STAGE_PENG ≠ Generated.STAGE_PING; decide)⟩
    obtain ⟨cr, _, hst2⟩ := decryptPayload_step hd
    have hl : ({ st2 with stage := Generated.CLOSING } : InitSt).last = x.last := by rw [hst2]
    rw [newSig_last_same _ _ _ _ hl, List.append_nil]
    exact t.update0 (out := []) (dn := [(p, false)]) hs (Or.inl hl) (Or.inl rfl) (fun _ => hmut)

end

open VpnCloud.Proofs.C05Agree

/-- the trust invariant of the two-party system of `C05Agree` -/
def TI (s : Sys) : Prop := TInv s.a s.b s.doneA s.doneB s.sigs s.sent

theorem ti_init (s : Sys) (h : Init0 s) : TI s := by
  refine ⟨?_, ?_, ?_, ?_, ?_, ?_⟩
  · intro k r hk; rw [h.sigs] at hk; cases hk
  · intro l hl; rw [h.a.last] at hl; cases hl
  · intro l hl; rw [h.b.last] at hl; cases hl
  · intro o ho; rw [h.sent] at ho; cases ho
  · intro hd; exact absurd h.doneA hd
  · intro hd; exact absurd h.doneB hd

def TF : Fam := fun x y dx dy sg _ st => TInv x y dx dy sg st

theorem ti_step (P : Params) (s s' : Sys) (hi : Inv P s) (t : TI s) (hs : Step P s s') : TI s' := by
  have hv := Sys.view_at (J := InvF P) InvF.swap hi
  have tv := Sys.view_at (J := TF) TInv.swap t
  cases hs with
  | ping x rnd hst hr =>
    obtain ⟨gx, gy, h⟩ := hv x
    exact Sys.view_upd (J := TF) TInv.swap s x ((tv x).ping h P.env hr)
  | tick x =>
    refine Sys.view_upd (J := TF) TInv.swap s x ?_
    rw [List.append_nil, List.nil_append]
    exact (tv x).tick
  | deliver x w rnd st' out res log hI hr hh =>
    obtain ⟨gx, gy, h⟩ := hv x
    have hd := TInv.deliver h (tv x) P.env P.ok rnd hI
    rw [hh] at hd
    exact Sys.view_upd (J := TF) TInv.swap s x (hd hr)
  | deliverErr x w rnd st' e hI hh =>
    obtain ⟨gx, gy, h⟩ := hv x
    refine Sys.view_upd (J := TF) TInv.swap s x ?_
    rw [List.append_nil, List.nil_append, if_pos rfl]
    have hd := TInv.deliver h (tv x) P.env P.ok rnd hI
    rw [hh] at hd
    exact hd

theorem ti_reach (P : Params) (s0 s : Sys) (h0 : Init0 s0) (hr : Reach P s0 s) : Inv P s ∧ TI s := by
  induction hr with
  | refl => exact ⟨inv_init P s0 h0, ti_init s0 h0⟩
  | step _ hs ih => exact ⟨inv_step P _ _ ih.1 hs, ti_step P _ _ ih.1 ih.2 hs⟩

end VpnCloud.Proofs.C01MutualLemmas
