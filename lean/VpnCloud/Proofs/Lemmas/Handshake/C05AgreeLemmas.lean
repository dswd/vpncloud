import VpnCloud.Proofs.C05Lockstep
import VpnCloud.Proofs.C01
/-
  Helper lemmas for `Proofs/C05Agree.lean` (agreement of the handshake for all schedules):
  the states after an answered ping and an accepted pong in the terms of the invariant (`pingRes_ok`, `pongRes_ok`, from the closed
  forms of `LockstepLemmas.lean`),
  the negotiation result "plain" is symmetric;
  then the two-party invariant `Inv2` over ghost records of the two objects, its preservation by every
  step of one object (`Inv2.ping`, `Inv2.tick`, `Inv2.deliver`), and agreement of two
  completed ends from it (`Inv2.agree`, `Inv2.cores`).
-/
namespace VpnCloud.Proofs.C05AgreeLemmas

open VpnCloud.Init VpnCloud.InitMsg
open VpnCloud.Proofs.InitLemmas VpnCloud.Proofs.CoreLemmas VpnCloud.Proofs.LockstepLemmas
open VpnCloud.Proofs.InitMsgLemmas
open VpnCloud.Proofs.C16Init (algosWF msgWF)

theorem select_none_iff (a b : Algos) : selectAlgorithm a b = .ok none ↔ (a.allowUnencrypted && b.allowUnencrypted) = true := by
  unfold selectAlgorithm
  split
  · rename_i h; simp [h]
  · rename_i h
    constructor
    · intro hh
      simp only at hh
      split at hh <;> cases hh
    · intro hh; exact absurd hh h

theorem select_none_symm (a b : Algos) (h : selectAlgorithm a b = .ok none) : selectAlgorithm b a = .ok none := by
  rw [select_none_iff] at h ⊢
  rw [Bool.and_comm]; exact h

theorem select_none_both {a b : Algos} {s t : Option Cipher} (h1 : selectAlgorithm a b = .ok s) (h2 : selectAlgorithm b a = .ok t) :
    s = none ↔ t = none := by
  constructor
  · intro e; subst e; cases h2.symm.trans (select_none_symm _ _ h1); rfl
  · intro e; subst e; cases h1.symm.trans (select_none_symm _ _ h2); rfl

theorem sendPing_wire (env : CryptoEnv) (x : InitSt) (rnd : Rand) :
    sendPing env x rnd =
      ({ x with
          ecdh := some rnd.ecdhPub
          last := some (wireOf env x (.ping x.hash rnd.ecdhPub x.algos) rnd)
          stage := Generated.STAGE_PONG }, wireOf env x (.ping x.hash rnd.ecdhPub x.algos) rnd) := rfl

open VpnCloud.Proofs.C05Lockstep (EcdhWF)

/-- a key reference that is no master key (the throw-away keys of slots 1..3 of a new core are drawn at random) -/
def NotMaster (d : KeyRef) : Prop := ∀ c x y, d ≠ masterKey c x y

/-- side conditions on the random parts of a step (widths, and: the ephemeral key is a 32-byte string, the throw-away key is
    no master key) -/
structure RandOK (env : CryptoEnv) (st : InitSt) (rnd : Rand) : Prop where
  salt : rnd.salt.length = 4
  keyHash : (env.keyHash st.ownKey rnd.salt).length = 4
  ecdh : EcdhWF rnd.ecdhPub
  dummy : NotMaster rnd.dummy
  ct : rnd.ct.length + 8 < 65536

theorem masterKey_ge (c : Cipher) (a b : Bytes) : 2816 ≤ masterKey c a b := by
  have key : ∀ (l : Bytes) (n : Nat), 2816 ≤ Bytes.beVal ((10 + c.wireId) :: n :: l) := by
    intro l n
    simp only [Bytes.beVal, List.length_cons]
    have h1 : 256 ^ 1 ≤ 256 ^ (l.length + 1) := Nat.pow_le_pow_right (by decide) (by omega)
    have h2 : 11 ≤ 10 + c.wireId := by cases c <;> decide
    have h3 := Nat.mul_le_mul h2 h1
    omega
  rw [masterKey_eq_of]
  split <;> exact key _ _

theorem notMaster_small (d : KeyRef) (h : d < 2816) : NotMaster d := by
  intro c x y e
  have hge : 2816 ≤ d := e ▸ masterKey_ge c x y
  exact absurd h (Nat.not_lt.2 hge)

/-- `RandOK` from conditions that evaluate: a throw-away key below 2816 is below every master key -/
theorem RandOK.of_small {env : CryptoEnv} {st : InitSt} {r : Rand}
    (h : r.salt.length = 4 ∧ (env.keyHash st.ownKey r.salt).length = 4 ∧ (r.ecdhPub.length = 32 ∧ Bytes.WF r.ecdhPub) ∧
      r.dummy < 2816 ∧ r.ct.length + 8 < 65536) : RandOK env st r :=
  ⟨h.1, h.2.1, h.2.2.1, notMaster_small _ h.2.2.2.1, h.2.2.2.2⟩

/-- (I1), ideal signatures, for the window `w` delivered to an object with trusted keys `T`: whatever part of `w` verifies as signed by
    a trusted key was signed (exactly these bytes) by an honest holder of that key -/
def I1 (env : CryptoEnv) (sigs : List (Bytes × Bytes)) (T : List Bytes) (w : Bytes) : Prop :=
  ∀ signed sig rest k, w = signed ++ [sig.length] ++ sig ++ rest → k ∈ T → env.sigVerify k signed sig = true → (k, signed) ∈ sigs

/-- the signature an object has just made: when it stored a new last message `out`, the signed region of `out` (all but the length byte
    and the signature) under its key -/
def newSig (st st' : InitSt) (out : Bytes) (rnd : Rand) : List (Bytes × Bytes) :=
  if st'.last = some out ∧ st.last ≠ some out then [(st.ownKey, out.take (out.length - (rnd.sig.length + 1)))] else []

/-- ghost: the ping answer of an object: its own ephemeral key (in the pong), the one of the ping, the cipher selected -/
structure Resp where
  own : Bytes
  peer : Bytes
  sel : Option Cipher

/-- ghost: a reported success with the ephemeral keys and the cipher it was computed from -/
structure Done where
  payload : Bytes
  isInit : Bool
  own : Bytes
  peer : Bytes
  sel : Option Cipher

structure Ghost where
  resp : Option Resp := none
  dn : List Done := []

def Ghost.le (g g' : Ghost) : Prop := (∀ r, g.resp = some r → g'.resp = some r) ∧ ∀ d ∈ g.dn, d ∈ g'.dn

theorem Ghost.le_refl (g : Ghost) : g.le g := ⟨fun _ h => h, fun _ h => h⟩

theorem Ghost.le_of_empty {g : Ghost} (hg : g.resp = none ∧ g.dn = []) (g' : Ghost) : g.le g' := by
  refine ⟨?_, ?_⟩
  · intro r hr; rw [hg.1] at hr; cases hr
  · intro d hd; rw [hg.2] at hd; cases hd

/-- the payload field `pl` carries `payload`: sealed under the master key of (`own`, `peer`), or in the clear -/
def PayloadBy (seals : SealLog) (payload : Bytes) (sel : Option Cipher) (own peer pl : Bytes) : Prop :=
  match sel with
  | some c => ∃ n, (pl.drop 8, Body.sealed (masterKey c own peer) n payload) ∈ seals
  | none => pl = payload

/-- what the signed messages of object `x` say: a pong names the answer recorded in the ghost, a peng a completion as initiator -/
def MsgBy (x : InitSt) (g : Ghost) (seals : SealLog) : InitMsg → Prop
  | .ping _ e al => al = x.algos ∧ EcdhWF e
  | .pong _ e al pl => al = x.algos ∧ EcdhWF e ∧ ∃ r, g.resp = some r ∧ e = r.own ∧ PayloadBy seals x.payload r.sel r.own r.peer pl
  | .peng _ pl => ∃ d ∈ g.dn, d.isInit = true ∧ PayloadBy seals x.payload d.sel d.own d.peer pl

def Logged (sigs : List (Bytes × Bytes)) (m : InitMsg) : Prop :=
  ∃ k salt kh, (k, signedRegion m salt kh) ∈ sigs ∧ salt.length = 4 ∧ kh.length = 4 ∧ msgWF m

/-- what the object opened when it completed: a body sealed under its master key (or under a throw-away key), or the plain payload -/
def Opened (bodyOf : BodyOf) (d : Done) (pl : Bytes) : Prop :=
  match d.sel with
  | some c => ∃ n, bodyOf (pl.drop 8) = .sealed (masterKey c d.own d.peer) n d.payload ∨
      ∃ k', NotMaster k' ∧ bodyOf (pl.drop 8) = .sealed k' n d.payload
  | none => d.payload = pl

theorem Opened.of_decrypt {bodyOf : BodyOf} {s s' : InitSt} {pl : Bytes} {d : Done} {H : Bool}
    (hd : decryptPayload s bodyOf pl = (s', some d.payload)) (hplain : d.sel = none → s.crypto = none)
    (hcore : ∀ c, d.sel = some c → ∃ core, s.crypto = some core ∧ CoreKeys (masterKey c d.own d.peer) H NotMaster core) :
    Opened bodyOf d pl := by
  unfold Opened
  cases hs : d.sel with
  | none =>
    rw [decryptPayload_none _ _ _ (hplain hs)] at hd
    simp only [Prod.mk.injEq, Option.some.injEq] at hd
    exact hd.2.symm
  | some c =>
    obtain ⟨core, hc, hk⟩ := hcore c hs
    obtain ⟨_, _, _, hop⟩ := decryptPayload_keys hd hc hk
    exact hop

/-- the core of an object that negotiated `sel` with the ephemeral keys `own`, `peer` -/
def CoreFor (x y : InitSt) (sel : Option Cipher) (own peer : Bytes) : Prop :=
  ∀ c, sel = some c → ∃ core, x.crypto = some core ∧ CoreKeys (masterKey c own peer) (bytesGt x.hash y.hash) NotMaster core

structure DoneOK (bodyOf : BodyOf) (x y : InitSt) (g : Ghost) (sigs : List (Bytes × Bytes)) (d : Done) : Prop where
  stage : x.stage = Generated.WAITING_TO_CLOSE ∨ x.stage = Generated.CLOSING
  sel : selectAlgorithm x.algos y.algos = .ok d.sel
  selected : x.selected = d.sel
  own : EcdhWF d.own
  peer : EcdhWF d.peer
  core : CoreFor x y d.sel d.own d.peer
  ini : d.isInit = true → g.resp = none ∧ ∃ al pl, Logged sigs (.pong y.hash d.peer al pl) ∧ Opened bodyOf d pl
  rsp : d.isInit = false → ∃ pl, Logged sigs (.peng y.hash pl) ∧ Opened bodyOf d pl

/-- invariant of one object `x` (peer `y`: only its hash and algorithms are used) over its ghost `g`: the answer it gave to a ping
    (`g.resp`; none before stage PENG) and its completions (`g.dn`: at most one; beside an answer it is the responder's, with the same
    ephemeral keys) -/
structure ObjInv (bodyOf : BodyOf) (x y : InitSt) (g : Ghost) (done : List (Bytes × Bool)) (sigs : List (Bytes × Bytes)) : Prop where
  done_eq : done = g.dn.map (fun d => (d.payload, d.isInit))
  l1 : ∀ core, x.crypto = some core → ∃ c, selectAlgorithm x.algos y.algos = .ok (some c)
  e1 : ∀ own, x.ecdh = some own → EcdhWF own
  s1 : x.stage = Generated.STAGE_PING → g.resp = none ∧ g.dn = []
  s2 : x.stage = Generated.STAGE_PONG → g.resp = none ∧ g.dn = []
  s3 : x.stage = Generated.STAGE_PENG → g.dn = [] ∧ ∃ r, g.resp = some r ∧ x.selected = r.sel ∧ CoreFor x y r.sel r.own r.peer
  r : ∀ r, g.resp = some r → selectAlgorithm x.algos y.algos = .ok r.sel ∧ EcdhWF r.own ∧ EcdhWF r.peer ∧
        ∀ d ∈ g.dn, d.isInit = false ∧ d.own = r.own ∧ d.peer = r.peer
  len : g.dn.length ≤ 1
  d : ∀ d ∈ g.dn, DoneOK bodyOf x y g sigs d

/-- every logged signature is over the signed region of a well-formed message `m` with `Q key m`: the form of the signature-log
    invariants `SigInv`, `KeyInv` (C01Mutual) and `SigInvR` (C05Recover); read through `read_signed` -/
def SigLog (Q : Bytes → InitMsg → Prop) (sigs : List (Bytes × Bytes)) : Prop :=
  ∀ k r, (k, r) ∈ sigs → ∃ m salt kh, r = signedRegion m salt kh ∧ salt.length = 4 ∧ kh.length = 4 ∧ msgWF m ∧ Q k m

theorem SigLog.mono {Q Q' : Bytes → InitMsg → Prop} {sigs : List (Bytes × Bytes)} (h : SigLog Q sigs) (mono : ∀ k m, Q k m → Q' k m) :
    SigLog Q' sigs := by
  intro k r hk
  obtain ⟨m, salt, kh, h1, h2, h3, h4, h5⟩ := h k r hk
  exact ⟨m, salt, kh, h1, h2, h3, h4, mono k m h5⟩

theorem SigLog.append {Q : Bytes → InitMsg → Prop} {sigs sg : List (Bytes × Bytes)} (old : SigLog Q sigs) (new : SigLog Q sg) :
    SigLog Q (sigs ++ sg) :=
  fun k r hk => (List.mem_append.1 hk).elim (old k r) (new k r)

/-- every logged signature is over the signed region of a well-formed message of one of the two objects, which says what `MsgBy` says -/
def SigInv (x y : InitSt) (gx gy : Ghost) (sigs : List (Bytes × Bytes)) (seals : SealLog) : Prop :=
  ∀ k r, (k, r) ∈ sigs → ∃ m salt kh, r = signedRegion m salt kh ∧ salt.length = 4 ∧ kh.length = 4 ∧ msgWF m ∧
    ((m.hash = x.hash ∧ MsgBy x gx seals m) ∨ (m.hash = y.hash ∧ MsgBy y gy seals m))

structure WfObj (x : InitSt) : Prop where
  hash : x.hash.length = 20
  algos : algosWF x.algos
  payload : x.payload.length < 65536

structure Inv2 (bodyOf : BodyOf) (x y : InitSt) (gx gy : Ghost) (dx dy : List (Bytes × Bool)) (sigs : List (Bytes × Bytes))
    (seals : SealLog) : Prop where
  ox : ObjInv bodyOf x y gx dx sigs
  oy : ObjInv bodyOf y x gy dy sigs
  sig : SigInv x y gx gy sigs seals
  wx : WfObj x
  wy : WfObj y
  hne : Bytes.beVal x.hash ≠ Bytes.beVal y.hash

theorem Inv2.swap {bodyOf : BodyOf} {x y : InitSt} {gx gy : Ghost} {dx dy : List (Bytes × Bool)} {sigs : List (Bytes × Bytes)}
    {seals : SealLog} (h : Inv2 bodyOf x y gx gy dx dy sigs seals) : Inv2 bodyOf y x gy gx dy dx sigs seals :=
  ⟨h.oy, h.ox, SigLog.mono h.sig fun _ _ => Or.symm, h.wy, h.wx, fun e => h.hne e.symm⟩

theorem PayloadBy.mono {seals seals' : SealLog} {payload : Bytes} {sel : Option Cipher} {own peer pl : Bytes}
    (h : PayloadBy seals payload sel own peer pl) (hs : ∀ e ∈ seals, e ∈ seals') : PayloadBy seals' payload sel own peer pl := by
  unfold PayloadBy at h ⊢
  cases sel with
  | none => exact h
  | some c => obtain ⟨n, hn⟩ := h; exact ⟨n, hs _ hn⟩

theorem MsgBy.mono {x x' : InitSt} {g g' : Ghost} {seals seals' : SealLog} {m : InitMsg} (h : MsgBy x g seals m)
    (hst : Static x x') (hg : g.le g') (hs : ∀ e ∈ seals, e ∈ seals') : MsgBy x' g' seals' m := by
  obtain ⟨_, _, hp, _, _, ha⟩ := hst
  cases m with
  | ping h e al => exact ⟨by rw [ha]; exact h.1, h.2⟩
  | pong hh e al pl =>
    obtain ⟨h1, h2, r, h3, h4, h5⟩ := h
    exact ⟨by rw [ha]; exact h1, h2, r, hg.1 r h3, h4, by rw [hp]; exact h5.mono hs⟩
  | peng hh pl =>
    obtain ⟨d, h1, h2, h3⟩ := h
    exact ⟨d, hg.2 d h1, h2, by rw [hp]; exact h3.mono hs⟩

theorem Logged.mono {sigs sg : List (Bytes × Bytes)} {m : InitMsg} (h : Logged sigs m) : Logged (sigs ++ sg) m := by
  obtain ⟨k, salt, kh, hk, hw⟩ := h
  exact ⟨k, salt, kh, List.mem_append_left _ hk, hw⟩

theorem CoreFor.peer {x y y' : InitSt} {sel : Option Cipher} {own peer : Bytes} (h : CoreFor x y sel own peer) (hy : y'.hash = y.hash) :
    CoreFor x y' sel own peer := by
  intro c hc
  rw [hy]; exact h c hc

theorem DoneOK.mono {bodyOf : BodyOf} {x y y' : InitSt} {g : Ghost} {sigs sg : List (Bytes × Bytes)} {d : Done}
    (h : DoneOK bodyOf x y g sigs d) (hy : Static y y') : DoneOK bodyOf x y' g (sigs ++ sg) d := by
  obtain ⟨_, hh, _, _, _, ha⟩ := hy
  refine ⟨h.stage, by rw [ha]; exact h.sel, h.selected, h.own, h.peer, h.core.peer hh, ?_, ?_⟩
  · intro hi
    obtain ⟨h1, al, pl, h2, h3⟩ := h.ini hi
    exact ⟨h1, al, pl, by rw [hh]; exact h2.mono, h3⟩
  · intro hi
    obtain ⟨pl, h2, h3⟩ := h.rsp hi
    exact ⟨pl, by rw [hh]; exact h2.mono, h3⟩

theorem ObjInv.mono {bodyOf : BodyOf} {x y y' : InitSt} {g : Ghost} {done : List (Bytes × Bool)} {sigs sg : List (Bytes × Bytes)}
    (h : ObjInv bodyOf x y g done sigs) (hy : Static y y') : ObjInv bodyOf x y' g done (sigs ++ sg) := by
  have hh := hy.2.1
  have ha := hy.2.2.2.2.2
  refine ⟨h.done_eq, ?_, h.e1, h.s1, h.s2, ?_, ?_, h.len, fun d hd => (h.d d hd).mono hy⟩
  · intro core hc; rw [ha]; exact h.l1 core hc
  · intro hs
    obtain ⟨h1, r, h2, h3, h4⟩ := h.s3 hs
    exact ⟨h1, r, h2, h3, h4.peer hh⟩
  · intro r hr
    rw [ha]; exact h.r r hr

theorem WfObj.of_static {x x' : InitSt} (h : WfObj x) (hst : Static x x') : WfObj x' := by
  obtain ⟨_, hh, hp, _, _, ha⟩ := hst
  exact ⟨by rw [hh]; exact h.hash, by rw [ha]; exact h.algos, by rw [hp]; exact h.payload⟩

section
variable {bodyOf : BodyOf} {x y : InitSt} {gx gy : Ghost} {dx dy : List (Bytes × Bool)} {sigs : List (Bytes × Bytes)} {seals : SealLog}

/-- a step of `x`: new state with the same static fields, grown ghost, new signatures that say what `MsgBy` says, new seals -/
theorem Inv2.update (h : Inv2 bodyOf x y gx gy dx dy sigs seals) {x' : InitSt} {gx' : Ghost} {dx' : List (Bytes × Bool)}
    {sg : List (Bytes × Bytes)} {log : SealLog} (hst : Static x x') (hle : gx.le gx')
    (hox : ObjInv bodyOf x' y gx' dx' (sigs ++ sg))
    (hsg : ∀ k r, (k, r) ∈ sg → ∃ m salt kh, r = signedRegion m salt kh ∧ salt.length = 4 ∧ kh.length = 4 ∧ msgWF m ∧
      m.hash = x'.hash ∧ MsgBy x' gx' (seals ++ log) m) :
    Inv2 bodyOf x' y gx' gy dx' dy (sigs ++ sg) (seals ++ log) := by
  have hh : x'.hash = x.hash := hst.2.1
  refine ⟨hox, h.oy.mono hst, (SigLog.mono h.sig fun k m h5 => ?_).append (SigLog.mono hsg fun k m h5 => Or.inl h5), h.wx.of_static hst, h.wy,
    by rw [hh]; exact h.hne⟩
  rcases h5 with ⟨h5, h6⟩ | ⟨h5, h6⟩
  · exact Or.inl ⟨by rw [hh]; exact h5, h6.mono hst hle (fun e he => List.mem_append_left _ he)⟩
  · exact Or.inr ⟨h5, h6.mono (Static.refl y) (Ghost.le_refl gy) (fun e he => List.mem_append_left _ he)⟩

/-- **every accepted message was signed** (from I1): if every logged signature is over the signed region of a well-formed message of
    which `Q` holds, then an accepted message was accepted under a trusted key, is logged, and `Q` holds of it -/
theorem read_signed {env : CryptoEnv} {sigs : List (Bytes × Bytes)} {T : List Bytes} {w : Bytes} {m : InitMsg} {k : Bytes}
    {Q : Bytes → InitMsg → Prop} (hsig : SigLog Q sigs)
    (hI : I1 env sigs T w) (hr : readFrom env w T = .ok (m, k)) : k ∈ T ∧ Q k m ∧ Logged sigs m := by
  obtain ⟨hk, _, signed, sig, rest, hw, hv⟩ := VpnCloud.Proofs.C01.readFrom_accept_genuine env w T m k hr
  have hmem := hI signed sig rest k hw hk hv
  obtain ⟨m', salt, kh, h1, h2, h3, h4, h5⟩ := hsig k signed hmem
  have hw' : w = signedRegion m' salt kh ++ ([sig.length] ++ sig ++ rest) := by rw [hw, h1]; simp
  rw [hw'] at hr
  cases readFrom_signed_inv env m' salt kh _ T m k h4 h2 h3 hr
  exact ⟨hk, h5, k, salt, kh, h1 ▸ hmem, h2, h3, h4⟩

/-- **every accepted message of the other node was signed by the peer object**: it is logged, and says what `MsgBy` says -/
theorem Inv2.bridge (h : Inv2 bodyOf x y gx gy dx dy sigs seals) (env : CryptoEnv) {w : Bytes} {m : InitMsg} {k : Bytes}
    (hI : I1 env sigs x.trusted w) (hr : readFrom env w x.trusted = .ok (m, k)) (hne : x.hash ≠ m.hash) :
    m.hash = y.hash ∧ MsgBy y gy seals m ∧ Logged sigs m := by
  obtain ⟨_, h5 | h5, hl⟩ := read_signed h.sig hI hr
  · exact absurd h5.1.symm hne
  · exact ⟨h5.1, h5.2, hl⟩

theorem wireOf_split (env : CryptoEnv) (st : InitSt) (m : InitMsg) (rnd : Rand) :
    wireOf env st m rnd = signedRegion m rnd.salt (env.keyHash st.ownKey rnd.salt) ++ ([rnd.sig.length % 256] ++ rnd.sig) := by
  unfold wireOf writeTo
  rw [List.append_assoc]

theorem wire_region (env : CryptoEnv) (st : InitSt) (m : InitMsg) (rnd : Rand) :
    (wireOf env st m rnd).take ((wireOf env st m rnd).length - (rnd.sig.length + 1)) =
      signedRegion m rnd.salt (env.keyHash st.ownKey rnd.salt) := by
  rw [wireOf_split]
  apply List.take_left'
  simp only [List.length_append, List.length_cons, List.length_nil]
  omega

theorem newSig_wire {env : CryptoEnv} {st st' : InitSt} {m : InitMsg} {rnd : Rand} {k r : Bytes}
    (h : (k, r) ∈ newSig st st' (wireOf env st m rnd) rnd) :
    r = signedRegion m rnd.salt (env.keyHash st.ownKey rnd.salt) := by
  unfold newSig at h
  split at h
  · simp only [List.mem_singleton, Prod.mk.injEq] at h
    rw [h.2, wire_region]
  · cases h

theorem newSig_last_same (st st' : InitSt) (out : Bytes) (rnd : Rand) (h : st'.last = st.last) : newSig st st' out rnd = [] := by
  unfold newSig
  rw [if_neg]
  intro hh
  rw [h] at hh
  exact hh.2 hh.1

theorem newSig_nil (st st' : InitSt) (rnd : Rand) (h : st'.last ≠ some []) : newSig st st' [] rnd = [] := by
  unfold newSig
  rw [if_neg]
  intro hh
  exact h hh.1

theorem Inv2.emit {bodyOf : BodyOf} {x y : InitSt} {gx gy : Ghost} {dx dy : List (Bytes × Bool)} {sigs : List (Bytes × Bytes)}
    {seals : SealLog} (h : Inv2 bodyOf x y gx gy dx dy sigs seals) (env : CryptoEnv) {rnd : Rand} (hrnd : RandOK env x rnd)
    {x' : InitSt} {gx' : Ghost} {dx' : List (Bytes × Bool)} {log : SealLog} {m : InitMsg} (hst : Static x x') (hle : gx.le gx')
    (hox : ∀ sg, ObjInv bodyOf x' y gx' dx' (sigs ++ sg)) (hm : msgWF m) (hh : m.hash = x.hash)
    (hby : MsgBy x' gx' (seals ++ log) m) :
    Inv2 bodyOf x' y gx' gy dx' dy (sigs ++ newSig x x' (wireOf env x m rnd) rnd) (seals ++ log) :=
  h.update hst hle (hox _) fun _ _ hk =>
    ⟨m, rnd.salt, _, newSig_wire hk, hrnd.salt, hrnd.keyHash, hm, hh.trans hst.2.1.symm, hby⟩

section
variable {g : Ghost} {done : List (Bytes × Bool)}

theorem core_needs_cipher {a b : Algos} {sel : Option Cipher} {cr : Option Core} (hsel : selectAlgorithm a b = .ok sel)
    (hcn : sel = none → cr = none) : ∀ core, cr = some core → ∃ c, selectAlgorithm a b = .ok (some c) := by
  intro core hc
  cases sel with
  | none => rw [hcn rfl] at hc; cases hc
  | some c => exact ⟨c, hsel⟩

/-- an object that has neither answered a ping nor completed (stage PING or PONG, empty ghost): only its core and its ephemeral key
    are constrained -/
theorem ObjInv.early {x' : InitSt} (hg : g.resp = none ∧ g.dn = []) (hd : done = g.dn.map (fun d => (d.payload, d.isInit)))
    (hs : x'.stage = Generated.STAGE_PING ∨ x'.stage = Generated.STAGE_PONG)
    (hl1 : ∀ core, x'.crypto = some core → ∃ c, selectAlgorithm x'.algos y.algos = .ok (some c))
    (he1 : ∀ own, x'.ecdh = some own → EcdhWF own) : ObjInv bodyOf x' y g done sigs := by
  refine ⟨hd, hl1, he1, fun _ => hg, fun _ => hg, ?_, ?_, ?_, ?_⟩
  · intro e
    rcases hs with hs | hs <;> rw [hs] at e <;> exact absurd e (by decide)
  · intro r hr; rw [hg.1] at hr; cases hr
  · rw [hg.2]; exact Nat.zero_le _
  · intro d hd; rw [hg.2] at hd; cases hd

theorem ObjInv.late {x' : InitSt} {d : Done} (hdone : done = []) (hg : g.dn = [d])
    (hs : x'.stage = Generated.WAITING_TO_CLOSE ∨ x'.stage = Generated.CLOSING)
    (hl1 : ∀ core, x'.crypto = some core → ∃ c, selectAlgorithm x'.algos y.algos = .ok (some c))
    (he1 : ∀ own, x'.ecdh = some own → EcdhWF own)
    (hr : ∀ r, g.resp = some r → selectAlgorithm x'.algos y.algos = .ok r.sel ∧ EcdhWF r.own ∧ EcdhWF r.peer ∧
      d.isInit = false ∧ d.own = r.own ∧ d.peer = r.peer)
    (hd : DoneOK bodyOf x' y g sigs d) : ObjInv bodyOf x' y g ((d.payload, d.isInit) :: done) sigs := by
  have hst : ∀ S, S ≠ Generated.WAITING_TO_CLOSE → S ≠ Generated.CLOSING → x'.stage ≠ S := by
    intro S h1 h2 e
    rcases hs with hs | hs
    · exact h1 (e.symm.trans hs)
    · exact h2 (e.symm.trans hs)
  have hmem : ∀ d' ∈ g.dn, d' = d := by
    intro d' hd'
    rw [hg] at hd'
    exact List.mem_singleton.1 hd'
  subst hdone
  refine ⟨by rw [hg]; rfl, hl1, he1, fun e => absurd e (hst _ (by decide) (by decide)), fun e => absurd e (hst _ (by decide) (by decide)),
    fun e => absurd e (hst _ (by decide) (by decide)), ?_, by rw [hg]; exact Nat.le_refl _, fun d' hd' => hmem d' hd' ▸ hd⟩
  intro r hr'
  obtain ⟨h1, h2, h3, h4⟩ := hr r hr'
  exact ⟨h1, h2, h3, fun d' hd' => hmem d' hd' ▸ h4⟩

theorem ObjInv.plain (h : ObjInv bodyOf x y g done sigs) (hsel : selectAlgorithm x.algos y.algos = .ok none) : x.crypto = none := by
  cases hc : x.crypto with
  | none => rfl
  | some core =>
    obtain ⟨c, hc'⟩ := h.l1 core hc
    rw [hc'] at hsel; cases hsel

theorem ObjInv.restage (h : ObjInv bodyOf x y g done sigs) (s' ct rt : Nat) (hs : s' = x.stage ∨ s' = Generated.CLOSING) :
    ObjInv bodyOf { x with stage := s', closeTime := ct, retries := rt } y g done sigs := by
  have key : ∀ S, S ≠ Generated.CLOSING → s' = S → x.stage = S := by
    intro S hS e
    rcases hs with hs | hs
    · exact hs ▸ e
    · exact absurd (e.symm.trans hs) hS
  refine ⟨h.done_eq, h.l1, h.e1, fun e => h.s1 (key _ (by decide) e), fun e => h.s2 (key _ (by decide) e),
    fun e => h.s3 (key _ (by decide) e), h.r, h.len, ?_⟩
  · intro d hd
    have := h.d d hd
    refine ⟨?_, this.sel, this.selected, this.own, this.peer, this.core, this.ini, this.rsp⟩
    rcases hs with hs | hs
    · rw [hs]; exact this.stage
    · exact Or.inr hs

end

def doneOf : InitResult → List (Bytes × Bool)
  | .continue => []
  | .success p ini => [(p, ini)]

theorem Inv2.updateQuiet (h : Inv2 bodyOf x y gx gy dx dy sigs seals) {x' : InitSt} {gx' : Ghost} {dx' : List (Bytes × Bool)}
    (hst : Static x x') (hle : gx.le gx') (hox : ObjInv bodyOf x' y gx' dx' sigs) : Inv2 bodyOf x' y gx' gy dx' dy sigs seals := by
  have := h.update (sg := []) (log := []) hst hle (by rw [List.append_nil]; exact hox) (by intro k r hk; cases hk)
  rwa [List.append_nil, List.append_nil] at this

theorem Inv2.update0 (h : Inv2 bodyOf x y gx gy dx dy sigs seals) {x' : InitSt} (hst : Static x x')
    (hox : ObjInv bodyOf x' y gx dx sigs) : Inv2 bodyOf x' y gx gy dx dy sigs seals :=
  h.updateQuiet hst (Ghost.le_refl gx) hox

theorem Inv2.tick (h : Inv2 bodyOf x y gx gy dx dy sigs seals) : Inv2 bodyOf (everySecond x).1 y gx gy dx dy sigs seals := by
  obtain ⟨s', ct, rt, hs, he⟩ := everySecond_fst x
  rw [he]
  exact h.update0 ⟨rfl, rfl, rfl, rfl, rfl, rfl⟩ (h.ox.restage s' ct rt hs)

/-- the role switch of a dual open (and the retry counter) -/
theorem ObjInv.reset {g : Ghost} {done : List (Bytes × Bool)} (h : ObjInv bodyOf x y g done sigs) (hs : x.stage = Generated.STAGE_PONG)
    (rt : Nat) : ObjInv bodyOf { resetSt x with retries := rt } y g done sigs := by
  exact .early (h.s2 hs) h.done_eq (Or.inl rfl) h.l1 (fun own e => by cases e)

/-- the state before a ping is answered: the object itself or the object after the role switch -/
structure PingBase (x st0 : InitSt) : Prop where
  static : Static x st0
  crypto : st0.crypto = x.crypto
  ecdh : st0.ecdh = x.ecdh ∨ st0.ecdh = none
  stage : x.stage = Generated.STAGE_PING ∨ x.stage = Generated.STAGE_PONG

theorem pingBase_of {st0 : InitSt} {h : Bytes}
    (hst0 : PingFrom x h st0) :
    PingBase x st0 := by
  rcases hst0 with ⟨rfl, h2⟩ | ⟨rfl, h2, _⟩
  · exact ⟨Static.refl _, rfl, Or.inl rfl, Or.inl h2⟩
  · exact ⟨⟨rfl, rfl, rfl, rfl, rfl, rfl⟩, rfl, Or.inr rfl, Or.inr h2⟩

theorem Inv2.pingErr (h : Inv2 bodyOf x y gx gy dx dy sigs seals) {st0 : InitSt} {hh : Bytes}
    (hst0 : PingFrom x hh st0) :
    Inv2 bodyOf { st0 with retries := 0 } y gx gy dx dy sigs seals := by
  rcases hst0 with ⟨rfl, _⟩ | ⟨rfl, h2, _⟩
  · exact h.update0 ⟨rfl, rfl, rfl, rfl, rfl, rfl⟩ (h.ox.restage st0.stage st0.closeTime 0 (Or.inl rfl))
  · exact h.update0 ⟨rfl, rfl, rfl, rfl, rfl, rfl⟩ (h.ox.reset h2 0)

theorem wireOf_congr (env : CryptoEnv) {st st' : InitSt} (m : InitMsg) (rnd : Rand) (h : st'.ownKey = st.ownKey) :
    wireOf env st' m rnd = wireOf env st m rnd := by
  unfold wireOf; rw [h]

theorem ObjInv.answered (h : ObjInv bodyOf x y gx dx sigs) {st0 : InitSt} (hb : PingBase x st0) (sel : Option Cipher)
    (hsel : selectAlgorithm x.algos y.algos = .ok sel) (own e : Bytes) (hown : EcdhWF own) (he : EcdhWF e)
    (cr : Option Core) (l : Option Bytes) (sg : List (Bytes × Bytes))
    (hcr : ∀ c, sel = some c → ∃ core, cr = some core ∧ CoreKeys (masterKey c own e) (bytesGt x.hash y.hash) NotMaster core)
    (hcn : sel = none → cr = none) :
    ObjInv bodyOf { st0 with retries := 0, selected := sel, crypto := cr, last := l, stage := Generated.STAGE_PENG } y
      ⟨some ⟨own, e, sel⟩, []⟩ dx (sigs ++ sg) ∧ gx.le ⟨some ⟨own, e, sel⟩, []⟩ := by
  have hg : gx.resp = none ∧ gx.dn = [] := by
    rcases hb.stage with hs | hs
    · exact h.s1 hs
    · exact h.s2 hs
  have hdx : dx = [] := by rw [h.done_eq, hg.2]; rfl
  -- in terms of `st0`, whose hash and algorithms are those of the new state
  rw [← hb.static.2.2.2.2.2] at hsel
  rw [← hb.static.2.1] at hcr
  refine ⟨⟨by rw [hdx]; rfl, core_needs_cipher hsel hcn, ?_, ?_, ?_, ?_, ?_, Nat.zero_le _, ?_⟩, ?_⟩
  · intro o ho
    have ho' : st0.ecdh = some o := ho
    rcases hb.ecdh with h1 | h1
    · rw [h1] at ho'; exact h.e1 o ho'
    · rw [h1] at ho'; cases ho'
  · intro e; exact absurd (show Generated.STAGE_PENG = Generated.STAGE_PING from e) (by decide)
  · intro e; exact absurd (show Generated.STAGE_PENG = Generated.STAGE_PONG from e) (by decide)
  · exact fun _ => ⟨rfl, ⟨own, e, sel⟩, rfl, rfl, hcr⟩
  · intro r hr
    simp only [Option.some.injEq] at hr
    subst hr
    exact ⟨hsel, hown, he, fun d hd => by cases hd⟩
  · intro d hd; cases hd
  · exact Ghost.le_of_empty hg _

theorem pingRes_ok (env : CryptoEnv) (st0 : InitSt) (h e : Bytes) (sel : Option Cipher) (rnd : Rand) (seals : SealLog)
    (hcr : sel = none → st0.crypto = none) (hd : NotMaster rnd.dummy) (hct : rnd.ct.length + 8 < 65536)
    (hp : st0.payload.length < 65536) :
    ∃ cr pl log, pingRes env st0 h e sel rnd =
        .ok { st0 with retries := 0, selected := sel, crypto := cr,
                       last := some (wireOf env st0 (.pong st0.hash rnd.ecdhPub st0.algos pl) rnd), stage := Generated.STAGE_PENG }
          (wireOf env st0 (.pong st0.hash rnd.ecdhPub st0.algos pl) rnd, .continue, log) ∧
      pl.length < 65536 ∧ PayloadBy (seals ++ log) st0.payload sel rnd.ecdhPub e pl ∧
      (∀ c, sel = some c → ∃ core, cr = some core ∧ CoreKeys (masterKey c rnd.ecdhPub e) (bytesGt st0.hash h) NotMaster core) ∧
      (sel = none → cr = none) := by
  cases sel with
  | some c =>
    obtain ⟨core, n, pl, heq, hd8, hlen, hkeys⟩ := pingRes_some env st0 h e c rnd
    refine ⟨some core, pl, _, heq, by rw [hlen]; omega, ⟨n, List.mem_append_right _ (by rw [hd8]; exact List.mem_singleton.2 rfl)⟩,
      ?_, fun hc => (by cases hc)⟩
    intro c' hc'
    cases hc'
    exact ⟨core, rfl, hkeys NotMaster hd⟩
  | none =>
    exact ⟨st0.crypto, st0.payload, [], pingRes_none env st0 h e rnd (hcr rfl), hp, rfl, fun c hc => (by cases hc), fun _ => hcr rfl⟩

theorem Inv2.pingOk (h : Inv2 bodyOf x y gx gy dx dy sigs seals) (env : CryptoEnv) {w : Bytes} {rnd : Rand}
    (hI : I1 env sigs x.trusted w) (hrnd : RandOK env x rnd) {hh e : Bytes} {al : Algos} {k : Bytes} {st0 : InitSt} {sel : Option Cipher}
    (hr : readFrom env w x.trusted = .ok (.ping hh e al, k)) (hne : x.hash ≠ hh)
    (hst0 : PingFrom x hh st0)
    (hsel : selectAlgorithm x.algos al = .ok sel) {st' : InitSt} {out : Bytes} {log : SealLog}
    (hres : pingRes env st0 hh e sel rnd = .ok st' (out, .continue, log)) :
    ∃ gx', Inv2 bodyOf st' y gx' gy dx dy (sigs ++ newSig x st' out rnd) (seals ++ log) := by
  obtain ⟨hhy, hmsg, _⟩ := h.bridge env hI hr hne
  have hhy' : hh = y.hash := hhy
  obtain ⟨hal, he⟩ := hmsg
  subst hal
  have hb := pingBase_of hst0
  obtain ⟨_, hha, hpa, hown, _, halg⟩ := hb.static
  obtain ⟨cr, pl, log0, heq, hlen, hpay, hcore, hplain⟩ := pingRes_ok env st0 hh e sel rnd seals
    (fun hs => by subst hs; exact hb.crypto.trans (h.ox.plain hsel)) hrnd.dummy hrnd.ct (by rw [hpa]; exact h.wx.payload)
  cases heq.symm.trans hres
  refine ⟨⟨some ⟨rnd.ecdhPub, e, sel⟩, []⟩, ?_⟩
  have hans := fun l sg => h.ox.answered hb sel hsel rnd.ecdhPub e hrnd.ecdh he cr l sg
    (by rw [← hha, ← hhy']; exact hcore) hplain
  rw [wireOf_congr env _ rnd hown]
  exact h.emit env hrnd (hb.static.trans ⟨rfl, rfl, rfl, rfl, rfl, rfl⟩) (hans none []).2 (fun sg => (hans _ sg).1)
    ⟨by rw [hha]; exact h.wx.hash, by rw [hrnd.ecdh.1]; decide, by rw [halg]; exact h.wx.algos, hlen⟩ hha
    ⟨rfl, hrnd.ecdh, ⟨rnd.ecdhPub, e, sel⟩, rfl, rfl, hpay⟩

theorem ObjInv.pongStay (h : ObjInv bodyOf x y gx dx sigs) (hs : x.stage = Generated.STAGE_PONG) (cr : Option Core)
    (hcr : ∀ core, cr = some core → ∃ c, selectAlgorithm x.algos y.algos = .ok (some c)) (sl : Option Cipher) :
    ObjInv bodyOf { x with retries := 0, ecdh := none, selected := sl, crypto := cr } y gx dx sigs := by
  exact .early (h.s2 hs) h.done_eq (Or.inr hs) hcr (fun own e => by cases e)

theorem ObjInv.initDone (h : ObjInv bodyOf x y gx dx sigs) (hs : x.stage = Generated.STAGE_PONG) (sel : Option Cipher)
    (hsel : selectAlgorithm x.algos y.algos = .ok sel) (own eb p : Bytes) (hown : x.ecdh = some own) (heb : EcdhWF eb)
    (cr : Option Core) (l : Option Bytes) (ct : Nat) (sg : List (Bytes × Bytes))
    (hcr : ∀ c, sel = some c → ∃ core, cr = some core ∧ CoreKeys (masterKey c own eb) (bytesGt x.hash y.hash) NotMaster core)
    (hcn : sel = none → cr = none) (al : Algos) (pl : Bytes) (hlog : Logged sigs (.pong y.hash eb al pl))
    (hop : Opened bodyOf ⟨p, true, own, eb, sel⟩ pl) :
    ObjInv bodyOf { x with retries := 0, ecdh := none, selected := sel, crypto := cr, last := l, stage := Generated.WAITING_TO_CLOSE,
                           closeTime := ct } y ⟨none, [⟨p, true, own, eb, sel⟩]⟩ ((p, true) :: dx) (sigs ++ sg) := by
  have hdx : dx = [] := by rw [h.done_eq, (h.s2 hs).2]; rfl
  exact .late (d := ⟨p, true, own, eb, sel⟩) hdx rfl (Or.inl rfl) (core_needs_cipher hsel hcn) (fun o e => by cases e) (fun r hr => by cases hr)
    ⟨Or.inl rfl, hsel, rfl, h.e1 own hown, heb, hcr, fun _ => ⟨rfl, al, pl, hlog.mono, hop⟩, fun hi => by cases hi⟩

theorem Inv2.pongSelErr (h : Inv2 bodyOf x y gx gy dx dy sigs seals) (hs : x.stage = Generated.STAGE_PONG) :
    Inv2 bodyOf { x with retries := 0, ecdh := none } y gx gy dx dy sigs seals :=
  h.update0 ⟨rfl, rfl, rfl, rfl, rfl, rfl⟩ (h.ox.pongStay hs x.crypto h.ox.l1 x.selected)

theorem Inv2.pongFail (h : Inv2 bodyOf x y gx gy dx dy sigs seals) (env : CryptoEnv) {w : Bytes} {rnd : Rand}
    (hI : I1 env sigs x.trusted w) {hb eb : Bytes} {ab : Algos} {pl k own : Bytes} {sel : Option Cipher} {st5 : InitSt} {r : Option Bytes}
    (hr : readFrom env w x.trusted = .ok (.pong hb eb ab pl, k)) (hne : x.hash ≠ hb)
    (hs : x.stage = Generated.STAGE_PONG) (hsel : selectAlgorithm x.algos ab = .ok sel)
    (hd : decryptPayload (pongSt x own eb hb sel rnd) bodyOf pl = (st5, r)) :
    Inv2 bodyOf st5 y gx gy dx dy sigs seals := by
  obtain ⟨_, hmsg, _⟩ := h.bridge env hI hr hne
  have hal : ab = y.algos := hmsg.1
  subst hal
  obtain ⟨cr, hcr, _⟩ := decryptPayload_frame _ _ _ _ _ hd
  rw [pongSt_eq] at hcr
  rw [hcr]
  refine h.update0 ⟨rfl, rfl, rfl, rfl, rfl, rfl⟩ (h.ox.pongStay hs cr ?_ sel)
  intro core hc
  cases sel with
  | some c => exact ⟨c, hsel⟩
  | none =>
    exfalso
    have hnone : (pongSt x own eb hb none rnd).crypto = none := h.ox.plain hsel
    rw [decryptPayload_none _ _ _ hnone] at hd
    simp only [Prod.mk.injEq] at hd
    have : st5.crypto = none := by rw [← hd.1]; exact hnone
    rw [hcr] at this
    rw [hc] at this
    cases this

theorem pongRes_ok (env : CryptoEnv) (bodyOf : BodyOf) (st : InitSt) (own eb hb : Bytes) (sel : Option Cipher) (rnd : Rand) (pl : Bytes)
    (st5 : InitSt) (p : Bytes) (seals : SealLog) (hcr : sel = none → st.crypto = none) (hdm : NotMaster rnd.dummy)
    (hct : rnd.ct.length + 8 < 65536) (hp : st.payload.length < 65536)
    (hd : decryptPayload (pongSt st own eb hb sel rnd) bodyOf pl = (st5, some p)) :
    ∃ cr pl' log, pongRes env st5 rnd p =
        .ok { st with retries := 0, ecdh := none, selected := sel, crypto := cr,
                      last := some (wireOf env st (.peng st.hash pl') rnd), stage := Generated.WAITING_TO_CLOSE,
                      closeTime := Generated.CLOSE_TIME }
          (wireOf env st (.peng st.hash pl') rnd, .success p true, log) ∧
      pl'.length < 65536 ∧ PayloadBy (seals ++ log) st.payload sel own eb pl' ∧
      (∀ c, sel = some c → ∃ core, cr = some core ∧ CoreKeys (masterKey c own eb) (bytesGt st.hash hb) NotMaster core) ∧
      (sel = none → cr = none) ∧ Opened bodyOf ⟨p, true, own, eb, sel⟩ pl := by
  cases sel with
  | some c =>
    obtain ⟨core, n, pl', heq, hd8, hlen, hk⟩ := pongRes_some env bodyOf st own eb hb c rnd pl st5 p hd
    obtain ⟨hkeys, hop⟩ := hk NotMaster hdm
    refine ⟨some core, pl', _, heq, by rw [hlen]; omega, ⟨n, List.mem_append_right _ (by rw [hd8]; exact List.mem_singleton.2 rfl)⟩,
      ?_, nofun, hop⟩
    intro c' hc'
    cases hc'
    exact ⟨core, rfl, hkeys⟩
  | none =>
    obtain ⟨hpl, heq⟩ := pongRes_none env bodyOf st own eb hb rnd pl st5 p (hcr rfl) hd
    exact ⟨st.crypto, st.payload, [], heq, hp, rfl, fun c hc => (by cases hc), fun _ => hcr rfl, hpl⟩

theorem Inv2.pongOk (h : Inv2 bodyOf x y gx gy dx dy sigs seals) (env : CryptoEnv) {w : Bytes} {rnd : Rand}
    (hI : I1 env sigs x.trusted w) (hrnd : RandOK env x rnd) {hb eb : Bytes} {ab : Algos} {pl k own : Bytes} {sel : Option Cipher}
    {st5 : InitSt} {p : Bytes}
    (hr : readFrom env w x.trusted = .ok (.pong hb eb ab pl, k)) (hne : x.hash ≠ hb)
    (hs : x.stage = Generated.STAGE_PONG) (hown : x.ecdh = some own) (hsel : selectAlgorithm x.algos ab = .ok sel)
    (hd : decryptPayload (pongSt x own eb hb sel rnd) bodyOf pl = (st5, some p)) {st' : InitSt} {out : Bytes} {log : SealLog}
    (hres : pongRes env st5 rnd p = .ok st' (out, .success p true, log)) :
    ∃ gx', Inv2 bodyOf st' y gx' gy ((p, true) :: dx) dy (sigs ++ newSig x st' out rnd) (seals ++ log) := by
  obtain ⟨hhy, hmsg, hlog⟩ := h.bridge env hI hr hne
  have hhy' : hb = y.hash := hhy
  obtain ⟨hal, heb, _⟩ := hmsg
  subst hal
  subst hhy'
  obtain ⟨cr, pl', log0, heq, hlen, hpay, hcore, hplain, hop⟩ := pongRes_ok env bodyOf x own eb y.hash sel rnd pl st5 p seals
    (fun hn => by subst hn; exact h.ox.plain hsel) hrnd.dummy hrnd.ct h.wx.payload hd
  cases heq.symm.trans hres
  refine ⟨⟨none, [⟨p, true, own, eb, sel⟩]⟩, ?_⟩
  exact h.emit env hrnd ⟨rfl, rfl, rfl, rfl, rfl, rfl⟩ (Ghost.le_of_empty (h.ox.s2 hs) _)
    (fun sg => h.ox.initDone hs sel hsel own eb p hown heb cr _ _ sg hcore hplain y.algos pl hlog hop) ⟨h.wx.hash, hlen⟩ rfl
    ⟨⟨p, true, own, eb, sel⟩, List.mem_singleton.2 rfl, rfl, hpay⟩

/-- the core of the responder after it tried to open a peng payload -/
def CoreStep (bodyOf : BodyOf) (x : InitSt) (pl : Bytes) (cr : Option Core) : Prop :=
  (x.crypto = none ∧ cr = none) ∨
  ∃ c0, x.crypto = some c0 ∧ cr = some (c0.decrypt { hdr := pl.take 8, body := bodyOf (pl.drop 8) }).1

theorem CoreFor.step {sel : Option Cipher} {own peer pl : Bytes} {cr : Option Core} (h : CoreFor x y sel own peer)
    (hc : CoreStep bodyOf x pl cr) (rt st : Nat) : CoreFor { x with retries := rt, crypto := cr, stage := st } y sel own peer := by
  intro c hsel
  obtain ⟨core, h1, h2⟩ := h c hsel
  rcases hc with ⟨h3, _⟩ | ⟨c0, h3, h4⟩
  · rw [h1] at h3; cases h3
  · rw [h1] at h3
    simp only [Option.some.injEq] at h3
    subst h3
    exact ⟨_, h4, CoreKeys_decrypt _ h2⟩

theorem CoreStep.l1 {pl : Bytes} {cr : Option Core} (hc : CoreStep bodyOf x pl cr) (h : ObjInv bodyOf x y gx dx sigs) :
    ∀ core, cr = some core → ∃ c, selectAlgorithm x.algos y.algos = .ok (some c) := by
  intro core hcr
  rcases hc with ⟨_, h2⟩ | ⟨c0, h1, _⟩
  · rw [h2] at hcr; cases hcr
  · exact h.l1 c0 h1

theorem decryptPayload_step {pl : Bytes} {st2 : InitSt} {r : Option Bytes}
    (hd : decryptPayload { x with retries := 0 } bodyOf pl = (st2, r)) :
    ∃ cr, CoreStep bodyOf x pl cr ∧ st2 = { x with retries := 0, crypto := cr } := by
  rcases decryptPayload_cases _ _ _ _ _ hd with ⟨h1, h2, _⟩ | ⟨c0, h1, h2, _⟩
  · exact ⟨none, Or.inl ⟨h1, rfl⟩, by rw [h2]; cases x; simp only at h1; subst h1; rfl⟩
  · exact ⟨_, Or.inr ⟨c0, h1, rfl⟩, h2⟩

theorem Inv2.pengFail (h : Inv2 bodyOf x y gx gy dx dy sigs seals) {pl : Bytes} {st2 : InitSt} {r : Option Bytes}
    (hs : x.stage = Generated.STAGE_PENG) (hd : decryptPayload { x with retries := 0 } bodyOf pl = (st2, r)) :
    Inv2 bodyOf st2 y gx gy dx dy sigs seals := by
  obtain ⟨cr, hcs, rfl⟩ := decryptPayload_step hd
  obtain ⟨hdn, r0, hr0, hsl, hcf⟩ := h.ox.s3 hs
  refine h.update0 ⟨rfl, rfl, rfl, rfl, rfl, rfl⟩ ⟨h.ox.done_eq, hcs.l1 h.ox, h.ox.e1, ?_, ?_, ?_, h.ox.r, h.ox.len, ?_⟩
  · intro e; rw [show ({ x with retries := 0, crypto := cr } : InitSt).stage = x.stage from rfl, hs] at e; exact absurd e (by decide)
  · intro e; rw [show ({ x with retries := 0, crypto := cr } : InitSt).stage = x.stage from rfl, hs] at e; exact absurd e (by decide)
  · intro _
    exact ⟨hdn, r0, hr0, hsl, hcf.step hcs 0 x.stage⟩
  · intro d hd'; rw [hdn] at hd'; cases hd'

theorem Inv2.pengOk (h : Inv2 bodyOf x y gx gy dx dy sigs seals) (env : CryptoEnv) {w : Bytes}
    (hI : I1 env sigs x.trusted w) {hb pl k : Bytes} {st2 : InitSt} {p : Bytes}
    (hr : readFrom env w x.trusted = .ok (.peng hb pl, k)) (hne : x.hash ≠ hb)
    (hs : x.stage = Generated.STAGE_PENG) (hd : decryptPayload { x with retries := 0 } bodyOf pl = (st2, some p)) :
    ∃ gx', Inv2 bodyOf { st2 with stage := Generated.CLOSING } y gx' gy ((p, false) :: dx) dy sigs seals := by
  obtain ⟨hhy, _, hlog⟩ := h.bridge env hI hr hne
  have hhy' : hb = y.hash := hhy
  subst hhy'
  obtain ⟨hdn, r0, hr0, hsl, hcf⟩ := h.ox.s3 hs
  obtain ⟨hrsel, hrown, hrpeer, _⟩ := h.ox.r r0 hr0
  have hdx : dx = [] := by rw [h.ox.done_eq, hdn]; rfl
  have hop : Opened bodyOf ⟨p, false, r0.own, r0.peer, r0.sel⟩ pl :=
    .of_decrypt hd (fun hs => h.ox.plain (hs ▸ hrsel)) hcf
  obtain ⟨cr, hcs, rfl⟩ := decryptPayload_step hd
  refine ⟨⟨some r0, [⟨p, false, r0.own, r0.peer, r0.sel⟩]⟩, ?_⟩
  refine h.updateQuiet ⟨rfl, rfl, rfl, rfl, rfl, rfl⟩ ⟨?_, ?_⟩ ?_
  · intro r hr'; rw [hr0] at hr'; exact hr'
  · intro d hd'; rw [hdn] at hd'; cases hd'
  refine .late (d := ⟨p, false, r0.own, r0.peer, r0.sel⟩) hdx rfl (Or.inr rfl) (hcs.l1 h.ox) h.ox.e1 ?_
    ⟨Or.inr rfl, hrsel, hsl, hrown, hrpeer, hcf.step hcs 0 Generated.CLOSING, (fun hi => by cases hi), fun _ => ⟨pl, hlog, hop⟩⟩
  intro r hr'
  simp only [Option.some.injEq] at hr'
  subst hr'
  exact ⟨hrsel, hrown, hrpeer, rfl, rfl, rfl⟩

theorem Inv2.ping (h : Inv2 bodyOf x y gx gy dx dy sigs seals) (env : CryptoEnv) {rnd : Rand} (hs : x.stage = Generated.STAGE_PING)
    (hrnd : RandOK env x rnd) :
    Inv2 bodyOf (sendPing env x rnd).1 y gx gy dx dy (sigs ++ newSig x (sendPing env x rnd).1 (sendPing env x rnd).2 rnd) (seals ++ []) := by
  rw [sendPing_wire]
  refine h.emit env hrnd ⟨rfl, rfl, rfl, rfl, rfl, rfl⟩ (Ghost.le_refl gx) (fun _ => ?_)
    ⟨h.wx.hash, by rw [hrnd.ecdh.1]; decide, h.wx.algos⟩ rfl ⟨rfl, hrnd.ecdh⟩
  refine .early (h.ox.s1 hs) h.ox.done_eq (Or.inr rfl) h.ox.l1 ?_
  intro own e
  simp only [Option.some.injEq] at e
  rw [← e]; exact hrnd.ecdh

/-- **every delivery preserves the invariant**, whatever `handle_init` returns (the ghost of the object grows when it answers a ping
    or completes) -/
theorem Inv2.deliver (h : Inv2 bodyOf x y gx gy dx dy sigs seals) (env : CryptoEnv) (ok : Bytes → Bool) {w : Bytes} (rnd : Rand)
    (hI : I1 env sigs x.trusted w) :
    match handleInit env bodyOf ok x w rnd with
    | .ok st' (out, res, log) => RandOK env x rnd →
        ∃ gx', Inv2 bodyOf st' y gx' gy (doneOf res ++ dx) dy (sigs ++ newSig x st' out rnd) (seals ++ log)
    | .err st' _ => Inv2 bodyOf st' y gx gy dx dy sigs seals
    | .panic => True := by
  have he := handleInit_eff env bodyOf ok x w rnd
  generalize handleInit env bodyOf ok x w rnd = R at he
  cases he with
  | quietErr e => exact h
  | quietOk o ho =>
    intro _
    refine ⟨gx, ?_⟩
    rw [newSig_last_same _ _ _ _ rfl, List.append_nil, List.append_nil]
    exact h
  | panic => trivial
  | pingErr hh e al k st0 er hr hne hst0 hsel => exact h.pingErr hst0
  | pingOk hh e al k st0 sel hr hne hst0 hsel =>
    exact fun hrnd => h.pingOk env hI hrnd hr hne hst0 hsel rfl
  | pongSelErr hb eb ab pl k own er hr hne hstage hown hsel => exact h.pongSelErr hstage
  | pongFail hb eb ab pl k own sel st5 r hr hne hstage hown hsel hd => exact h.pongFail env hI hr hne hstage hsel hd
  | pongOk hb eb ab pl k own sel st5 p hr hne hstage hown hsel hd hok =>
    exact fun hrnd => h.pongOk env hI hrnd hr hne hstage hown hsel hd rfl
  | pengFail hb pl k st2 r hr hne hstage hd => exact h.pengFail hstage hd
  | pengOk hb pl k st2 p hr hne hstage hd hok =>
    intro _
    obtain ⟨gx', hinv⟩ := h.pengOk env hI hr hne hstage hd
    refine ⟨gx', ?_⟩
    obtain ⟨cr, _, hst2⟩ := decryptPayload_step hd
    have hl : ({ st2 with stage := Generated.CLOSING } : InitSt).last = x.last := by rw [hst2]
    rw [newSig_last_same _ _ _ _ hl, List.append_nil, List.append_nil]
    exact hinv

/-! ### from the invariant to agreement -/

theorem Inv2.logged_y (h : Inv2 bodyOf x y gx gy dx dy sigs seals) {m : InitMsg} (hl : Logged sigs m) (hh : m.hash = y.hash) :
    MsgBy y gy seals m := by
  obtain ⟨k, salt, kh, hk, hs, hkh, hm⟩ := hl
  obtain ⟨m', salt', kh', h1, h2, h3, h4, h5⟩ := h.sig k _ hk
  have := (signedRegion_inj hm h4 hs hkh h2 h3 h1).1
  subst this
  rcases h5 with ⟨h5, _⟩ | ⟨_, h6⟩
  · exfalso
    apply h.hne
    rw [← h5, hh]
  · exact h6

open VpnCloud.Proofs.C05Lockstep (Opens)

/-- what two completed ends agree on (`x` the initiator) -/
structure Agree (x y : InitSt) (dX dY : Done) : Prop where
  roleX : dX.isInit = true
  roleY : dY.isInit = false
  payX : dX.payload = y.payload
  payY : dY.payload = x.payload
  sel : dX.sel = dY.sel
  key : ∀ c, dX.sel = some c → masterKey c dX.own dX.peer = masterKey c dY.own dY.peer
  partner : ∀ c, dX.sel = some c → dX.own = dY.peer ∧ dX.peer = dY.own

theorem mem_dn_eq {g : Ghost} (hl : g.dn.length ≤ 1) {d d' : Done} (h : d ∈ g.dn) (h' : d' ∈ g.dn) : d = d' := by
  match hg : g.dn, hl, h, h' with
  | [], _, h, _ => cases h
  | [a], _, h, h' =>
    simp only [List.mem_singleton] at h h'
    rw [h, h']
  | _ :: _ :: _, hl, _, _ => simp at hl

theorem opened_payload {d : Done} {pl payload own peer : Bytes} {sel : Option Cipher} (hop : Opens bodyOf seals)
    (ho : Opened bodyOf d pl) (hp : PayloadBy seals payload sel own peer pl) (hn : d.sel = none ↔ sel = none) :
    d.payload = payload ∧ ∀ c c', d.sel = some c → sel = some c' → masterKey c' own peer = masterKey c d.own d.peer := by
  unfold Opened at ho
  unfold PayloadBy at hp
  cases hs : d.sel with
  | none =>
    rw [hs] at ho
    rw [hn.1 hs] at hp
    exact ⟨ho.trans hp, nofun⟩
  | some c =>
    cases hs' : sel with
    | none => rw [hn.2 hs'] at hs; cases hs
    | some c' =>
      rw [hs] at ho
      rw [hs'] at hp
      obtain ⟨n, hmem⟩ := hp
      obtain ⟨m, ho⟩ := ho
      -- the log explains the opened body: it was sealed under a master key, so the throw-away alternative is excluded
      rw [hop _ hmem] at ho
      rcases ho with ho | ⟨k', hk', ho⟩
      · simp only [Body.sealed.injEq] at ho
        refine ⟨ho.2.2.symm, ?_⟩
        intro a b ha hb
        cases ha; cases hb
        exact ho.1
      · simp only [Body.sealed.injEq] at ho
        exact absurd ho.1.symm (hk' _ _ _)

/-- **agreement** of two completed ends, `x` the initiator -/
theorem Inv2.agree_init (h : Inv2 bodyOf x y gx gy dx dy sigs seals) (hop : Opens bodyOf seals) {dX dY : Done}
    (hX : dX ∈ gx.dn) (hY : dY ∈ gy.dn) (hi : dX.isInit = true) : Agree x y dX dY := by
  have oX := h.ox.d dX hX
  have oY := h.oy.d dY hY
  obtain ⟨_, al, pl, hlog, hopenX⟩ := oX.ini hi
  obtain ⟨hal, _, r, hr, hpeer, hpay⟩ := h.logged_y hlog rfl
  obtain ⟨hrsel, _, _, hrd⟩ := h.oy.r r hr
  obtain ⟨hYi, hYown, hYpeer⟩ := hrd dY hY
  obtain ⟨pl2, hlog2, hopenY⟩ := oY.rsp hYi
  obtain ⟨d, hd, _, hpay2⟩ := h.swap.logged_y hlog2 rfl
  have hdd : d = dX := mem_dn_eq h.ox.len hd hX
  subst hdd
  have hselY : r.sel = dY.sel := by
    have := hrsel.symm.trans oY.sel
    simpa using this
  have hnn : d.sel = none ↔ dY.sel = none := select_none_both oX.sel oY.sel
  rw [hselY] at hpay
  obtain ⟨p1, _⟩ := opened_payload hop hopenX hpay hnn
  obtain ⟨p2, k2⟩ := opened_payload hop hopenY hpay2 hnn.symm
  cases hsx : d.sel with
  | none =>
    exact ⟨hi, hYi, p1, p2, by rw [hsx, hnn.1 hsx], (by intro c hc; rw [hsx] at hc; cases hc), (by intro c hc; rw [hsx] at hc; cases hc)⟩
  | some cX =>
    cases hsy : dY.sel with
    | none => rw [hnn.2 hsy] at hsx; cases hsx
    | some cY =>
      have hinj := VpnCloud.Proofs.C05.masterKey_inj cX cY d.own d.peer dY.own dY.peer
        ⟨oX.own.2, oX.peer.2, oY.own.2, oY.peer.2⟩ ⟨oX.own.1, oX.peer.1, oY.own.1, oY.peer.1⟩ (k2 cY cX hsy hsx)
      have hpo : d.peer = dY.own := by rw [hpeer, hYown]
      refine ⟨hi, hYi, p1, p2, by rw [hsx, hsy, hinj.1], ?_, ?_⟩
      · intro c hc
        rw [hsx] at hc
        simp only [Option.some.injEq] at hc
        subst hc
        rw [k2 cY cX hsy hsx, hinj.1]
      · intro c _
        rcases hinj.2 with ⟨e1, e2⟩ | ⟨e1, e2⟩
        · exact ⟨by rw [e1, ← hpo, e2], hpo⟩
        · exact ⟨e1, hpo⟩

def key0 (c : Core) : Option KeyRef := c.slots[0]?.map (·.key)

/-- the two objects hold the same negotiated cipher and, if it is a cipher, cores with the master key of the same pair of ephemeral keys
    (`ex` the one of `x`, `ey` the one of `y`) in slot 0 and the nonce halves given by the comparison of the salted hashes -/
def CoresAgree (x y : InitSt) : Prop :=
  x.selected = y.selected ∧
  match x.selected with
  | some c => ∃ cx cy ex ey, EcdhWF ex ∧ EcdhWF ey ∧ x.crypto = some cx ∧ y.crypto = some cy ∧
      key0 cx = some (masterKey c ex ey) ∧ key0 cy = some (masterKey c ey ex) ∧
      cx.half = bytesGt x.hash y.hash ∧ cy.half = bytesGt y.hash x.hash
  | none => x.crypto = none ∧ y.crypto = none

theorem CoresAgree.symm {x y : InitSt} (h : CoresAgree x y) : CoresAgree y x := by
  obtain ⟨h1, h2⟩ := h
  refine ⟨h1.symm, ?_⟩
  rw [← h1]
  cases hs : x.selected with
  | none => rw [hs] at h2; exact ⟨h2.2, h2.1⟩
  | some c =>
    rw [hs] at h2
    obtain ⟨cx, cy, ex, ey, h3, h4, h5, h6, h7, h8, h9, h10⟩ := h2
    exact ⟨cy, cx, ey, ex, h4, h3, h6, h5, h8, h7, h10, h9⟩

theorem Inv2.cores (h : Inv2 bodyOf x y gx gy dx dy sigs seals) {dX dY : Done} (hX : dX ∈ gx.dn) (hY : dY ∈ gy.dn)
    (ha : Agree x y dX dY) : CoresAgree x y := by
  have oX := h.ox.d dX hX
  have oY := h.oy.d dY hY
  refine ⟨by rw [oX.selected, oY.selected, ha.sel], ?_⟩
  rw [oX.selected]
  cases hs : dX.sel with
  | none =>
    simp only
    have hsy : dY.sel = none := by rw [← ha.sel, hs]
    exact ⟨h.ox.plain (hs ▸ oX.sel), h.oy.plain (hsy ▸ oY.sel)⟩
  | some c =>
    simp only
    have hsy : dY.sel = some c := by rw [← ha.sel, hs]
    obtain ⟨cx, hcx, kx⟩ := oX.core c hs
    obtain ⟨cy, hcy, ky⟩ := oY.core c hsy
    obtain ⟨p1, p2⟩ := ha.partner c hs
    refine ⟨cx, cy, dX.own, dY.own, oX.own, oY.own, hcx, hcy, ?_, ?_, kx.1.2, ky.1.2⟩
    · rw [← p2]; exact kx.1.1
    · rw [p1]; exact ky.1.1

/-- of two completed ends one is the initiator, and they agree -/
theorem Inv2.agree (h : Inv2 bodyOf x y gx gy dx dy sigs seals) (hop : Opens bodyOf seals) {dX dY : Done}
    (hX : dX ∈ gx.dn) (hY : dY ∈ gy.dn) : Agree x y dX dY ∨ Agree y x dY dX := by
  cases hi : dX.isInit with
  | true => exact Or.inl (h.agree_init hop hX hY hi)
  | false =>
    obtain ⟨pl, hlog, _⟩ := (h.ox.d dX hX).rsp hi
    obtain ⟨d, hd, hdi, _⟩ := h.logged_y hlog rfl
    have : d = dY := mem_dn_eq h.oy.len hd hY
    subst this
    exact Or.inr (h.swap.agree_init hop hY hX hdi)

theorem mem_done {g : Ghost} {done : List (Bytes × Bool)} (he : done = g.dn.map (fun d => (d.payload, d.isInit))) {p : Bytes} {i : Bool}
    (h : (p, i) ∈ done) : ∃ d ∈ g.dn, d.payload = p ∧ d.isInit = i := by
  rw [he] at h
  obtain ⟨d, hd, hp⟩ := List.mem_map.1 h
  simp only [Prod.mk.injEq] at hp
  exact ⟨d, hd, hp.1, hp.2⟩

end

end VpnCloud.Proofs.C05AgreeLemmas
