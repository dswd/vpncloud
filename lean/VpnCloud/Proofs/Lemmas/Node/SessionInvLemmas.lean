import VpnCloud.Proofs.Lemmas.Handshake.InitLemmas
import VpnCloud.Proofs.Lemmas.Node.SessionOps
/-
  What the session layer (`Init.handleInit`, `PeerCrypto.handleMessage`, `PeerCrypto.everySecond`) does to predicates on one session
  object, on the stages of `handleInitMessage`, `handleMessage` and `everySecond` (`SessionStages.lean`) and the elementary updates as
  core traces (`SessionOps.lean`): the well-formedness of C08 (`InitWF` / `PendOK` / `PeerOK`) and of C12 (`FreshPC`); the vocabulary
  for every such predicate — `OnInit` (it reads the handshake object), `SessClosed` (kept outside the handshake), `Leaves` and `Hands`
  (what an outcome leaves), `KeepsInit` (the outcome for a datagram that is not handed to `handle_init_message`, `handleMessage_split`),
  and the lifts from `handle_init` to `handle_message` (`handleMessage_lift`, `handleMessage_hands`).
  Then what `send_message` and `handle_message` do for an established session (unencrypted or with a core) on a message that is not part of
  a handshake, when `every_second` fails, and the round trip of one message between two sessions (`enc_deliver`,
  `C10MoreLemmas.session_roundtrip`).
-/
namespace VpnCloud.Proofs.NodeInvLemmas


/-- hypothesis on the ideal AEAD: a genuine seal contains at least the type byte -/
def NonEmptySeals (bodyOf : Init.BodyOf) : Prop := ∀ ct k n p, bodyOf ct = .sealed k n p → p ≠ []

/-- the body of a rotation message carries X25519 public keys: if it parses, the proposed key and (if present) the confirmed key
    have exactly 32 bytes -/
def RotKeysOK (data : Bytes) : Prop :=
  ∀ bm, Codec.readRotMsg data = some bm → bm.propose.length = 32 ∧ ∀ c, bm.confirm = some c → c.length = 32

/-- hypothesis on the ideal AEAD: every plaintext that opens as a genuine seal of a ROTATION message carries keys of 32 bytes
    (what `create_key` produces; a key holder that does not run this code can seal anything) -/
def ValidRotKeys (bodyOf : Init.BodyOf) : Prop :=
  ∀ ct k n body, bodyOf ct = .sealed k n (Generated.MESSAGE_TYPE_ROTATION :: body) → RotKeysOK body

def LogNE (log : Init.SealLog) : Prop := ∀ ct b, (ct, b) ∈ log → ∀ k n p, b = .sealed k n p → p ≠ []

def IsInitRes (res : MsgResult) : Prop := ∃ p, res = .initialized p ∨ res = .initializedWithReply p

theorem plainRes_not_init {res : MsgResult} (h : SessionInvLemmas.PlainRes res) : ¬ IsInitRes res := by
  rintro ⟨p, hp⟩
  rcases h with rfl | ⟨ty, body, rfl⟩ <;> rcases hp with hp | hp <;> cases hp

theorem rotatePanics_no_rot (pc : PeerCrypto) (data : Bytes) (h : pc.rot = none) : PeerCrypto.rotatePanics pc data = false := by
  unfold PeerCrypto.rotatePanics
  rw [h]
  split <;> rfl

end VpnCloud.Proofs.NodeInvLemmas

namespace VpnCloud.Proofs.C09MoreLemmas

/-- the datagram as the core sees it -/
def dgramOf (bodyOf : Init.BodyOf) (d : Bytes) : Dgram := { hdr := d.take 8, body := bodyOf (d.drop 8) }

end VpnCloud.Proofs.C09MoreLemmas

namespace VpnCloud.Proofs.SessionInvLemmas

open VpnCloud.Proofs.NodeInvLemmas
open VpnCloud.Proofs.InitLemmas
open VpnCloud.Proofs.SessionOps
open VpnCloud.Proofs.C09MoreLemmas (dgramOf)

/-- a handshake object that awaits a pong holds its ephemeral key -/
def InitWF (st : InitSt) : Prop := st.stage = Generated.STAGE_PONG → st.ecdh.isSome = true

/-- what `handle_init` leaves, by outcome: `Φ` of the handshake object after an error or in a continued handshake, `Ψ` of it after
    a success (a panic leaves nothing) -/
def InitLeaves (Φ Ψ : InitSt → Prop) : Res → Prop
  | .panic => True
  | .err st' _ => Φ st'
  | .ok st' (_, .continue, _) => Φ st'
  | .ok st' (_, .success _ _, _) => Ψ st'

/-- the same where an error may be fatal (the caller drops the session): then nothing is left -/
def InitHands (Φ Ψ : InitSt → Prop) : Res → Prop
  | .panic => True
  | .err st' e => e = .cryptoInitFatal ∨ Φ st'
  | .ok st' (_, .continue, _) => Φ st'
  | .ok st' (_, .success _ _, _) => Ψ st'

/-- `handle_init` on a well-formed handshake object: no panic; the object stays well-formed unless the error is fatal, and after a
    success it does not await a pong; an object that does not await a pong never comes to await one -/
theorem handleInit_good (env : CryptoEnv) (bodyOf : Init.BodyOf) (ok : Bytes → Bool) (st : InitSt) (w : Bytes) (rnd : Rand)
    (hwf : InitWF st) :
    Init.handleInit env bodyOf ok st w rnd ≠ .panic ∧
    InitHands InitWF (fun i => i.stage ≠ Generated.STAGE_PONG) (Init.handleInit env bodyOf ok st w rnd) ∧
    (st.stage ≠ Generated.STAGE_PONG →
      InitLeaves (fun i => i.stage ≠ Generated.STAGE_PONG) (fun i => i.stage ≠ Generated.STAGE_PONG) (Init.handleInit env bodyOf ok st w rnd)) := by
  have he := handleInit_eff env bodyOf ok st w rnd
  generalize Init.handleInit env bodyOf ok st w rnd = R at he
  have peng : Generated.STAGE_PENG ≠ Generated.STAGE_PONG := by decide
  cases he with
  | quietErr => exact ⟨nofun, Or.inr hwf, id⟩
  | quietOk => exact ⟨nofun, hwf, id⟩
  | panic hstage hown =>
    -- a pong for an object that awaits one finds the ephemeral key
    have := hwf hstage
    rw [hown] at this
    cases this
  | pingErr _ _ _ _ _ _ _ _ hst0 =>
    rcases hst0 with ⟨rfl, _⟩ | ⟨rfl, _⟩
    · exact ⟨nofun, Or.inr hwf, id⟩
    · have ping : Generated.STAGE_PING ≠ Generated.STAGE_PONG := by decide
      exact ⟨nofun, Or.inr (fun hp => absurd hp ping), fun _ => ping⟩
  | pingOk => exact ⟨nofun, fun hp => absurd hp peng, fun _ => peng⟩
  | pongSelErr _ _ _ _ _ _ _ _ _ hstage _ he => exact ⟨nofun, Or.inl (selectAlgorithm_err _ _ _ he), fun h => absurd hstage h⟩
  | pongFail _ _ _ _ _ _ _ _ _ _ _ hstage => exact ⟨nofun, Or.inl rfl, fun h => absurd hstage h⟩
  | pongOk =>
    have wait : Generated.WAITING_TO_CLOSE ≠ Generated.STAGE_PONG := by decide
    exact ⟨nofun, wait, fun _ => wait⟩
  | pengFail _ _ _ _ _ _ _ hstage hd =>
    exact ⟨nofun, Or.inl rfl, fun _ => show _ ≠ _ by rw [decryptPayload_stage { st with retries := 0 } _ _ _ _ hd, hstage]; exact peng⟩
  | pengOk =>
    have closing : Generated.CLOSING ≠ Generated.STAGE_PONG := by decide
    exact ⟨nofun, closing, fun _ => closing⟩

theorem handleInit_success_ok (env : CryptoEnv) (bodyOf : Init.BodyOf) (ok : Bytes → Bool) (st st' : InitSt) (w : Bytes) (rnd : Rand)
    (out p : Bytes) (ini : Bool) (log : Init.SealLog)
    (h : Init.handleInit env bodyOf ok st w rnd = .ok st' (out, .success p ini, log)) : ok p = true :=
  (handleInit_success_cases env bodyOf ok st st' w rnd out p ini log h).1

/-- session of a pending handshake as C12 needs it: it cannot open or pass on payload messages -/
def FreshPC (pc : PeerCrypto) : Prop := pc.unencrypted = false ∧ pc.core = none

def OnInit (Φ : InitSt → Prop) (pc : PeerCrypto) : Prop := ∀ i, pc.init = some i → Φ i

theorem OnInit.of_init {Φ : InitSt → Prop} {pc pc' : PeerCrypto} (h : OnInit Φ pc) (hi : pc'.init = pc.init) : OnInit Φ pc' := by
  intro i h'; rw [hi] at h'; exact h i h'

theorem OnInit.set {Φ : InitSt → Prop} (pc : PeerCrypto) {ist : InitSt} (h : Φ ist) : OnInit Φ { pc with init := some ist } := by
  intro i hi
  simp only [Option.some.injEq] at hi
  subst hi
  exact h

/-- session well-formedness for a pending handshake: a handshake object that awaits a pong holds its ephemeral key -/
abbrev PendOK : PeerCrypto → Prop := OnInit InitWF

/-- session well-formedness for an established peer: its handshake object (if it still has one) does not await a pong -/
abbrev PeerOK : PeerCrypto → Prop := OnInit (fun i => i.stage ≠ Generated.STAGE_PONG)

theorem PeerOK.pendOK {pc : PeerCrypto} (h : PeerOK pc) : PendOK pc := fun i hi hp => absurd hp (h i hi)

theorem sealMsg_init (pc : PeerCrypto) (plain ct : Bytes) : (PeerCrypto.sealMsg pc plain ct).1.init = pc.init := by
  rw [sealMsg_fst]
  rfl

theorem sealMsg_err (pc : PeerCrypto) (plain ct : Bytes) (e : InitErr) (h : (PeerCrypto.sealMsg pc plain ct).2 = .error e) :
    FreshPC pc := by
  cases hu : pc.unencrypted with
  | true => rw [sealMsg_eq, hu] at h; cases h
  | false =>
    cases hc : pc.core with
    | none => exact ⟨hu, hc⟩
    | some c => rw [sealMsg_enc hu hc] at h; cases h

theorem derivePanics_false (sd : Rot.Side) (bm : Codec.RotMsg) (h1 : bm.propose.length = 32) (h2 : ∀ c, bm.confirm = some c → c.length = 32) :
    PeerCrypto.derivePanics sd bm = false := by
  unfold PeerCrypto.derivePanics PeerCrypto.ROT_KEY_LEN
  split
  · rfl
  · split
    · rename_i h; exact absurd h1 h
    · split
      · rename_i c _ hc _
        simp only [decide_eq_false_iff_not, Decidable.not_not]
        exact h2 c hc
      · rfl

theorem rotatePanics_of_keysOK (pc : PeerCrypto) (data : Bytes) (h : RotKeysOK data) : PeerCrypto.rotatePanics pc data = false := by
  unfold PeerCrypto.rotatePanics
  split
  · rfl
  · split
    · rfl
    · split
      · rfl
      · rename_i bm hbm
        exact derivePanics_false _ bm (h bm hbm).1 (h bm hbm).2

theorem rotatePanics_unencrypted (pc : PeerCrypto) (data : Bytes) (h : pc.unencrypted = true) : PeerCrypto.rotatePanics pc data = false := by
  unfold PeerCrypto.rotatePanics
  rw [if_pos h]

/-- the outcomes of `handleInitMessage`, each with what is known (`Q`) about the result of `handle_init` on the handshake object; a
    completed handshake always ends in an `.ok`, which the leaf `success` has opened -/
theorem handleInitMessage_cases {Q : InitSt → Res → Prop} {M : POutcome MsgResult → Prop}
    (env : CryptoEnv) (bodyOf : Init.BodyOf) (ok : Bytes → Bool) (pc : PeerCrypto) (w : Bytes) (rnd : Rand) (rr : RotRand)
    (hQ : ∀ ist, pc.init = some ist → Q ist (Init.handleInit env bodyOf ok ist w rnd))
    (noInit : pc.init = none → M (.err pc .state))
    (panic : ∀ {ist}, pc.init = some ist → Q ist .panic → M .panic)
    (err : ∀ {ist ist' e}, pc.init = some ist → Q ist (.err ist' e) → M (.err { pc with init := some ist' } e))
    (cont : ∀ {ist ist' out ilog}, pc.init = some ist → Q ist (.ok ist' (out, .continue, ilog)) →
      M (.ok { pc with init := some ist' } (if out.isEmpty then [] else Generated.INIT_MESSAGE_FIRST_BYTE :: out) .reply ilog))
    (success : ∀ {ist ist' out p ini ilog pc' o res log}, pc.init = some ist → Q ist (.ok ist' (out, .success p ini, ilog)) →
      successOut (successPc pc ist') ist'.crypto ini (if out.isEmpty then [] else Generated.INIT_MESSAGE_FIRST_BYTE :: out) p ilog rr =
        .ok pc' o res log →
      pc'.init = (successPc pc ist').init → (res = .initialized p ∨ res = .initializedWithReply p) → M (.ok pc' o res log)) :
    M (PeerCrypto.handleInitMessage env bodyOf ok pc w rnd rr) := by
  rw [handleInitMessage_eq]
  split
  · rename_i hi
    exact noInit hi
  · rename_i ist hi
    have hg := hQ ist hi
    generalize Init.handleInit env bodyOf ok ist w rnd = r at hg
    cases r with
    | panic => exact panic hi hg
    | err ist' e => exact err hi hg
    | ok ist' x =>
      obtain ⟨out, res, ilog⟩ := x
      cases res with
      | «continue» => exact cont hi hg
      | success p ini =>
        have hi' := sealMsg_init { successPc pc ist' with rot := some (PeerCrypto.initSide true rr.freshProp) }
          (Generated.MESSAGE_TYPE_ROTATION :: Codec.writeRotMsg (PeerCrypto.rotMsgToBytes ⟨1, rr.freshProp, none⟩)) rr.ct
        -- the session is `successPc`, whose core is the one the handshake made: sealing the first rotation message cannot fail
        exact successOut_cases _ _ _ _ _ _ _
          (M := fun r => successOut (successPc pc ist') ist'.crypto ini (if out.isEmpty then [] else Generated.INIT_MESSAGE_FIRST_BYTE :: out) p ilog rr = r → M r)
          (fun _ _ hr hs => success hi hg hs rfl hr) (fun hs => success hi hg hs rfl (Or.inr rfl))
          (fun pc2 _ _ hseal hs => success hi hg hs (by rw [hseal] at hi'; exact hi') (Or.inr rfl))
          (fun pc2 e hc hseal _ => absurd (sealMsg_err _ _ _ _ (congrArg Prod.snd hseal)).2 hc) rfl

theorem successPc_onInit {Φ : InitSt → Prop} (pc : PeerCrypto) (ist' : InitSt) (h : Φ { ist' with crypto := none }) : OnInit Φ (successPc pc ist') := by
  intro i hi
  unfold successPc at hi
  simp only at hi
  split at hi
  · cases hi
  · simp only [Option.some.injEq] at hi; subst hi; exact h

/-- what a session without core returns: never a message.  It stays without core, or the handshake completed with a payload `ok` accepts -/
def FreshOut (ok : Bytes → Bool) : POutcome MsgResult → Prop
  | .panic => True
  | .err pc' _ => FreshPC pc'
  | .ok pc' _ res _ => (res = .reply ∧ FreshPC pc') ∨ ∃ p, (res = .initialized p ∨ res = .initializedWithReply p) ∧ ok p = true

theorem handleInitMessage_fresh (env : CryptoEnv) (bodyOf : Init.BodyOf) (ok : Bytes → Bool) (pc : PeerCrypto) (w : Bytes) (rnd : Rand) (rr : RotRand)
    (hf : FreshPC pc) : FreshOut ok (PeerCrypto.handleInitMessage env bodyOf ok pc w rnd rr) :=
  handleInitMessage_cases (M := FreshOut ok) (Q := fun ist r => Init.handleInit env bodyOf ok ist w rnd = r) env bodyOf ok pc w rnd rr
    (fun _ _ => rfl) (noInit := fun _ => hf) (panic := fun _ _ => trivial) (err := fun _ _ => hf) (cont := fun _ _ => Or.inl ⟨rfl, hf⟩)
    (success := fun _ hg _ _ hr => Or.inr ⟨_, hr, handleInit_success_ok env bodyOf ok _ _ w rnd _ _ _ _ hg⟩)

/-- every leaf of `handle_message`; a handshake datagram is handed to `handleInitMessage` unopened (`handleInitMessage_cases`) -/
theorem handleMessage_cases {M : POutcome MsgResult → Prop} (env : CryptoEnv) (bodyOf : Init.BodyOf) (ok : Bytes → Bool) (pc : PeerCrypto)
    (datagram tail : Bytes) (rnd : Rand) (rr : RotRand)
    (same : ∀ e, datagram = [] ∧ e = .state ∨ datagram = [Generated.INIT_MESSAGE_FIRST_BYTE] ∧ e = .parse → M (.err pc e))
    (init : ∀ w, datagram = Generated.INIT_MESSAGE_FIRST_BYTE :: w → M (PeerCrypto.handleInitMessage env bodyOf ok pc w rnd rr))
    (panic : ∀ pc1 plain, decMsg bodyOf pc datagram = (pc1, .ok plain) →
      (plain = [] ∨ ∃ body, plain = Generated.MESSAGE_TYPE_ROTATION :: body ∧
        PeerCrypto.rotatePanics pc1 (body ++ (if pc1.unencrypted then tail else [])) = true) → M .panic)
    (decErr : ∀ pc1 e, decMsg bodyOf pc datagram = (pc1, .error e) → M (.err pc1 e))
    (rotOk : ∀ pc1 body pc2, decMsg bodyOf pc datagram = (pc1, .ok (Generated.MESSAGE_TYPE_ROTATION :: body)) →
      PeerCrypto.handleRotate pc1 (body ++ (if pc1.unencrypted then tail else [])) rr = (pc2, .ok ()) → M (.ok pc2 [] .none []))
    (rotErr : ∀ pc1 body pc2 e, decMsg bodyOf pc datagram = (pc1, .ok (Generated.MESSAGE_TYPE_ROTATION :: body)) →
      PeerCrypto.handleRotate pc1 (body ++ (if pc1.unencrypted then tail else [])) rr = (pc2, .error e) → M (.err pc2 e))
    (msg : ∀ pc1 ty body, decMsg bodyOf pc datagram = (pc1, .ok (ty :: body)) → ty ≠ Generated.MESSAGE_TYPE_ROTATION →
      M (.ok pc1 [] (.message ty body) [])) :
    M (PeerCrypto.handleMessage env bodyOf ok pc datagram tail rnd rr) := by
  rw [handleMessage_eq]
  cases datagram with
  | nil => exact same _ (Or.inl ⟨rfl, rfl⟩)
  | cons b0 rest =>
    simp only []
    by_cases hb : b0 = Generated.INIT_MESSAGE_FIRST_BYTE
    · rw [if_pos hb]
      exact iteInduction (fun he => same _ (Or.inr ⟨by rw [hb, List.isEmpty_iff.1 he], rfl⟩)) (fun _ => init rest (by rw [hb]))
    · rw [if_neg hb]
      rcases hd : decMsg bodyOf pc (b0 :: rest) with ⟨pc1, r⟩
      cases r with
      | error e => exact decErr pc1 e hd
      | ok plain =>
        cases plain with
        | nil => exact panic pc1 _ hd (Or.inl rfl)
        | cons ty body =>
          simp only []
          by_cases hty : ty = Generated.MESSAGE_TYPE_ROTATION
          · rw [if_pos hty]
            subst hty
            refine iteInduction (fun hpan => panic pc1 _ hd (Or.inr ⟨body, rfl, hpan⟩)) (fun _ => ?_)
            rcases hr : PeerCrypto.handleRotate pc1 (body ++ (if pc1.unencrypted then tail else [])) rr with ⟨pc2, r2⟩
            cases r2 with
            | error e => exact rotErr pc1 body pc2 e hd hr
            | ok u => exact rotOk pc1 body pc2 hd hr
          · rw [if_neg hty]
            exact msg pc1 ty body hd hty

theorem decMsg_init (bodyOf : Init.BodyOf) (pc : PeerCrypto) (d : Bytes) : (decMsg bodyOf pc d).1.init = pc.init := by
  rw [decMsg_fst]
  rfl

theorem decMsg_fresh (bodyOf : Init.BodyOf) (pc : PeerCrypto) (d : Bytes) (hf : FreshPC pc) : decMsg bodyOf pc d = (pc, .error .state) := by
  rw [decMsg_eq, onCore_of_none hf.2, hf.1, hf.2]
  rfl

/-- `X` is kept by the elementary session updates outside the handshake: decrypting, sealing, installing a rotated key, and any
    change of the rotation state -/
structure SessClosed (X : PeerCrypto → Prop) : Prop where
  dec : ∀ bodyOf pc d, X pc → X (decMsg bodyOf pc d).1
  sealm : ∀ pc plain ct, X pc → X (PeerCrypto.sealMsg pc plain ct).1
  install : ∀ pc key id use starts, X pc → X (PeerCrypto.installKey pc key id use starts)
  rot : ∀ pc sd n, X pc → X { pc with rot := sd, rotateCounter := n }

theorem sessClosed_of_onCore {X : PeerCrypto → Prop} (hcore : ∀ pc ops, X pc → X (onCore pc ops))
    (hrot : ∀ pc sd n, X pc → X { pc with rot := sd, rotateCounter := n }) : SessClosed X :=
  ⟨fun b pc d h => by rw [decMsg_fst]; exact hcore _ _ h, fun pc p ct h => by rw [sealMsg_fst]; exact hcore _ _ h,
   fun pc k i u s h => by rw [installKey_eq]; exact hcore _ _ h, hrot⟩

theorem SessClosed.of_init {X : PeerCrypto → Prop} (h : ∀ pc pc', pc'.init = pc.init → X pc → X pc') : SessClosed X :=
  sessClosed_of_onCore (fun _ _ => h _ _ rfl) (fun _ _ _ => h _ _ rfl)

theorem freshPC_closed : SessClosed FreshPC :=
  sessClosed_of_onCore (fun pc ops h => by rw [onCore_of_none h.2]; exact h) (fun _ _ _ h => h)

theorem handleRotate_keeps {X : PeerCrypto → Prop} (hc : SessClosed X) (pc : PeerCrypto) (data : Bytes) (rr : RotRand) (h : X pc) :
    X (PeerCrypto.handleRotate pc data rr).1 := by
  unfold PeerCrypto.handleRotate
  split
  · exact h
  · split
    · exact h
    · split
      · exact h
      · simp only []
        split
        · split
          · exact hc.rot pc _ _ h
          · exact hc.install _ _ _ _ _ (hc.rot pc _ _ h)
        · exact hc.rot pc _ _ h

theorem handleRotate_init (pc : PeerCrypto) (data : Bytes) (rr : RotRand) : (PeerCrypto.handleRotate pc data rr).1.init = pc.init :=
  handleRotate_keeps (X := fun p => p.init = pc.init) (.of_init fun _ _ hi h => hi.trans h) pc data rr rfl

theorem handleRotate_err (pc pc2 : PeerCrypto) (data : Bytes) (rr : RotRand) (e : InitErr)
    (h : PeerCrypto.handleRotate pc data rr = (pc2, .error e)) :
    (e = .state ∨ e = .crypto) ∧ pc.unencrypted = false ∧ (pc2 = pc ∨ pc.core = none) := by
  unfold PeerCrypto.handleRotate at h
  split at h
  · cases h
  · rename_i hu
    have hu' : pc.unencrypted = false := by simpa using hu
    split at h
    · cases h; exact ⟨Or.inl rfl, hu', Or.inl rfl⟩
    · split at h
      · cases h; exact ⟨Or.inr rfl, hu', Or.inl rfl⟩
      · simp only [] at h
        split at h
        · split at h
          · rename_i hc
            cases h
            exact ⟨Or.inl rfl, hu', Or.inr hc⟩
          · cases h
        · cases h

theorem decMsg_cases (bodyOf : Init.BodyOf) (pc : PeerCrypto) (d : Bytes) :
    (pc.unencrypted = true ∧ decMsg bodyOf pc d = (pc, .ok d)) ∨
    (pc.unencrypted = false ∧ pc.core = none ∧ decMsg bodyOf pc d = (pc, .error .state)) ∨
    (∃ c, pc.unencrypted = false ∧ pc.core = some c ∧
      ((∃ e, (c.decrypt (dgramOf bodyOf d)).2 = .error e ∧ decMsg bodyOf pc d = (pc, .error .crypto)) ∨
       (∃ plain, (c.decrypt (dgramOf bodyOf d)).2 = .ok plain ∧
          decMsg bodyOf pc d = ({ pc with core := some (c.decrypt (dgramOf bodyOf d)).1 }, .ok plain)))) := by
  unfold decMsg
  cases hu : pc.unencrypted with
  | true => exact Or.inl ⟨rfl, by simp⟩
  | false =>
    right
    cases hc : pc.core with
    | none => exact Or.inl ⟨rfl, rfl, by simp⟩
    | some c =>
      right
      refine ⟨c, rfl, rfl, ?_⟩
      simp only [Bool.false_eq_true, if_false]
      cases hr : (c.decrypt (dgramOf bodyOf d)).2 with
      | error e =>
        left
        refine ⟨e, rfl, ?_⟩
        have hst := VpnCloud.Proofs.C02.reject_no_state c _ e hr
        unfold dgramOf at hr hst
        simp only [hr, hst]
        congr 1
        cases pc
        simp_all
      | ok plain =>
        right
        refine ⟨plain, rfl, ?_⟩
        unfold dgramOf at hr ⊢
        simp only [hr]

/-- what `decrypt_message` hands over: the datagram itself (unencrypted mode), or what the core opened -/
theorem decMsg_ok {bodyOf : Init.BodyOf} {pc pc1 : PeerCrypto} {d plain : Bytes} (h : decMsg bodyOf pc d = (pc1, .ok plain)) :
    (pc.unencrypted = true ∧ pc1 = pc ∧ plain = d) ∨
    ∃ c, pc.unencrypted = false ∧ pc.core = some c ∧ (c.decrypt (dgramOf bodyOf d)).2 = .ok plain ∧
      pc1 = { pc with core := some (c.decrypt (dgramOf bodyOf d)).1 } := by
  rcases decMsg_cases bodyOf pc d with ⟨hu, hd⟩ | ⟨_, _, hd⟩ | ⟨c, hu, hc, ⟨e, _, hd⟩ | ⟨p, hp, hd⟩⟩ <;> rw [hd] at h <;> cases h
  · exact Or.inl ⟨hu, rfl, rfl⟩
  · exact Or.inr ⟨c, hu, hc, hp, rfl⟩

/-- a datagram that `decrypt_message` refuses leaves the session as it is -/
theorem decMsg_err {bodyOf : Init.BodyOf} {pc pc1 : PeerCrypto} {d : Bytes} {e : InitErr} (h : decMsg bodyOf pc d = (pc1, .error e)) :
    pc1 = pc ∧ (e = .state ∨ e = .crypto) := by
  rcases decMsg_cases bodyOf pc d with ⟨_, hd⟩ | ⟨_, _, hd⟩ | ⟨c, _, _, ⟨e', _, hd⟩ | ⟨p, _, hd⟩⟩ <;> rw [hd] at h <;> cases h
  · exact ⟨rfl, Or.inl rfl⟩
  · exact ⟨rfl, Or.inr rfl⟩

theorem handleMessage_fresh (env : CryptoEnv) (bodyOf : Init.BodyOf) (ok : Bytes → Bool) (pc : PeerCrypto) (datagram tail : Bytes) (rnd : Rand) (rr : RotRand)
    (hf : FreshPC pc) : FreshOut ok (PeerCrypto.handleMessage env bodyOf ok pc datagram tail rnd rr) := by
  -- a session without core does not get past `decrypt_message`
  have hd : ∀ pc1 r, decMsg bodyOf pc datagram = (pc1, r) → pc1 = pc ∧ r = .error .state := fun pc1 r h => by
    rw [decMsg_fresh bodyOf pc _ hf] at h
    exact ⟨(Prod.mk.inj h).1.symm, (Prod.mk.inj h).2.symm⟩
  apply handleMessage_cases (M := FreshOut ok)
  · exact fun _ _ => hf
  · exact fun w _ => handleInitMessage_fresh env bodyOf ok pc w rnd rr hf
  · exact fun _ _ _ _ => trivial
  · exact fun pc1 e h => (hd pc1 _ h).1 ▸ hf
  · exact fun pc1 _ _ h => nomatch (hd pc1 _ h).2
  · exact fun pc1 _ _ _ h => nomatch (hd pc1 _ h).2
  · exact fun pc1 _ _ h => nomatch (hd pc1 _ h).2

theorem sealMsg_fresh (pc : PeerCrypto) (plain ct : Bytes) (hf : FreshPC pc) : PeerCrypto.sealMsg pc plain ct = (pc, .error .state) := by
  unfold PeerCrypto.sealMsg
  rw [hf.1, hf.2]
  rfl

theorem tick1_init (pc : PeerCrypto) : (tick1 pc).1.init = pc.init.map (fun i => (Init.everySecond i).1) := by
  rw [tick1_eq]

theorem tick1_fresh (pc : PeerCrypto) (hf : FreshPC pc) : FreshPC (tick1 pc).1 := by
  rw [tick1_eq]
  exact ⟨hf.1, congrArg (Option.map Core.everySecond) hf.2⟩

/-- the handshake object of a session after `every_second` -/
def tickInit (pc : PeerCrypto) : Option InitSt :=
  match pc.init with
  | some ist => if (Init.everySecond ist).1.stage = Generated.CLOSING then none else some (Init.everySecond ist).1
  | none => none

theorem tick2_init (pc : PeerCrypto) : (tick2 (tick1 pc).1).init = tickInit pc := by
  unfold tick2 tickInit
  simp only [tick1_init]
  cases pc.init <;> rfl

theorem tickInit_some {pc : PeerCrypto} {i : InitSt} (h : tickInit pc = some i) :
    ∃ ist, pc.init = some ist ∧ i = (Init.everySecond ist).1 := by
  unfold tickInit at h
  split at h
  · rename_i ist hist
    split at h
    · cases h
    · exact ⟨ist, hist, (Option.some.inj h).symm⟩
  · cases h

theorem tickInit_onInit {Φ : InitSt → Prop} (hΦ : ∀ i, Φ i → Φ (Init.everySecond i).1) {pc : PeerCrypto} (h : OnInit Φ pc) :
    ∀ i, tickInit pc = some i → Φ i := by
  intro i hi
  obtain ⟨ist, hist, rfl⟩ := tickInit_some hi
  exact hΦ ist (h ist hist)

def Leaves (X : PeerCrypto → Prop) : POutcome MsgResult → Prop
  | .panic => True
  | .err pc' _ => X pc'
  | .ok pc' _ _ _ => X pc'

theorem Leaves.of_forall {X : PeerCrypto → Prop} (h : ∀ pc, X pc) : ∀ r, Leaves X r
  | .panic => trivial
  | .err pc _ => h pc
  | .ok pc _ _ _ => h pc

theorem Leaves.imp {X Y : PeerCrypto → Prop} (h : ∀ pc, X pc → Y pc) : ∀ {r}, Leaves X r → Leaves Y r
  | .panic, _ => trivial
  | .err pc _, a => h pc a
  | .ok pc _ _ _, a => h pc a

theorem Leaves.and {X Y : PeerCrypto → Prop} : ∀ {r}, Leaves X r → Leaves Y r → Leaves (fun pc => X pc ∧ Y pc) r
  | .panic, _, _ => trivial
  | .err .., a, b => ⟨a, b⟩
  | .ok .., a, b => ⟨a, b⟩

/-- what `handle_message` does with a datagram it does not hand to `handle_init_message`, by outcome.  A panic: the core opened the
    datagram, and what it carries is empty or a rotation message that reaches a panicking `derive_key`.  An error: never the fatal one,
    and the session is unchanged — unless the core ACCEPTED the datagram (so it is a genuine seal under a current key,
    `C02.accepted_is_genuine`) and what it carries is a rotation message the session cannot use; then only the core differs (its replay
    window has seen the nonce).  Otherwise: no handshake result, nothing sealed, and the handshake object is not touched. -/
def KeepsInit (bodyOf : Init.BodyOf) (pc : PeerCrypto) (data : Bytes) : POutcome MsgResult → Prop
  | .panic => pc.unencrypted = false ∧ ∃ core plain, pc.core = some core ∧ (core.decrypt (dgramOf bodyOf data)).2 = .ok plain ∧
      (plain = [] ∨ ∃ body, plain = Generated.MESSAGE_TYPE_ROTATION :: body ∧
        PeerCrypto.rotatePanics { pc with core := some (core.decrypt (dgramOf bodyOf data)).1 } body = true)
  | .err pc' e => (e = .state ∨ e = .crypto ∨ data = [Generated.INIT_MESSAGE_FIRST_BYTE] ∧ e = .parse) ∧
      (pc' = pc ∨ ∃ core body, pc.unencrypted = false ∧ pc.core = some core ∧
        (core.decrypt (dgramOf bodyOf data)).2 = .ok (Generated.MESSAGE_TYPE_ROTATION :: body) ∧
        pc' = { pc with core := some (core.decrypt (dgramOf bodyOf data)).1 })
  | .ok pc' _ res log => pc'.init = pc.init ∧ PlainRes res ∧ log = []

theorem KeepsInit.init {bodyOf : Init.BodyOf} {pc : PeerCrypto} {data : Bytes} :
    ∀ {r}, KeepsInit bodyOf pc data r → Leaves (fun pc' => pc'.init = pc.init) r
  | .panic, _ => trivial
  | .err _ _, ⟨_, Or.inl h⟩ => h ▸ rfl
  | .err _ _, ⟨_, Or.inr ⟨_, _, _, _, _, h⟩⟩ => h ▸ rfl
  | .ok .., h => h.1

theorem handleMessage_split (env : CryptoEnv) (bodyOf : Init.BodyOf) (ok : Bytes → Bool) (pc : PeerCrypto) (data tail : Bytes) (rnd : Rand) (rr : RotRand) :
    (∃ rest, data = Generated.INIT_MESSAGE_FIRST_BYTE :: rest ∧
      PeerCrypto.handleMessage env bodyOf ok pc data tail rnd rr = PeerCrypto.handleInitMessage env bodyOf ok pc rest rnd rr) ∨
    KeepsInit bodyOf pc data (PeerCrypto.handleMessage env bodyOf ok pc data tail rnd rr) := by
  by_cases hne : data = []
  · subst hne
    exact Or.inr ⟨Or.inl rfl, Or.inl rfl⟩
  have hi : ∀ pc1 r, decMsg bodyOf pc data = (pc1, r) → pc1.init = pc.init := fun pc1 r hd => by
    have := decMsg_init bodyOf pc data
    rw [hd] at this
    exact this
  have hrot : ∀ pc1 d pc2 r, PeerCrypto.handleRotate pc1 d rr = (pc2, r) → pc2.init = pc1.init := fun pc1 d pc2 r hr => by
    have := handleRotate_init pc1 d rr
    rw [hr] at this
    exact this
  refine handleMessage_cases
    (M := fun r => (∃ rest, data = Generated.INIT_MESSAGE_FIRST_BYTE :: rest ∧ r = PeerCrypto.handleInitMessage env bodyOf ok pc rest rnd rr) ∨
      KeepsInit bodyOf pc data r)
    env bodyOf ok pc data tail rnd rr ?_ (fun w hw => Or.inl ⟨w, hw, rfl⟩) ?_ ?_
    (fun _ _ _ hd hr => Or.inr ⟨(hrot _ _ _ _ hr).trans (hi _ _ hd), Or.inl rfl, rfl⟩) ?_
    (fun _ _ _ hd _ => Or.inr ⟨hi _ _ hd, Or.inr ⟨_, _, rfl⟩, rfl⟩)
  · rintro e (⟨h, _⟩ | ⟨h, rfl⟩)
    · exact absurd h hne
    · exact Or.inr ⟨Or.inr (Or.inr ⟨h, rfl⟩), Or.inl rfl⟩
  · intro pc1 plain hd hcase
    rcases decMsg_ok hd with ⟨hu, rfl, rfl⟩ | ⟨c, hu, hc, hp, rfl⟩
    · -- an unencrypted session hands on the datagram itself: it is not empty, and `handle_rotate_message` ignores it
      rcases hcase with rfl | ⟨body, _, hpan⟩
      · exact absurd rfl hne
      · rw [rotatePanics_unencrypted pc1 _ hu] at hpan
        cases hpan
    · have htail : (if ({ pc with core := some (c.decrypt (dgramOf bodyOf data)).1 } : PeerCrypto).unencrypted then tail else []) = [] :=
        if_neg (by show ¬ pc.unencrypted = true; rw [hu]; exact Bool.false_ne_true)
      rw [htail] at hcase
      simp only [List.append_nil] at hcase
      exact Or.inr ⟨hu, c, plain, hc, hp, hcase⟩
  · intro pc1 e hd
    obtain ⟨rfl, he⟩ := decMsg_err hd
    exact Or.inr ⟨he.imp id Or.inl, Or.inl rfl⟩
  · intro pc1 body pc2 e hd hr
    obtain ⟨he, hu1, hpc⟩ := handleRotate_err _ _ _ _ _ hr
    rcases decMsg_ok hd with ⟨hu, rfl, _⟩ | ⟨c, hu, hc, hp, rfl⟩
    · rw [hu] at hu1
      cases hu1
    · rcases hpc with rfl | hpc
      · exact Or.inr ⟨he.imp id Or.inl, Or.inr ⟨c, body, hu, hc, hp, rfl⟩⟩
      · cases hpc

/-- the same for a datagram without the handshake marker -/
theorem handleMessage_keepsInit (env : CryptoEnv) (bodyOf : Init.BodyOf) (ok : Bytes → Bool) (pc : PeerCrypto) (data tail : Bytes)
    (rnd : Rand) (rr : RotRand) (hinit : data.head? ≠ some Generated.INIT_MESSAGE_FIRST_BYTE) :
    KeepsInit bodyOf pc data (PeerCrypto.handleMessage env bodyOf ok pc data tail rnd rr) :=
  (handleMessage_split env bodyOf ok pc data tail rnd rr).resolve_left fun ⟨rest, hd, _⟩ => hinit (by rw [hd]; rfl)

theorem handleMessage_plain (env : CryptoEnv) (bodyOf : Init.BodyOf) (ok : Bytes → Bool) (pc : PeerCrypto) (data tail : Bytes)
    (rnd : Rand) (rr : RotRand) (hinit : data.head? ≠ some Generated.INIT_MESSAGE_FIRST_BYTE)
    (pc' : PeerCrypto) (out : Bytes) (res : MsgResult) (log : Init.SealLog)
    (h : PeerCrypto.handleMessage env bodyOf ok pc data tail rnd rr = .ok pc' out res log) : PlainRes res := by
  have hk := handleMessage_keepsInit env bodyOf ok pc data tail rnd rr hinit
  rw [h] at hk
  exact hk.2.1

theorem handleMessage_plain_err (env : CryptoEnv) (bodyOf : Init.BodyOf) (ok : Bytes → Bool) (pc pc' : PeerCrypto) (data tail : Bytes)
    (rnd : Rand) (rr : RotRand) (e : InitErr) (hinit : data.head? ≠ some Generated.INIT_MESSAGE_FIRST_BYTE)
    (h : PeerCrypto.handleMessage env bodyOf ok pc data tail rnd rr = .err pc' e) :
    (e = .state ∨ e = .crypto) ∧
    (pc' = pc ∨ ∃ core body, pc.unencrypted = false ∧ pc.core = some core ∧
      (core.decrypt (dgramOf bodyOf data)).2 = .ok (Generated.MESSAGE_TYPE_ROTATION :: body) ∧
      pc' = { pc with core := some (core.decrypt (dgramOf bodyOf data)).1 }) := by
  have hk := handleMessage_keepsInit env bodyOf ok pc data tail rnd rr hinit
  rw [h] at hk
  refine ⟨?_, hk.2⟩
  rcases hk.1 with he | he | ⟨hd, _⟩
  · exact Or.inl he
  · exact Or.inr he
  · exact absurd (by rw [hd]; rfl) hinit

section Closed
variable {X : PeerCrypto → Prop}

theorem SessClosed.seal_eq (hc : SessClosed X) {pc4 pc5 : PeerCrypto} {plain ct : Bytes} {r : Except InitErr (Bytes × Init.SealLog)}
    (hs : PeerCrypto.sealMsg pc4 plain ct = (pc5, r)) (h : X pc4) : X pc5 := by
  have := hc.sealm pc4 plain ct h
  rw [hs] at this
  exact this

theorem successOut_keeps (hc : SessClosed X) {pc1 pc' : PeerCrypto} {core : Option Core} {ini : Bool} {out1 payload o : Bytes}
    {ilog log : Init.SealLog} {rr : RotRand} {res : MsgResult} (hs : successOut pc1 core ini out1 payload ilog rr = .ok pc' o res log)
    (h : X pc1) : X pc' := by
  have hl : Leaves X (successOut pc1 core ini out1 payload ilog rr) :=
    successOut_cases (M := Leaves X) _ _ _ _ _ _ _ (fun _ _ _ => h) (hc.rot pc1 _ _ h)
      (fun _ _ _ hs => hc.seal_eq hs (hc.rot pc1 _ _ h)) (fun _ _ _ hs => hc.seal_eq hs (hc.rot pc1 _ _ h))
  rw [hs] at hl
  exact hl

theorem cycPc_keeps (hc : SessClosed X) (pc2 : PeerCrypto) (sd : Rot.Side) (rr : RotRand) (h : X pc2) : X (cycPc pc2 sd rr) := by
  unfold cycPc
  exact iteInduction (fun _ => hc.install _ _ _ _ _ (hc.rot pc2 _ _ h)) (fun _ => hc.rot pc2 _ _ h)

theorem tickRot_keeps (hc : SessClosed X) (pc2 : PeerCrypto) (rr : RotRand) (h : X pc2) : Leaves X (tickRot pc2 rr) :=
  tickRot_cases (M := Leaves X) pc2 rr (fun _ => h) (fun _ => hc.rot pc2 _ _ h) (fun sd _ _ _ => cycPc_keeps hc pc2 sd rr h)
    (fun sd _ _ _ _ _ _ _ hs => hc.seal_eq hs (cycPc_keeps hc pc2 sd rr h))
    (fun sd _ _ _ _ _ _ hs => hc.seal_eq hs (cycPc_keeps hc pc2 sd rr h))

theorem handleMessage_keeps (hc : SessClosed X) (env : CryptoEnv) (bodyOf : Init.BodyOf) (ok : Bytes → Bool) (pc : PeerCrypto)
    (datagram tail : Bytes) (rnd : Rand) (rr : RotRand) (hx : X pc)
    (hini : ∀ w, datagram = Generated.INIT_MESSAGE_FIRST_BYTE :: w → Leaves X (PeerCrypto.handleInitMessage env bodyOf ok pc w rnd rr)) :
    Leaves X (PeerCrypto.handleMessage env bodyOf ok pc datagram tail rnd rr) := by
  have hdec : ∀ pc1 r, decMsg bodyOf pc datagram = (pc1, r) → X pc1 := fun pc1 r hd => by
    have := hc.dec bodyOf pc datagram hx
    rw [hd] at this
    exact this
  have hrot : ∀ pc1 r dat pc2 r2, decMsg bodyOf pc datagram = (pc1, r) → PeerCrypto.handleRotate pc1 dat rr = (pc2, r2) → X pc2 :=
    fun pc1 r dat pc2 r2 hd hr => by
      have := handleRotate_keeps hc pc1 dat rr (hdec pc1 r hd)
      rw [hr] at this
      exact this
  exact handleMessage_cases (M := Leaves X) env bodyOf ok pc datagram tail rnd rr (fun _ _ => hx) hini (fun _ _ _ _ => trivial) (fun _ _ hd => hdec _ _ hd)
    (fun _ _ _ hd hr => hrot _ _ _ _ _ hd hr) (fun _ _ _ _ hd hr => hrot _ _ _ _ _ hd hr) (fun _ _ _ hd _ => hdec _ _ hd)

/-- the lift from the handshake object to the session: a predicate kept outside the handshake is kept by `handle_message` as soon as
    it holds of the session with the handshake object `handle_init` leaves (`hset`), and of the session as it is set up after a
    success (`hsucc`: `successPc`; what follows — the core, the first rotation, the reply — is outside the handshake) -/
theorem handleInitMessage_lift (hc : SessClosed X) {Φ Ψ : InitSt → Prop} (env : CryptoEnv) (bodyOf : Init.BodyOf) (ok : Bytes → Bool)
    (pc : PeerCrypto) (w : Bytes) (rnd : Rand) (rr : RotRand) (hx : X pc)
    (hini : ∀ ist, pc.init = some ist → InitLeaves Φ Ψ (Init.handleInit env bodyOf ok ist w rnd))
    (hset : ∀ ist', Φ ist' → X { pc with init := some ist' }) (hsucc : ∀ ist', Ψ ist' → X (successPc pc ist')) :
    Leaves X (PeerCrypto.handleInitMessage env bodyOf ok pc w rnd rr) :=
  handleInitMessage_cases (Q := fun _ r => InitLeaves Φ Ψ r) env bodyOf ok pc w rnd rr hini (noInit := fun _ => hx) (panic := fun _ _ => trivial)
    (err := fun _ hg => hset _ hg) (cont := fun _ hg => hset _ hg)
    (success := fun _ hg hs _ _ => successOut_keeps hc hs (hsucc _ hg))

/-- whatever follows from the parts of the handshake object that `handle_init` never writes (`Static`) is left by every outcome -/
theorem handleInit_static {Φ : InitSt → Prop} (env : CryptoEnv) (bodyOf : Init.BodyOf) (ok : Bytes → Bool) (st : InitSt) (w : Bytes) (rnd : Rand)
    (hΦ : ∀ st', C05AgreeLemmas.Static st st' → Φ st') : InitLeaves Φ Φ (Init.handleInit env bodyOf ok st w rnd) := by
  have he := handleInit_eff env bodyOf ok st w rnd
  generalize Init.handleInit env bodyOf ok st w rnd = R at he
  have hs := he.static
  cases R with
  | panic => trivial
  | err st' e => exact hΦ st' hs
  | ok st' x =>
    obtain ⟨out, res, log⟩ := x
    cases res with
    | «continue» => exact hΦ st' hs
    | success p ini => exact hΦ st' hs

theorem handleMessage_lift (hc : SessClosed X) {Φ Ψ : InitSt → Prop} (env : CryptoEnv) (bodyOf : Init.BodyOf) (ok : Bytes → Bool)
    (pc : PeerCrypto) (datagram tail : Bytes) (rnd : Rand) (rr : RotRand) (hx : X pc)
    (hini : ∀ w ist, pc.init = some ist → InitLeaves Φ Ψ (Init.handleInit env bodyOf ok ist w rnd))
    (hset : ∀ ist', Φ ist' → X { pc with init := some ist' }) (hsucc : ∀ ist', Ψ ist' → X (successPc pc ist')) :
    Leaves X (PeerCrypto.handleMessage env bodyOf ok pc datagram tail rnd rr) :=
  handleMessage_keeps hc env bodyOf ok pc datagram tail rnd rr hx
    (fun w _ => handleInitMessage_lift hc env bodyOf ok pc w rnd rr hx (hini w) hset hsucc)

/-! ### a session in its handshake phase

  Where the predicate of a pending session (`Q`) need not survive the handshake: an error may be fatal (the caller drops the
  session), and a completed handshake turns the session into an established one (`R`).  The payload a completed handshake
  reports is one `ok` accepts. -/

def Hands (Q R : PeerCrypto → Prop) (ok : Bytes → Bool) : POutcome MsgResult → Prop
  | .panic => True
  | .err pc' e => e = .cryptoInitFatal ∨ Q pc'
  | .ok pc' _ res _ => (¬ IsInitRes res ∧ Q pc') ∨ ∃ p, (res = .initialized p ∨ res = .initializedWithReply p) ∧ R pc' ∧ ok p = true

/-- a session without core is in its handshake phase, and what completes it need not satisfy anything -/
theorem FreshOut.hands {ok : Bytes → Bool} : ∀ {r : POutcome MsgResult}, FreshOut ok r → Hands FreshPC (fun _ => True) ok r
  | .panic, _ => trivial
  | .err _ _, h => Or.inr h
  | .ok _ _ _ _, h => h.imp (fun ⟨hr, hf⟩ => ⟨hr ▸ fun ⟨_, hp⟩ => hp.elim nofun nofun, hf⟩) (fun ⟨p, hp, hok⟩ => ⟨p, hp, trivial, hok⟩)

theorem handleInitMessage_hands {Q : PeerCrypto → Prop} (hc : SessClosed X) {Φ Ψ : InitSt → Prop} (env : CryptoEnv) (bodyOf : Init.BodyOf)
    (ok : Bytes → Bool) (pc : PeerCrypto) (w : Bytes) (rnd : Rand) (rr : RotRand) (hq : pc.init = none → Q pc)
    (hini : ∀ ist, pc.init = some ist → InitHands Φ Ψ (Init.handleInit env bodyOf ok ist w rnd))
    (hset : ∀ ist', Φ ist' → Q { pc with init := some ist' }) (hsucc : ∀ ist', Ψ ist' → X (successPc pc ist')) :
    Hands Q X ok (PeerCrypto.handleInitMessage env bodyOf ok pc w rnd rr) := by
  refine handleInitMessage_cases (M := Hands Q X ok) (Q := fun ist r => InitHands Φ Ψ r ∧ Init.handleInit env bodyOf ok ist w rnd = r)
    env bodyOf ok pc w rnd rr (fun ist hi => ⟨hini ist hi, rfl⟩) (noInit := fun hi => Or.inr (hq hi)) (panic := fun _ _ => trivial)
    (err := fun _ hg => hg.1.imp id (hset _)) (cont := fun _ hg => Or.inl ⟨?_, hset _ hg.1⟩)
    (success := fun _ hg hs _ hr => Or.inr ⟨_, hr, successOut_keeps hc hs (hsucc _ hg.1),
      handleInit_success_ok env bodyOf ok _ _ w rnd _ _ _ _ hg.2⟩)
  rintro ⟨p, hp | hp⟩ <;> cases hp

/-- the same for `handle_message`, for a `Q` that reads the handshake object only -/
theorem handleMessage_hands {Q : PeerCrypto → Prop} (hc : SessClosed X) {Φ Ψ : InitSt → Prop} (env : CryptoEnv) (bodyOf : Init.BodyOf)
    (ok : Bytes → Bool) (pc : PeerCrypto) (datagram tail : Bytes) (rnd : Rand) (rr : RotRand) (hQ : ∀ pc', pc'.init = pc.init → Q pc')
    (hini : ∀ w ist, pc.init = some ist → InitHands Φ Ψ (Init.handleInit env bodyOf ok ist w rnd))
    (hset : ∀ ist', Φ ist' → Q { pc with init := some ist' }) (hsucc : ∀ ist', Ψ ist' → X (successPc pc ist')) :
    Hands Q X ok (PeerCrypto.handleMessage env bodyOf ok pc datagram tail rnd rr) := by
  rcases handleMessage_split env bodyOf ok pc datagram tail rnd rr with ⟨rest, _, he⟩ | hk
  · rw [he]
    exact handleInitMessage_hands hc env bodyOf ok pc rest rnd rr (fun _ => hQ pc rfl) (hini rest) hset hsucc
  · generalize PeerCrypto.handleMessage env bodyOf ok pc datagram tail rnd rr = r at hk
    cases r with
    | panic => trivial
    | err pc' e => exact Or.inr (hQ pc' hk.init)
    | ok pc' out res log => exact Or.inl ⟨NodeInvLemmas.plainRes_not_init hk.2.1, hQ pc' hk.1⟩

/-! ### the well-formed session of C08: `PendOK` while the handshake is pending, `PeerOK` once it is established -/

theorem handleInitMessage_no_panic (env : CryptoEnv) (bodyOf : Init.BodyOf) (ok : Bytes → Bool) (pc : PeerCrypto) (w : Bytes) (rnd : Rand)
    (rr : RotRand) (hp : PendOK pc) : PeerCrypto.handleInitMessage env bodyOf ok pc w rnd rr ≠ .panic :=
  handleInitMessage_cases (M := (· ≠ .panic)) (Q := fun _ r => r ≠ .panic) env bodyOf ok pc w rnd rr
    (fun ist hi => (handleInit_good env bodyOf ok ist w rnd (hp ist hi)).1) (noInit := fun _ => nofun) (panic := fun _ hg => absurd rfl hg)
    (err := fun _ _ => nofun) (cont := fun _ _ => nofun) (success := fun _ _ _ _ _ => nofun)

/-- the two panic sites outside the handshake are not reached: a genuine seal is not empty, and a genuine ROTATION message carries
    32-byte keys -/
theorem handleMessage_no_panic (env : CryptoEnv) (bodyOf : Init.BodyOf) (ok : Bytes → Bool) (pc : PeerCrypto) (datagram tail : Bytes)
    (rnd : Rand) (rr : RotRand) (hb : NonEmptySeals bodyOf) (hv : ValidRotKeys bodyOf) (hp : PendOK pc) :
    PeerCrypto.handleMessage env bodyOf ok pc datagram tail rnd rr ≠ .panic := by
  rcases handleMessage_split env bodyOf ok pc datagram tail rnd rr with ⟨rest, _, he⟩ | hk
  · rw [he]
    exact handleInitMessage_no_panic env bodyOf ok pc rest rnd rr hp
  · intro h
    rw [h] at hk
    obtain ⟨_, c, plain, _, hopen, hcase⟩ := hk
    obtain ⟨_, _, k, _, hbody⟩ := VpnCloud.Proofs.C02.accepted_is_genuine c _ _ hopen
    rcases hcase with rfl | ⟨body, rfl, hpan⟩
    · exact hb _ _ _ _ hbody rfl
    · rw [rotatePanics_of_keysOK _ body (hv _ _ _ _ hbody)] at hpan
      cases hpan

theorem handleMessage_pendOK (env : CryptoEnv) (bodyOf : Init.BodyOf) (ok : Bytes → Bool) (pc : PeerCrypto) (datagram tail : Bytes)
    (rnd : Rand) (rr : RotRand) (hp : PendOK pc) : Hands PendOK PeerOK ok (PeerCrypto.handleMessage env bodyOf ok pc datagram tail rnd rr) :=
  handleMessage_hands (.of_init fun _ _ hi h => OnInit.of_init h hi) env bodyOf ok pc datagram tail rnd rr (fun _ hi => hp.of_init hi)
    (fun w ist hi => (handleInit_good env bodyOf ok ist w rnd (hp ist hi)).2.1) (fun _ h => OnInit.set pc h)
    (fun ist' h => successPc_onInit pc ist' h)

theorem handleMessage_peerOK (env : CryptoEnv) (bodyOf : Init.BodyOf) (ok : Bytes → Bool) (pc : PeerCrypto) (datagram tail : Bytes)
    (rnd : Rand) (rr : RotRand) (hp : PeerOK pc) : Leaves PeerOK (PeerCrypto.handleMessage env bodyOf ok pc datagram tail rnd rr) :=
  handleMessage_lift (.of_init fun _ _ hi h => OnInit.of_init h hi) env bodyOf ok pc datagram tail rnd rr hp
    (fun w ist hi => (handleInit_good env bodyOf ok ist w rnd (hp.pendOK ist hi)).2.2 (hp ist hi)) (fun _ h => OnInit.set pc h)
    (fun ist' h => successPc_onInit pc ist' h)

theorem everySecond_keeps (hc : SessClosed X) (pc : PeerCrypto) (rr : RotRand) (h1 : X (tick1 pc).1) (h2 : ∀ pc1, X pc1 → X (tick2 pc1)) :
    Leaves X (PeerCrypto.everySecond pc rr) :=
  tick_cases (M := Leaves X) pc rr (fun _ _ => h1) (fun _ _ _ => h2 _ h1) (fun _ => tickRot_keeps hc _ rr (h2 _ h1))

end Closed

end VpnCloud.Proofs.SessionInvLemmas

namespace VpnCloud.Proofs.C15MoreLemmas

/-- the session can seal a message: it is in unencrypted mode or has a crypto core (`send_message` fails exactly otherwise) -/
def canSeal (pc : PeerCrypto) : Prop := pc.unencrypted = true ∨ pc.core.isSome = true

end VpnCloud.Proofs.C15MoreLemmas

namespace VpnCloud.Proofs.SessionInvLemmas

open VpnCloud.Proofs.C15MoreLemmas (canSeal)
open VpnCloud.Proofs.C09MoreLemmas (dgramOf)

theorem sendMessage_enc {sa : PeerCrypto} {ca : Core} (hua : sa.unencrypted = false) (hca : sa.core = some ca) (ty : Nat) (body ct : Bytes) :
    PeerCrypto.sendMessage sa ty body ct =
      ({ sa with core := some (ca.encrypt (ty :: body)).1 },
       .ok ((ca.encrypt (ty :: body)).2.hdr ++ ct, [(ct, (ca.encrypt (ty :: body)).2.body)])) :=
  SessionOps.sealMsg_enc hua hca (ty :: body) ct

theorem sendMessage_unenc {sa : PeerCrypto} (hua : sa.unencrypted = true) (ty : Nat) (body ct : Bytes) :
    PeerCrypto.sendMessage sa ty body ct = (sa, .ok (ty :: body, [])) := by
  simp only [PeerCrypto.sendMessage, PeerCrypto.sealMsg, hua, if_true]

theorem sendMessage_canSeal (pc : PeerCrypto) (ty : Nat) (body ct : Bytes) (h : canSeal pc) :
    ∃ pc' bytes log, PeerCrypto.sendMessage pc ty body ct = (pc', .ok (bytes, log)) ∧ canSeal pc' := by
  by_cases hu : pc.unencrypted = true
  · exact ⟨_, _, _, sendMessage_unenc hu ty body ct, Or.inl hu⟩
  · obtain ⟨c, hc⟩ := Option.isSome_iff_exists.1 (h.resolve_left hu)
    exact ⟨_, _, _, sendMessage_enc (Bool.eq_false_iff.2 hu) hc ty body ct, Or.inr rfl⟩

theorem sendMessage_cannot (pc : PeerCrypto) (ty : Nat) (body ct : Bytes) (h : ¬ canSeal pc) :
    PeerCrypto.sendMessage pc ty body ct = (pc, .error .state) := by
  exact sealMsg_fresh pc (ty :: body) ct
    ⟨Bool.eq_false_iff.2 fun hu => h (Or.inl hu), Option.not_isSome_iff_eq_none.1 fun hc => h (Or.inr hc)⟩

/-- a sealed message, exactly: the plaintext itself and no seal (unencrypted mode), or what the core makes of it -/
theorem sealMsg_ok {pc pc' : PeerCrypto} {plain ct bytes : Bytes} {log : Init.SealLog}
    (h : PeerCrypto.sealMsg pc plain ct = (pc', .ok (bytes, log))) :
    (pc.unencrypted = true ∧ bytes = plain ∧ log = []) ∨
    ∃ c, pc.unencrypted = false ∧ pc.core = some c ∧ bytes = (c.encrypt plain).2.hdr ++ ct ∧ log = [(ct, (c.encrypt plain).2.body)] := by
  unfold PeerCrypto.sealMsg at h
  split at h
  · rename_i hu
    simp only [Prod.mk.injEq, Except.ok.injEq] at h
    exact Or.inl ⟨hu, h.2.1.symm, h.2.2.symm⟩
  · rename_i hu
    split at h
    · simp only [Prod.mk.injEq] at h
      cases h.2
    · rename_i c hc
      simp only [Prod.mk.injEq, Except.ok.injEq] at h
      exact Or.inr ⟨c, by simpa using hu, hc, h.2.1.symm, h.2.2.symm⟩

/-- the wire form of a sealed message: the plaintext itself (unencrypted mode), or 8 header bytes followed by the ciphertext, whose seal
    is logged -/
theorem sealMsg_wire (pc pc' : PeerCrypto) (plain ct bytes : Bytes) (log : Init.SealLog)
    (h : PeerCrypto.sealMsg pc plain ct = (pc', .ok (bytes, log))) :
    (pc.unencrypted = true ∧ bytes = plain ∧ log = []) ∨
    (pc.unencrypted = false ∧ ∃ hdr b, bytes = hdr ++ ct ∧ log = [(ct, b)] ∧ ∀ k nn p, b = .sealed k nn p → p = plain) :=
  (sealMsg_ok h).imp id fun ⟨c, hu, _, hb, hl⟩ => ⟨hu, _, _, hb, hl, CoreLemmas.core_encrypt_body c plain⟩

theorem dgramOf_append (bodyOf : Init.BodyOf) (hdr ct : Bytes) (hl : hdr.length = 8) :
    dgramOf bodyOf (hdr ++ ct) = { hdr := hdr, body := bodyOf ct } := by
  unfold dgramOf
  rw [List.take_left' hl, List.drop_left' hl]

theorem decMsg_enc {pc : PeerCrypto} {c : Core} (hu : pc.unencrypted = false) (hc : pc.core = some c) (bodyOf : Init.BodyOf) (d : Bytes) :
    decMsg bodyOf pc d = ({ pc with core := some (c.decrypt { hdr := d.take 8, body := bodyOf (d.drop 8) }).1 },
      match (c.decrypt { hdr := d.take 8, body := bodyOf (d.drop 8) }).2 with
      | .ok p => .ok p
      | .error _ => .error .crypto) := by
  have hu' : ¬ pc.unencrypted = true := by rw [hu]; decide
  rw [SessionOps.decMsg_eq, if_neg hu', if_neg hu', SessionOps.onCore_of_some hc, hc]
  rfl

theorem handleMessage_enc_ok (env : CryptoEnv) (bodyOf : Init.BodyOf) (ok : Bytes → Bool) {sb : PeerCrypto} {cb : Core}
    (hub : sb.unencrypted = false) (hcb : sb.core = some cb) (b0 : Nat) (rest tail : Bytes) (rnd : Rand) (rr : RotRand)
    (hb0 : b0 ≠ Generated.INIT_MESSAGE_FIRST_BYTE) (ty : Nat) (body : Bytes)
    (hd : (cb.decrypt (dgramOf bodyOf (b0 :: rest))).2 = .ok (ty :: body)) (hty : ty ≠ Generated.MESSAGE_TYPE_ROTATION) :
    PeerCrypto.handleMessage env bodyOf ok sb (b0 :: rest) tail rnd rr =
      .ok { sb with core := some (cb.decrypt (dgramOf bodyOf (b0 :: rest))).1 } [] (.message ty body) [] := by
  have hdec := decMsg_enc hub hcb bodyOf (b0 :: rest)
  rw [show ({ hdr := (b0 :: rest).take 8, body := bodyOf ((b0 :: rest).drop 8) } : Dgram) = dgramOf bodyOf (b0 :: rest) from rfl, hd] at hdec
  rw [handleMessage_eq]
  simp only [hb0, if_false, hdec, hty]

theorem handleMessage_enc_err (env : CryptoEnv) (bodyOf : Init.BodyOf) (ok : Bytes → Bool) {sb : PeerCrypto} {cb : Core}
    (hub : sb.unencrypted = false) (hcb : sb.core = some cb) (b0 : Nat) (rest tail : Bytes) (rnd : Rand) (rr : RotRand)
    (hb0 : b0 ≠ Generated.INIT_MESSAGE_FIRST_BYTE) (e : CoreErr)
    (hd : (cb.decrypt (dgramOf bodyOf (b0 :: rest))).2 = .error e) :
    PeerCrypto.handleMessage env bodyOf ok sb (b0 :: rest) tail rnd rr =
      .err { sb with core := some (cb.decrypt (dgramOf bodyOf (b0 :: rest))).1 } .crypto := by
  have hdec := decMsg_enc hub hcb bodyOf (b0 :: rest)
  rw [show ({ hdr := (b0 :: rest).take 8, body := bodyOf ((b0 :: rest).drop 8) } : Dgram) = dgramOf bodyOf (b0 :: rest) from rfl, hd] at hdec
  rw [handleMessage_eq]
  simp only [hb0, if_false, hdec]

theorem handleMessage_unenc_ok (env : CryptoEnv) (bodyOf : Init.BodyOf) (ok : Bytes → Bool) {sb : PeerCrypto}
    (hub : sb.unencrypted = true) (ty : Nat) (body tail : Bytes) (rnd : Rand) (rr : RotRand)
    (hty : ty ≠ Generated.MESSAGE_TYPE_ROTATION) (hty' : ty ≠ Generated.INIT_MESSAGE_FIRST_BYTE) :
    PeerCrypto.handleMessage env bodyOf ok sb (ty :: body) tail rnd rr = .ok sb [] (.message ty body) [] := by
  rw [handleMessage_eq]
  simp only [hty', if_false, decMsg, hub, if_true, hty]

theorem handleMessage_marker_ok (env : CryptoEnv) (bodyOf : Init.BodyOf) (ok : Bytes → Bool) (pc pc' : PeerCrypto) (data tail : Bytes)
    (rnd : Rand) (rr : RotRand) (out : Bytes) (res : MsgResult) (log : Init.SealLog)
    (hinit : data.head? = some Generated.INIT_MESSAGE_FIRST_BYTE)
    (h : PeerCrypto.handleMessage env bodyOf ok pc data tail rnd rr = .ok pc' out res log) :
    res = .reply ∨ ∃ pl ist st' o ini lg, pc.init = some ist ∧
      Init.handleInit env bodyOf ok ist (data.drop 1) rnd = .ok st' (o, .success pl ini, lg) ∧
      (res = .initialized pl ∨ res = .initializedWithReply pl) ∧
      successOut (successPc pc st') st'.crypto ini (if o.isEmpty then [] else Generated.INIT_MESSAGE_FIRST_BYTE :: o) pl lg rr =
        .ok pc' out res log := by
  rw [handleMessage_eq] at h
  cases data with
  | nil => cases hinit
  | cons b0 rest =>
    have hb : b0 = Generated.INIT_MESSAGE_FIRST_BYTE := by simpa using hinit
    simp only [hb, if_true] at h
    split at h
    · cases h
    · revert h
      exact handleInitMessage_cases (M := fun r => r = .ok pc' out res log → _) (Q := fun ist r => Init.handleInit env bodyOf ok ist rest rnd = r)
        env bodyOf ok pc rest rnd rr (fun _ _ => rfl) (noInit := fun _ h => nomatch h) (panic := fun _ _ h => nomatch h)
        (err := fun _ _ h => nomatch h) (cont := fun _ _ h => by cases h; exact Or.inl rfl)
        (success := fun hi hg hs _ hr h => by cases h; exact Or.inr ⟨_, _, _, _, _, _, hi, hg, hr, hs⟩)

theorem tickRot_err (pc2 pc' : PeerCrypto) (rr : RotRand) (e : InitErr) (h : tickRot pc2 rr = .err pc' e) :
    FreshPC pc2 := by
  refine tickRot_cases (M := fun r => r = .err pc' e → FreshPC pc2) pc2 rr (fun _ h => nomatch h)
    (fun _ h => nomatch h) (fun _ _ _ _ h => nomatch h) (fun _ _ _ _ _ _ _ _ _ h => nomatch h) (fun sd m pc5 e' _ _ _ hs _ => ?_) h
  -- only sealing fails, and only without a core; the cycle before it neither changes the mode nor removes a core
  exact cycPc_keeps (X := fun p => FreshPC p → FreshPC pc2)
    (sessClosed_of_onCore (fun _ _ hx hp => hx ⟨hp.1, Option.map_eq_none_iff.1 hp.2⟩) (fun _ _ _ hx => hx)) pc2 sd rr id
    (sealMsg_err _ _ _ _ (congrArg Prod.snd hs))

theorem everySecond_healthy (pc : PeerCrypto) (hi : pc.init = none) (hs : canSeal pc) :
    ∀ rr pc' e, PeerCrypto.everySecond pc rr ≠ .err pc' e := by
  intro rr pc' e
  have h1 : (tick1 pc).2 = .ok [] := by rw [tick1_eq, hi]
  refine tick_cases (M := (· ≠ .err pc' e)) pc rr (fun e' he => ?_) (fun _ _ _ => nofun) (fun _ h => ?_)
  · rw [h1] at he
    cases he
  · obtain ⟨hu, hc⟩ := tickRot_err _ _ _ _ h
    rw [tick1_eq] at hu hc
    have hu' : pc.unencrypted = false := hu
    have hc' : pc.core.map Core.everySecond = none := hc
    rcases hs with hs | hs
    · rw [hu'] at hs; cases hs
    · rw [Option.map_eq_none_iff.1 hc'] at hs; cases hs

/-! ## whether `every_second` of a session fails does not depend on the randomness it is given -/

theorem cycle_msg_isSome (s : Rot.Side) (f f' : Nat) : (Rot.cycle s f).2.isSome = (Rot.cycle s f').2.isSome := by
  cases hp : s.proposed with
  | some p =>
    by_cases ht : s.timeout = true
    · cases hcf : s.confirmed <;> simp [Rot.cycle, hp, ht, hcf]
    · simp [Rot.cycle, hp, ht]
  | none =>
    cases hpe : s.pending <;> simp [Rot.cycle, hp, hpe]

theorem tickRot_err_indep (pc2 pc' : PeerCrypto) (rr rr' : RotRand) (e : InitErr) (h : tickRot pc2 rr = .err pc' e) :
    ∃ pc'' e', tickRot pc2 rr' = .err pc'' e' := by
  have hf : FreshPC pc2 := tickRot_err pc2 pc' rr e h
  -- with `rr` a rotation fell due and its cycle returned a message
  obtain ⟨sd, m, hr, hc, hm⟩ : ∃ sd m, pc2.rot = some sd ∧ ¬ pc2.rotateCounter + 1 < Generated.ROTATE_INTERVAL ∧
      (Rot.cycle sd rr.freshProp).2 = some m :=
    tickRot_cases (M := fun r => r = .err pc' e → _) pc2 rr (fun _ h => nomatch h) (fun _ h => nomatch h) (fun _ _ _ _ h => nomatch h)
      (fun _ _ _ _ _ _ _ _ _ h => nomatch h) (fun sd m _ _ hr hc hm _ _ => ⟨sd, m, hr, hc, hm⟩) h
  -- so it does with `rr'`, and a session without core cannot seal it
  refine tickRot_cases (M := fun r => ∃ pc'' e', r = .err pc'' e') pc2 rr' (fun hn => by rw [hn] at hr; cases hr) (fun hl => absurd hl hc)
    ?_ ?_ (fun _ _ pc5 e' _ _ _ _ => ⟨pc5, e', rfl⟩)
  · intro sd' hr' _ hm'
    rw [hr] at hr'
    cases hr'
    have := cycle_msg_isSome sd rr.freshProp rr'.freshProp
    rw [hm, hm'] at this
    cases this
  · intro sd' m' pc5 bytes log _ _ _ hs
    rw [sealMsg_fresh _ _ _ (cycPc_keeps freshPC_closed pc2 sd' rr' hf)] at hs
    cases hs

theorem everySecond_err_indep (pc pc' : PeerCrypto) (rr rr' : RotRand) (e : InitErr) (h : PeerCrypto.everySecond pc rr = .err pc' e) :
    ∃ pc'' e', PeerCrypto.everySecond pc rr' = .err pc'' e' := by
  rw [everySecond_eq] at h ⊢
  rcases ht : tick1 pc with ⟨pc1, r⟩
  rw [ht] at h
  cases r with
  | error e1 => exact ⟨_, _, rfl⟩
  | ok out =>
    simp only [] at h ⊢
    split at h
    · cases h
    · rename_i hemp
      rw [if_neg hemp]
      exact tickRot_err_indep _ _ rr rr' _ h

theorem everySecond_fails_all (pc : PeerCrypto) (h : ∃ rr pc' e, PeerCrypto.everySecond pc rr = .err pc' e) :
    ∀ rr, ∃ pc' e, PeerCrypto.everySecond pc rr = .err pc' e := by
  obtain ⟨rr0, pc', e, he⟩ := h
  exact fun rr => everySecond_err_indep pc pc' rr0 rr e he

/-- one message over an encrypted link, given that B's core opens what A's core seals (`hdec`): what `handle_message` answers at B to the
    datagram A's session puts on the wire, that datagram as B's core sees it, and its first byte (A's sending slot, never the
    handshake marker).  `hb`: the ideal AEAD views the ciphertext bytes as what A sealed. -/
theorem enc_deliver (env : CryptoEnv) (bodyOf : Init.BodyOf) (ok : Bytes → Bool) {sb : PeerCrypto} {ca cb : Core} {ks : SlotKey}
    (hub : sb.unencrypted = false) (hcb : sb.core = some cb)
    (hs : ca.slots[ca.cur]? = some ks) (hlt : ks.send + 1 < NONCE_MOD) (hcur : ca.cur < 4)
    {ty : Nat} {body : Bytes} (hdec : (cb.decrypt (ca.encrypt (ty :: body)).2).2 = .ok (ty :: body))
    (ct tail : Bytes) (rnd : Rand) (rr : RotRand) (hty : ty ≠ Generated.MESSAGE_TYPE_ROTATION)
    (hb : bodyOf ct = (ca.encrypt (ty :: body)).2.body) :
    PeerCrypto.handleMessage env bodyOf ok sb ((ca.encrypt (ty :: body)).2.hdr ++ ct) tail rnd rr =
      .ok { sb with core := some (cb.decrypt (ca.encrypt (ty :: body)).2).1 } [] (.message ty body) [] ∧
    dgramOf bodyOf ((ca.encrypt (ty :: body)).2.hdr ++ ct) = (ca.encrypt (ty :: body)).2 ∧
    ∃ rest, (ca.encrypt (ty :: body)).2.hdr ++ ct = ca.cur :: rest := by
  have e1 := (VpnCloud.Proofs.C04.encrypt_spec ca (ty :: body) ks hs hlt).1
  have hl : (ca.encrypt (ty :: body)).2.hdr.length = 8 := by rw [e1]; simp [Bytes.ofBE_length]
  have hdg : dgramOf bodyOf ((ca.encrypt (ty :: body)).2.hdr ++ ct) = (ca.encrypt (ty :: body)).2 := by
    rw [dgramOf_append bodyOf _ _ hl, hb]
  have hcons : (ca.encrypt (ty :: body)).2.hdr ++ ct = ca.cur :: (Bytes.ofBE 7 (ks.send + 1) ++ ct) := by rw [e1]; rfl
  have hne : ca.cur ≠ Generated.INIT_MESSAGE_FIRST_BYTE := by
    simp only [Generated.INIT_MESSAGE_FIRST_BYTE]; omega
  have hrecv := handleMessage_enc_ok env bodyOf ok hub hcb ca.cur (Bytes.ofBE 7 (ks.send + 1) ++ ct) tail rnd rr hne ty body
    (by rw [← hcons, hdg]; exact hdec) hty
  rw [← hcons, hdg] at hrecv
  exact ⟨hrecv, hdg, _, hcons⟩

end VpnCloud.Proofs.SessionInvLemmas

namespace VpnCloud.Proofs.C10MoreLemmas

open VpnCloud.Proofs.SessionInvLemmas

open VpnCloud.Spec.C04 in
/-- **session_roundtrip**: the sender's session seals a message of type `ty ≠ ROTATION`; the receiver's core is in sync with the sender's
    (same key in the sender's current slot, opposite halves, window floor not above the nonce, counter within 56 bits) and the ideal AEAD
    opens the emitted ciphertext as what was sealed (`hbody`): the receiver's session hands on exactly `.message ty data`. -/
theorem session_roundtrip (env : CryptoEnv) (bodyOf : Init.BodyOf) (ok : Bytes → Bool) (pA pB pA' : PeerCrypto) (s r : Core)
    (ks kr : SlotKey) (v ty : Nat) (data ct bytes tail : Bytes) (log : Init.SealLog) (rnd : Rand) (rr : RotRand)
    (huA : pA.unencrypted = false) (huB : pB.unencrypted = false) (hcA : pA.core = some s) (hcB : pB.core = some r)
    (hs : s.slots[s.cur]? = some ks) (hr : r.slots[s.cur]? = some kr) (hcur : s.cur < 4) (hkey : kr.key = ks.key)
    (hhalf : r.half = !s.half) (hsend : ks.send + 1 = base s.half + v) (hv : v < 2 ^ 56) (hmin : kr.min ≤ ks.send + 1)
    (hty : ty ≠ Generated.MESSAGE_TYPE_ROTATION)
    (hsm : PeerCrypto.sendMessage pA ty data ct = (pA', .ok (bytes, log)))
    (hbody : ∀ e ∈ log, bodyOf e.1 = e.2) :
    ∃ pB', PeerCrypto.handleMessage env bodyOf ok pB bytes tail rnd rr = .ok pB' [] (.message ty data) [] := by
  have hlt : ks.send + 1 < NONCE_MOD := by rw [hsend]; exact VpnCloud.Proofs.C02.base_add_lt _ _ (by omega)
  rw [sendMessage_enc huA hcA] at hsm
  simp only [Prod.mk.injEq, Except.ok.injEq] at hsm
  obtain ⟨_, rfl, rfl⟩ := hsm
  exact ⟨_, (enc_deliver env bodyOf ok huB hcB hs hlt hcur
    (VpnCloud.Proofs.C02.roundtrip s r (ty :: data) ks kr v hs hr hcur hkey hhalf hsend hv hmin) ct tail rnd rr hty
    (hbody (ct, _) (List.mem_singleton.2 rfl))).1⟩

/-- the same for two sessions in unencrypted mode (no common cipher was required): the message travels in the clear -/
theorem session_roundtrip_plain (env : CryptoEnv) (bodyOf : Init.BodyOf) (ok : Bytes → Bool) (pA pB pA' : PeerCrypto)
    (ty : Nat) (data ct bytes tail : Bytes) (log : Init.SealLog) (rnd : Rand) (rr : RotRand)
    (huA : pA.unencrypted = true) (huB : pB.unencrypted = true)
    (hty : ty ≠ Generated.MESSAGE_TYPE_ROTATION) (hty' : ty ≠ Generated.INIT_MESSAGE_FIRST_BYTE)
    (hsm : PeerCrypto.sendMessage pA ty data ct = (pA', .ok (bytes, log))) :
    PeerCrypto.handleMessage env bodyOf ok pB bytes tail rnd rr = .ok pB [] (.message ty data) [] := by
  rw [sendMessage_unenc huA] at hsm
  cases hsm
  exact handleMessage_unenc_ok env bodyOf ok huB ty data tail rnd rr hty hty'

end VpnCloud.Proofs.C10MoreLemmas
