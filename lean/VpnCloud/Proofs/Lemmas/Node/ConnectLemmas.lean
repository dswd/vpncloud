import VpnCloud.Proofs.Lemmas.Node.NodeLemmas
/-
  `connect_sock`, `connect`, `connect_to_peers`.  `Dial` = what they leave alone (frame) + only handshake datagrams are emitted;
  `Dialling` = the exact sequence of dials (`dialTo`) and adoptions they perform, from which `Dial`, `C01MoreLemmas.Dials`,
  `C14ExchangeLemmas.Keeps` / `Dialled`, `C15MoreLemmas.PendSub`, the pings sent and the generic node invariant are read off.  `connect` is
  opened by `connect_inv` and `connect_dialling`; one entry of `connect_to_peers` by cases (`connectToPeers_one_cases`: skipped, adopted
  as own addresses, or — `C14ExchangeLemmas.Unknown` — handed to `connect`), the whole list by `connectToPeers_dialling`.
-/
namespace VpnCloud.Proofs.C14ExchangeLemmas
open VpnCloud.Node

/-- the handshake state `Crypto::peer_instance(create_node_info())` starts from (the `init` field of `newAttempt`) -/
def attemptSt (n : Node) (hash : Bytes) : InitSt :=
  { nodeId := n.nodeId, hash, payload := Codec.encodeNodeInfo (createNodeInfo n), ownKey := n.cfg.key,
    trusted := n.cfg.trusted, algos := n.cfg.algos }

theorem newAttempt_eq (n : Node) (hash : Bytes) : newAttempt n hash = { init := some (attemptSt n hash) } := rfl

/-- the entry is about a node this node knows nothing of: it does not carry the node's own id, no peer record carries its id (if it has
    one), and none of its addresses — as listed — is the address of a peer -/
def Unknown (n : Node) (pi : PeerInfo) : Prop :=
  pi.nodeId ≠ some n.nodeId ∧ (∀ id, pi.nodeId = some id → ∀ x ∈ n.peers, x.2.nodeId ≠ id) ∧
  (∀ a ∈ pi.addrs, a ∉ n.peers.map (·.1))

theorem Unknown.congr {n n' : Node} {pi : PeerInfo} (h : Unknown n pi) (h1 : n'.nodeId = n.nodeId) (h2 : n'.peers = n.peers) :
    Unknown n' pi := by
  unfold Unknown
  rw [h1, h2]
  exact h

end VpnCloud.Proofs.C14ExchangeLemmas
namespace VpnCloud.Proofs.NodeLemmas

open VpnCloud.Node VpnCloud.Proofs.AssocLemmas
open VpnCloud.Proofs.C14ExchangeLemmas (attemptSt Unknown)

/-- `c` without what dialling writes: pending handshakes, outputs, emission counters -/
def undialled (c : Ctx) : Ctx := { c with node := { c.node with pending := [] }, outs := [], cnt := [] }

/-- … and without the own addresses, which `connect_to_peers` writes as well -/
def unjoined (c : Ctx) : Ctx := undialled { c with node := { c.node with own := [] } }

structure Dial (u : Ctx → Ctx) (c c' : Ctx) : Prop where
  frame : u c' = u c
  outs : Ext IsHs c.outs c'.outs

theorem Dial.refl (u : Ctx → Ctx) (c : Ctx) : Dial u c c := ⟨rfl, Ext.refl _ _⟩

theorem Dial.trans {u : Ctx → Ctx} {c1 c2 c3 : Ctx} (h1 : Dial u c1 c2) (h2 : Dial u c2 c3) : Dial u c1 c3 :=
  ⟨h2.frame.trans h1.frame, h1.outs.trans h2.outs⟩

theorem connect_inv {P : Ctx → Prop} (env : CryptoEnv) (o : Oracle) (hs : ∀ c a, P c → P (connectSock env o c a))
    (c : Ctx) (l : List NAddr) (h : P c) : P (connect env o c l) := by
  unfold connect
  simp only []
  split
  · exact h
  · exact foldl_inv P _ hs _ _ h

/-- the addresses `l` adopted as own addresses (an entry of a peer list under the node's own id) -/
def adoptOwn (c : Ctx) (l : List NAddr) : Ctx :=
  { c with node := { c.node with own := l.foldl (fun own a => if own.contains a then own else own ++ [a]) c.node.own } }

theorem _root_.VpnCloud.Proofs.NodeInvLemmas.not_mem_of_contains_false {own : List NAddr} {a : NAddr} (h : own.contains a = false) : a ∉ own := by
  intro hm
  have := List.contains_iff_mem.2 hm
  rw [h] at this
  cases this

theorem _root_.VpnCloud.Proofs.NodeInvLemmas.mem_foldl_adopt (l own : List NAddr) (x : NAddr) :
    x ∈ l.foldl (fun own a => if own.contains a then own else own ++ [a]) own ↔ x ∈ own ∨ x ∈ l := by
  induction l generalizing own with
  | nil => simp
  | cons a l ih =>
    rw [List.foldl_cons, ih, List.mem_cons]
    split
    · rename_i h
      have ha : a ∈ own := List.contains_iff_mem.1 h
      exact ⟨fun h => h.imp id Or.inr, fun h => h.elim Or.inl fun h => h.elim (fun e => Or.inl (e ▸ ha)) Or.inr⟩
    · rw [List.mem_append, List.mem_singleton, or_assoc]

/-! ### dialling, exactly

  `connect_sock` either does nothing or is `dialTo`; `connect` and `connect_to_peers` are sequences of such dials (and of adoptions of
  own addresses).  `Dialling env c as c'` records the sequence: `as` are the addresses dialled, in order.  Everything else that is
  known of the connect family — what it leaves alone, what the new datagrams and attempts are, that nothing dialled is undone — is read
  off this relation. -/

/-- `connect_sock` to `a` once the address has passed the guard: the attempt is stored, its ping sent -/
def dialTo (env : CryptoEnv) (c : Ctx) (a : NAddr) (hash : Bytes) (rnd : Rand) : Ctx :=
  ({ c with node := { c.node with pending := insertA c.node.pending a { init := some (Init.sendPing env (attemptSt c.node hash) rnd).1 } } }).send a
    (Generated.INIT_MESSAGE_FIRST_BYTE :: (Init.sendPing env (attemptSt c.node hash) rnd).2)

/-- the guard of `connect_sock`: the address is not own, no peer, and nothing is pending for it -/
def NewAddr (n : Node) (a : NAddr) : Prop := n.own.contains a = false ∧ lookupA n.peers a = none ∧ lookupA n.pending a = none

inductive Dialling (env : CryptoEnv) (c : Ctx) : List NAddr → Ctx → Prop
  | refl : Dialling env c [] c
  | dial {as : List NAddr} {c' : Ctx} (a : NAddr) (hash : Bytes) (rnd : Rand) : Dialling env c as c' → mappedAddr a = a → NewAddr c'.node a →
      Dialling env c (as ++ [a]) (dialTo env c' a hash rnd)
  | adopt {as : List NAddr} {c' : Ctx} (l : List NAddr) : Dialling env c as c' → Dialling env c as (adoptOwn c' l)

theorem Dialling.trans {env : CryptoEnv} {as bs : List NAddr} {c1 c2 c3 : Ctx} (h1 : Dialling env c1 as c2) (h2 : Dialling env c2 bs c3) :
    Dialling env c1 (as ++ bs) c3 := by
  induction h2 with
  | refl => rw [List.append_nil]; exact h1
  | dial a hash rnd _ hm hn ih => rw [← List.append_assoc]; exact .dial a hash rnd ih hm hn
  | adopt l _ ih => exact .adopt l ih

theorem connectSock_cases (env : CryptoEnv) (o : Oracle) (c : Ctx) (a0 : NAddr) :
    (¬ NewAddr c.node (mappedAddr a0) ∧ connectSock env o c a0 = c) ∨
    (NewAddr c.node (mappedAddr a0) ∧ connectSock env o c a0 = dialTo env c (mappedAddr a0) ((rndFor o c (mappedAddr a0)).2.2.getD []) (rndFor o c (mappedAddr a0)).1) := by
  unfold connectSock
  simp only []
  by_cases hg : ((lookupA c.node.peers (mappedAddr a0)).isSome || c.node.own.contains (mappedAddr a0) || (lookupA c.node.pending (mappedAddr a0)).isSome) = true
  · rw [if_pos hg]
    refine Or.inl ⟨fun hn => ?_, rfl⟩
    rw [hn.1, hn.2.1, hn.2.2] at hg
    cases hg
  · rw [if_neg hg]
    simp only [Bool.or_eq_true, not_or, Bool.not_eq_true, Option.isSome_eq_false_iff, Option.isNone_iff_eq_none] at hg
    exact Or.inr ⟨⟨hg.1.2, hg.1.1, hg.2⟩, rfl⟩

theorem connectSock_new (env : CryptoEnv) (o : Oracle) (c : Ctx) (a : NAddr) (hm : mappedAddr a = a) (hn : NewAddr c.node a) :
    connectSock env o c a = dialTo env c a ((rndFor o c a).2.2.getD []) (rndFor o c a).1 := by
  rcases connectSock_cases env o c a with ⟨hk, _⟩ | ⟨_, e⟩
  · rw [hm] at hk; exact absurd hn hk
  · rw [hm] at e; exact e

theorem connectSock_dialling (env : CryptoEnv) (o : Oracle) (c : Ctx) (a0 : NAddr) :
    ∃ as, Dialling env c as (connectSock env o c a0) ∧ ∀ a ∈ as, a = mappedAddr a0 := by
  rcases connectSock_cases env o c a0 with ⟨_, e⟩ | ⟨hn, e⟩ <;> rw [e]
  · exact ⟨[], .refl, fun _ h => absurd h List.not_mem_nil⟩
  · exact ⟨[mappedAddr a0], .dial _ _ _ .refl (mappedAddr_idem a0) hn, fun _ h => List.mem_singleton.1 h⟩

namespace Dialling
variable {env : CryptoEnv} {c c' : Ctx} {as : List NAddr}

theorem toDial (h : Dialling env c as c') : Dial unjoined c c' := by
  induction h with
  | refl => exact Dial.refl _ c
  | dial a hash rnd _ _ _ ih => exact ih.trans ⟨rfl, Ext.snoc _ ⟨_, _, rfl⟩⟩
  | adopt l _ ih => exact ih.trans ⟨rfl, Ext.refl _ _⟩

theorem own (h : Dialling env c as c') : ∀ x ∈ c.node.own, x ∈ c'.node.own := by
  induction h with
  | refl => exact fun _ hx => hx
  | dial a hash rnd _ _ _ ih => exact ih
  | adopt l _ ih => exact fun x hx => (NodeInvLemmas.mem_foldl_adopt l _ x).2 (Or.inl (ih x hx))

theorem pending (h : Dialling env c as c') : ∀ a pc, lookupA c.node.pending a = some pc → lookupA c'.node.pending a = some pc := by
  induction h with
  | refl => exact fun _ _ hp => hp
  | dial a hash rnd _ _ hn ih =>
    intro b pc hb
    have hne : b ≠ a := fun e => by
      have := ih b pc hb
      rw [e, hn.2.2] at this
      cases this
    exact (lookupA_insertA_ne _ _ hne).trans (ih b pc hb)
  | adopt l _ ih => exact ih

theorem new_keys (h : Dialling env c as c') : ∀ a, a ∈ c'.node.pending.map (·.1) → a ∈ c.node.pending.map (·.1) ∨ a ∈ as := by
  induction h with
  | refl => exact fun _ ha => Or.inl ha
  | dial a hash rnd _ _ _ ih =>
    intro b hb
    rcases key_mem_insertA (show b ∈ (insertA _ a _).map (·.1) from hb) with rfl | hb
    · exact Or.inr (List.mem_append_right _ (List.mem_singleton.2 rfl))
    · exact (ih b hb).imp id (List.mem_append_left _)
  | adopt l _ ih => exact ih

theorem was_new (h : Dialling env c as c') : ∀ a ∈ as, a ∉ c.node.own ∧ a ∉ c.node.peers.map (·.1) ∧ a ∉ c.node.pending.map (·.1) := by
  induction h with
  | refl => exact fun _ ha => absurd ha List.not_mem_nil
  | dial a hash rnd h0 _ hn ih =>
    intro b hb
    rcases List.mem_append.1 hb with hb | hb
    · exact ih b hb
    · cases List.mem_singleton.1 hb
      refine ⟨fun ho => NodeInvLemmas.not_mem_of_contains_false hn.1 (h0.own _ ho), ?_, fun hp => ?_⟩
      · rw [← frame_proj h0.toDial.frame (·.node.peers), ← lookupA_none_iff]
        exact hn.2.1
      · obtain ⟨pc, hpc⟩ := Option.isSome_iff_exists.1 ((lookupA_isSome_iff _ _).2 hp)
        have := h0.pending _ _ hpc
        rw [hn.2.2] at this
        cases this
  | adopt l _ ih => exact ih

theorem pings (h : Dialling env c as c') : ∃ ex, c'.outs = c.outs ++ ex ∧
    (∀ x ∈ ex, ∃ d b, x = .dgram d (Generated.INIT_MESSAGE_FIRST_BYTE :: b) ∧ d ∈ as) ∧
    ∀ a ∈ as, ∃ b, Out.dgram a (Generated.INIT_MESSAGE_FIRST_BYTE :: b) ∈ ex := by
  induction h with
  | refl => exact ⟨[], (List.append_nil _).symm, ⟨fun _ hx => absurd hx List.not_mem_nil, fun _ ha => absurd ha List.not_mem_nil⟩⟩
  | dial a hash rnd _ _ _ ih =>
    obtain ⟨ex, he, h1, h2⟩ := ih
    refine ⟨ex ++ [.dgram a _], by rw [← List.append_assoc, ← he]; rfl, fun x hx => ?_, fun b hb => ?_⟩
    · rcases List.mem_append.1 hx with hx | hx
      · obtain ⟨d, b, e, hd⟩ := h1 x hx
        exact ⟨d, b, e, List.mem_append_left _ hd⟩
      · exact ⟨a, _, List.mem_singleton.1 hx, List.mem_append_right _ (List.mem_singleton.2 rfl)⟩
    · rcases List.mem_append.1 hb with hb | hb
      · obtain ⟨b', hb'⟩ := h2 b hb
        exact ⟨b', List.mem_append_left _ hb'⟩
      · cases List.mem_singleton.1 hb
        exact ⟨_, List.mem_append_right _ (List.mem_singleton.2 rfl)⟩
  | adopt l _ ih => exact ih

end Dialling

theorem foldl_connectSock_dialling (env : CryptoEnv) (o : Oracle) : ∀ (l : List NAddr) (c : Ctx),
    ∃ as, Dialling env c as (l.foldl (connectSock env o) c) ∧ (∀ a ∈ as, a ∈ l.map mappedAddr) ∧
      ∀ a ∈ l, NewAddr c.node (mappedAddr a) → mappedAddr a ∈ as
  | [], c => ⟨[], .refl, fun _ h => absurd h List.not_mem_nil, fun _ h => absurd h List.not_mem_nil⟩
  | x :: l, c => by
    obtain ⟨as1, h1, m1, d1⟩ := foldl_connectSock_dialling env o l (connectSock env o c x)
    rw [List.foldl_cons]
    rcases connectSock_cases env o c x with ⟨hk, e⟩ | ⟨hn, e⟩
    · rw [e] at h1 d1 ⊢
      refine ⟨as1, h1, fun a ha => List.mem_cons_of_mem _ (m1 a ha), fun a ha hna => ?_⟩
      rcases List.mem_cons.1 ha with rfl | ha
      · exact absurd hna hk
      · exact d1 a ha hna
    · have h0 : Dialling env c [mappedAddr x] (connectSock env o c x) := by
        rw [e]; exact .dial _ _ _ .refl (mappedAddr_idem x) hn
      refine ⟨mappedAddr x :: as1, h0.trans h1, fun a ha => ?_, fun a ha hna => ?_⟩
      · rcases List.mem_cons.1 ha with rfl | ha
        · exact List.mem_cons_self
        · exact List.mem_cons_of_mem _ (m1 a ha)
      · by_cases hax : mappedAddr a = mappedAddr x
        · rw [hax]; exact List.mem_cons_self
        · rcases List.mem_cons.1 ha with rfl | ha
          · exact absurd rfl hax
          · refine List.mem_cons_of_mem _ (d1 a ha ?_)
            rw [e]
            exact ⟨hna.1, hna.2.1, (lookupA_insertA_ne _ _ hax).trans hna.2.2⟩

theorem connect_dialling (env : CryptoEnv) (o : Oracle) (c : Ctx) (l : List NAddr) :
    ∃ as, Dialling env c as (connect env o c l) ∧ (∀ a ∈ as, a ∈ l.map mappedAddr) ∧
      ((∀ a ∈ l, NewAddr c.node (mappedAddr a)) → ∀ a ∈ l, mappedAddr a ∈ as) := by
  unfold connect
  simp only []
  split
  · rename_i hany
    refine ⟨[], .refl, fun _ h => absurd h List.not_mem_nil, fun hall a ha => ?_⟩
    obtain ⟨b, hb, hk⟩ := List.any_eq_true.1 hany
    obtain ⟨b0, hb0, rfl⟩ := List.mem_map.1 hb
    obtain ⟨h1, h2, h3⟩ := hall b0 hb0
    rw [h1, h2, h3] at hk
    cases hk
  · obtain ⟨as, h, m, d⟩ := foldl_connectSock_dialling env o (l.map mappedAddr) c
    refine ⟨as, h, fun a ha => ?_, fun hall a ha => ?_⟩
    · obtain ⟨b, hb, rfl⟩ := List.mem_map.1 (m a ha)
      obtain ⟨b0, hb0, rfl⟩ := List.mem_map.1 hb
      rw [mappedAddr_idem]
      exact List.mem_map.2 ⟨b0, hb0, rfl⟩
    · have := d (mappedAddr a) (List.mem_map.2 ⟨a, ha, rfl⟩) (by rw [mappedAddr_idem]; exact hall a ha)
      rwa [mappedAddr_idem] at this

theorem connectSock_dial (env : CryptoEnv) (o : Oracle) (c : Ctx) (a : NAddr) : Dial undialled c (connectSock env o c a) := by
  rcases connectSock_cases env o c a with ⟨_, e⟩ | ⟨_, e⟩ <;> rw [e]
  · exact Dial.refl _ c
  · exact ⟨rfl, Ext.snoc _ ⟨_, _, rfl⟩⟩

theorem connect_dial (env : CryptoEnv) (o : Oracle) (c : Ctx) (l : List NAddr) : Dial undialled c (connect env o c l) :=
  connect_inv env o (fun c' a h => h.trans (connectSock_dial env o c' a)) c l (Dial.refl _ c)

theorem connectSock_frame (env : CryptoEnv) (o : Oracle) (c : Ctx) (a : NAddr) : undialled (connectSock env o c a) = undialled c :=
  (connectSock_dial env o c a).frame

theorem connect_frame (env : CryptoEnv) (o : Oracle) (c : Ctx) (l : List NAddr) : undialled (connect env o c l) = undialled c :=
  (connect_dial env o c l).frame

theorem connectToPeers_cons (env : CryptoEnv) (o : Oracle) (c : Ctx) (p : PeerInfo) (ps : List PeerInfo) :
    connectToPeers env o c (p :: ps) = connectToPeers env o (connectToPeers env o c [p]) ps := rfl

theorem connectToPeers_append (env : CryptoEnv) (o : Oracle) (c : Ctx) (l1 l2 : List PeerInfo) :
    connectToPeers env o c (l1 ++ l2) = connectToPeers env o (connectToPeers env o c l1) l2 := by
  unfold connectToPeers
  rw [List.foldl_append]

theorem any_peer_false {n : Node} {l : List NAddr} (h : ∀ a ∈ l, a ∉ n.peers.map (·.1)) :
    l.any (fun a => (lookupA n.peers a).isSome) = false := by
  rw [List.any_eq_false]
  intro a ha
  rw [lookupA_isSome_iff]
  exact h a ha

theorem connectToPeers_own_entry (env : CryptoEnv) (o : Oracle) (c : Ctx) (pi : PeerInfo) (hid : pi.nodeId = some c.node.nodeId)
    (hnp : ∀ a ∈ pi.addrs, a ∉ c.node.peers.map (·.1)) : connectToPeers env o c [pi] = adoptOwn c pi.addrs := by
  have hg := any_peer_false hnp
  unfold connectToPeers adoptOwn
  simp only [List.foldl_cons, List.foldl_nil, hg, hid, Bool.false_eq_true, if_false, if_true]

theorem connectToPeers_known_addr (env : CryptoEnv) (o : Oracle) (c : Ctx) (p : PeerInfo)
    (h : ∃ a ∈ p.addrs, a ∈ c.node.peers.map (·.1)) : connectToPeers env o c [p] = c := by
  obtain ⟨a, ha, hk⟩ := h
  have hg : p.addrs.any (fun a => (lookupA c.node.peers a).isSome) = true :=
    List.any_eq_true.2 ⟨a, ha, (lookupA_isSome_iff _ _).2 hk⟩
  unfold connectToPeers
  simp only [List.foldl_cons, List.foldl_nil, hg, if_true]

theorem connectToPeers_known_id (env : CryptoEnv) (o : Oracle) (c : Ctx) (p : PeerInfo) (id : Bytes)
    (hid : p.nodeId = some id) (hne : id ≠ c.node.nodeId) (h : ∃ x ∈ c.node.peers, x.2.nodeId = id) :
    connectToPeers env o c [p] = c := by
  obtain ⟨x, hx, hxi⟩ := h
  have hany : c.node.peers.any (fun (x : NAddr × Peer) => match x with | (_, q) => decide (q.nodeId = id)) = true :=
    List.any_eq_true.2 ⟨x, hx, by obtain ⟨x1, x2⟩ := x; simpa using hxi⟩
  unfold connectToPeers
  simp only [List.foldl_cons, List.foldl_nil, hid, if_neg hne]
  split
  · rfl
  · first | rfl | rw [if_pos hany]

theorem connectToPeers_unknown (env : CryptoEnv) (o : Oracle) (c : Ctx) (p : PeerInfo) (h : Unknown c.node p) :
    connectToPeers env o c [p] = connect env o c p.addrs := by
  obtain ⟨h1, h2, h3⟩ := h
  have hg := any_peer_false h3
  unfold connectToPeers
  simp only [List.foldl_cons, List.foldl_nil, hg, Bool.false_eq_true, if_false]
  cases hid : p.nodeId with
  | none => rfl
  | some id =>
    have hne : id ≠ c.node.nodeId := by
      intro e; rw [hid, e] at h1; exact h1 rfl
    have hany : c.node.peers.any (fun (x : NAddr × Peer) => match x with | (_, q) => decide (q.nodeId = id)) = false := by
      rw [List.any_eq_false]
      intro x hx
      obtain ⟨x1, x2⟩ := x
      simpa using h2 id hid (x1, x2) hx
    simp only [if_neg hne, hany, Bool.false_eq_true, if_false]

/-- one entry of `connect_to_peers`: skipped (then it is not an entry under the node's own id without a peer address), adopted, or
    handed to `connect` -/
theorem connectToPeers_one_cases (env : CryptoEnv) (o : Oracle) (c : Ctx) (p : PeerInfo) :
    (¬ (p.nodeId = some c.node.nodeId ∧ ∀ a ∈ p.addrs, a ∉ c.node.peers.map (·.1)) ∧ connectToPeers env o c [p] = c) ∨
    ((p.nodeId = some c.node.nodeId ∧ ∀ a ∈ p.addrs, a ∉ c.node.peers.map (·.1)) ∧ connectToPeers env o c [p] = adoptOwn c p.addrs) ∨
    (Unknown c.node p ∧ connectToPeers env o c [p] = connect env o c p.addrs) := by
  by_cases hk : ∃ a ∈ p.addrs, a ∈ c.node.peers.map (·.1)
  · obtain ⟨a, ha, hm⟩ := hk
    exact Or.inl ⟨fun h => h.2 a ha hm, connectToPeers_known_addr env o c p ⟨a, ha, hm⟩⟩
  · have hk' : ∀ a ∈ p.addrs, a ∉ c.node.peers.map (·.1) := fun a ha hm => hk ⟨a, ha, hm⟩
    by_cases hown : p.nodeId = some c.node.nodeId
    · exact Or.inr (Or.inl ⟨⟨hown, hk'⟩, connectToPeers_own_entry env o c p hown hk'⟩)
    · by_cases hid : ∃ id, p.nodeId = some id ∧ ∃ x ∈ c.node.peers, x.2.nodeId = id
      · obtain ⟨id, h1, h2⟩ := hid
        exact Or.inl ⟨fun h => hown h.1, connectToPeers_known_id env o c p id h1 (by intro e; rw [h1, e] at hown; exact hown rfl) h2⟩
      · have hu : Unknown c.node p := ⟨hown, fun id h1 x hx hxi => hid ⟨id, h1, x, hx, hxi⟩, hk'⟩
        exact Or.inr (Or.inr ⟨hu, connectToPeers_unknown env o c p hu⟩)

/-- `connect_to_peers` on a whole list.  Node id and peer list do not change on the way, so whether an entry is `Unknown`, or the node's
    own (its id, no peer address: an entry with a peer address is skipped before its id is looked at), is said of the state at the
    start: what is dialled comes from the former, what is adopted — the addresses as listed — from the latter. -/
theorem connectToPeers_dialling (env : CryptoEnv) (o : Oracle) (l : List PeerInfo) : ∀ (c : Ctx),
    ∃ as, Dialling env c as (connectToPeers env o c l) ∧
      (∀ a ∈ as, ∃ pi ∈ l, Unknown c.node pi ∧ a ∈ pi.addrs.map mappedAddr) ∧
      ∀ x, x ∈ (connectToPeers env o c l).node.own ↔ x ∈ c.node.own ∨ ∃ pi ∈ l, pi.nodeId = some c.node.nodeId ∧
        (∀ a ∈ pi.addrs, a ∉ c.node.peers.map (·.1)) ∧ x ∈ pi.addrs := by
  induction l with
  | nil => exact fun c => ⟨[], .refl, nofun, fun x => ⟨Or.inl, fun h => h.elim id fun ⟨_, hpi, _⟩ => nomatch hpi⟩⟩
  | cons p ps ih =>
    intro c
    have h1 : ∃ as, Dialling env c as (connectToPeers env o c [p]) ∧ (∀ a ∈ as, Unknown c.node p ∧ a ∈ p.addrs.map mappedAddr) ∧
        ∀ x, x ∈ (connectToPeers env o c [p]).node.own ↔ x ∈ c.node.own ∨
          (p.nodeId = some c.node.nodeId ∧ (∀ a ∈ p.addrs, a ∉ c.node.peers.map (·.1)) ∧ x ∈ p.addrs) := by
      rcases connectToPeers_one_cases env o c p with ⟨hn, e⟩ | ⟨ho, e⟩ | ⟨hu, e⟩ <;> rw [e]
      · exact ⟨[], .refl, nofun, fun x => ⟨Or.inl, fun h => h.elim id fun h => absurd ⟨h.1, h.2.1⟩ hn⟩⟩
      · exact ⟨[], .adopt p.addrs .refl, nofun, fun x => (NodeInvLemmas.mem_foldl_adopt _ _ x).trans
          (or_congr_right ⟨fun h => ⟨ho.1, ho.2, h⟩, fun h => h.2.2⟩)⟩
      · obtain ⟨as, h, m, _⟩ := connect_dialling env o c p.addrs
        refine ⟨as, h, fun a ha => ⟨hu, m a ha⟩, fun x => ?_⟩
        rw [frame_proj (connect_frame env o c p.addrs) (·.node.own)]
        exact ⟨Or.inl, fun h => h.elim id fun h => absurd h.1 hu.1⟩
    obtain ⟨as1, d1, m1, o1⟩ := h1
    obtain ⟨as2, d2, m2, o2⟩ := ih (connectToPeers env o c [p])
    have hid : (connectToPeers env o c [p]).node.nodeId = c.node.nodeId := frame_proj d1.toDial.frame (·.node.nodeId)
    have hpe : (connectToPeers env o c [p]).node.peers = c.node.peers := frame_proj d1.toDial.frame (·.node.peers)
    rw [connectToPeers_cons]
    refine ⟨as1 ++ as2, d1.trans d2, fun a ha => ?_, fun x => ?_⟩
    · rcases List.mem_append.1 ha with ha | ha
      · exact ⟨p, List.mem_cons_self, m1 a ha⟩
      · obtain ⟨pi, hpi, hu, hm⟩ := m2 a ha
        exact ⟨pi, List.mem_cons_of_mem _ hpi, hu.congr hid.symm hpe.symm, hm⟩
    · rw [o2, hid, hpe, o1]
      constructor
      · rintro ((h | h) | ⟨pi, hpi, h⟩)
        · exact Or.inl h
        · exact Or.inr ⟨p, List.mem_cons_self, h⟩
        · exact Or.inr ⟨pi, List.mem_cons_of_mem _ hpi, h⟩
      · rintro (h | ⟨pi, hpi, h⟩)
        · exact Or.inl (Or.inl h)
        · rcases List.mem_cons.1 hpi with rfl | hpi
          · exact Or.inl (Or.inr h)
          · exact Or.inr ⟨pi, hpi, h⟩

theorem connectToPeers_dial (env : CryptoEnv) (o : Oracle) (c : Ctx) (l : List PeerInfo) : Dial unjoined c (connectToPeers env o c l) :=
  let ⟨_, h, _⟩ := connectToPeers_dialling env o l c
  h.toDial

theorem connectSock_ext (env : CryptoEnv) (o : Oracle) (c : Ctx) (a : NAddr) : Ext IsHs c.outs (connectSock env o c a).outs :=
  (connectSock_dial env o c a).outs

theorem connectSock_peers (env : CryptoEnv) (o : Oracle) (c : Ctx) (a : NAddr) : (connectSock env o c a).node.peers = c.node.peers :=
  frame_proj (connectSock_dial env o c a).frame (·.node.peers)

theorem connectSock_own (env : CryptoEnv) (o : Oracle) (c : Ctx) (a : NAddr) : (connectSock env o c a).node.own = c.node.own :=
  frame_proj (connectSock_frame env o c a) (·.node.own)

theorem connect_ext (env : CryptoEnv) (o : Oracle) (c : Ctx) (l : List NAddr) : Ext IsHs c.outs (connect env o c l).outs :=
  (connect_dial env o c l).outs

theorem connect_peers (env : CryptoEnv) (o : Oracle) (c : Ctx) (l : List NAddr) : (connect env o c l).node.peers = c.node.peers :=
  frame_proj (connect_dial env o c l).frame (·.node.peers)

theorem connectToPeers_ext (env : CryptoEnv) (o : Oracle) (c : Ctx) (l : List PeerInfo) :
    Ext IsHs c.outs (connectToPeers env o c l).outs :=
  (connectToPeers_dial env o c l).outs

theorem connectToPeers_peers (env : CryptoEnv) (o : Oracle) (c : Ctx) (l : List PeerInfo) :
    (connectToPeers env o c l).node.peers = c.node.peers :=
  frame_proj (connectToPeers_dial env o c l).frame (·.node.peers)

theorem connectSock_table (env : CryptoEnv) (o : Oracle) (c : Ctx) (a : NAddr) : (connectSock env o c a).node.table = c.node.table :=
  frame_proj (connectSock_frame env o c a) (·.node.table)

theorem connect_table (env : CryptoEnv) (o : Oracle) (c : Ctx) (l : List NAddr) : (connect env o c l).node.table = c.node.table :=
  frame_proj (connect_frame env o c l) (·.node.table)

theorem connectToPeers_table (env : CryptoEnv) (o : Oracle) (c : Ctx) (l : List PeerInfo) :
    (connectToPeers env o c l).node.table = c.node.table :=
  frame_proj (connectToPeers_dial env o c l).frame (·.node.table)

theorem connectToPeers_nextPeers (env : CryptoEnv) (o : Oracle) (c : Ctx) (l : List PeerInfo) :
    (connectToPeers env o c l).node.nextPeers = c.node.nextPeers :=
  frame_proj (connectToPeers_dial env o c l).frame (·.node.nextPeers)

end VpnCloud.Proofs.NodeLemmas
