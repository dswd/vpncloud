import VpnCloud.Proofs.Lemmas.Node.NodeInvLemmas
/-
  Helper lemmas for `Proofs/C02More.lean` (C02 / C06 / C08 at node level):

  * a GENERIC step invariant `WI S` (structure `WS K`): the configuration of the node is `K`, every stored session satisfies an
    address-indexed predicate `X` that is closed under the session layer, every datagram emitted so far is empty, a handshake datagram, or
    the product of `encrypt_message` of a session that satisfies `X` for the destination — with its seal in the log of the step —, and
    (switch `N`) the keys of `peers` and `pending` are pairwise distinct.  It is an instance (`WS.si`, `wi_iff`) of the generic node
    invariant of `NodeInvLemmas.lean`; the wire form itself (`WOut`, `OutWire`) is in `WireLemmas.lean`,
  * the session-layer facts for the instance "plain only if both" (`PlainOK`),
  * non-interference of the frame contents with the wire bytes of `handle_interface_data` (`IfSim`),
  * well-formed crypto cores (`CoreWF`) and the instance "all cores are well-formed" (`coreWS`).
  The association lists with pairwise distinct keys are in `AssocLemmas.lean`.
-/
namespace VpnCloud.Proofs.C02MoreLemmas

open VpnCloud.Node
open VpnCloud.Proofs.AssocLemmas VpnCloud.Proofs.NodeLemmas VpnCloud.Proofs.SessionInvLemmas VpnCloud.Proofs.NodeInvLemmas VpnCloud.Proofs.InitLemmas
open VpnCloud.Proofs.SessionOps

/-- an address-indexed predicate on sessions that is closed under the session layer, for a node with configuration `K` -/
structure WS (K : NodeCfg) where
  X : NAddr → PeerCrypto → Prop
  /-- track that the keys of `peers` and of `pending` are pairwise distinct -/
  N : Prop
  att : ∀ (n : Node) (hash : Bytes) (a : NAddr), n.cfg = K → X a (newAttempt n hash)
  ping : ∀ (env : CryptoEnv) (n : Node) (hash : Bytes) (rnd : Rand) (ist : InitSt) (a : NAddr), n.cfg = K →
    (newAttempt n hash).init = some ist → X a { newAttempt n hash with init := some (Init.sendPing env ist rnd).1 }
  tick_ok : ∀ (a : NAddr) (pc : PeerCrypto) (rr : RotRand) (pc' : PeerCrypto) (out : Bytes) (res : MsgResult) (log : Init.SealLog), X a pc →
    PeerCrypto.everySecond pc rr = .ok pc' out res log → X a pc'
  x_seal : ∀ (a : NAddr) (pc : PeerCrypto) (ty : Nat) (body ct : Bytes), X a pc → X a (PeerCrypto.sendMessage pc ty body ct).1

/-- `X` is closed under `handle_message` for ONE datagram.  Not a field of `WS`: `C02More.flipWS` is closed only for datagrams from
    another address (`flipWS_msgClosed_ne`) or under a hypothesis on the datagram (`flipWS_msgClosed`) -/
def MsgClosed (X : NAddr → PeerCrypto → Prop) (env : CryptoEnv) (bodyOf : Init.BodyOf) (src : NAddr) (data tail : Bytes) : Prop :=
  ∀ (pc : PeerCrypto) (rnd : Rand) (rr : RotRand), X src pc → Leaves (X src) (PeerCrypto.handleMessage env bodyOf payloadOk pc data tail rnd rr)

structure WI {K : NodeCfg} (S : WS K) (c : Ctx) : Prop where
  cfg : c.node.cfg = K
  pend : ∀ a pc, (a, pc) ∈ c.node.pending → S.X a pc
  peers : ∀ a p, (a, p) ∈ c.node.peers → S.X a p.crypto
  outs : ∀ x ∈ c.outs, WOut S.X c.log x
  ndp : S.N → (c.node.peers.map (·.1)).Nodup
  ndq : S.N → (c.node.pending.map (·.1)).Nodup

variable {K : NodeCfg} {S : WS K}

theorem WI.init (n : Node) (hcfg : n.cfg = K) (hq : ∀ a pc, (a, pc) ∈ n.pending → S.X a pc) (hp : ∀ a p, (a, p) ∈ n.peers → S.X a p.crypto)
    (h1 : S.N → (n.peers.map (·.1)).Nodup) (h2 : S.N → (n.pending.map (·.1)).Nodup) : WI S { node := n } :=
  ⟨hcfg, hq, hp, fun x hx => (by cases hx), h1, h2⟩

theorem WI.ext_hs {c c' : Ctx} (h : WI S c) (hn : c'.node = c.node) (hl : c'.log = c.log) (ho : Ext IsHs c.outs c'.outs) : WI S c' := by
  refine ⟨by rw [hn]; exact h.cfg, by rw [hn]; exact h.pend, by rw [hn]; exact h.peers, ?_, by rw [hn]; exact h.ndp, by rw [hn]; exact h.ndq⟩
  intro x hx
  rw [hl]
  rcases ho.mem hx with hx | hx
  · exact h.outs x hx
  · exact WOut.of_isHs hx

def WS.si (S : WS K) : NS where
  Q := S.X
  R := S.X
  C := fun _ k _ _ => k = K
  c_mono := fun _ _ _ _ _ _ h => h
  O := True
  W := S.X
  w_q := fun _ _ h => h
  w_r := fun _ _ h => h
  N := S.N
  T := False
  P := False
  L := False
  q_new := fun env n hash rnd ist a hc _ hist => S.ping env n hash rnd ist a hc hist
  r_seal := S.x_seal

theorem wi_iff (c : Ctx) : WI S c ↔ GI S.si c :=
  ⟨fun h => ⟨fun a pc hm _ => h.pend a pc hm, h.peers, nofun, nofun, nofun, h.cfg, fun _ => h.outs, h.ndp, h.ndq⟩,
   fun h => ⟨h.static, fun a pc hm => h.pend a pc hm nofun, h.peers, h.outs trivial, h.keysP, h.keysQ⟩⟩

theorem WS.tok (S : WS K) (a : NAddr) (pc : PeerCrypto) (rr : RotRand) :
    (S.si.Q a pc → TickOK S.si (S.si.Q a) (PeerCrypto.everySecond pc rr)) ∧ (S.si.R a pc → TickOK S.si (S.si.R a) (PeerCrypto.everySecond pc rr)) :=
  ⟨fun hq => .of_ok id id fun pc' out res log hr => S.tick_ok a pc rr pc' out res log hq hr,
   fun hq => .of_ok id id fun pc' out res log hr => S.tick_ok a pc rr pc' out res log hq hr⟩

theorem WS.msgOK (S : WS K) {env : CryptoEnv} {bodyOf : Init.BodyOf} {a : NAddr} {data tail : Bytes} (hm : MsgClosed S.X env bodyOf a data tail)
    (pc : PeerCrypto) (inPeers : Bool) (rnd : Rand) (rr : RotRand) (h : if inPeers then S.si.R a pc else S.si.Q a pc) :
    MsgOK S.si a inPeers (PeerCrypto.handleMessage env bodyOf payloadOk pc data tail rnd rr) := by
  have hx : S.X a pc := by
    cases inPeers
    · exact h
    · exact h
  exact .of_leaves (hm pc rnd rr hx) (fun _ h' => ⟨h', fun _ => h'⟩) id id nofun

theorem handleNet_WI (env : CryptoEnv) (bodyOf : Init.BodyOf) (o : Oracle) (n : Node) (now : Int) (src0 : NAddr) (data tail : Bytes)
    (h : WI S { node := n }) (hm : MsgClosed S.X env bodyOf (mappedAddr src0) data tail) :
    WI S (handleNet env bodyOf o n now src0 data tail).1 :=
  (wi_iff _).2 (handleNet_GI S.si env bodyOf o n now src0 data tail ((wi_iff _).1 h) (S.msgOK hm) (fun hash => S.att n hash _ h.cfg) nofun)

theorem selectAlgorithm_none (own peer : Algos) (h : Init.selectAlgorithm own peer = .ok none) :
    own.allowUnencrypted = true ∧ peer.allowUnencrypted = true := by
  by_cases hb : (own.allowUnencrypted && peer.allowUnencrypted) = true
  · simpa using hb
  · rw [Init.selectAlgorithm, if_neg hb] at h
    simp only at h
    split at h <;> cases h

def SameIU (pc pc' : PeerCrypto) : Prop := pc'.init = pc.init ∧ pc'.unencrypted = pc.unencrypted

theorem SameIU.refl (pc : PeerCrypto) : SameIU pc pc := ⟨rfl, rfl⟩

theorem onCore_iu (pc : PeerCrypto) (ops : List C04Session.SOp) : SameIU pc (onCore pc ops) := ⟨rfl, rfl⟩

theorem sealMsg_iu (pc : PeerCrypto) (plain ct : Bytes) : SameIU pc (PeerCrypto.sealMsg pc plain ct).1 := by
  rw [sealMsg_fst]
  exact onCore_iu pc _

theorem sessClosed_of_iu {X : PeerCrypto → Prop} (h : ∀ pc pc', SameIU pc pc' → X pc → X pc') : SessClosed X :=
  sessClosed_of_onCore (fun pc ops => h _ _ (onCore_iu pc ops)) (fun _ _ _ => h _ _ ⟨rfl, rfl⟩)

/-- a handshake object of a node with configuration `K`: it advertises the node's algorithm list; an object that has answered a ping
    (stage PENG) without installing a key has chosen plain, which needs the node's own flag -/
def IPl (K : NodeCfg) (i : InitSt) : Prop :=
  i.algos = K.algos ∧ (i.stage = Generated.STAGE_PENG → i.crypto = none → K.algos.allowUnencrypted = true)

/-- a session of a node with configuration `K`: unencrypted only if the node enabled plain -/
def PlainOK (K : NodeCfg) (pc : PeerCrypto) : Prop :=
  (pc.unencrypted = true → K.algos.allowUnencrypted = true) ∧ OnInit (IPl K) pc

theorem PlainOK.of_iu {K : NodeCfg} {pc pc' : PeerCrypto} (h : PlainOK K pc) (hi : SameIU pc pc') : PlainOK K pc' :=
  ⟨fun hu => h.1 (hi.2 ▸ hu), fun i hi' => h.2 i (hi.1 ▸ hi')⟩

theorem plainOK_closed (K : NodeCfg) : SessClosed (PlainOK K) := sessClosed_of_iu fun _ _ hi h => h.of_iu hi

theorem init_sendMessage_algos (env : CryptoEnv) (st : InitSt) (stage : Nat) (rnd : Rand) :
    (Init.sendMessage env st stage rnd).1.algos = st.algos := by
  obtain ⟨cr, l, h, _⟩ := init_sendMessage_frame env st stage rnd
  rw [h]

theorem init_sendMessage_cryptoNone (env : CryptoEnv) (st : InitSt) (stage : Nat) (rnd : Rand) :
    (Init.sendMessage env st stage rnd).1.crypto = none ↔ st.crypto = none := by
  obtain ⟨cr, l, h, hc⟩ := init_sendMessage_frame env st stage rnd
  rw [h]
  rcases hc with rfl | rfl
  · exact Iff.rfl
  · simp

theorem decryptPayload_cryptoNone (s s' : InitSt) (bodyOf : Init.BodyOf) (data : Bytes) (r : Option Bytes)
    (h : Init.decryptPayload s bodyOf data = (s', r)) :
    (∃ cr, s' = { s with crypto := cr } ∧ (cr = none ↔ s.crypto = none)) := by
  obtain ⟨cr, hs, hc⟩ := decryptPayload_frame s s' bodyOf data r h
  refine ⟨cr, hs, ?_⟩
  rcases hc with rfl | ⟨c, d, hc, rfl⟩
  · exact Iff.rfl
  · simp [hc]

/-- what a completed handshake leaves for `successPc`: the object is past PENG, and it is without core only if the node enabled plain -/
def IPlDone (K : NodeCfg) (i : InitSt) : Prop :=
  IPl K i ∧ i.stage ≠ Generated.STAGE_PENG ∧ (i.crypto = none → K.algos.allowUnencrypted = true)

/-- the answer to a ping holds a key unless `select_algorithm` chose plain -/
theorem pingSt_keyless (env : CryptoEnv) (st0 : InitSt) (h e : Bytes) (sel : Option Cipher) (rnd : Rand)
    (hc : (Init.sendMessage env (pingSt st0 h e sel rnd) Generated.STAGE_PONG rnd).1.crypto = none) : sel = none := by
  rw [init_sendMessage_cryptoNone] at hc
  cases sel with
  | none => rfl
  | some c => cases hc

/-- and so does the object that has read a pong and answers it -/
theorem pongSt_keyless (env : CryptoEnv) {bodyOf : Init.BodyOf} {st st5 : InitSt} {own eb hb pl : Bytes} {sel : Option Cipher} {rnd : Rand}
    {r : Option Bytes} (hd : Init.decryptPayload (pongSt st own eb hb sel rnd) bodyOf pl = (st5, r))
    (hc : (Init.sendMessage env st5 Generated.STAGE_PENG rnd).1.crypto = none) : sel = none := by
  rw [init_sendMessage_cryptoNone] at hc
  obtain ⟨cr, rfl, hcr⟩ := decryptPayload_cryptoNone _ _ _ _ _ hd
  cases sel with
  | none => rfl
  | some c => cases hcr.1 hc

theorem handleInit_plain (K : NodeCfg) (env : CryptoEnv) (bodyOf : Init.BodyOf) (ok : Bytes → Bool) (st : InitSt) (w : Bytes) (rnd : Rand)
    (hp : IPl K st) : InitLeaves (IPl K) (IPlDone K) (Init.handleInit env bodyOf ok st w rnd) := by
  have he := handleInit_eff env bodyOf ok st w rnd
  generalize Init.handleInit env bodyOf ok st w rnd = R at he
  have hs := he.static
  -- the algorithm list is the last of the fields `handle_init` never writes (`Static`).  An object ends without a key only where
  -- `select_algorithm` chose plain (`plain`), which needs the node's own flag
  have algos : ∀ {st' : InitSt}, C05AgreeLemmas.Static st st' → st'.algos = K.algos := fun h => h.2.2.2.2.2.trans hp.1
  have plain : ∀ {al : Algos}, Init.selectAlgorithm st.algos al = .ok none → K.algos.allowUnencrypted = true := fun hsel => by
    have := (selectAlgorithm_none _ _ hsel).1
    rwa [hp.1] at this
  cases he with
  | quietErr => exact hp
  | quietOk => exact hp
  | panic => trivial
  | pingErr _ _ _ _ _ _ _ _ hst0 =>
    rcases hst0 with ⟨rfl, _⟩ | ⟨rfl, _⟩
    · exact ⟨hp.1, hp.2⟩
    · exact ⟨hp.1, fun hpe => absurd hpe (by decide : Generated.STAGE_PING ≠ Generated.STAGE_PENG)⟩
  | pingOk h e _ _ st0 sel _ _ hst0 hsel =>
    refine ⟨algos hs, fun _ hcn => ?_⟩
    cases pingSt_keyless env st0 h e sel rnd hcn
    exact plain hsel
  | pongSelErr => exact ⟨hp.1, hp.2⟩
  | pongFail _ _ _ _ _ _ _ _ _ _ _ hstage _ _ hd =>
    refine ⟨algos hs, fun hpe => ?_⟩
    rw [decryptPayload_stage _ _ _ _ _ hd, pongSt_stage, hstage] at hpe
    exact absurd hpe (by decide)
  | pongOk hb eb _ pl _ own sel st5 _ _ _ _ _ hsel hd =>
    have wait : Generated.WAITING_TO_CLOSE ≠ Generated.STAGE_PENG := by decide
    refine ⟨⟨algos hs, fun hpe => absurd hpe wait⟩, wait, fun hcn => ?_⟩
    cases pongSt_keyless env hd hcn
    exact plain hsel
  | pengFail _ _ _ _ _ _ _ _ hd =>
    obtain ⟨cr, rfl, hcr⟩ := decryptPayload_cryptoNone _ _ _ _ _ hd
    exact ⟨hp.1, fun hpe hcn => hp.2 hpe (hcr.1 hcn)⟩
  | pengOk _ _ _ _ _ _ _ hstage hd =>
    obtain ⟨cr, rfl, hcr⟩ := decryptPayload_cryptoNone _ _ _ _ _ hd
    have closing : Generated.CLOSING ≠ Generated.STAGE_PENG := by decide
    exact ⟨⟨hp.1, fun hpe => absurd hpe closing⟩, closing, fun hcn => hp.2 hstage (hcr.1 hcn)⟩

theorem successPc_plainOK (K : NodeCfg) (pc : PeerCrypto) (ist' : InitSt) (h : IPlDone K ist') : PlainOK K (successPc pc ist') := by
  refine ⟨fun hu => h.2.2 ?_, successPc_onInit pc ist' ⟨h.1.1, fun hpe => absurd hpe h.2.1⟩⟩
  have : ist'.crypto.isNone = true := hu
  cases hcr : ist'.crypto with
  | none => rfl
  | some c => rw [hcr] at this; cases this

theorem handleMessage_plainOK (K : NodeCfg) (env : CryptoEnv) (bodyOf : Init.BodyOf) (ok : Bytes → Bool) (pc : PeerCrypto) (datagram tail : Bytes)
    (rnd : Rand) (rr : RotRand) (hp : PlainOK K pc) : Leaves (PlainOK K) (PeerCrypto.handleMessage env bodyOf ok pc datagram tail rnd rr) :=
  handleMessage_lift (plainOK_closed K) env bodyOf ok pc datagram tail rnd rr hp (fun w ist hi => handleInit_plain K env bodyOf ok ist w rnd (hp.2 ist hi))
    (fun _ h => ⟨hp.1, OnInit.set pc h⟩) (successPc_plainOK K pc)

theorem init_everySecond_plain (K : NodeCfg) (st : InitSt) (h : IPl K st) : IPl K (Init.everySecond st).1 := by
  obtain ⟨sg, ct, rt, hs, he⟩ := everySecond_fst st
  rw [he]
  refine ⟨h.1, fun hpe => ?_⟩
  rcases hs with rfl | rfl
  · exact h.2 hpe
  · cases hpe

theorem everySecond_unenc (pc : PeerCrypto) (rr : RotRand) :
    Leaves (fun pc' => pc'.unencrypted = pc.unencrypted) (PeerCrypto.everySecond pc rr) :=
  everySecond_keeps (sessClosed_of_iu fun _ _ hi h => hi.2.trans h) pc rr (by rw [tick1_eq]) (fun _ h => h)

theorem everySecond_plainOK (K : NodeCfg) (pc : PeerCrypto) (rr : RotRand) (pc' : PeerCrypto) (out : Bytes) (res : MsgResult) (log : Init.SealLog)
    (hp : PlainOK K pc) (h : PeerCrypto.everySecond pc rr = .ok pc' out res log) : PlainOK K pc' := by
  have hu := everySecond_unenc pc rr
  rw [h] at hu
  exact ⟨fun hun => hp.1 (hu ▸ hun), everySecond_onInit (init_everySecond_plain K) hp.2 h⟩

/-- the instance "plain only if the node enabled it" of the generic invariant -/
def plainWS (K : NodeCfg) : WS K where
  X := fun _ pc => PlainOK K pc
  N := False
  att := by
    intro n hash a hcfg
    exact ⟨fun hu => (by cases hu), newAttempt_onInit n hash ⟨hcfg ▸ rfl, fun hpe => by cases hpe⟩⟩
  ping := by
    intro env n hash rnd ist a hcfg hist
    refine ⟨fun hu => (by cases hu), fun i hi => ?_⟩
    simp only [Option.some.injEq] at hi
    subst hi
    refine ⟨?_, fun hpe => by cases hpe⟩
    dsimp only [Init.sendPing]
    rw [init_sendMessage_algos, ← hcfg]
    exact newAttempt_onInit (Φ := fun i => i.algos = n.cfg.algos) n hash rfl ist hist
  tick_ok := fun _ pc rr pc' out res log hp h => everySecond_plainOK K pc rr pc' out res log hp h
  x_seal := fun _ pc ty body ct hp => hp.of_iu (sealMsg_iu pc (ty :: body) ct)

theorem plainWS_msgClosed (K : NodeCfg) (env : CryptoEnv) (bodyOf : Init.BodyOf) (src : NAddr) (data tail : Bytes) :
    MsgClosed (plainWS K).X env bodyOf src data tail :=
  fun pc rnd rr hx => handleMessage_plainOK K env bodyOf payloadOk pc data tail rnd rr hx

/-! ## the peer's side: a handshake ends in plain mode only if the peer advertised plain -/

/-- a successful `handle_init` that leaves the object without a key processed a pong for which `select_algorithm` chose plain (both
    algorithm lists carry the flag), or a peng while the object (a responder that had answered the ping) held no key -/
theorem handleInit_plain_success (env : CryptoEnv) (bodyOf : Init.BodyOf) (ok : Bytes → Bool) (st st' : InitSt) (w : Bytes) (rnd : Rand)
    (out p : Bytes) (ini : Bool) (log : Init.SealLog)
    (h : Init.handleInit env bodyOf ok st w rnd = .ok st' (out, .success p ini, log)) (hc : st'.crypto = none) :
    ∃ m k, InitMsg.readFrom env w st.trusted = .ok (m, k) ∧
      ((∃ hb eb A pl, m = .pong hb eb A pl ∧ st.algos.allowUnencrypted = true ∧ A.allowUnencrypted = true) ∨
       (∃ hb pl, m = .peng hb pl ∧ st.stage = Generated.STAGE_PENG ∧ st.crypto = none)) := by
  rcases (handleInit_success_cases env bodyOf ok st st' w rnd out p ini log h).2 with
    ⟨_, _, st5, hst', hb, eb, ab, pl, k, own, sel, hr, _, hsel, hd⟩ | ⟨_, hst, st2, hst', hb, pl, k, hr, hd⟩
  · rw [hst'] at hc
    cases pongSt_keyless env hd hc
    exact ⟨_, k, hr, Or.inl ⟨hb, eb, ab, pl, rfl, selectAlgorithm_none _ _ hsel⟩⟩
  · obtain ⟨cr, rfl, hcr⟩ := decryptPayload_cryptoNone _ _ _ _ _ hd
    rw [hst'] at hc
    exact ⟨_, k, hr, Or.inr ⟨hb, pl, rfl, hst, hcr.1 hc⟩⟩

/-- a handshake object enters the stage "ping answered" without a key only by answering a ping for which `select_algorithm` chose plain -/
theorem handleInit_ping_plain (env : CryptoEnv) (bodyOf : Init.BodyOf) (ok : Bytes → Bool) (st st' : InitSt) (w : Bytes) (rnd : Rand)
    (x : Bytes × InitResult × Init.SealLog)
    (h : Init.handleInit env bodyOf ok st w rnd = .ok st' x) (hst : st.stage ≠ Generated.STAGE_PENG)
    (hst' : st'.stage = Generated.STAGE_PENG) (hc : st'.crypto = none) :
    ∃ k hb eb A, InitMsg.readFrom env w st.trusted = .ok (.ping hb eb A, k) ∧ Init.selectAlgorithm st.algos A = .ok none := by
  obtain ⟨hb, eb, A, k, st0, sel, hr, hsel, _, hR⟩ := (h ▸ handleInit_eff env bodyOf ok st w rnd).answered hst hst'
  unfold pingRes at hR
  simp only [Outcome.ok.injEq] at hR
  rw [hR.1] at hc
  cases pingSt_keyless env st0 hb eb sel rnd hc
  exact ⟨k, hb, eb, A, hr, hsel⟩

/-- how the mode of a session can change under `handle_message`: whatever the outcome, an encrypted session is left in plain mode only
    by a datagram with the handshake marker that the session's handshake object processed successfully, ending without a key -/
theorem handleMessage_unenc (env : CryptoEnv) (bodyOf : Init.BodyOf) (ok : Bytes → Bool) (pc : PeerCrypto) (data tail : Bytes)
    (rnd : Rand) (rr : RotRand) (hu : pc.unencrypted = false) :
    Leaves (fun pc' => pc'.unencrypted = true →
        ∃ w ist ist' o p ini l, data = Generated.INIT_MESSAGE_FIRST_BYTE :: w ∧ pc.init = some ist ∧
          Init.handleInit env bodyOf ok ist w rnd = .ok ist' (o, .success p ini, l) ∧ ist'.crypto = none)
      (PeerCrypto.handleMessage env bodyOf ok pc data tail rnd rr) := by
  have kept : ∀ {P : Prop}, pc.unencrypted = true → P := fun hu' => nomatch hu.symm.trans hu'
  refine handleMessage_keeps (sessClosed_of_iu fun _ _ hi h hu' => h (hi.2 ▸ hu')) env bodyOf ok pc data tail rnd rr kept fun w hw => ?_
  refine handleInitMessage_cases (M := Leaves _) (Q := fun ist r => Init.handleInit env bodyOf ok ist w rnd = r)
    env bodyOf ok pc w rnd rr (fun _ _ => rfl) (noInit := fun _ => kept) (panic := fun _ _ => trivial) (err := fun _ _ => kept)
    (cont := fun _ _ => kept) (success := fun hi hg hs _ _ hu' => ⟨w, _, _, _, _, _, _, hw, hi, hg, ?_⟩)
  -- the mode after a completed handshake is that of `successPc`: plain iff the handshake object ended without a key
  have hc := successOut_keeps (X := fun pc' => pc'.unencrypted = _) (sessClosed_of_iu fun _ _ hi h => hi.2.trans h) hs rfl
  exact Option.isNone_iff_eq_none.1 (hc.symm.trans hu')

/-! ## non-interference of the frame contents with the wire bytes of `handle_interface_data` -/

theorem encrypt_indep (c : Core) (p1 p2 : Bytes) : (c.encrypt p1).1 = (c.encrypt p2).1 ∧ (c.encrypt p1).2.hdr = (c.encrypt p2).2.hdr := by
  unfold Core.encrypt
  split <;> exact ⟨rfl, rfl⟩

/-- `encrypt_message` on two plaintexts with the same oracle ciphertext: same resulting session, same failure, and — for an encrypted
    session — the same bytes on the wire -/
theorem sealMsg_indep (pc : PeerCrypto) (p1 p2 ct : Bytes) :
    (∃ e, PeerCrypto.sealMsg pc p1 ct = (pc, .error e) ∧ PeerCrypto.sealMsg pc p2 ct = (pc, .error e)) ∨
    (∃ pc' b1 l1 b2 l2, PeerCrypto.sealMsg pc p1 ct = (pc', .ok (b1, l1)) ∧ PeerCrypto.sealMsg pc p2 ct = (pc', .ok (b2, l2)) ∧
      pc'.unencrypted = pc.unencrypted ∧ (pc.unencrypted = false → b1 = b2)) := by
  cases hu : pc.unencrypted with
  | true =>
    refine Or.inr ⟨pc, p1, [], p2, [], ?_, ?_, hu, fun h => by cases h⟩
    · simp only [PeerCrypto.sealMsg, hu, if_true]
    · simp only [PeerCrypto.sealMsg, hu, if_true]
  | false =>
    cases hc : pc.core with
    | none => exact Or.inl ⟨.state, sealMsg_fresh pc p1 ct ⟨hu, hc⟩, sealMsg_fresh pc p2 ct ⟨hu, hc⟩⟩
    | some c =>
      obtain ⟨h1, h2⟩ := encrypt_indep c p1 p2
      refine Or.inr ⟨{ pc with core := some (c.encrypt p1).1 }, (c.encrypt p1).2.hdr ++ ct, [(ct, (c.encrypt p1).2.body)],
        (c.encrypt p1).2.hdr ++ ct, [(ct, (c.encrypt p2).2.body)], sealMsg_enc hu hc p1 ct, ?_, hu, fun _ => rfl⟩
      rw [h1, h2]
      exact sealMsg_enc hu hc p2 ct

/-- what the wire shows of an output when only the destinations in `enc` are looked at: the destination, and the bytes if it is in `enc` -/
def redact (enc : NAddr → Bool) : Out → Out
  | .dgram d b => if enc d then .dgram d b else .dgram d []
  | .iface b => .iface b

/-- two runs of `handle_interface_data` in progress: same node state, same emission counters, same wire view -/
structure IfSim (enc : NAddr → Bool) (c1 c2 : Ctx) : Prop where
  node : c1.node = c2.node
  cnt : c1.cnt = c2.cnt
  panicked : c1.panicked = c2.panicked
  outs : c1.outs.map (redact enc) = c2.outs.map (redact enc)
  henc : ∀ a p, (a, p) ∈ c2.node.peers → enc a = true → p.crypto.unencrypted = false

theorem rndFor_congr (o : Oracle) (c1 c2 : Ctx) (a : NAddr) (h : c1.cnt = c2.cnt) : rndFor o c1 a = rndFor o c2 a := by
  unfold rndFor Ctx.count
  rw [h]

theorem sendMsg_sim (o : Oracle) (enc : NAddr → Bool) (c1 c2 : Ctx) (a : NAddr) (ty : Nat) (b1 b2 : Bytes) (h : IfSim enc c1 c2) :
    IfSim enc ((sendMsg o c1 a ty b1).getD c1) ((sendMsg o c2 a ty b2).getD c2) := by
  unfold sendMsg
  rw [h.node, rndFor_congr o c1 c2 a h.cnt]
  split
  · exact h
  · rename_i p hp
    simp only []
    have hmem : (a, p) ∈ c2.node.peers := lookupA_some_mem hp
    rcases sealMsg_indep p.crypto (ty :: b1) (ty :: b2) (rndFor o c2 a).2.1.ct with ⟨e, h1, h2⟩ | ⟨pc', x1, l1, x2, l2, h1, h2, hun, hb⟩
    · unfold PeerCrypto.sendMessage
      rw [h1, h2]
      exact h
    · unfold PeerCrypto.sendMessage
      rw [h1, h2]
      simp only [Option.getD_some]
      refine ⟨?_, ?_, h.panicked, ?_, ?_⟩
      · simp only [send_node, addLog_node]
      · simp only [Ctx.send, addLog, Ctx.count, h.cnt]
      · simp only [send_outs, addLog_outs, List.map_append, List.map_cons, List.map_nil]
        rw [h.outs]
        congr 2
        cases he : enc a with
        | false => simp only [redact, he, Bool.false_eq_true, if_false]
        | true => rw [hb (h.henc a p hmem he)]
      · intro b q hq hb'
        rcases mem_insertA hq with heq | hq
        · cases heq
          show pc'.unencrypted = false
          rw [hun]
          exact h.henc a p hmem hb'
        · exact h.henc b q hq hb'

theorem broadcastMsg_sim (o : Oracle) (enc : NAddr → Bool) (c1 c2 : Ctx) (ty : Nat) (b1 b2 : Bytes) (h : IfSim enc c1 c2) :
    IfSim enc (broadcastMsg o c1 ty b1) (broadcastMsg o c2 ty b2) := by
  unfold broadcastMsg
  rw [h.node]
  exact foldl_sim (IfSim enc) _ _ (fun c1 c2 a hc => sendMsg_sim o enc c1 c2 a ty b1 b2 hc) _ _ _ h

theorem handleIface_sim (o : Oracle) (enc : NAddr → Bool) (n : Node) (now : Int) (d1 d2 : Bytes)
    (hpa : parseAddrs n d1 = parseAddrs n d2)
    (henc : ∀ a p, (a, p) ∈ n.peers → enc a = true → p.crypto.unencrypted = false) :
    IfSim enc (handleIface o n now d1) (handleIface o n now d2) := by
  have h0 : ∀ m : Node, m.peers = n.peers → IfSim enc { node := m } { node := m } :=
    fun m hm => ⟨rfl, rfl, rfl, rfl, by rw [hm]; exact henc⟩
  rw [handleIface_eq, handleIface_eq, hpa]
  unfold route
  split
  · exact h0 n rfl
  · split
    · split
      · exact sendMsg_sim o enc _ _ _ _ d1 d2 (h0 _ rfl)
      · exact h0 _ rfl
    · split
      · exact broadcastMsg_sim o enc _ _ _ d1 d2 (h0 _ rfl)
      · exact h0 _ rfl

def CoreWF (c : Core) : Prop := c.slots.length = 4 ∧ c.cur < 4

theorem CoreWF_new (key : KeyRef) (half : Bool) (dummy : KeyRef) (starts : List Nat) : CoreWF (Core.new key half dummy starts) :=
  ⟨rfl, (by decide : 0 < 4)⟩

theorem CoreWF_step (c : Core) (op : C04Session.SOp) (h : CoreWF c) : CoreWF (C04Session.step c op).1 :=
  ⟨(C04Session.step_len c op).trans h.1, C04Session.step_cur_lt c op h.2⟩

/-- sealing keeps the slots and the current slot, so the core before a seal is as well-formed as the core after it -/
theorem CoreWF_of_encrypt (c : Core) (p : Bytes) (h : CoreWF (c.encrypt p).1) : CoreWF c :=
  ⟨(C04Session.step_len c (.seal p)).symm.trans h.1,
   Nat.lt_of_le_of_lt (Nat.le_of_eq (C04Session.step_cur c (.seal p)).symm) h.2⟩

theorem CoreWF_run (ops : List C04Session.SOp) : ∀ c, CoreWF c → CoreWF (C04Session.run c ops).1 := by
  induction ops with
  | nil => exact fun _ h => h
  | cons op ops ih => exact fun c h => ih _ (CoreWF_step c op h)

/-- the key of a handshake object, if it has one, is a well-formed core -/
def IWF (i : InitSt) : Prop := ∀ c, i.crypto = some c → CoreWF c

theorem IWF.of_crypto {a b : InitSt} (h : IWF a) (hc : b.crypto = a.crypto) : IWF b := fun c hb => h c (hc ▸ hb)

/-- the cores of a session — its own and the one of its handshake object — are well-formed -/
def PCWF (pc : PeerCrypto) : Prop := (∀ c, pc.core = some c → CoreWF c) ∧ OnInit IWF pc

theorem init_sendMessage_iwf (env : CryptoEnv) (st : InitSt) (stage : Nat) (rnd : Rand) (h : IWF st) : IWF (Init.sendMessage env st stage rnd).1 := by
  obtain ⟨cr, l, he, hc⟩ := init_sendMessage_frame env st stage rnd
  rw [he]
  rcases hc with rfl | rfl
  · exact h
  · intro c hc
    cases hcr : st.crypto with
    | none => rw [hcr] at hc; cases hc
    | some c0 =>
      rw [hcr] at hc
      cases hc
      exact CoreWF_step c0 (.seal _) (h c0 hcr)

theorem decryptPayload_iwf (s s' : InitSt) (bodyOf : Init.BodyOf) (data : Bytes) (r : Option Bytes)
    (h : Init.decryptPayload s bodyOf data = (s', r)) (hw : IWF s) : IWF s' := by
  obtain ⟨cr, rfl, hc⟩ := decryptPayload_frame s s' bodyOf data r h
  rcases hc with rfl | ⟨c, d, hc, rfl⟩
  · exact hw
  · intro c' hc'
    cases hc'
    exact CoreWF_step c (.open _) (hw c hc)

theorem pongSt_iwf (st0 : InitSt) (own eb hb : Bytes) (sel : Option Cipher) (rnd : Rand) (h : IWF st0) : IWF (pongSt st0 own eb hb sel rnd) := by
  cases sel with
  | none => exact h
  | some c =>
    intro c' hc'
    simp only [pongSt, Option.some.injEq] at hc'
    rw [← hc']
    exact CoreWF_new ..

theorem pingSt_iwf (st0 : InitSt) (h e : Bytes) (sel : Option Cipher) (rnd : Rand) (hw : IWF st0) : IWF (pingSt st0 h e sel rnd) := by
  cases sel with
  | none => exact hw
  | some c =>
    intro c' hc'
    simp only [pingSt, Option.some.injEq] at hc'
    rw [← hc']
    exact CoreWF_new ..

theorem handleInit_iwf (env : CryptoEnv) (bodyOf : Init.BodyOf) (ok : Bytes → Bool) (st : InitSt) (w : Bytes) (rnd : Rand)
    (hw : IWF st) : InitLeaves IWF IWF (Init.handleInit env bodyOf ok st w rnd) := by
  have he := handleInit_eff env bodyOf ok st w rnd
  generalize Init.handleInit env bodyOf ok st w rnd = R at he
  have base : ∀ {st0 : InitSt} {P Q : Prop}, (st0 = st ∧ P) ∨ (st0 = C05AgreeLemmas.resetSt st ∧ Q) → IWF st0 := by
    rintro st0 P Q (⟨rfl, _⟩ | ⟨rfl, _⟩) <;> exact hw
  cases he with
  | quietErr | quietOk | pongSelErr => exact hw
  | panic => trivial
  | pingErr _ _ _ _ _ _ _ _ hst0 => exact (base hst0).of_crypto rfl
  | pingOk h e _ _ st0 sel _ _ hst0 =>
    exact (init_sendMessage_iwf env _ Generated.STAGE_PONG rnd (pingSt_iwf st0 h e sel rnd (base hst0))).of_crypto rfl
  | pongFail _ _ _ _ _ _ _ _ _ _ _ _ _ _ hd => exact decryptPayload_iwf _ _ _ _ _ hd (pongSt_iwf _ _ _ _ _ _ hw)
  | pongOk _ _ _ _ _ _ _ st5 _ _ _ _ _ _ hd =>
    exact (init_sendMessage_iwf env st5 Generated.STAGE_PENG rnd (decryptPayload_iwf _ _ _ _ _ hd (pongSt_iwf _ _ _ _ _ _ hw))).of_crypto rfl
  | pengFail _ _ _ _ _ _ _ _ hd => exact decryptPayload_iwf { st with retries := 0 } _ _ _ _ hd hw
  | pengOk _ _ _ _ _ _ _ _ hd => exact (decryptPayload_iwf { st with retries := 0 } _ _ _ _ hd hw).of_crypto rfl

theorem onCore_coreWF (pc : PeerCrypto) (ops : List C04Session.SOp) (h : ∀ c, pc.core = some c → CoreWF c) :
    ∀ c, (onCore pc ops).core = some c → CoreWF c := by
  intro c' hc'
  obtain ⟨c, hc, rfl⟩ := Option.map_eq_some_iff.1 hc'
  exact CoreWF_run ops c (h c hc)

theorem pcwf_closed : SessClosed PCWF :=
  sessClosed_of_onCore (fun pc ops h => ⟨onCore_coreWF pc ops h.1, h.2⟩) fun _ _ _ h => ⟨h.1, h.2⟩

theorem successPc_pcwf (pc : PeerCrypto) (ist' : InitSt) (h : IWF ist') : PCWF (successPc pc ist') :=
  ⟨h, successPc_onInit pc ist' (fun _ hc => nomatch hc)⟩

theorem handleMessage_pcwf (env : CryptoEnv) (bodyOf : Init.BodyOf) (ok : Bytes → Bool) (pc : PeerCrypto) (datagram tail : Bytes)
    (rnd : Rand) (rr : RotRand) (hp : PCWF pc) : Leaves PCWF (PeerCrypto.handleMessage env bodyOf ok pc datagram tail rnd rr) :=
  handleMessage_lift pcwf_closed env bodyOf ok pc datagram tail rnd rr hp (fun w ist hi => handleInit_iwf env bodyOf ok ist w rnd (hp.2 ist hi))
    (fun _ h => ⟨hp.1, OnInit.set pc h⟩) (fun _ h => successPc_pcwf pc _ h)

theorem init_everySecond_crypto (st : InitSt) : (Init.everySecond st).1.crypto = st.crypto := by
  obtain ⟨sg, ct, rt, _, he⟩ := everySecond_fst st
  rw [he]

/-- through `every_second` the core goes as through a trace of core operations, the handshake object through its own `every_second` -/
theorem everySecond_pcwf (pc : PeerCrypto) (rr : RotRand) (pc' : PeerCrypto) (out : Bytes) (res : MsgResult) (log : Init.SealLog)
    (hp : PCWF pc) (h : PeerCrypto.everySecond pc rr = .ok pc' out res log) : PCWF pc' := by
  have hc := everySecond_keeps (X := fun pc' => ∀ c, pc'.core = some c → CoreWF c) (sessClosed_of_onCore onCore_coreWF fun _ _ _ h => h)
    pc rr (by rw [tick1_core]; exact onCore_coreWF pc [.tick] hp.1) (fun _ h => h)
  rw [h] at hc
  exact ⟨hc, everySecond_onInit (fun i hi => hi.of_crypto (init_everySecond_crypto i)) hp.2 h⟩

def coreWS (K : NodeCfg) : WS K where
  X := fun _ pc => PCWF pc
  N := False
  att := by
    intro n hash a _
    exact ⟨fun c hc => (by cases hc), newAttempt_onInit n hash fun c hc => (by cases hc)⟩
  ping := by
    intro env n hash rnd ist a _ hist
    refine ⟨fun c hc => (by cases hc), fun i hi => ?_⟩
    simp only [Option.some.injEq] at hi
    subst hi
    dsimp only [Init.sendPing]
    exact init_sendMessage_iwf env _ Generated.STAGE_PING rnd
      (newAttempt_onInit (Φ := IWF) n hash (fun c hc => by cases hc) ist hist)
  tick_ok := fun _ pc rr pc' out res log hp h => everySecond_pcwf pc rr pc' out res log hp h
  x_seal := fun _ pc ty body ct hp => pcwf_closed.sealm pc (ty :: body) ct hp

theorem coreWS_msgClosed (K : NodeCfg) (env : CryptoEnv) (bodyOf : Init.BodyOf) (src : NAddr) (data tail : Bytes) :
    MsgClosed (coreWS K).X env bodyOf src data tail :=
  fun pc rnd rr hx => handleMessage_pcwf env bodyOf payloadOk pc data tail rnd rr hx

end VpnCloud.Proofs.C02MoreLemmas
