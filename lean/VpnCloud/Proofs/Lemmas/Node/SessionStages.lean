import VpnCloud.Model.PeerCrypto
/-
  `PeerCrypto.handleInitMessage`, `PeerCrypto.handleMessage` and `PeerCrypto.everySecond` restated in stages: the stages are
  definitions of their own (`successPc`, `successOut`; `decMsg`; `tick1`, `tick2`, `tickRot`), the restatements (`…_eq`) hold by `rfl`.
  `successOut_cases`, `tick_cases` and `tickRot_cases` open the case trees of `successOut`, of `every_second` after its first stage
  (`tick1_eq`: that stage, exactly) and of `tickRot` once, for every predicate on the outcome (`cycPc`: the session after a due cycle);
  `handleMessage_marker_err`: the leaves of `handleMessage` on which a handshake-marked datagram is refused with the session unchanged.
-/
namespace VpnCloud.Proofs.SessionInvLemmas


/-! ## `handle_init_message` -/

/-- the part of `handle_init_message` after a successful `handle_init`: `pc1` is the session with the new core installed -/
def successOut (pc1 : PeerCrypto) (core : Option Core) (isInitiator : Bool) (out1 payload : Bytes) (ilog : Init.SealLog) (rr : RotRand) :
    POutcome MsgResult :=
  if core.isNone then
    if !isInitiator then .ok pc1 out1 (.initialized payload) ilog
    else .ok pc1 out1 (.initializedWithReply payload) ilog
  else
    if !isInitiator then
      let side := PeerCrypto.initSide true rr.freshProp
      let m : Codec.RotMsg := PeerCrypto.rotMsgToBytes ⟨1, rr.freshProp, none⟩
      let plain := Generated.MESSAGE_TYPE_ROTATION :: Codec.writeRotMsg m
      match PeerCrypto.sealMsg { pc1 with rot := some side } plain rr.ct with
      | (pc2, .ok (bytes, log)) => .ok pc2 bytes (.initializedWithReply payload) (ilog ++ log)
      | (pc2, .error e) => .err pc2 e
    else
      .ok { pc1 with rot := some (PeerCrypto.initSide false 0) } out1 (.initializedWithReply payload) ilog

/-- the leaves of `successOut`: without a core nothing more happens, the initiator only sets up its rotation state, the responder also
    seals its first rotation message -/
theorem successOut_cases {M : POutcome MsgResult → Prop} (pc1 : PeerCrypto) (core : Option Core) (ini : Bool) (out1 payload : Bytes)
    (ilog : Init.SealLog) (rr : RotRand)
    (noCore : ∀ res, core = none → res = .initialized payload ∨ res = .initializedWithReply payload → M (.ok pc1 out1 res ilog))
    (initiator : M (.ok { pc1 with rot := some (PeerCrypto.initSide false 0) } out1 (.initializedWithReply payload) ilog))
    (sealed : ∀ pc2 bytes log, PeerCrypto.sealMsg { pc1 with rot := some (PeerCrypto.initSide true rr.freshProp) }
        (Generated.MESSAGE_TYPE_ROTATION :: Codec.writeRotMsg (PeerCrypto.rotMsgToBytes ⟨1, rr.freshProp, none⟩)) rr.ct = (pc2, .ok (bytes, log)) →
      M (.ok pc2 bytes (.initializedWithReply payload) (ilog ++ log)))
    (sealErr : ∀ pc2 e, core ≠ none → PeerCrypto.sealMsg { pc1 with rot := some (PeerCrypto.initSide true rr.freshProp) }
        (Generated.MESSAGE_TYPE_ROTATION :: Codec.writeRotMsg (PeerCrypto.rotMsgToBytes ⟨1, rr.freshProp, none⟩)) rr.ct = (pc2, .error e) →
      M (.err pc2 e)) :
    M (successOut pc1 core ini out1 payload ilog rr) := by
  unfold successOut
  cases core with
  | none =>
    cases ini with
    | true => exact noCore _ rfl (Or.inr rfl)
    | false => exact noCore _ rfl (Or.inl rfl)
  | some c =>
    cases ini with
    | true => exact initiator
    | false =>
      simp only [Option.isNone_some, Bool.false_eq_true, if_false, Bool.not_false, if_true]
      split
      · rename_i pc2 bytes log hs
        exact sealed pc2 bytes log hs
      · rename_i pc2 e hs
        exact sealErr pc2 e nofun hs

/-- the session after a successful `handle_init` -/
def successPc (pc : PeerCrypto) (ist' : InitSt) : PeerCrypto :=
  { pc with core := ist'.crypto, unencrypted := ist'.crypto.isNone, cipher := ist'.selected,
            master := (ist'.crypto.bind (fun c => c.slots[0]?.map (·.key))).getD 0,
            init := if ({ ist' with crypto := none } : InitSt).stage = Generated.CLOSING then none else some { ist' with crypto := none } }

theorem handleInitMessage_eq (env : CryptoEnv) (bodyOf : Init.BodyOf) (ok : Bytes → Bool) (pc : PeerCrypto) (w : Bytes) (rnd : Rand) (rr : RotRand) :
    PeerCrypto.handleInitMessage env bodyOf ok pc w rnd rr =
    match pc.init with
    | none => .err pc .state
    | some ist =>
      match Init.handleInit env bodyOf ok ist w rnd with
      | .panic => .panic
      | .err ist' e => .err { pc with init := some ist' } e
      | .ok ist' (out, res, ilog) =>
        match res with
        | .continue => .ok { pc with init := some ist' } (if out.isEmpty then [] else Generated.INIT_MESSAGE_FIRST_BYTE :: out) .reply ilog
        | .success payload isInitiator =>
          successOut (successPc pc ist') ist'.crypto isInitiator (if out.isEmpty then [] else Generated.INIT_MESSAGE_FIRST_BYTE :: out) payload ilog rr := by
  rfl

/-! ## `handle_message` -/

/-- `decrypt_message` -/
def decMsg (bodyOf : Init.BodyOf) (pc : PeerCrypto) (datagram : Bytes) : PeerCrypto × Except InitErr Bytes :=
  if pc.unencrypted then (pc, .ok datagram)
  else match pc.core with
    | none => (pc, .error .state)
    | some c =>
      let (c', r) := c.decrypt { hdr := datagram.take 8, body := bodyOf (datagram.drop 8) }
      match r with
      | .ok p => ({ pc with core := some c' }, .ok p)
      | .error _ => ({ pc with core := some c' }, .error .crypto)

theorem handleMessage_eq (env : CryptoEnv) (bodyOf : Init.BodyOf) (ok : Bytes → Bool) (pc : PeerCrypto) (datagram tail : Bytes) (rnd : Rand) (rr : RotRand) :
    PeerCrypto.handleMessage env bodyOf ok pc datagram tail rnd rr =
    match datagram with
    | [] => .err pc .state
    | b0 :: rest =>
      if b0 = Generated.INIT_MESSAGE_FIRST_BYTE then
        if rest.isEmpty then .err pc .parse
        else PeerCrypto.handleInitMessage env bodyOf ok pc rest rnd rr
      else
        match decMsg bodyOf pc (b0 :: rest) with
        | (pc1, .error e) => .err pc1 e
        | (pc1, .ok plain) =>
          match plain with
          | [] => .panic
          | ty :: body =>
            if ty = Generated.MESSAGE_TYPE_ROTATION then
              if PeerCrypto.rotatePanics pc1 (body ++ (if pc1.unencrypted then tail else [])) then .panic
              else match PeerCrypto.handleRotate pc1 (body ++ (if pc1.unencrypted then tail else [])) rr with
              | (pc2, .ok ()) => .ok pc2 [] .none []
              | (pc2, .error e) => .err pc2 e
            else .ok pc1 [] (.message ty body) [] := by
  cases datagram with
  | nil => rfl
  | cons b0 rest => rfl

/-- a handshake-marked datagram that is not processed: an empty window is a parse error, a session without handshake object answers with
    the state error, and an error of the handshake object that leaves the object as it is becomes the error of the session; the session
    stays as it is each time -/
theorem handleMessage_marker_err (env : CryptoEnv) (bodyOf : Init.BodyOf) (ok : Bytes → Bool) (pc : PeerCrypto) (rest tail : Bytes)
    (rnd : Rand) (rr : RotRand) :
    (rest = [] → PeerCrypto.handleMessage env bodyOf ok pc (Generated.INIT_MESSAGE_FIRST_BYTE :: rest) tail rnd rr = .err pc .parse) ∧
    (rest ≠ [] → pc.init = none →
      PeerCrypto.handleMessage env bodyOf ok pc (Generated.INIT_MESSAGE_FIRST_BYTE :: rest) tail rnd rr = .err pc .state) ∧
    (rest ≠ [] → ∀ ist e, pc.init = some ist → Init.handleInit env bodyOf ok ist rest rnd = .err ist e →
      PeerCrypto.handleMessage env bodyOf ok pc (Generated.INIT_MESSAGE_FIRST_BYTE :: rest) tail rnd rr = .err pc e) := by
  rw [handleMessage_eq]
  simp only [if_true]
  cases rest with
  | nil => exact ⟨fun _ => rfl, fun h => absurd rfl h, fun h => absurd rfl h⟩
  | cons b w =>
    simp only [List.isEmpty_cons, Bool.false_eq_true, if_false]
    rw [handleInitMessage_eq]
    refine ⟨nofun, fun _ hi => by rw [hi], fun _ ist e hi hh => ?_⟩
    simp only [hi, hh]
    congr 1
    cases pc
    simp only at hi
    subst hi
    rfl

/-! ## `every_second` -/

def tick1 (pc : PeerCrypto) : PeerCrypto × Except InitErr Bytes :=
  let pc0 := { pc with core := pc.core.map Core.everySecond }
  match pc0.init with
  | some ist =>
    let (ist', r) := Init.everySecond ist
    ({ pc0 with init := some ist' }, r)
  | none => (pc0, .ok [])

theorem tick1_eq (pc : PeerCrypto) :
    tick1 pc = ({ pc with core := pc.core.map Core.everySecond, init := pc.init.map fun i => (Init.everySecond i).1 },
                match pc.init with
                | some i => (Init.everySecond i).2
                | none => .ok []) := by
  obtain ⟨init, rot, unencrypted, core, rotateCounter, master, cipher⟩ := pc
  cases init <;> rfl

def tick2 (pc1 : PeerCrypto) : PeerCrypto :=
  { pc1 with init := match pc1.init with
                  | some i => if i.stage = Generated.CLOSING then none else some i
                  | none => none }

def tickRot (pc2 : PeerCrypto) (rr : RotRand) : POutcome MsgResult :=
  match pc2.rot with
  | none => .ok pc2 [] .none []
  | some sd =>
    let cnt := pc2.rotateCounter + 1
    if cnt < Generated.ROTATE_INTERVAL then .ok { pc2 with rotateCounter := cnt } [] .none []
    else
      let rotated := sd.proposed.isNone && sd.pending.isSome
      let (sd', m) := Rot.cycle sd rr.freshProp
      let pc3 := { pc2 with rotateCounter := 0, rot := some sd' }
      let pc4 := if rotated then PeerCrypto.installKey pc3 (sd'.slots (sd'.id % 4)) sd'.id false rr.starts else pc3
      match m with
      | none => .ok pc4 [] .none []
      | some m =>
        let plain := Generated.MESSAGE_TYPE_ROTATION :: Codec.writeRotMsg (PeerCrypto.rotMsgToBytes m)
        match PeerCrypto.sealMsg pc4 plain rr.ct with
        | (pc5, .ok (bytes, log)) => .ok pc5 bytes .reply log
        | (pc5, .error e) => .err pc5 e

/-- the session after a rotation cycle that has fallen due: counter reset, rotation state advanced, and the key the cycle rotated in (if
    any) installed, not yet for sending -/
def cycPc (pc2 : PeerCrypto) (sd : Rot.Side) (rr : RotRand) : PeerCrypto :=
  if sd.proposed.isNone && sd.pending.isSome then
    PeerCrypto.installKey { pc2 with rotateCounter := 0, rot := some (Rot.cycle sd rr.freshProp).1 }
      ((Rot.cycle sd rr.freshProp).1.slots ((Rot.cycle sd rr.freshProp).1.id % 4)) (Rot.cycle sd rr.freshProp).1.id false rr.starts
  else { pc2 with rotateCounter := 0, rot := some (Rot.cycle sd rr.freshProp).1 }

theorem tickRot_cases {M : POutcome MsgResult → Prop} (pc2 : PeerCrypto) (rr : RotRand)
    (idle : pc2.rot = none → M (.ok pc2 [] .none []))
    (wait : pc2.rotateCounter + 1 < Generated.ROTATE_INTERVAL → M (.ok { pc2 with rotateCounter := pc2.rotateCounter + 1 } [] .none []))
    (quiet : ∀ sd, pc2.rot = some sd → ¬ pc2.rotateCounter + 1 < Generated.ROTATE_INTERVAL → (Rot.cycle sd rr.freshProp).2 = none →
      M (.ok (cycPc pc2 sd rr) [] .none []))
    (sealed : ∀ sd m pc5 bytes log, pc2.rot = some sd → ¬ pc2.rotateCounter + 1 < Generated.ROTATE_INTERVAL →
      (Rot.cycle sd rr.freshProp).2 = some m →
      PeerCrypto.sealMsg (cycPc pc2 sd rr) (Generated.MESSAGE_TYPE_ROTATION :: Codec.writeRotMsg (PeerCrypto.rotMsgToBytes m)) rr.ct =
        (pc5, .ok (bytes, log)) → M (.ok pc5 bytes .reply log))
    (sealErr : ∀ sd m pc5 e, pc2.rot = some sd → ¬ pc2.rotateCounter + 1 < Generated.ROTATE_INTERVAL →
      (Rot.cycle sd rr.freshProp).2 = some m →
      PeerCrypto.sealMsg (cycPc pc2 sd rr) (Generated.MESSAGE_TYPE_ROTATION :: Codec.writeRotMsg (PeerCrypto.rotMsgToBytes m)) rr.ct =
        (pc5, .error e) → M (.err pc5 e)) :
    M (tickRot pc2 rr) := by
  unfold tickRot
  cases hr : pc2.rot with
  | none => exact idle hr
  | some sd =>
    by_cases hc : pc2.rotateCounter + 1 < Generated.ROTATE_INTERVAL
    · simp only [if_pos hc]
      rw [← hr]
      exact wait hc
    · simp only [if_neg hc]
      show M (match (Rot.cycle sd rr.freshProp).2 with
        | none => .ok (cycPc pc2 sd rr) [] .none []
        | some m =>
          match PeerCrypto.sealMsg (cycPc pc2 sd rr) (Generated.MESSAGE_TYPE_ROTATION :: Codec.writeRotMsg (PeerCrypto.rotMsgToBytes m)) rr.ct with
          | (pc5, .ok (bytes, log)) => .ok pc5 bytes .reply log
          | (pc5, .error e) => .err pc5 e)
      cases hm : (Rot.cycle sd rr.freshProp).2 with
      | none => exact quiet sd hr hc hm
      | some m =>
        simp only []
        rcases hs : PeerCrypto.sealMsg (cycPc pc2 sd rr) (Generated.MESSAGE_TYPE_ROTATION :: Codec.writeRotMsg (PeerCrypto.rotMsgToBytes m)) rr.ct
          with ⟨pc5, r⟩
        cases r with
        | error e => exact sealErr sd m pc5 e hr hc hm hs
        | ok x => exact sealed sd m pc5 x.1 x.2 hr hc hm hs

theorem everySecond_eq (pc : PeerCrypto) (rr : RotRand) :
    PeerCrypto.everySecond pc rr =
    match tick1 pc with
    | (pc1, .error e) => .err pc1 e
    | (pc1, .ok out) =>
      if !out.isEmpty then .ok (tick2 pc1) (Generated.INIT_MESSAGE_FIRST_BYTE :: out) .reply []
      else tickRot (tick2 pc1) rr := by
  rfl

/-- how `every_second` goes on after its first stage: the timer of the handshake object fails, it retransmits, or it is silent and the
    rotation has its turn -/
theorem tick_cases {M : POutcome MsgResult → Prop} (pc : PeerCrypto) (rr : RotRand)
    (err : ∀ e, (tick1 pc).2 = .error e → M (.err (tick1 pc).1 e))
    (resend : ∀ out, (tick1 pc).2 = .ok out → out ≠ [] → M (.ok (tick2 (tick1 pc).1) (Generated.INIT_MESSAGE_FIRST_BYTE :: out) .reply []))
    (rot : (tick1 pc).2 = .ok [] → M (tickRot (tick2 (tick1 pc).1) rr)) :
    M (PeerCrypto.everySecond pc rr) := by
  rw [everySecond_eq]
  generalize tick1 pc = x at err resend rot
  obtain ⟨pc1, r⟩ := x
  cases r with
  | error e => exact err e rfl
  | ok out =>
    cases out with
    | nil => exact rot rfl
    | cons b o => exact resend _ rfl (List.cons_ne_nil b o)

/-- what the session layer can return for a datagram without the handshake marker -/
def PlainRes (res : MsgResult) : Prop := res = .none ∨ ∃ ty body, res = .message ty body

end VpnCloud.Proofs.SessionInvLemmas
