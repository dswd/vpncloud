import VpnCloud.Proofs.Lemmas.Node.ConnectLemmas
import VpnCloud.Proofs.Lemmas.Node.SendLemmas
/-
  `housekeep` in stages.  The stage functions are what the statements of several property modules speak of, which is why they carry
  the namespaces of those modules: `NodeInvLemmas.hkDead`, `hkSweep`, `hkAnnounce`, `hkOwn` with `housekeep_eq`;
  the two loops of `crypto_housekeep`, `C09MoreLemmas.pendStep` / `pendLoop` / `peerStep` / `peerLoop` with `cryptoHousekeep_eq`;
  `C15MoreLemmas.rcUpdate` with the frame of `reconnect_to_peers`; the frames of the other stages.
-/
namespace VpnCloud.Proofs.NodeInvLemmas
open VpnCloud.Node

def hkDead (env : CryptoEnv) (o : Oracle) (n : Node) (now : Int) : Ctx :=
  ((n.peers.filter (fun (_, p) => Generated.peerExpired p.timeout now)).map (·.1)).foldl (fun c a =>
    let n := c.node
    connectSock env o { c with node := { n with peers := eraseA n.peers a, table := n.table.removeClaims now (addrId a) } } a) { node := n }

def hkSweep (c1 : Ctx) (now : Int) : Ctx := { c1 with node := { c1.node with table := c1.node.table.housekeep now } }

def hkAnnounce (o : Oracle) (c3 : Ctx) (now : Int) : Ctx :=
  if Generated.announceDue c3.node.nextPeers now then
    let info := Codec.encodeNodeInfo (createNodeInfo c3.node)
    let c' := broadcastMsg o c3 Generated.MESSAGE_TYPE_NODE_INFO info
    let minPt := (c'.node.peers.map (fun (_, p) => p.peerTimeout)).foldl min (if c'.node.peers.isEmpty then Generated.DEFAULT_PEER_TIMEOUT else 65535)
    match announceInterval c'.node.cfg.updateFreq minPt with
    | some d => { c' with node := { c'.node with nextPeers := now + d } }
    | none => { c' with panicked := true }
  else c3

/-- the announcement step: nothing if it is not due; else the broadcast of the node information, after which the next one is
    scheduled — or, if the generated interval expression fails (it never does: `C15More.announceInterval_ne_none`), the step panics -/
theorem hkAnnounce_cases {M : Ctx → Prop} (o : Oracle) (c : Ctx) (now : Int) (idle : ¬ c.node.nextPeers ≤ now → M c)
    (sent : c.node.nextPeers ≤ now → ∀ d : Nat, M { broadcastMsg o c Generated.MESSAGE_TYPE_NODE_INFO (Codec.encodeNodeInfo (createNodeInfo c.node)) with
      node := { (broadcastMsg o c Generated.MESSAGE_TYPE_NODE_INFO (Codec.encodeNodeInfo (createNodeInfo c.node))).node with nextPeers := now + d } })
    (panic : c.node.nextPeers ≤ now → (∃ f m, announceInterval f m = none) →
      M { broadcastMsg o c Generated.MESSAGE_TYPE_NODE_INFO (Codec.encodeNodeInfo (createNodeInfo c.node)) with panicked := true }) :
    M (hkAnnounce o c now) := by
  unfold hkAnnounce
  by_cases h : Generated.announceDue c.node.nextPeers now = true
  · have hdue : c.node.nextPeers ≤ now := by simpa [Generated.announceDue] using h
    rw [if_pos h]
    simp only []
    split
    · exact sent hdue _
    · rename_i hnone
      exact panic hdue ⟨_, _, hnone⟩
  · rw [if_neg h]
    exact idle (by simpa [Generated.announceDue] using h)

def hkOwn (c5 : Ctx) (now : Int) : Ctx :=
  if Generated.ownResetDue c5.node.nextOwnReset now then
    { c5 with node := { c5.node with own := c5.node.cfg.advertise ++ [c5.node.addr], nextOwnReset := now + 300 } }
  else c5

theorem housekeep_eq (env : CryptoEnv) (o : Oracle) (n : Node) (now : Int) :
    housekeep env o n now =
      hkOwn (reconnectToPeers env o (hkAnnounce o (cryptoHousekeep env o (hkSweep (hkDead env o n now) now) now) now) now) now := by
  -- The `match` on the announcement interval is a different matcher constant in `housekeep` and in `hkAnnounce`; unifying
  -- the two is only cheap while the context they start from is a variable, so the first half is abstracted before `rfl`.
  unfold housekeep
  extract_lets c dead c1 s1 c2 c3
  have h3 : cryptoHousekeep env o (hkSweep (hkDead env o n now) now) now = c3 := rfl
  rw [h3]
  clear_value c3
  rfl

end VpnCloud.Proofs.NodeInvLemmas

namespace VpnCloud.Proofs.C09MoreLemmas
open VpnCloud.Node VpnCloud.Proofs.AssocLemmas VpnCloud.Proofs.NodeLemmas

/-- the first loop of `crypto_housekeep`: `every_second` of the pending attempts -/
def pendStep (o : Oracle) (c : Ctx) (a : NAddr) : Ctx :=
  match lookupA c.node.pending a with
  | none => c
  | some pc =>
    let (_, rr, _) := rndFor o c a
    match PeerCrypto.everySecond pc rr with
    | .err _ _ => { c with node := { c.node with pending := eraseA c.node.pending a } }
    | .panic => { c with panicked := true }
    | .ok pc' out res log =>
      let c' := addLog log { c with node := { c.node with pending := insertA c.node.pending a pc' } }
      if res = .reply then c'.send a out else c'

theorem pendStep_cases {M : Ctx → Prop} (o : Oracle) (c : Ctx) (a : NAddr)
    (absent : lookupA c.node.pending a = none → M c)
    (err : ∀ pc rr pc' e, lookupA c.node.pending a = some pc → PeerCrypto.everySecond pc rr = .err pc' e →
      M { c with node := { c.node with pending := eraseA c.node.pending a } })
    (panic : ∀ pc rr, lookupA c.node.pending a = some pc → PeerCrypto.everySecond pc rr = .panic → M { c with panicked := true })
    (ok : ∀ pc rr pc' out res log, lookupA c.node.pending a = some pc → PeerCrypto.everySecond pc rr = .ok pc' out res log →
      M (if res = .reply then (addLog log { c with node := { c.node with pending := insertA c.node.pending a pc' } }).send a out
         else addLog log { c with node := { c.node with pending := insertA c.node.pending a pc' } })) : M (pendStep o c a) := by
  unfold pendStep
  split
  · rename_i hp
    exact absent hp
  · rename_i pc hp
    split
    rename_i rr _ _
    split
    · rename_i pc' e he
      exact err pc rr pc' e hp he
    · rename_i he
      exact panic pc rr hp he
    · rename_i pc' out res log he
      exact ok pc rr pc' out res log hp he

def pendLoop (o : Oracle) (c : Ctx) : Ctx := (c.node.pending.map (·.1)).foldl (pendStep o) c

/-- one iteration of the second loop of `crypto_housekeep`: `every_second` of the session of the peer `a` -/
def peerStep (env : CryptoEnv) (o : Oracle) (now : Int) (c : Ctx) (a : NAddr) : Ctx :=
  match lookupA c.node.peers a with
  | none => c
  | some p =>
    let (_, rr, _) := rndFor o c a
    match PeerCrypto.everySecond p.crypto rr with
    | .err _ _ =>
      let c' := { c with node := { c.node with peers := eraseA c.node.peers a, table := c.node.table.removeClaims now (addrId a) } }
      connectSock env o c' a
    | .panic => { c with panicked := true }
    | .ok pc' out res log =>
      let c' := addLog log { c with node := { c.node with peers := insertA c.node.peers a { p with crypto := pc' } } }
      if res = .reply then c'.send a out else c'

theorem peerStep_cases {M : Ctx → Prop} (env : CryptoEnv) (o : Oracle) (now : Int) (c : Ctx) (a : NAddr)
    (absent : lookupA c.node.peers a = none → M c)
    (err : ∀ p rr pc' e, lookupA c.node.peers a = some p → PeerCrypto.everySecond p.crypto rr = .err pc' e →
      M (connectSock env o
        { c with node := { c.node with peers := eraseA c.node.peers a, table := c.node.table.removeClaims now (addrId a) } } a))
    (panic : ∀ p rr, lookupA c.node.peers a = some p → PeerCrypto.everySecond p.crypto rr = .panic → M { c with panicked := true })
    (ok : ∀ p rr pc' out res log, lookupA c.node.peers a = some p → PeerCrypto.everySecond p.crypto rr = .ok pc' out res log →
      M (if res = .reply then (addLog log { c with node := { c.node with peers := insertA c.node.peers a { p with crypto := pc' } } }).send a out
         else addLog log { c with node := { c.node with peers := insertA c.node.peers a { p with crypto := pc' } } })) :
    M (peerStep env o now c a) := by
  unfold peerStep
  split
  · rename_i hp
    exact absent hp
  · rename_i p hp
    split
    rename_i rr _ _
    split
    · rename_i pc' e he
      exact err p rr pc' e hp he
    · rename_i he
      exact panic p rr hp he
    · rename_i pc' out res log he
      exact ok p rr pc' out res log hp he

/-- `peerStep_cases` for a motive that `send` keeps: the two leaves of an answer are one -/
theorem peerStep_leaves {M : Ctx → Prop} (env : CryptoEnv) (o : Oracle) (now : Int) (c : Ctx) (a : NAddr)
    (absent : lookupA c.node.peers a = none → M c)
    (err : ∀ p rr pc' e, lookupA c.node.peers a = some p → PeerCrypto.everySecond p.crypto rr = .err pc' e →
      M (connectSock env o
        { c with node := { c.node with peers := eraseA c.node.peers a, table := c.node.table.removeClaims now (addrId a) } } a))
    (panic : ∀ p rr, lookupA c.node.peers a = some p → PeerCrypto.everySecond p.crypto rr = .panic → M { c with panicked := true })
    (ok : ∀ p rr pc' out res log, lookupA c.node.peers a = some p → PeerCrypto.everySecond p.crypto rr = .ok pc' out res log →
      M (addLog log { c with node := { c.node with peers := insertA c.node.peers a { p with crypto := pc' } } }))
    (send : ∀ c' out, M c' → M (c'.send a out)) : M (peerStep env o now c a) :=
  peerStep_cases env o now c a absent err panic fun p rr pc' out res log hp he =>
    iteInduction (motive := M) (fun _ => send _ _ (ok p rr pc' out res log hp he)) (fun _ => ok p rr pc' out res log hp he)

def peerLoop (env : CryptoEnv) (o : Oracle) (c1 : Ctx) (now : Int) : Ctx := (c1.node.peers.map (·.1)).foldl (peerStep env o now) c1

theorem cryptoHousekeep_eq (env : CryptoEnv) (o : Oracle) (c : Ctx) (now : Int) :
    cryptoHousekeep env o c now = peerLoop env o (pendLoop o c) now := rfl

def noPending (n : Node) : Node := { n with pending := [] }

theorem pendStep_node (o : Oracle) (c : Ctx) (a : NAddr) : noPending (pendStep o c a).node = noPending c.node := by
  refine pendStep_cases (M := fun x => noPending x.node = noPending c.node) o c a (fun _ => rfl) (fun _ _ _ _ _ _ => rfl)
    (fun _ _ _ _ => rfl) fun _ _ _ _ res _ _ _ => ?_
  by_cases hr : res = .reply
  · rw [if_pos hr]; rfl
  · rw [if_neg hr]; rfl

theorem pendLoop_node (o : Oracle) (c : Ctx) : noPending (pendLoop o c).node = noPending c.node :=
  foldl_keep (fun c => noPending c.node) _ (pendStep_node o) _ _

theorem pendLoop_peers (o : Oracle) (c : Ctx) : (pendLoop o c).node.peers = c.node.peers :=
  by have h := congrArg (fun n : Node => n.peers) (pendLoop_node o c); exact h

theorem pendLoop_table (o : Oracle) (c : Ctx) : (pendLoop o c).node.table = c.node.table :=
  by have h := congrArg (fun n : Node => n.table) (pendLoop_node o c); exact h

theorem peerStep_lookup_ne (env : CryptoEnv) (o : Oracle) (now : Int) (c : Ctx) {a b : NAddr} (h : a ≠ b) :
    lookupA (peerStep env o now c b).node.peers a = lookupA c.node.peers a := by
  apply peerStep_leaves (M := fun c' => lookupA c'.node.peers a = lookupA c.node.peers a)
  · exact fun _ => rfl
  · exact fun _ _ _ _ _ _ => (congrArg (lookupA · a) (connectSock_peers ..)).trans (lookupA_eraseA_ne _ h)
  · exact fun _ _ _ _ => rfl
  · exact fun _ _ _ _ _ _ _ _ => lookupA_insertA_ne _ _ h
  · exact fun _ _ hc => hc

end VpnCloud.Proofs.C09MoreLemmas

namespace VpnCloud.Proofs.NodeLemmas
open VpnCloud.Node VpnCloud.Proofs.NodeInvLemmas

/-- one step of the first loop of `housekeep` -/
def deadStep (env : CryptoEnv) (o : Oracle) (now : Int) (c : Ctx) (a : NAddr) : Ctx :=
  connectSock env o { c with node := { c.node with peers := eraseA c.node.peers a, table := c.node.table.removeClaims now (addrId a) } } a

theorem deadStep_peers (env : CryptoEnv) (o : Oracle) (now : Int) (c : Ctx) (a : NAddr) :
    (deadStep env o now c a).node.peers = eraseA c.node.peers a :=
  connectSock_peers env o _ a

theorem hkDead_eq (env : CryptoEnv) (o : Oracle) (n : Node) (now : Int) :
    hkDead env o n now = ((n.peers.filter (fun (_, p) => Generated.peerExpired p.timeout now)).map (·.1)).foldl (deadStep env o now) { node := n } := rfl

/-- `c` without what sending to peers writes: the peer records (their session state), outputs, emission counters, seal log -/
def unsent (c : Ctx) : Ctx := { c with node := { c.node with peers := [] }, outs := [], cnt := [], log := [] }

theorem sendMsg_frame (o : Oracle) (c : Ctx) (a : NAddr) (ty : Nat) (body : Bytes) :
    unsent ((sendMsg o c a ty body).getD c) = unsent c := by
  rw [sendMsg_eq]
  cases sendTo o c ty body a <;> rfl

theorem broadcastMsg_frame (o : Oracle) (c : Ctx) (ty : Nat) (body : Bytes) : unsent (broadcastMsg o c ty body) = unsent c :=
  foldl_keep unsent _ (fun c a => sendMsg_frame o c a ty body) _ _

/-- the announcement step also writes the time of the next announcement and the panic flag -/
def unannounced (c : Ctx) : Ctx := unsent { c with node := { c.node with nextPeers := 0 }, panicked := false }

theorem hkAnnounce_frame (o : Oracle) (c : Ctx) (now : Int) : unannounced (hkAnnounce o c now) = unannounced c := by
  have hb : unannounced (broadcastMsg o c Generated.MESSAGE_TYPE_NODE_INFO (Codec.encodeNodeInfo (createNodeInfo c.node))) = unannounced c :=
    congrArg (fun c : Ctx => { c with node := { c.node with nextPeers := 0 }, panicked := false }) (broadcastMsg_frame o c _ _)
  exact hkAnnounce_cases (M := fun x => unannounced x = unannounced c) o c now (fun _ => rfl) (fun _ _ => hb) (fun _ _ => hb)

/-- the last step of `housekeep` writes the own addresses and the time of their next reset -/
def unowned (c : Ctx) : Ctx := { c with node := { c.node with own := [], nextOwnReset := 0 } }

theorem hkOwn_frame (c : Ctx) (now : Int) : unowned (hkOwn c now) = unowned c := by
  unfold hkOwn; split <;> rfl

theorem hkOwn_peers (c : Ctx) (now : Int) : (hkOwn c now).node.peers = c.node.peers := frame_proj (hkOwn_frame c now) (·.node.peers)

/-- one iteration of the first loop of `reconnect_to_peers` -/
def dialStep (env : CryptoEnv) (o : Oracle) (now : Int) (c : Ctx) (e : Reconnect) : Ctx :=
  if Generated.reconnectNotDue e.next now then c else connect env o c e.resolved

/-- the first loop of `reconnect_to_peers` -/
def rcDial (env : CryptoEnv) (o : Oracle) (c : Ctx) (now : Int) : Ctx := c.node.reconnect.foldl (dialStep env o now) c

theorem dialStep_frame (env : CryptoEnv) (o : Oracle) (now : Int) (c : Ctx) (e : Reconnect) :
    undialled (dialStep env o now c e) = undialled c := by
  unfold dialStep; split
  · rfl
  · exact connect_frame env o c _

theorem rcDial_frame (env : CryptoEnv) (o : Oracle) (c : Ctx) (now : Int) : undialled (rcDial env o c now) = undialled c :=
  foldl_keep undialled _ (dialStep_frame env o now) _ _

end VpnCloud.Proofs.NodeLemmas

namespace VpnCloud.Proofs.C15MoreLemmas
open VpnCloud.Node VpnCloud.Proofs.NodeLemmas

/-- the second loop of `reconnect_to_peers`: what happens to one entry (`peers` = the current peer list) -/
def rcUpdate (peers : List (NAddr × Peer)) (now : Int) (e : Reconnect) : Reconnect :=
  let e1 := if e.resolved.any (fun a => (lookupA peers a).isSome) then { e with tries := 0, timeout := 1, next := now + 1 } else e
  if Generated.reconnectNotDue e1.next now then e1
  else
    let tries := e1.tries + 1
    let (tries, timeout) := if Generated.backoffDoubles tries then (0, e1.timeout * 2) else (tries, e1.timeout)
    let timeout := if Generated.backoffCapped timeout then Generated.MAX_RECONNECT_INTERVAL else timeout
    { e1 with tries, timeout, next := now + timeout }

theorem reconnectToPeers_frame (env : CryptoEnv) (o : Oracle) (c : Ctx) (now : Int) :
    undialled (reconnectToPeers env o c now) =
      undialled { c with node := { c.node with reconnect := c.node.reconnect.map (rcUpdate c.node.peers now) } } :=
  congrArg (fun c : Ctx => { c with node := { c.node with reconnect := c.node.reconnect.map (rcUpdate c.node.peers now) } })
    (rcDial_frame env o c now)

end VpnCloud.Proofs.C15MoreLemmas

namespace VpnCloud.Proofs.NodeLemmasAB

theorem send_node (c : Ctx) (a : NAddr) (b : Bytes) : (c.send a b).node = c.node := NodeLemmas.send_node c a b

end VpnCloud.Proofs.NodeLemmasAB

namespace VpnCloud.Proofs.NodeLemmas
open VpnCloud.Node

theorem reconnectToPeers_peers (env : CryptoEnv) (o : Oracle) (c : Ctx) (now : Int) :
    (reconnectToPeers env o c now).node.peers = c.node.peers :=
  frame_proj (C15MoreLemmas.reconnectToPeers_frame env o c now) (·.node.peers)

theorem connectSock_reconnect (env : CryptoEnv) (o : Oracle) (c : Ctx) (a : NAddr) :
    (connectSock env o c a).node.reconnect = c.node.reconnect :=
  frame_proj (connectSock_frame env o c a) (·.node.reconnect)

theorem connect_reconnect (env : CryptoEnv) (o : Oracle) (c : Ctx) (addrs : List NAddr) :
    (connect env o c addrs).node.reconnect = c.node.reconnect :=
  frame_proj (connect_frame env o c addrs) (·.node.reconnect)

end VpnCloud.Proofs.NodeLemmas
