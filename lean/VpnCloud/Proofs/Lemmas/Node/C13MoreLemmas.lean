import VpnCloud.Proofs.C10More
import VpnCloud.Proofs.C13
import VpnCloud.Proofs.C01More
import VpnCloud.Proofs.C12More
/-
  Helper lemmas for `Proofs/C13More.lean` (switch learning at node level):

  * the node state after a DATA message from an established peer (`handleNet_frame`, `handleNet_learn`),
  * what the table contributes to `handle_interface_data`: only the answer of the lookup (from `NodeLemmas.handleIface_route`),
  * frames: what `Frame::parse` returns on tagged / untagged frames given by their fields,
  * tables that only shrink (`TShrink`) and tables without entries of one peer (`NoPeer`),
  * the table through `housekeep`, read off `TickLemmas.housekeep_tick` (`housekeep_pruned`, `housekeep_shrink`, `housekeep_finds`).
    Sweep, `remove_claims` and tick are `TableLemmas.pruned` for no, one and several peer ids: each predicate on tables (`TShrink`,
    `Finds`, `CacheBacked`) has one lemma `.pruned`, of which those for the three operations are instances.
    That a dropped peer leaves nothing behind is `C12More`,
  * `handle_net_message` in a node that does not learn: at most one table operation, none of them `learn` (`handleNet_tblNL`),
  * `Finds S v t` (the first cache entry for `S` is `v`) through `learn`, the sweep, `remove_claims` and the tick,
  * `AddrWF` and `addrId_inj`: `addrId` is injective on socket addresses of proper widths (the three kinds of ids lie in
    disjoint ranges),
  * for nodes that do not learn: `CacheBacked` (every cache entry is backed by a claim of the same peer that lives at least as
    long) and `ClaimsBounded` through `lookup`, the sweep, `remove_claims` and `set_claims`.
-/
namespace VpnCloud.Proofs.C13MoreLemmas

open VpnCloud.Node VpnCloud.Table
open VpnCloud.Proofs.AssocLemmas VpnCloud.Proofs.NodeLemmas VpnCloud.Proofs.C10MoreLemmas

theorem handleNet_frame {env : CryptoEnv} {bodyOf : Init.BodyOf} {o : Oracle} {n : Node} {src : NAddr} {data tail : Bytes}
    {p : Peer} {pc : PeerCrypto} {f : Bytes}
    (h : C15More.FromPeer env bodyOf o n src data tail p pc Generated.MESSAGE_TYPE_DATA f) (now : Int) (S D : Addr)
    (hp : parseAddrs n f = some (S, D)) :
    (handleNet env bodyOf o n now src data tail).1.node =
      { n with peers := insertA n.peers (mappedAddr src) { p with crypto := pc },
               table := if n.cfg.learning then n.table.learn now S (addrId (mappedAddr src)) else n.table } := by
  obtain ⟨out, log, hm⟩ := h.opened
  rw [(handleNet_data env bodyOf o n now src data tail f p pc out log h.peer hm).2, hp]

theorem handleIface_table (o : Oracle) (n : Node) (now : Int) (data : Bytes) :
    (handleIface o n now data).node.table = n.table ∨
    ∃ s dst, parseAddrs n data = some (s, dst) ∧ (handleIface o n now data).node.table = (n.table.lookup now dst).1 := by
  cases hp : parseAddrs n data with
  | none => left; rw [handleIface_eq, hp]
  | some x => exact Or.inr ⟨x.1, x.2, rfl, by rw [handleIface_route o n now data x.1 x.2 hp]; rfl⟩

theorem handleIface_outs_table (o : Oracle) (n : Node) (t' : Table) (now : Int) (data : Bytes)
    (h : ∀ s dst, parseAddrs n data = some (s, dst) → (t'.lookup now dst).2 = (n.table.lookup now dst).2) :
    (handleIface o { n with table := t' } now data).outs = (handleIface o n now data).outs := by
  cases hp : parseAddrs n data with
  | none => rw [handleIface_eq, handleIface_eq, hp, show parseAddrs { n with table := t' } data = none from hp]
  | some x =>
    rw [handleIface_route o n now data x.1 x.2 hp, handleIface_route o { n with table := t' } now data x.1 x.2 hp]
    show (route o (setT t' { node := n }) (t'.lookup now x.2).2 data).outs = _
    rw [h x.1 x.2 hp, route_setT]
    rfl

theorem parseAddrs_tap (n : Node) (htap : n.cfg.tap = true) (d : Bytes) (r : Addr × Addr) (h : Payload.frameParse d = .ok r) :
    parseAddrs n d = some r := by
  unfold parseAddrs
  rw [htap]
  simp only [if_true, h]

theorem frameParse_of_parseAddrs {n : Node} (htap : n.cfg.tap = true) {d : Bytes} {r : Addr × Addr} (h : parseAddrs n d = some r) :
    Payload.frameParse d = .ok r := by
  unfold parseAddrs at h
  rw [htap, if_pos rfl] at h
  cases hfp : Payload.frameParse d with
  | error e => rw [hfp] at h; cases h
  | ok r' => rw [hfp] at h; cases h; rfl

theorem handleNet_learn {env : CryptoEnv} {bodyOf : Init.BodyOf} {o : Oracle} {n : Node} {src : NAddr} {data tail : Bytes}
    {p : Peer} {pc : PeerCrypto} {f : Bytes}
    (h : C15More.FromPeer env bodyOf o n src data tail p pc Generated.MESSAGE_TYPE_DATA f)
    (hlearn : n.cfg.learning = true) (htap : n.cfg.tap = true) (now : Int) {S D : Addr} (hf : Payload.frameParse f = .ok (S, D)) :
    (handleNet env bodyOf o n now src data tail).1.node =
      { n with peers := insertA n.peers (mappedAddr src) { p with crypto := pc },
               table := n.table.learn now S (addrId (mappedAddr src)) } := by
  rw [handleNet_frame h now S D (parseAddrs_tap n htap f _ hf), hlearn]
  rfl

/-- an Ethernet frame with an 802.1Q tag: priority / DEI nibble `pcp`, VLAN id `vid` (12 bits) -/
def taggedFrame (dst src : Bytes) (pcp vid : Nat) (rest : Bytes) : Bytes :=
  dst ++ src ++ [0x81, 0x00, pcp * 16 + vid / 256, vid % 256] ++ rest

/-- an Ethernet frame without tag: ethertype `proto` (two bytes, not `81 00`) -/
def plainFrame (dst src proto rest : Bytes) : Bytes := dst ++ src ++ proto ++ rest

/-- the two bytes that the VLAN id `vid` puts in front of both addresses -/
def vlanKey (vid : Nat) : Bytes := [vid / 256, vid % 256]

/-- the key under which a MAC address is learned and looked up: the address itself for VLAN id 0 (no tag, priority tag), else with
    the two bytes of the id in front -/
def frameKey (vid : Nat) (a : Bytes) : Addr := if vid = 0 then a else vlanKey vid ++ a

theorem readExact_append {n : Nat} (a r : Bytes) (h : a.length = n) : Payload.readExact n (a ++ r) = some (a, r) := by
  subst h
  unfold Payload.readExact
  rw [if_pos (by simp), List.take_left, List.drop_left]

theorem frameParse_tagged (dst src rest : Bytes) (pcp vid : Nat) (hd : dst.length = 6) (hs : src.length = 6) (hv : vid < 4096) :
    Payload.frameParse (taggedFrame dst src pcp vid rest) = .ok (frameKey vid src, frameKey vid dst) := by
  have e : (pcp * 16 + vid / 256) % 16 = vid / 256 := by omega
  have h0 : [vid / 256, vid % 256] = [0, 0] ↔ vid = 0 := by
    simp only [List.cons.injEq, and_true]; omega
  unfold Payload.frameParse taggedFrame
  rw [List.append_assoc, List.append_assoc, readExact_append dst _ hd]
  simp only []
  rw [readExact_append src _ hs]
  simp only []
  rw [show [0x81, 0x00, pcp * 16 + vid / 256, vid % 256] ++ rest = [0x81, 0x00] ++ ([pcp * 16 + vid / 256, vid % 256] ++ rest) from rfl,
    readExact_append (n := 2) [0x81, 0x00] _ rfl]
  simp only [if_true]
  rw [readExact_append (n := 2) [pcp * 16 + vid / 256, vid % 256] rest rfl]
  simp only [List.headD_cons, List.getD_cons_succ, List.getD_cons_zero, e, h0, frameKey, vlanKey]
  split <;> rfl

theorem frameParse_plain (dst src proto rest : Bytes) (hd : dst.length = 6) (hs : src.length = 6) (hp : proto.length = 2)
    (hne : proto ≠ [0x81, 0x00]) : Payload.frameParse (plainFrame dst src proto rest) = .ok (src, dst) := by
  unfold Payload.frameParse plainFrame
  rw [List.append_assoc, List.append_assoc, readExact_append dst _ hd]
  simp only []
  rw [readExact_append src _ hs]
  simp only []
  rw [readExact_append proto _ hp]
  simp only [if_neg hne]

/-- the same MAC address in two VLANs has two keys (`C13.vlan_tag_injective`, `C13.tagged_ne_untagged`) -/
theorem frameKey_inj {v w : Nat} (hv : v < 4096) (hw : w < 4096) {a : Bytes} (ha : a.length = 6) (h : frameKey v a = frameKey w a) :
    v = w := by
  unfold frameKey at h
  split at h <;> split at h
  · omega
  · exact absurd h.symm (C13.tagged_ne_untagged (vlanKey w) a a rfl ha ha)
  · exact absurd h (C13.tagged_ne_untagged (vlanKey v) a a rfl ha ha)
  · exact C13.vlan_tag_injective v w hv hw (List.append_inj_left h rfl)

/-! ## learning an address does not change the answer for another address -/

theorem handleNet_frame_keeps {env : CryptoEnv} {bodyOf : Init.BodyOf} {o : Oracle} {n : Node} {src : NAddr} {data tail : Bytes}
    {p : Peer} {pc : PeerCrypto} {f : Bytes}
    (h : C15More.FromPeer env bodyOf o n src data tail p pc Generated.MESSAGE_TYPE_DATA f) (now : Int) (S D : Addr)
    (hp : parseAddrs n f = some (S, D)) :
    (handleNet env bodyOf o n now src data tail).1.node.cfg = n.cfg ∧
    (handleNet env bodyOf o n now src data tail).1.node.peers = insertA n.peers (mappedAddr src) { p with crypto := pc } ∧
    (handleNet env bodyOf o n now src data tail).1.node.table.claims = n.table.claims ∧
    ∀ v ∈ (handleNet env bodyOf o n now src data tail).1.node.table.cache, v ∈ n.table.cache ∨ v.addr = S := by
  rw [handleNet_frame h now S D hp]
  refine ⟨rfl, rfl, ?_, ?_⟩ <;> dsimp only <;> split
  · rfl
  · rfl
  · exact fun v hv => (TableLemmas.mem_cacheInsert.1 hv).elim (fun e => Or.inr (e ▸ rfl)) (fun h => Or.inl h.1)
  · exact fun v hv => Or.inl hv

theorem lookup_learn_other (t : Table) (now now' : Int) (S K : Addr) (p : PeerId) (h : K ≠ S) :
    ((t.learn now S p).lookup now' K).2 = (t.lookup now' K).2 := by
  have hf : (t.learn now S p).cache.find? (fun v => v.addr = K) = t.cache.find? (fun v => v.addr = K) :=
    (TableLemmas.find?_cacheInsert t.cache ⟨S, p, now + t.cacheTimeout⟩ K).trans (if_neg fun e => h e.symm)
  rcases TableLemmas.lookup_cases t now' K with ⟨v, hv, hl⟩ | ⟨hn, ⟨hb, hl⟩ | ⟨e, hb, hl⟩⟩ <;> rw [hl]
  · rw [TableLemmas.lookup_hit _ now' K v (hf.trans hv)]
  · rw [TableLemmas.lookup_none _ now' K (hf.trans hn) hb]
  · rw [TableLemmas.lookup_some _ now' K e (hf.trans hn) hb]

/-- `t` is `t0` with some cached / learned entries and some claims removed (order kept, nothing added or altered) -/
def TShrink (t0 t : Table) : Prop :=
  t.cache.Sublist t0.cache ∧ t.claims.Sublist t0.claims ∧ t.cacheTimeout = t0.cacheTimeout ∧ t.claimTimeout = t0.claimTimeout

theorem TShrink.refl (t : Table) : TShrink t t := ⟨List.Sublist.refl _, List.Sublist.refl _, rfl, rfl⟩

theorem TShrink.trans {t0 t1 t2 : Table} (h1 : TShrink t0 t1) (h2 : TShrink t1 t2) : TShrink t0 t2 :=
  ⟨h2.1.trans h1.1, h2.2.1.trans h1.2.1, h2.2.2.1.trans h1.2.2.1, h2.2.2.2.trans h1.2.2.2⟩

theorem TShrink.of_eq {t0 t : Table} (h : t = t0) : TShrink t0 t := h ▸ TShrink.refl t0

theorem TShrink.housekeep (t : Table) (now : Int) : TShrink t (t.housekeep now) :=
  ⟨List.filter_sublist, List.filter_sublist, rfl, rfl⟩

theorem TShrink.housekeep_mono {t0 t : Table} (h : TShrink t0 t) (now : Int) : TShrink (t0.housekeep now) (t.housekeep now) :=
  ⟨h.1.filter _, h.2.1.filter _, h.2.2.1, h.2.2.2⟩

theorem TShrink.pruned (t : Table) (now : Int) (G : List PeerId) : TShrink (t.housekeep now) (TableLemmas.pruned t now G) :=
  ⟨(TableLemmas.pruned_sublist t now G).1, (TableLemmas.pruned_sublist t now G).2, rfl, rfl⟩

theorem TShrink.removeClaims_swept (t : Table) (now : Int) (hnow : 0 < now) (p : PeerId) :
    TShrink (t.housekeep now) (t.removeClaims now p) :=
  TableLemmas.removeClaims_eq_pruned t now hnow p ▸ TShrink.pruned t now [p]

theorem TShrink.removeClaims (t : Table) (now : Int) (hnow : 0 < now) (p : PeerId) : TShrink t (t.removeClaims now p) :=
  (TShrink.housekeep t now).trans (TShrink.removeClaims_swept t now hnow p)

/-- nothing in the table names the peer id `pid` (`C12MoreLemmas.NoRoutes` with the conjuncts in the other order) -/
def NoPeer (pid : PeerId) (t : Table) : Prop := (∀ v ∈ t.cache, v.peer ≠ pid) ∧ ∀ e ∈ t.claims, e.peer ≠ pid

theorem NoPeer.removeClaims (t : Table) (now : Int) (hnow : 0 < now) (pid : PeerId) : NoPeer pid (t.removeClaims now pid) :=
  ⟨(C12MoreLemmas.removeClaims_noRoutes t now hnow pid).2, (C12MoreLemmas.removeClaims_noRoutes t now hnow pid).1⟩

theorem NoPeer.lookup {pid : PeerId} {t : Table} (h : NoPeer pid t) (now : Int) (a : Addr) : (t.lookup now a).2 ≠ some pid := by
  intro hl
  rcases C12.lookup_result_mem t now a pid hl with ⟨v, hv, hp⟩ | ⟨e, he, hp⟩
  · exact h.1 v hv hp
  · exact h.2 e he hp

theorem housekeep_pruned (env : CryptoEnv) (o : Oracle) (n : Node) (now : Int) (hnow : 0 < now) :
    ∃ G, (housekeep env o n now).node.table = TableLemmas.pruned n.table now G := by
  obtain ⟨L, hL⟩ := TickLemmas.housekeep_tick env o n now
  exact ⟨_, hL.table hnow⟩

theorem housekeep_shrink (env : CryptoEnv) (o : Oracle) (n : Node) (now : Int) (hnow : 0 < now) :
    TShrink (n.table.housekeep now) (housekeep env o n now).node.table := by
  obtain ⟨G, hG⟩ := housekeep_pruned env o n now hnow
  exact hG ▸ TShrink.pruned n.table now G

theorem housekeep_shrink' (env : CryptoEnv) (o : Oracle) (n : Node) (now : Int) (hnow : 0 < now) :
    TShrink n.table (housekeep env o n now).node.table :=
  (TShrink.housekeep n.table now).trans (housekeep_shrink env o n now hnow)

theorem housekeep_keysNodup (env : CryptoEnv) (o : Oracle) (n : Node) (now : Int) (h : (n.peers.map (·.1)).Nodup) :
    ((housekeep env o n now).node.peers.map (·.1)).Nodup := by
  obtain ⟨L, hL⟩ := TickLemmas.housekeep_tick env o n now
  exact hL.nodup h

theorem housekeep_cfg (env : CryptoEnv) (o : Oracle) (n : Node) (now : Int) : (housekeep env o n now).node.cfg = n.cfg :=
  (C01More.cfg_const_step (.tick env o n now)).1

theorem handleNet_cfg (env : CryptoEnv) (bodyOf : Init.BodyOf) (o : Oracle) (n : Node) (now : Int) (src : NAddr) (data tail : Bytes) :
    (handleNet env bodyOf o n now src data tail).1.node.cfg = n.cfg :=
  (C01More.cfg_const_step (.net env bodyOf o n now src data tail)).1

theorem handleIface_cfg (o : Oracle) (n : Node) (now : Int) (data : Bytes) : (handleIface o n now data).node.cfg = n.cfg :=
  (C01More.cfg_const_step (.iface o n now data)).1

theorem connect_cfg (env : CryptoEnv) (o : Oracle) (n : Node) (addrs : List NAddr) : (connect env o { node := n } addrs).node.cfg = n.cfg :=
  (C01More.cfg_const_step (.dial env o n addrs)).1

open C01MoreLemmas

/-- **no learning without the flag, for every datagram**: whatever a node with `learning = false` receives, from whomever, its table
    afterwards is the old one, or the old one after `set_claims` / `remove_claims` for the sender (`handleNet_tbl`, whose learning case
    records that the flag is set) -/
theorem handleNet_tblNL (env : CryptoEnv) (bodyOf : Init.BodyOf) (o : Oracle) (n : Node) (now : Int) (src : NAddr) (data tail : Bytes)
    (hl : n.cfg.learning = false) : TblCase n.table now (mappedAddr src) False (handleNet env bodyOf o n now src data tail).1 :=
  (handleNet_tbl env bodyOf o n now src data tail).mono (fun h => absurd h.2 (by rw [hl]; decide))

/-- the first cache entry for `S` is `v` -/
def Finds (S : Addr) (v : CacheEntry) (t : Table) : Prop := t.cache.find? (fun w => w.addr = S) = some v

theorem Finds.learn (t : Table) (now : Int) (S : Addr) (p : PeerId) : Finds S ⟨S, p, now + t.cacheTimeout⟩ (t.learn now S p) :=
  (TableLemmas.find?_cacheInsert t.cache ⟨S, p, now + t.cacheTimeout⟩ S).trans (if_pos rfl)

theorem Finds.pruned {S : Addr} {v : CacheEntry} {t : Table} (h : Finds S v t) (now : Int) (hv : now ≤ v.timeout) {G : List PeerId}
    (hG : v.peer ∉ G) : Finds S v (TableLemmas.pruned t now G) :=
  TableLemmas.find?_filter_keep h (by simp only [Bool.and_eq_true, decide_eq_true_eq]; exact ⟨hG, hv⟩)

theorem Finds.housekeep {S : Addr} {v : CacheEntry} {t : Table} (h : Finds S v t) (now : Int) (hv : now ≤ v.timeout) :
    Finds S v (t.housekeep now) :=
  TableLemmas.housekeep_eq_pruned t now ▸ h.pruned now hv List.not_mem_nil

theorem Finds.removeClaims {S : Addr} {v : CacheEntry} {t : Table} (h : Finds S v t) (now : Int) (hnow : 0 < now) (hv : now ≤ v.timeout)
    (q : PeerId) (hq : v.peer ≠ q) : Finds S v (t.removeClaims now q) :=
  TableLemmas.removeClaims_eq_pruned t now hnow q ▸ h.pruned now hv fun hm => hq (List.mem_singleton.1 hm)

/-- **a learned entry survives a tick before its expiry**: `v` (peer `a`, not yet expired) is the first entry for `S`; `a` is still a
    peer after the tick; no other peer address has the id of `a`: after the tick `v` is still the first entry for `S` -/
theorem housekeep_finds (env : CryptoEnv) (o : Oracle) (n : Node) (now : Int) (hnow : 0 < now) (S : Addr) (v : CacheEntry) (hv : now ≤ v.timeout)
    (a : NAddr) (hstay : a ∈ (housekeep env o n now).node.peers.map (·.1)) (hva : v.peer = addrId a)
    (hid : ∀ x ∈ n.peers.map (·.1), addrId x = addrId a → x = a) (h : Finds S v n.table) :
    Finds S v (housekeep env o n now).node.table := by
  obtain ⟨L, hL⟩ := TickLemmas.housekeep_tick env o n now
  -- `a` stays, so no address that left has its id
  have hid' : v.peer ∉ L.map addrId := fun hm => by
    obtain ⟨b, hb, hba⟩ := List.mem_map.1 hm
    have := hid b ((hL.mem b).1 hb).1 (hba.trans hva)
    exact ((hL.mem b).1 hb).2 (this ▸ hstay)
  exact hL.table hnow ▸ h.pruned now hv hid'

theorem housekeep_keys_subset (env : CryptoEnv) (o : Oracle) (n : Node) (now : Int) :
    ∀ b ∈ (housekeep env o n now).node.peers.map (·.1), b ∈ n.peers.map (·.1) := by
  obtain ⟨L, hL⟩ := TickLemmas.housekeep_tick env o n now
  exact fun b hb => (List.mem_filter.1 (hL.keys ▸ hb)).1

/-- a well-formed socket address: 4 / 16 address bytes, a 16-bit port -/
def AddrWF : NAddr → Prop
  | .v4 ip port => ip.length = 4 ∧ Bytes.WF ip ∧ port < 65536
  | .v6 ip port => ip.length = 16 ∧ Bytes.WF ip ∧ port < 65536

theorem ofU16_inj {p q : Nat} (hp : p < 65536) (hq : q < 65536) (h : Bytes.ofU16 p = Bytes.ofU16 q) : p = q := by
  simp only [Bytes.ofU16, List.cons.injEq, and_true] at h
  omega

theorem wf_ofU16 (p : Nat) : Bytes.WF (Bytes.ofU16 p) := by
  simp only [Bytes.ofU16, Bytes.wf_cons, Bytes.wf_nil, and_true]
  omega

theorem wf_tagged {tag : Nat} (htag : tag < 256) {ip : Bytes} (hw : Bytes.WF ip) (p : Nat) : Bytes.WF (tag :: (ip ++ Bytes.ofU16 p)) :=
  Bytes.wf_cons.2 ⟨htag, Bytes.wf_append.2 ⟨hw, wf_ofU16 p⟩⟩

theorem tagged_inj (tag : Nat) (htag : tag < 256) {ip ip' : Bytes} {p p' : Nat} (hl : ip.length = ip'.length) (hw : Bytes.WF ip) (hw' : Bytes.WF ip')
    (hp : p < 65536) (hp' : p' < 65536)
    (h : Bytes.beVal (tag :: (ip ++ Bytes.ofU16 p)) = Bytes.beVal (tag :: (ip' ++ Bytes.ofU16 p'))) : ip = ip' ∧ p = p' := by
  have := InitLemmas.beVal_inj _ _ (wf_tagged htag hw p) (wf_tagged htag hw' p') (by simp [Bytes.ofU16, hl]) h
  obtain ⟨h3, h4⟩ := List.append_inj (List.cons.inj this).2 hl
  exact ⟨h3, ofU16_inj hp hp' h4⟩

theorem tagged_range (tag : Nat) (htag : tag < 256) (ip : Bytes) (hw : Bytes.WF ip) (p : Nat) :
    tag * 256 ^ (ip.length + 2) ≤ Bytes.beVal (tag :: (ip ++ Bytes.ofU16 p)) ∧
    Bytes.beVal (tag :: (ip ++ Bytes.ofU16 p)) < 256 ^ (ip.length + 3) := by
  have hl : (ip ++ Bytes.ofU16 p).length = ip.length + 2 := by simp [Bytes.ofU16]
  have hlt := Bytes.beVal_lt _ (wf_tagged htag hw p)
  rw [List.length_cons, hl] at hlt
  refine ⟨?_, hlt⟩
  show _ ≤ tag * 256 ^ (ip ++ Bytes.ofU16 p).length + _
  rw [hl]
  exact Nat.le_add_right _ _

theorem addrId_v4 (ip : Bytes) (p : Nat) : addrId (.v4 ip p) = Bytes.beVal (4 :: (ip ++ Bytes.ofU16 p)) := rfl
theorem addrId_v6 (ip : Bytes) (p : Nat) :
    addrId (.v6 ip p) = if ip = List.replicate 16 0 then p else Bytes.beVal (6 :: (ip ++ Bytes.ofU16 p)) := rfl

/-- the three kinds of ids lie in disjoint ranges -/
theorem addrId_v4_range {ip : Bytes} {p : Nat} (h : AddrWF (.v4 ip p)) : 65536 ≤ addrId (.v4 ip p) ∧ addrId (.v4 ip p) < 6 * 256 ^ 18 := by
  rw [addrId_v4]
  obtain ⟨g4, l4⟩ := tagged_range 4 (by decide) ip h.2.1 p
  rw [h.1] at l4 g4
  have h46 : (256 : Nat) ^ (4 + 3) < 6 * 256 ^ 18 := by decide
  have h4p : (65536 : Nat) ≤ 4 * 256 ^ (4 + 2) := by decide
  omega

theorem addrId_v6_range {ip : Bytes} {p : Nat} (h : AddrWF (.v6 ip p)) :
    (ip = List.replicate 16 0 ∧ addrId (.v6 ip p) = p ∧ p < 65536) ∨
    (ip ≠ List.replicate 16 0 ∧ addrId (.v6 ip p) = Bytes.beVal (6 :: (ip ++ Bytes.ofU16 p)) ∧ 6 * 256 ^ 18 ≤ addrId (.v6 ip p)) := by
  rw [addrId_v6]
  by_cases hz : ip = List.replicate 16 0
  · rw [if_pos hz]; exact Or.inl ⟨hz, rfl, h.2.2⟩
  · rw [if_neg hz]
    refine Or.inr ⟨hz, rfl, ?_⟩
    have g6 := (tagged_range 6 (by decide) ip h.2.1 p).1
    rw [h.1] at g6
    exact g6

theorem addrId_inj {a b : NAddr} (ha : AddrWF a) (hb : AddrWF b) (h : addrId a = addrId b) : a = b := by
  rcases a with ⟨ip, p⟩ | ⟨ip, p⟩ <;> rcases b with ⟨ip', p'⟩ | ⟨ip', p'⟩
  · rw [addrId_v4, addrId_v4] at h
    obtain ⟨h1, h2⟩ := tagged_inj 4 (by decide) (ha.1.trans hb.1.symm) ha.2.1 hb.2.1 ha.2.2 hb.2.2 h
    rw [h1, h2]
  · exfalso
    have r4 := addrId_v4_range ha
    rcases addrId_v6_range hb with ⟨_, h1, h2⟩ | ⟨_, _, h2⟩ <;> omega
  · exfalso
    have r4 := addrId_v4_range hb
    rcases addrId_v6_range ha with ⟨_, h1, h2⟩ | ⟨_, _, h2⟩ <;> omega
  · rcases addrId_v6_range ha with ⟨hz, h1, h2⟩ | ⟨hz, h1, h2⟩ <;> rcases addrId_v6_range hb with ⟨hz', h1', h2'⟩ | ⟨hz', h1', h2'⟩
    · rw [h1, h1'] at h
      rw [hz, hz', h]
    · exfalso; omega
    · exfalso; omega
    · rw [h1, h1'] at h
      obtain ⟨e1, e2⟩ := tagged_inj 6 (by decide) (ha.1.trans hb.1.symm) ha.2.1 hb.2.1 ha.2.2 hb.2.2 h
      rw [e1, e2]

/-! ## cached decisions are backed by claims (nodes that do not learn, monotone clock) -/

/-- every cached entry is backed by a claim of the same peer that contains the address and does not expire before the entry -/
def CacheBacked (t : Table) : Prop :=
  ∀ v ∈ t.cache, ∃ e ∈ t.claims, e.peer = v.peer ∧ e.claim.matches v.addr = true ∧ v.timeout ≤ e.timeout

/-- no claim expires later than `T + claim timeout` (`T`: the time of the last operation) -/
def ClaimsBounded (T : Int) (t : Table) : Prop := ∀ e ∈ t.claims, e.timeout ≤ T + t.claimTimeout

theorem ClaimsBounded.mono {T T' : Int} {t : Table} (h : ClaimsBounded T t) (hT : T ≤ T') : ClaimsBounded T' t :=
  fun e he => by have := h e he; omega

theorem CacheBacked.lookup {t : Table} (h : CacheBacked t) (now : Int) (a : Addr) : CacheBacked (t.lookup now a).1 := by
  intro v hv
  rw [TableLemmas.lookup_frame t now a]
  rcases TableLemmas.mem_lookup_cache t now a v hv with hv | ⟨e, he, hmatch, rfl⟩
  · exact h v hv
  · exact ⟨e, he, rfl, hmatch, Int.min_le_right _ _⟩

theorem ClaimsBounded.lookup {T : Int} {t : Table} (h : ClaimsBounded T t) (now : Int) (a : Addr) : ClaimsBounded T (t.lookup now a).1 := by
  unfold ClaimsBounded
  rw [TableLemmas.lookup_frame t now a]
  exact h

theorem CacheBacked.pruned {t : Table} (h : CacheBacked t) (now : Int) (G : List PeerId) : CacheBacked (TableLemmas.pruned t now G) := by
  intro v hv
  obtain ⟨hv, hG, hto⟩ := TableLemmas.mem_pruned_cache.1 hv
  obtain ⟨e, he, h1, h2, h3⟩ := h v hv
  exact ⟨e, TableLemmas.mem_pruned_claims.2 ⟨he, h1 ▸ hG, by omega⟩, h1, h2, h3⟩

theorem CacheBacked.housekeep {t : Table} (h : CacheBacked t) (now : Int) : CacheBacked (t.housekeep now) :=
  TableLemmas.housekeep_eq_pruned t now ▸ h.pruned now []

theorem CacheBacked.removeClaims {t : Table} (h : CacheBacked t) (now : Int) (hnow : 0 < now) (q : PeerId) :
    CacheBacked (t.removeClaims now q) :=
  TableLemmas.removeClaims_eq_pruned t now hnow q ▸ h.pruned now [q]

theorem ClaimsBounded.of_shrink {T : Int} {t0 t : Table} (h : ClaimsBounded T t0) (hs : TShrink t0 t) : ClaimsBounded T t :=
  fun e he => by rw [hs.2.2.2]; exact h e (hs.2.1.subset he)

theorem CacheBacked.setClaims {t : Table} (h : CacheBacked t) (now : Int) (hnow : 0 < now) (hb : ClaimsBounded now t) (p : PeerId)
    (cs : List Range) : CacheBacked (t.setClaims now p cs) := by
  intro v hv
  have hold : v ∈ t.cache ∧ now ≤ v.timeout := by
    simpa using (TableRefresh.setClaims_cache_sub t now hnow p cs).subset hv
  obtain ⟨e, he, h1, h2, h3⟩ := h v hold.1
  by_cases hep : e.peer = p
  · -- the backing claim is refreshed, or else `v` (cached for `p`) would have been flushed
    rcases TableRefresh.setClaims_keeps t now hnow p cs e he hep with hin | hfl
    · exact ⟨_, hin, h1, h2, by have := hb e he; show v.timeout ≤ now + t.claimTimeout; omega⟩
    · exact absurd (h1.symm.trans hep) (hfl v hv)
  · exact ⟨e, (TableLemmas.mem_setClaims_other t now p cs hep).2 ⟨he, by omega⟩, h1, h2, h3⟩

theorem ClaimsBounded.setClaims {t : Table} (now : Int) (hnow : 0 < now) (hb : ClaimsBounded now t) (p : PeerId) (cs : List Range) :
    ClaimsBounded now (t.setClaims now p cs) := by
  intro e he
  show e.timeout ≤ now + t.claimTimeout
  rcases (TableLemmas.mem_setClaims_claims t now p cs e he).1 with hold | hp
  · exact hb e hold
  · exact Int.le_of_eq (C12.setClaims_mem_peer t now p cs hnow e he hp).1

end VpnCloud.Proofs.C13MoreLemmas
