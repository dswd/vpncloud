import VpnCloud.Proofs.Lemmas.Node.DatagramLemmas
/-
  Two runs of the handling of one session-layer result for an established peer, from contexts that differ in their pending handshakes
  (C09): if they differ at the sender's address only the runs end in contexts that differ there only (`Sim`; both runs branch on the
  same conditions, `ite_rel`).  If they differ arbitrarily the peers agree and the outputs agree up to handshake datagrams (`nonHs`);
  that is no fact about two runs: `C09.dispatch_any_pending` reads it off what one run does to the peers and the outputs.
-/
namespace VpnCloud.Proofs.NodeLemmas

open VpnCloud.Node VpnCloud.Proofs.AssocLemmas
open VpnCloud.Proofs.SessionInvLemmas (PlainRes)

theorem ite_rel {α β} {R : α → β → Prop} {p : Prop} [Decidable p] {a b : α} {a' b' : β} (ht : p → R a a') (he : ¬ p → R b b') :
    R (if p then a else b) (if p then a' else b') := by
  by_cases h : p
  · rw [if_pos h, if_pos h]; exact ht h
  · rw [if_neg h, if_neg h]; exact he h

/-- `c1` and `c2` differ at most in the pending handshake stored for `s` -/
def Sim (s : NAddr) (c1 c2 : Ctx) : Prop :=
  ∃ q, c1 = { c2 with node := { c2.node with pending := q } } ∧ eraseA q s = eraseA c2.node.pending s

/-- `Sim`, and `s` is a peer: then neither run dials `s`, which would read the pending handshake in which they differ -/
def SimP (s : NAddr) (c1 c2 : Ctx) : Prop := Sim s c1 c2 ∧ (lookupA c2.node.peers s).isSome = true

theorem Sim.outs {s : NAddr} {c1 c2 : Ctx} (h : Sim s c1 c2) : c1.outs = c2.outs := by
  obtain ⟨q, rfl, _⟩ := h; rfl

theorem Sim.peers {s : NAddr} {c1 c2 : Ctx} (h : Sim s c1 c2) : c1.node.peers = c2.node.peers := by
  obtain ⟨q, rfl, _⟩ := h; rfl

theorem connectSock_simP (env : CryptoEnv) (o : Oracle) (s : NAddr) (c1 c2 : Ctx) (a0 : NAddr) (h : SimP s c1 c2) :
    SimP s (connectSock env o c1 a0) (connectSock env o c2 a0) := by
  refine ⟨?_, by rw [connectSock_peers]; exact h.2⟩
  obtain ⟨⟨q, rfl, hq⟩, hs⟩ := h
  unfold connectSock
  simp only []
  by_cases ha : mappedAddr a0 = s
  · simp only [ha, hs, Bool.true_or, if_true]
    exact ⟨q, rfl, hq⟩
  · rw [lookupA_of_eraseA_eq hq ha]
    split
    · exact ⟨q, rfl, hq⟩
    · simp only [newAttempt]
      exact ⟨_, rfl, eraseA_insertA_eq_of _ hq ha⟩

theorem connect_simP (env : CryptoEnv) (o : Oracle) (s : NAddr) (c1 c2 : Ctx) (l : List NAddr) (h : SimP s c1 c2) :
    SimP s (connect env o c1 l) (connect env o c2 l) := by
  have hcond : (l.map mappedAddr).any (fun a => c1.node.own.contains a || (lookupA c1.node.peers a).isSome || (lookupA c1.node.pending a).isSome) =
      (l.map mappedAddr).any (fun a => c2.node.own.contains a || (lookupA c2.node.peers a).isSome || (lookupA c2.node.pending a).isSome) := by
    obtain ⟨⟨q, rfl, hq⟩, hs⟩ := h
    congr 1
    funext a
    by_cases ha : a = s
    · simp only [ha, hs, Bool.or_true, Bool.true_or]
    · simp only [lookupA_of_eraseA_eq hq ha]
  unfold connect
  simp only []
  rw [hcond]
  split
  · exact h
  · exact foldl_sim (SimP s) _ _ (fun c1 c2 a => connectSock_simP env o s c1 c2 a) _ _ _ h

theorem connectToPeers_simP (env : CryptoEnv) (o : Oracle) (s : NAddr) (c1 c2 : Ctx) (l : List PeerInfo) (h : SimP s c1 c2) :
    SimP s (connectToPeers env o c1 l) (connectToPeers env o c2 l) := by
  unfold connectToPeers
  apply foldl_sim (SimP s) _ _ _ l c1 c2 h
  intro c1 c2 p h
  have hc := connect_simP env o s c1 c2 p.addrs h
  -- both sides branch on the same conditions: `c1` is `c2` up to the pending handshakes
  obtain ⟨⟨q, rfl, hq⟩, hs⟩ := h
  have h0 : SimP s { c2 with node := { c2.node with pending := q } } c2 := ⟨⟨q, rfl, hq⟩, hs⟩
  refine ite_rel (fun _ => h0) (fun _ => ?_)
  cases p.nodeId with
  | none => exact hc
  | some id => exact ite_rel (fun _ => ⟨⟨q, rfl, hq⟩, hs⟩) (fun _ => ite_rel (fun _ => h0) (fun _ => hc))

theorem updatePeerInfo_simP (env : CryptoEnv) (o : Oracle) (s : NAddr) (c1 c2 : Ctx) (now : Int) (info : Option NodeInfo) (h : SimP s c1 c2) :
    SimP s (updatePeerInfo env o c1 now s info) (updatePeerInfo env o c2 now s info) := by
  obtain ⟨⟨q, rfl, hq⟩, hs⟩ := h
  cases hl : lookupA c2.node.peers s with
  | none =>
    rw [C15MoreLemmas.updatePeerInfo_absent hl,
      C15MoreLemmas.updatePeerInfo_absent (c := { c2 with node := { c2.node with pending := q } }) hl]
    exact ⟨⟨q, rfl, hq⟩, hs⟩
  | some p =>
    rw [C15MoreLemmas.updatePeerInfo_eq hl,
      C15MoreLemmas.updatePeerInfo_eq (c := { c2 with node := { c2.node with pending := q } }) hl]
    cases info with
    | none => exact ⟨⟨q, rfl, hq⟩, lookupA_insertA_isSome _ _ _⟩
    | some i =>
      apply connectToPeers_simP
      exact ⟨⟨q, rfl, hq⟩, lookupA_insertA_isSome _ _ _⟩

theorem handleResult_sim (env : CryptoEnv) (o : Oracle) (s : NAddr) (c1 c2 : Ctx) (now : Int) (res : MsgResult) (out : Bytes)
    (hres : PlainRes res) (h : SimP s c1 c2) :
    (handleResult env o c1 now s res out).2 = (handleResult env o c2 now s res out).2 ∧
    Sim s (handleResult env o c1 now s res out).1 (handleResult env o c2 now s res out).1 := by
  rcases hres with rfl | ⟨ty, body, rfl⟩
  · exact ⟨rfl, h.1⟩
  · have hu := fun info => (updatePeerInfo_simP env o s c1 c2 now info h).1
    obtain ⟨⟨q, rfl, hq⟩, hs⟩ := h
    have hpa : parseAddrs { c2.node with pending := q } body = parseAddrs c2.node body := rfl
    -- both sides take the same branch: the conditions do not read the pending handshakes
    let R : Ctx × Option InitErr → Ctx × Option InitErr → Prop := fun r1 r2 => r1.2 = r2.2 ∧ Sim s r1.1 r2.1
    show R _ _
    unfold handleResult
    simp only [hpa]
    refine ite_rel (fun _ => ?_) (fun _ => ite_rel (fun _ => ?_) (fun _ => ite_rel (fun _ => ⟨rfl, hu none⟩) (fun _ => ite_rel (fun _ => ?_) (fun _ => ?_))))
    · cases parseAddrs c2.node body with
      | none => exact ⟨rfl, q, rfl, hq⟩
      | some r => exact ite_rel (fun _ => ⟨rfl, q, rfl, hq⟩) (fun _ => ⟨rfl, q, rfl, hq⟩)
    · cases Codec.decodeNodeInfo body with
      | none => exact ⟨rfl, q, rfl, hq⟩
      | some info => exact ⟨rfl, hu (some info)⟩
    · refine ⟨rfl, ?_⟩
      unfold removePeer
      simp only []
      cases lookupA c2.node.peers s with
      | none => exact ⟨q, rfl, hq⟩
      | some _ => exact ⟨q, rfl, hq⟩
    · exact ⟨rfl, q, rfl, hq⟩

theorem applyOutcome_sim (env : CryptoEnv) (o : Oracle) (s : NAddr) (c1 c2 : Ctx) (now : Int) (r : POutcome MsgResult)
    (hr : ∀ pc out res log, r = .ok pc out res log → PlainRes res) (h : SimP s c1 c2) :
    (applyOutcome env o c1 now s true r).2 = (applyOutcome env o c2 now s true r).2 ∧
    Sim s (applyOutcome env o c1 now s true r).1 (applyOutcome env o c2 now s true r).1 := by
  cases hl : lookupA c2.node.peers s with
  | none => have := h.2; rw [hl] at this; cases this
  | some p =>
    cases r with
    | panic =>
      obtain ⟨⟨q, rfl, hq⟩, hs⟩ := h
      exact ⟨rfl, q, rfl, hq⟩
    | err pc e =>
      obtain ⟨⟨q, rfl, hq⟩, hs⟩ := h
      unfold applyOutcome
      simp only [if_true, hl]
      exact ⟨trivial, q, rfl, hq⟩
    | ok pc out res log =>
      have hres := hr pc out res log rfl
      unfold applyOutcome
      simp only [if_true]
      apply handleResult_sim env o s _ _ now res out hres
      obtain ⟨⟨q, rfl, hq⟩, hs⟩ := h
      simp only [hl]
      exact ⟨⟨q, rfl, hq⟩, lookupA_insertA_isSome _ _ _⟩

theorem finish_sim (s : NAddr) (r1 r2 : Ctx × Option InitErr) (h2 : r1.2 = r2.2) (h : Sim s r1.1 r2.1) :
    Sim s (finish s r1).1 (finish s r2).1 := by
  rcases r1 with ⟨c1, e1⟩
  rcases r2 with ⟨c2, e2⟩
  simp only at h2 h
  subst h2
  obtain ⟨q, rfl, hq⟩ := h
  unfold finish
  split
  · rename_i heq
    cases heq
    exact ⟨_, rfl, by simp only [hq]⟩
  · rename_i hne
    split
    · rename_i heq
      cases heq
      exact absurd rfl (hne _)
    · exact ⟨q, rfl, hq⟩

def isHsB : Out → Bool
  | .dgram _ (b :: _) => b == Generated.INIT_MESSAGE_FIRST_BYTE
  | _ => false

def nonHs (l : List Out) : List Out := l.filter (fun x => !isHsB x)

theorem nonHs_append (l e : List Out) : nonHs (l ++ e) = nonHs l ++ nonHs e := List.filter_append ..

theorem nonHs_of_ext {l l' : List Out} (h : Ext IsHs l l') : nonHs l' = nonHs l := by
  obtain ⟨e, rfl, pe⟩ := h
  rw [nonHs_append]
  have : nonHs e = [] := by
    unfold nonHs
    rw [List.filter_eq_nil_iff]
    intro x hx
    obtain ⟨d, b, rfl⟩ := pe x hx
    simp [isHsB]
  rw [this, List.append_nil]

end VpnCloud.Proofs.NodeLemmas
