import VpnCloud.Proofs.Lemmas.Node.SessionInvLemmas
/-
  What the session layer seals, for an ARBITRARY predicate `P` on plaintexts: if the own payload of the handshake objects of a session
  satisfies `P` (`PayP`), and every rotation message `write_to` writes satisfies `P` (`hrot`), then every seal the session layer logs in
  `handle_message` has a plaintext with `P` (`LogP`).
  Used with `P` = `· ≠ []` (`C08Node.own_seals_nonempty`) and with `P` = "if it is a ROTATION message, its keys have 32 bytes"
  (`RotPanic.own_rotation_seals_valid`).
-/
namespace VpnCloud.Proofs.LogPLemmas

open VpnCloud.Proofs.InitLemmas VpnCloud.Proofs.SessionInvLemmas VpnCloud.Proofs.NodeInvLemmas

def LogP (P : Bytes → Prop) (log : Init.SealLog) : Prop := ∀ ct b, (ct, b) ∈ log → ∀ k n p, b = .sealed k n p → P p

variable {P : Bytes → Prop}

theorem logP_nil : LogP P [] := fun _ _ h => by cases h

theorem LogP.append {l1 l2 : Init.SealLog} (h1 : LogP P l1) (h2 : LogP P l2) : LogP P (l1 ++ l2) := by
  intro ct b hm
  rcases List.mem_append.1 hm with h | h
  · exact h1 ct b h
  · exact h2 ct b h

theorem logNE_iff (log : Init.SealLog) : LogNE log ↔ LogP (fun p => p ≠ []) log := Iff.rfl

theorem sealMsg_logP (pc : PeerCrypto) (plain ct bytes : Bytes) (log : Init.SealLog)
    (h : (PeerCrypto.sealMsg pc plain ct).2 = .ok (bytes, log)) (hp : P plain) : LogP P log := by
  rcases sealMsg_wire pc _ plain ct bytes log (Prod.ext rfl h) with ⟨_, _, rfl⟩ | ⟨_, hdr, b, _, rfl, hb⟩
  · exact logP_nil
  · intro ct' b' hm k n p hb'
    cases List.mem_singleton.1 hm
    rw [hb k n p hb']
    exact hp

abbrev PayP (P : Bytes → Prop) : PeerCrypto → Prop := OnInit (fun i => P i.payload)

theorem encryptPayload_logP (st : InitSt) (rnd : Rand) (hp : P st.payload) : LogP P (Init.encryptPayload st rnd).2.2 := by
  unfold Init.encryptPayload
  split
  · rename_i c hc
    intro ct' b hm k n p hb
    simp only [List.mem_singleton, Prod.mk.injEq] at hm
    rw [hm.2] at hb
    rw [CoreLemmas.core_encrypt_body c st.payload k n p hb]
    exact hp
  · exact logP_nil

theorem init_sendMessage_logP (env : CryptoEnv) (st : InitSt) (stage : Nat) (rnd : Rand) (hp : P st.payload) :
    LogP P (Init.sendMessage env st stage rnd).2.2 := by
  obtain ⟨b, h | h⟩ := init_sendMessage_cases env st stage rnd
  · rw [h]; exact logP_nil
  · rw [h]; exact encryptPayload_logP st rnd hp

def PayResP (P : Bytes → Prop) (st : InitSt) : Res → Prop
  | .panic => True
  | .err st' _ => st'.payload = st.payload
  | .ok st' (_, _, log) => st'.payload = st.payload ∧ (P st.payload → LogP P log)

theorem handleInit_payP (env : CryptoEnv) (bodyOf : Init.BodyOf) (ok : Bytes → Bool) (st : InitSt) (w : Bytes) (rnd : Rand) :
    PayResP P st (Init.handleInit env bodyOf ok st w rnd) := by
  have hsend : ∀ (s1 : InitSt) stage, C05AgreeLemmas.Static st s1 → P st.payload → LogP P (Init.sendMessage env s1 stage rnd).2.2 :=
    fun s1 stage h1 hp => init_sendMessage_logP env s1 stage rnd (by rw [h1.2.2.1]; exact hp)
  have he := handleInit_eff env bodyOf ok st w rnd
  generalize Init.handleInit env bodyOf ok st w rnd = R at he
  have hs := he.static
  cases he with
  | quietErr | pingErr | pongSelErr | pongFail | pengFail => exact hs.2.2.1
  | quietOk | pengOk => exact ⟨hs.2.2.1, fun _ => logP_nil⟩
  | panic => trivial
  | pingOk h e _ _ st0 sel _ _ hst0 =>
    refine ⟨(hs : C05AgreeLemmas.Static st _).2.2.1, hsend (pingSt st0 h e sel rnd) Generated.STAGE_PONG ?_⟩
    rcases hst0 with ⟨rfl, _⟩ | ⟨rfl, _⟩
    · exact pingSt_static _ h e sel rnd
    · exact C05AgreeLemmas.Static.trans ⟨rfl, rfl, rfl, rfl, rfl, rfl⟩ (pingSt_static _ h e sel rnd)
  | pongOk hb eb _ _ _ own sel st5 _ _ _ _ _ _ hd =>
    exact ⟨(hs : C05AgreeLemmas.Static st _).2.2.1,
      hsend st5 Generated.STAGE_PENG ((pongSt_static st own eb hb sel rnd).trans (decryptPayload_static hd))⟩

def PayOutP (P : Bytes → Prop) (pc : PeerCrypto) : POutcome MsgResult → Prop
  | .panic => True
  | .err pc' _ => PayP P pc → PayP P pc'
  | .ok pc' _ _ log => PayP P pc → (PayP P pc' ∧ LogP P log)

def SuccLogP (P : Bytes → Prop) (ilog : Init.SealLog) : POutcome MsgResult → Prop
  | .ok _ _ _ log => ∃ log', log = ilog ++ log' ∧ LogP P log'
  | _ => True

theorem successOut_logP (hrot : ∀ m : Rot.Msg, P (Generated.MESSAGE_TYPE_ROTATION :: Codec.writeRotMsg (PeerCrypto.rotMsgToBytes m)))
    (pc1 : PeerCrypto) (core : Option Core) (ini : Bool) (out1 payload : Bytes) (ilog : Init.SealLog) (rr : RotRand) :
    SuccLogP P ilog (successOut pc1 core ini out1 payload ilog rr) :=
  successOut_cases (M := SuccLogP P ilog) _ _ _ _ _ _ _ (fun _ _ _ => ⟨[], (List.append_nil _).symm, logP_nil⟩)
    ⟨[], (List.append_nil _).symm, logP_nil⟩
    (fun _ bytes log hs => ⟨log, rfl, sealMsg_logP _ _ _ bytes log (congrArg Prod.snd hs) (hrot _)⟩) (fun _ _ _ _ => trivial)

theorem handleInitMessage_payP (hrot : ∀ m : Rot.Msg, P (Generated.MESSAGE_TYPE_ROTATION :: Codec.writeRotMsg (PeerCrypto.rotMsgToBytes m)))
    (env : CryptoEnv) (bodyOf : Init.BodyOf) (ok : Bytes → Bool) (pc : PeerCrypto) (w : Bytes) (rnd : Rand) (rr : RotRand) :
    PayOutP P pc (PeerCrypto.handleInitMessage env bodyOf ok pc w rnd rr) := by
  refine handleInitMessage_cases env bodyOf ok pc w rnd rr (fun ist _ => handleInit_payP (P := P) env bodyOf ok ist w rnd)
    (noInit := fun _ => id) (panic := fun _ _ => trivial) (err := fun hi hg hp => OnInit.set pc (by rw [hg]; exact hp _ hi))
    (cont := fun hi hg hp => ⟨OnInit.set pc (by rw [hg.1]; exact hp _ hi), hg.2 (hp _ hi)⟩) (success := fun hi hg => ?_)
  · rename_i ist ist' out payload isInit ilog pc' o res log
    intro hs hini _ hp
    have hl := successOut_logP hrot (successPc pc ist') ist'.crypto isInit (if out.isEmpty then [] else Generated.INIT_MESSAGE_FIRST_BYTE :: out) payload ilog rr
    rw [hs] at hl
    obtain ⟨log', rfl, hl'⟩ := hl
    exact ⟨(successPc_onInit (Φ := fun i => P i.payload) pc ist' (by rw [hg.1]; exact hp ist hi)).of_init hini, (hg.2 (hp ist hi)).append hl'⟩

theorem handleMessage_payP (hrot : ∀ m : Rot.Msg, P (Generated.MESSAGE_TYPE_ROTATION :: Codec.writeRotMsg (PeerCrypto.rotMsgToBytes m)))
    (env : CryptoEnv) (bodyOf : Init.BodyOf) (ok : Bytes → Bool) (pc : PeerCrypto) (datagram tail : Bytes) (rnd : Rand) (rr : RotRand) :
    PayOutP P pc (PeerCrypto.handleMessage env bodyOf ok pc datagram tail rnd rr) := by
  rcases handleMessage_split env bodyOf ok pc datagram tail rnd rr with ⟨rest, _, he⟩ | hk
  · rw [he]
    exact handleInitMessage_payP hrot env bodyOf ok pc rest rnd rr
  · generalize PeerCrypto.handleMessage env bodyOf ok pc datagram tail rnd rr = r at hk
    cases r with
    | panic => trivial
    | err pc' e => exact fun hp => hp.of_init hk.init
    | ok pc' out res log => exact fun hp => ⟨hp.of_init hk.1, hk.2.2 ▸ logP_nil⟩

end VpnCloud.Proofs.LogPLemmas
