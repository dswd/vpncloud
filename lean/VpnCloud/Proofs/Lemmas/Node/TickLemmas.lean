import VpnCloud.Proofs.Lemmas.Node.NodeLemmas2
import VpnCloud.Proofs.C12
import VpnCloud.Proofs.Lemmas.Node.SessionInvLemmas
/-
  What a housekeeping tick does to the peer addresses and to the routing table, exactly: there is a list `L` of addresses that
  leave; the peer addresses afterwards are the old ones without `L` (order kept), and — at a time `now > 0` — the table is
  `TableLemmas.pruned n.table now (L.map addrId)`: the old table without what has expired and without the entries of those that left.
  `L` holds every address with an expired record and every address whose session fails in `every_second`, and — for pairwise
  distinct peer addresses — no other.  Every statement about keys or table after a tick (nothing is added, the one that left has no
  routes, what is live and belongs to a peer that stays survives, order is kept, who leaves and who stays) is read off `housekeep_tick`.
-/
namespace VpnCloud.Proofs.TickLemmas

open VpnCloud.Node
open VpnCloud.Proofs.AssocLemmas VpnCloud.Proofs.NodeLemmas VpnCloud.Proofs.NodeLemmas2 VpnCloud.Proofs.NodeInvLemmas
open VpnCloud.Proofs.C09MoreLemmas (pendLoop peerStep peerStep_leaves peerStep_lookup_ne pendLoop_peers pendLoop_table)
open VpnCloud.Proofs.TableLemmas (pruned housekeep_eq_pruned removeClaims_pruned removeClaims_eq_pruned)

theorem removeClaims_swept (t : Table) (now : Int) (hnow : 0 < now) (p : PeerId) :
    (t.removeClaims now p).housekeep now = (t.housekeep now).removeClaims now p := by
  rw [show (t.removeClaims now p).housekeep now = t.removeClaims now p from C12.housekeep_idem _ now, housekeep_eq_pruned,
    removeClaims_pruned t now hnow [] p]
  exact removeClaims_eq_pruned t now hnow p

/-- the state `c` of a tick of `n` in which the addresses `L` have left so far; `s`: the sweep is behind us -/
structure Tick (n : Node) (now : Int) (s : Prop) (c : Ctx) (L : List NAddr) : Prop where
  keys : c.node.peers.map (·.1) = (n.peers.map (·.1)).filter (fun a => a ∉ L)
  recs : Kept n.peers c.node.peers
  left : ∀ a ∈ L, a ∈ n.peers.map (·.1)
  table : 0 < now → c.node.table.housekeep now = pruned n.table now (L.map addrId)
  swept : s ∨ L ≠ [] → c.node.table.housekeep now = c.node.table

variable {n : Node} {now : Int} {s : Prop} {c c' : Ctx} {L : List NAddr}

theorem Tick.start (c : Ctx) (now : Int) : Tick c.node now False c [] :=
  ⟨(List.filter_eq_self.2 fun _ _ => by simp).symm, Kept.refl _, fun _ h => absurd h List.not_mem_nil, fun _ => housekeep_eq_pruned _ now,
    fun h => h.elim False.elim (absurd rfl)⟩

theorem Tick.keep (h : Tick n now s c L) (hk : c'.node.peers.map (·.1) = c.node.peers.map (·.1)) (hr : Kept c.node.peers c'.node.peers)
    (ht : c'.node.table = c.node.table) : Tick n now s c' L :=
  ⟨hk.trans h.keys, h.recs.trans hr, h.left, ht ▸ h.table, ht ▸ h.swept⟩

theorem Tick.drop (h : Tick n now s c L) {a : NAddr} (ha : a ∈ n.peers.map (·.1))
    (hk : c'.node.peers = eraseA c.node.peers a) (ht : c'.node.table = c.node.table.removeClaims now (addrId a)) :
    Tick n now s c' (a :: L) := by
  refine ⟨?_, hk ▸ h.recs.eraseA a, fun b hb => (List.mem_cons.1 hb).elim (fun e => e ▸ ha) (h.left b), fun hnow => ?_, fun _ => ?_⟩
  · rw [hk, keys_eraseA, h.keys]
    exact List.filter_filter.trans (List.filter_congr fun b _ => by simp)
  · rw [ht, removeClaims_swept _ now hnow _, h.table hnow]
    exact removeClaims_pruned _ now hnow _ _
  · rw [ht]; exact C12.housekeep_idem _ now

theorem Tick.sweep (h : Tick n now s c L) : Tick n now True (hkSweep c now) L :=
  ⟨h.keys, h.recs, h.left, fun hnow => (C12.housekeep_idem _ now).trans (h.table hnow), fun _ => C12.housekeep_idem _ now⟩

/-- once the table has been swept (by the sweep, or by the first removal) it is the pruned one -/
theorem Tick.table_eq (h : Tick n now s c L) (hnow : 0 < now) (hs : s ∨ L ≠ []) : c.node.table = pruned n.table now (L.map addrId) :=
  (h.swept hs).symm.trans (h.table hnow)

theorem Tick.mem_iff (h : Tick n now s c L) (a : NAddr) : a ∈ L ↔ a ∈ n.peers.map (·.1) ∧ a ∉ c.node.peers.map (·.1) := by
  rw [h.keys, List.mem_filter]
  exact ⟨fun ha => ⟨h.left a ha, fun hf => of_decide_eq_true hf.2 ha⟩,
    fun ha => Classical.byContradiction fun hn => ha.2 ⟨ha.1, decide_eq_true hn⟩⟩

/-- a loop whose iterations keep or drop the address they visit.  `I a c`: in the state `c` the iteration for `a` drops; iterations
    for other addresses do not change that.  So those that leave include every visited `a` with `I a c`, and — if no address is
    visited twice — no others -/
theorem Tick.foldl (f : Ctx → NAddr → Ctx) (I : NAddr → Ctx → Prop)
    (hf : ∀ c a, (¬ I a c ∧ (f c a).node.peers.map (·.1) = c.node.peers.map (·.1) ∧ Kept c.node.peers (f c a).node.peers ∧
        (f c a).node.table = c.node.table) ∨
      ((f c a).node.peers = eraseA c.node.peers a ∧ (f c a).node.table = c.node.table.removeClaims now (addrId a) ∧ I a c))
    (hI : ∀ c x a, x ≠ a → (I a (f c x) ↔ I a c)) :
    ∀ (l : List NAddr) (c : Ctx) (L : List NAddr), (∀ a ∈ l, a ∈ n.peers.map (·.1)) → Tick n now s c L →
      ∃ L', Tick n now s (l.foldl f c) L' ∧ (∀ a, a ∈ L ∨ (a ∈ l ∧ I a c) → a ∈ L') ∧
        (l.Nodup → ∀ a ∈ L', a ∈ L ∨ (a ∈ l ∧ I a c))
  | [], _, L, _, h => ⟨L, h, fun _ h => h.elim id (fun h => absurd h.1 List.not_mem_nil), fun _ _ h => Or.inl h⟩
  | b :: l, c, L, hl, h => by
    rw [List.foldl_cons]
    have hl' := fun x hx => hl x (List.mem_cons_of_mem _ hx)
    -- an address of the rest that is going to drop is still going to after the iteration for `b`
    have fwd : ∀ a, a ∈ b :: l ∧ I a c → a = b ∨ (a ∈ l ∧ I a (f c b)) := fun a ⟨hm, hi⟩ =>
      (Classical.em (a = b)).imp id fun hab => ⟨(List.mem_cons.1 hm).resolve_left hab, (hI c b a (fun e => hab e.symm)).2 hi⟩
    -- and one of the rest that drops after the iteration for `b` would have dropped before
    have bwd : (b :: l).Nodup → ∀ a, a ∈ l ∧ I a (f c b) → a ∈ b :: l ∧ I a c := fun hnd a ⟨hm, hj⟩ =>
      ⟨List.mem_cons_of_mem _ hm, (hI c b a (fun e => (List.nodup_cons.1 hnd).1 (e ▸ hm))).1 hj⟩
    rcases hf c b with ⟨hd, hk, hkept, ht⟩ | ⟨hk, ht, hj⟩
    · obtain ⟨L', h', hs, hr⟩ := Tick.foldl f I hf hI l _ L hl' (h.keep hk hkept ht)
      exact ⟨L', h', fun a ha => hs a (ha.imp_right fun hb => (fwd a hb).resolve_left fun e => hd (e ▸ hb.2)),
        fun hnd a ha => (hr (List.nodup_cons.1 hnd).2 a ha).imp_right (bwd hnd a)⟩
    · obtain ⟨L', h', hs, hr⟩ := Tick.foldl f I hf hI l _ (b :: L) hl' (h.drop (hl b List.mem_cons_self) hk ht)
      refine ⟨L', h', fun a ha => hs a ?_, fun hnd a ha => ?_⟩
      · rcases ha with ha | hb
        · exact Or.inl (List.mem_cons_of_mem _ ha)
        · exact (fwd a hb).elim (fun e => Or.inl (by rw [e]; exact List.mem_cons_self)) Or.inr
      · rcases hr (List.nodup_cons.1 hnd).2 a ha with hm | hb
        · exact (List.mem_cons.1 hm).elim (fun e => Or.inr ⟨by rw [e]; exact List.mem_cons_self, e ▸ hj⟩) Or.inl
        · exact Or.inr (bwd hnd a hb)

theorem hkAnnounce_keys (o : Oracle) (c : Ctx) (now : Int) : (hkAnnounce o c now).node.peers.map (·.1) = c.node.peers.map (·.1) := by
  exact hkAnnounce_cases (M := fun x => x.node.peers.map (·.1) = c.node.peers.map (·.1)) o c now (fun _ => rfl)
    (fun _ _ => broadcastMsg_keys o c _ _) (fun _ _ => broadcastMsg_keys o c _ _)

theorem hkAnnounce_kept (o : Oracle) (c : Ctx) (now : Int) : Kept c.node.peers (hkAnnounce o c now).node.peers := by
  have hb := broadcastMsg_keptC o c.node.peers c Generated.MESSAGE_TYPE_NODE_INFO (Codec.encodeNodeInfo (createNodeInfo c.node)) (Kept.refl _)
  exact hkAnnounce_cases (M := fun x => Kept c.node.peers x.node.peers) o c now (fun _ => Kept.refl _) (fun _ _ => hb) (fun _ _ => hb)

/-- the session of the record found for `a` fails in `every_second`: with every randomness, which is the same as with one
    (`SessionInvLemmas.everySecond_fails_all`) -/
def Fails (c : Ctx) (a : NAddr) : Prop :=
  ∃ p, lookupA c.node.peers a = some p ∧ ∀ rr, ∃ pc' e, PeerCrypto.everySecond p.crypto rr = .err pc' e

theorem Fails.of_lookup {a : NAddr} (h : Fails c a) (hl : lookupA c'.node.peers a = lookupA c.node.peers a) : Fails c' a :=
  h.imp fun _ hp => ⟨hl.trans hp.1, hp.2⟩

theorem peerStep_tick (env : CryptoEnv) (o : Oracle) (now : Int) (c : Ctx) (a : NAddr) :
    (¬ Fails c a ∧ (peerStep env o now c a).node.peers.map (·.1) = c.node.peers.map (·.1) ∧
      Kept c.node.peers (peerStep env o now c a).node.peers ∧ (peerStep env o now c a).node.table = c.node.table) ∨
    ((peerStep env o now c a).node.peers = eraseA c.node.peers a ∧
      (peerStep env o now c a).node.table = c.node.table.removeClaims now (addrId a) ∧ Fails c a) := by
  -- a session that answers one randomness without error does not fail
  have sound : ∀ p rr, lookupA c.node.peers a = some p → (∀ pc' e, PeerCrypto.everySecond p.crypto rr ≠ .err pc' e) → ¬ Fails c a :=
    fun p rr hp hne ⟨q, hq, hall⟩ => by
      rw [hp, Option.some.injEq] at hq
      obtain ⟨pc', e, he⟩ := hall rr
      exact hne pc' e (hq ▸ he)
  apply peerStep_leaves (M := fun c' => (¬ Fails c a ∧ c'.node.peers.map (·.1) = _ ∧ Kept c.node.peers c'.node.peers ∧ c'.node.table = _) ∨
    (c'.node.peers = _ ∧ c'.node.table = _ ∧ _))
  · exact fun hn => Or.inl ⟨fun ⟨_, hq, _⟩ => (by rw [hn] at hq; cases hq), rfl, Kept.refl _, rfl⟩
  · exact fun p rr pc' e hp he => Or.inr ⟨connectSock_peers .., connectSock_table .., p, hp, SessionInvLemmas.everySecond_fails_all _ ⟨rr, pc', e, he⟩⟩
  · exact fun p rr hp he => Or.inl ⟨sound p rr hp fun _ _ h => (by rw [he] at h; cases h), rfl, Kept.refl _, rfl⟩
  · exact fun p rr pc' _ _ _ hp he => Or.inl ⟨sound p rr hp fun _ _ h => (by rw [he] at h; cases h), insertA_keys_of_some _ _ _ _ hp,
      (Kept.refl _).insertA hp rfl, rfl⟩
  · exact fun _ _ h => h

theorem cryptoHousekeep_tick (env : CryptoEnv) (o : Oracle) (h : Tick n now s c L) :
    ∃ L', Tick n now s (cryptoHousekeep env o c now) L' ∧ (∀ a, a ∈ L ∨ Fails c a → a ∈ L') ∧
      ((c.node.peers.map (·.1)).Nodup → ∀ a ∈ L', a ∈ L ∨ Fails c a) := by
  have h1 : Tick n now s (pendLoop o c) L := h.keep (by rw [pendLoop_peers]) (pendLoop_peers o c ▸ Kept.refl _) (pendLoop_table o c)
  obtain ⟨L', h2, hs, hr⟩ := Tick.foldl _ (fun a c => Fails c a) (peerStep_tick env o now)
    (fun c x a hxa => ⟨fun hj => hj.of_lookup (peerStep_lookup_ne env o now c fun e => hxa e.symm).symm,
      fun hi => hi.of_lookup (peerStep_lookup_ne env o now c fun e => hxa e.symm)⟩)
    ((pendLoop o c).node.peers.map (·.1)) _ L (fun a ha => by rw [h1.keys] at ha; exact (List.mem_filter.1 ha).1) h1
  refine ⟨L', h2, fun a ha => hs a (ha.imp_right fun hf => ?_), fun hnd a ha => ?_⟩
  · have hf' : Fails (pendLoop o c) a := hf.of_lookup (by rw [pendLoop_peers])
    exact ⟨mem_key (lookupA_some_mem hf'.choose_spec.1), hf'⟩
  · exact (hr (by rw [pendLoop_peers]; exact hnd) a ha).imp_right fun hj => hj.2.of_lookup (by rw [pendLoop_peers])

/-- **the tick on peer addresses, records and table**, `L` being those that leave: old peer addresses, among them every address
    with an expired record and every address whose session fails — and, for distinct peer addresses, no others; the peer addresses
    afterwards are the old ones without them; every record afterwards stems from an old one with the same expiry; the table is the
    old one without what has expired and without the entries of those that left. -/
structure Ticked (env : CryptoEnv) (o : Oracle) (n : Node) (now : Int) (L : List NAddr) : Prop where
  mem : ∀ a, a ∈ L ↔ a ∈ n.peers.map (·.1) ∧ a ∉ (housekeep env o n now).node.peers.map (·.1)
  expired : ∀ a p, (a, p) ∈ n.peers → p.timeout < now → a ∈ L
  fails : ∀ a, Fails { node := n } a → a ∈ L
  why : (n.peers.map (·.1)).Nodup → ∀ a ∈ L, (∃ p, (a, p) ∈ n.peers ∧ p.timeout < now) ∨ Fails { node := n } a
  keys : (housekeep env o n now).node.peers.map (·.1) = (n.peers.map (·.1)).filter (fun a => a ∉ L)
  recs : Kept n.peers (housekeep env o n now).node.peers
  table : 0 < now → (housekeep env o n now).node.table = pruned n.table now (L.map addrId)

theorem Ticked.nodup {env : CryptoEnv} {o : Oracle} {n : Node} {now : Int} {L : List NAddr} (h : Ticked env o n now L)
    (hnd : (n.peers.map (·.1)).Nodup) : ((housekeep env o n now).node.peers.map (·.1)).Nodup := by
  rw [h.keys]
  exact hnd.filter _

/-- one peer through the tick, for distinct peer addresses: it leaves, expired or with a session that fails, or it stays — not
    expired — and its record keeps the expiry -/
theorem Ticked.fate {env : CryptoEnv} {o : Oracle} {n : Node} {now : Int} {L : List NAddr} (h : Ticked env o n now L)
    (hnd : (n.peers.map (·.1)).Nodup) {a : NAddr} {p : Peer} (hp : lookupA n.peers a = some p) :
    (a ∈ L ∧ lookupA (housekeep env o n now).node.peers a = none ∧ (p.timeout < now ∨ Fails { node := n } a)) ∨
    (a ∉ L ∧ ¬ p.timeout < now ∧ ∃ p', lookupA (housekeep env o n now).node.peers a = some p' ∧ p'.timeout = p.timeout) := by
  have huniq : ∀ q, (a, q) ∈ n.peers → q = p := fun q hq => nodup_keys_unique n.peers hnd hq (lookupA_some_mem hp)
  by_cases ha : a ∈ L
  · refine Or.inl ⟨ha, (lookupA_none_iff _ _).2 ((h.mem a).1 ha).2, (h.why hnd a ha).imp_left fun ⟨q, hq, he⟩ => huniq q hq ▸ he⟩
  · refine Or.inr ⟨ha, fun he => ha (h.expired a p (lookupA_some_mem hp) he), ?_⟩
    cases hl : lookupA (housekeep env o n now).node.peers a with
    | none => exact absurd ((h.mem a).2 ⟨mem_key (lookupA_some_mem hp), (lookupA_none_iff _ _).1 hl⟩) ha
    | some q =>
      obtain ⟨p0, h0, ht⟩ := h.recs a q (lookupA_some_mem hl)
      exact ⟨q, rfl, huniq p0 h0 ▸ ht⟩

theorem housekeep_tick (env : CryptoEnv) (o : Oracle) (n : Node) (now : Int) : ∃ L : List NAddr, Ticked env o n now L := by
  have hexp : ∀ a, a ∈ (n.peers.filter (fun (_, p) => Generated.peerExpired p.timeout now)).map (·.1) ↔ ∃ p, (a, p) ∈ n.peers ∧ p.timeout < now :=
    fun a => by simp [List.mem_map, List.mem_filter]
  -- the loop over the expired: every iteration drops
  obtain ⟨L1, h1, hs1, hr1⟩ := Tick.foldl (deadStep env o now) (fun _ _ => True)
    (fun _ _ => Or.inr ⟨connectSock_peers .., connectSock_table .., trivial⟩) (fun _ _ _ _ => Iff.rfl) _ _ []
    (fun a ha => (hexp a).1 ha |>.elim fun _ hp => mem_key hp.1) (Tick.start { node := n } now)
  rw [← hkDead_eq] at h1
  obtain ⟨L, h3, hs3, hr3⟩ := cryptoHousekeep_tick env o h1.sweep
  have h4 : Tick n now True (housekeep env o n now) L := by
    rw [housekeep_eq]
    refine h3.keep ?_ ?_ ?_
    · rw [hkOwn_peers, reconnectToPeers_peers, hkAnnounce_keys]
    · rw [hkOwn_peers, reconnectToPeers_peers]
      exact hkAnnounce_kept o _ now
    · exact (frame_proj (hkOwn_frame _ now) (·.node.table)).trans
        ((frame_proj (C15MoreLemmas.reconnectToPeers_frame env o _ now) (·.node.table)).trans (frame_proj (hkAnnounce_frame o _ now) (·.node.table)))
  -- an address that is not among the expired: the first loop does not touch its record
  have hrec : ∀ a, ¬ (∃ p, (a, p) ∈ n.peers ∧ p.timeout < now) → lookupA (hkDead env o n now).node.peers a = lookupA n.peers a := fun a hd => by
    rw [hkDead_eq]
    refine foldl_inv_mem (fun c => lookupA c.node.peers a = lookupA n.peers a) _ _ _ (fun c x hx hc => ?_) rfl
    rw [deadStep_peers]
    exact (lookupA_eraseA_ne _ fun e : a = x => hd ((hexp a).1 (by rw [e]; exact hx))).trans hc
  refine ⟨L, h4.mem_iff, fun a p hp he => hs3 a (Or.inl (hs1 a (Or.inr ⟨(hexp a).2 ⟨p, hp, he⟩, trivial⟩))), fun a hf => ?_, fun hnd a ha => ?_,
    h4.keys, h4.recs, fun hnow => h4.table_eq hnow (Or.inl trivial)⟩
  · by_cases hd : ∃ p, (a, p) ∈ n.peers ∧ p.timeout < now
    · exact hs3 a (Or.inl (hs1 a (Or.inr ⟨(hexp a).2 hd, trivial⟩)))
    · exact hs3 a (Or.inr (hf.of_lookup (hrec a hd)))
  · by_cases hd : ∃ p, (a, p) ∈ n.peers ∧ p.timeout < now
    · exact Or.inl hd
    · have hnd1 : ((hkSweep (hkDead env o n now) now).node.peers.map (·.1)).Nodup := by
        rw [show (hkSweep (hkDead env o n now) now).node.peers = (hkDead env o n now).node.peers from rfl, h1.keys]
        exact hnd.filter _
      rcases hr3 hnd1 a ha with h | h
      · exact Or.inl ((hexp a).1 ((hr1 ((List.filter_sublist.map _).nodup hnd) a h).resolve_left List.not_mem_nil).1)
      · exact Or.inr (h.of_lookup (hrec a hd).symm)

end VpnCloud.Proofs.TickLemmas
