import VpnCloud.Proofs.Lemmas.Node.NodeInvLemmas
import VpnCloud.Proofs.Lemmas.Node.TickLemmas
/-
  Helper lemmas for `Proofs/C09More.lean` (established connections survive forged and replayed traffic):

  * the claims attributed to one peer under the table operations a datagram of ANOTHER peer can trigger,
  * a handshake object in the initial stage never completes on one message,
  * the expiry of one peer under `housekeep`, read off `TickLemmas.housekeep_tick`.
  The two loops `pendLoop`, `peerLoop` of this namespace stand, with `cryptoHousekeep_eq`, in `HousekeepStages.lean`.
-/
namespace VpnCloud.Proofs.C09MoreLemmas

open VpnCloud.Node
open VpnCloud.Proofs.SessionInvLemmas VpnCloud.Proofs.NodeInvLemmas VpnCloud.Proofs.InitLemmas

/-- the claims the table attributes to the peer `pid`, in table order -/
def claimsOf (pid : PeerId) (t : Table) : List ClaimEntry := t.claims.filter (fun e => e.peer = pid)

/-- the sweep of `ClaimTable::housekeep` -/
def sweep (now : Int) (l : List ClaimEntry) : List ClaimEntry := l.filter (fun e => e.timeout ≥ now)

theorem claimsOf_housekeep (pid : PeerId) (t : Table) (now : Int) : claimsOf pid (t.housekeep now) = sweep now (claimsOf pid t) := by
  unfold claimsOf sweep Table.housekeep
  simp only [List.filter_filter]
  congr 1
  funext e
  exact Bool.and_comm _ _

theorem claimsOf_learn (pid : PeerId) (t : Table) (now : Int) (addr : Addr) (q : PeerId) : claimsOf pid (t.learn now addr q) = claimsOf pid t := rfl

theorem claimsOf_setClaims (pid q : PeerId) (hne : q ≠ pid) (t : Table) (now : Int) (cs : List Range) :
    claimsOf pid (t.setClaims now q cs) = sweep now (claimsOf pid t) :=
  TableLemmas.setClaims_filter t now q cs _ (fun _ he => decide_eq_false fun h => hne (he.symm.trans h))

theorem claimsOf_removeClaims (pid q : PeerId) (hne : q ≠ pid) (t : Table) (now : Int) :
    claimsOf pid (t.removeClaims now q) = sweep now (claimsOf pid t) :=
  TableLemmas.removeClaims_filter t now q _ (fun _ he => decide_eq_false fun h => hne (he.symm.trans h))

theorem sweep_id (now : Int) (l : List ClaimEntry) (h : ∀ e ∈ l, now ≤ e.timeout) : sweep now l = l := by
  unfold sweep
  rw [List.filter_eq_self]
  intro e he
  simpa using h e he

/-- a handshake object in the initial stage (waiting for a ping) never completes the handshake on one message: only a pong or a peng
    complete it, and both are answered by the stage check -/
theorem handleInit_ping_stage (env : CryptoEnv) (bodyOf : Init.BodyOf) (ok : Bytes → Bool) (st : InitSt) (w : Bytes) (rnd : Rand)
    (hst : st.stage = Generated.STAGE_PING) :
    ∀ st' out p ini log, Init.handleInit env bodyOf ok st w rnd ≠ .ok st' (out, .success p ini, log) := by
  intro st' out p ini log h
  rcases (handleInit_success_cases env bodyOf ok st st' w rnd out p ini log h).2 with ⟨_, hs, _⟩ | ⟨_, hs, _⟩ <;>
    rw [hst] at hs <;> exact absurd hs (by decide)

/-- a session object that is nothing but a handshake object in the initial stage (what `Crypto::peer_instance` returns) -/
def FreshAttempt (pc : PeerCrypto) : Prop := FreshPC pc ∧ ∃ ist, pc.init = some ist ∧ ist.stage = Generated.STAGE_PING

theorem newAttempt_fresh (n : Node) (hash : Bytes) : FreshAttempt (newAttempt n hash) := ⟨⟨rfl, rfl⟩, _, rfl, rfl⟩

/-- **a fresh attempt that handles ONE message never reports a completed handshake**: all it can return is a reply -/
theorem freshAttempt_only_reply (env : CryptoEnv) (bodyOf : Init.BodyOf) (ok : Bytes → Bool) (pc pc' : PeerCrypto) (data tail : Bytes)
    (rnd : Rand) (rr : RotRand) (out : Bytes) (res : MsgResult) (log : Init.SealLog) (hf : FreshAttempt pc)
    (h : PeerCrypto.handleMessage env bodyOf ok pc data tail rnd rr = .ok pc' out res log) : res = .reply := by
  by_cases hinit : data.head? = some Generated.INIT_MESSAGE_FIRST_BYTE
  · rcases handleMessage_marker_ok env bodyOf ok pc pc' data tail rnd rr out res log hinit h with hr | ⟨pl, ist, st', o, ini, lg, hi, hs, _⟩
    · exact hr
    · obtain ⟨_, ist0, hi0, hst⟩ := hf
      rw [hi0] at hi
      simp only [Option.some.injEq] at hi
      subst hi
      exact absurd hs (handleInit_ping_stage env bodyOf ok ist0 _ rnd hst _ _ _ _ _)
  · have := handleMessage_fresh env bodyOf ok pc data tail rnd rr hf.1
    rw [h] at this
    rcases this with ⟨hr, _⟩ | ⟨p, hp, _⟩
    · exact hr
    · exfalso
      have hpl := handleMessage_plain env bodyOf ok pc data tail rnd rr hinit pc' out res log h
      exact plainRes_not_init hpl ⟨p, hp⟩

theorem freshAttempt_no_panic (env : CryptoEnv) (bodyOf : Init.BodyOf) (ok : Bytes → Bool) (pc : PeerCrypto) (data tail : Bytes)
    (rnd : Rand) (rr : RotRand) (hf : FreshAttempt pc) : PeerCrypto.handleMessage env bodyOf ok pc data tail rnd rr ≠ .panic := by
  have hp : PendOK pc := by
    intro i hi hs
    obtain ⟨_, ist0, hi0, hst⟩ := hf
    rw [hi0] at hi
    cases hi
    rw [hst] at hs
    cases hs
  intro h
  rcases handleMessage_split env bodyOf ok pc data tail rnd rr with ⟨w, _, he⟩ | hk
  · exact handleInitMessage_no_panic env bodyOf ok pc w rnd rr hp (he ▸ h)
  · rw [h] at hk
    obtain ⟨_, core, _, hc, _⟩ := hk
    rw [hf.1.2] at hc
    cases hc

theorem housekeep_keeps (env : CryptoEnv) (o : Oracle) (n : Node) (now : Int) (a : NAddr) (p : Peer)
    (hp : lookupA n.peers a = some p) (hlive : ¬ p.timeout < now) (hnd : (n.peers.map (·.1)).Nodup)
    (hok : ∀ rr pc' e, PeerCrypto.everySecond p.crypto rr ≠ .err pc' e) :
    ∃ p', lookupA (housekeep env o n now).node.peers a = some p' ∧ p'.timeout = p.timeout := by
  obtain ⟨L, hL⟩ := TickLemmas.housekeep_tick env o n now
  rcases hL.fate hnd hp with ⟨_, _, he | ⟨q, hq, hall⟩⟩ | ⟨_, _, p', hp', ht⟩
  · exact absurd he hlive
  · rw [hp, Option.some.injEq] at hq
    obtain ⟨pc', e, he⟩ := hall {}
    exact absurd (hq ▸ he) (hok {} pc' e)
  · exact ⟨p', hp', ht⟩

end VpnCloud.Proofs.C09MoreLemmas
