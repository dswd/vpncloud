import VpnCloud.Proofs.Lemmas.Node.NodeInvLemmas
import VpnCloud.Proofs.C15Node
/-
  Helper lemmas for `Proofs/C15More.lean` (property C15 at node level): the scheduling part of the node state (`sched`) through the
  loops of a tick (`Loops`: it stays, outputs grow, peer addresses only leave, new handshakes are with former peers); what the last two
  steps of a tick leave as the announcement step left it (`untailed`, `housekeep_tail`); the announcement step and the whole tick when
  the announcement is due and when it is not (`hkAnnounce_due_eq`, `housekeep_of_due`, `housekeep_not_due`, `housekeep_announces`); the bookkeeping of `reconnect_to_peers` entry by entry (`rcUpdate_eq`,
  `backoff`; which entries are dialled is `C15More.reconnect_dials`);
  `broadcast_msg` peer by peer for pairwise distinct peer addresses; what `add_new_peer` does to the schedule; for
  `Proofs/GuardsUsed.lean` the reset time of the own addresses and the delay of the announcement.  The stages of `housekeep` and
  their frames stand in `HousekeepStages.lean`.
-/
namespace VpnCloud.Proofs.C15MoreLemmas

open VpnCloud.Node
open VpnCloud.Proofs.AssocLemmas VpnCloud.Proofs.NodeLemmas VpnCloud.Proofs.SessionInvLemmas VpnCloud.Proofs.NodeInvLemmas

theorem hkOwn_reconnect (c : Ctx) (now : Int) : (hkOwn c now).node.reconnect = c.node.reconnect :=
  frame_proj (hkOwn_frame c now) (·.node.reconnect)
theorem hkOwn_outs (c : Ctx) (now : Int) : (hkOwn c now).outs = c.outs := frame_proj (hkOwn_frame c now) (·.outs)

/-- what the scheduling steps of `housekeep` read: next announcement, reconnect list, configuration, node id, own addresses, next
    reset of the own addresses; the loops over the peers and the sessions leave it alone -/
def sched (n : Node) : Int × List Reconnect × NodeCfg × Bytes × List NAddr × Int :=
  (n.nextPeers, n.reconnect, n.cfg, n.nodeId, n.own, n.nextOwnReset)

theorem sched_nextPeers {n m : Node} (h : sched n = sched m) : n.nextPeers = m.nextPeers := congrArg (·.1) h
theorem sched_reconnect {n m : Node} (h : sched n = sched m) : n.reconnect = m.reconnect := congrArg (·.2.1) h
theorem sched_cfg {n m : Node} (h : sched n = sched m) : n.cfg = m.cfg := congrArg (·.2.2.1) h
theorem sched_nodeId {n m : Node} (h : sched n = sched m) : n.nodeId = m.nodeId := congrArg (·.2.2.2.1) h
theorem sched_own {n m : Node} (h : sched n = sched m) : n.own = m.own := congrArg (·.2.2.2.2.1) h
theorem sched_nextOwnReset {n m : Node} (h : sched n = sched m) : n.nextOwnReset = m.nextOwnReset := congrArg (·.2.2.2.2.2) h

theorem connectSock_sched (env : CryptoEnv) (o : Oracle) (c : Ctx) (a : NAddr) :
    sched (connectSock env o c a).node = sched c.node := frame_proj (connectSock_frame env o c a) (fun c => sched c.node)

/-- the context in which `housekeep` decides about the announcement: expired peers removed, table swept, sessions ticked -/
def preAnnounce (env : CryptoEnv) (o : Oracle) (n : Node) (now : Int) : Ctx :=
  cryptoHousekeep env o (hkSweep (hkDead env o n now) now) now

/-- the context in which the dial loop of a housekeeping tick runs -/
def preReconnect (env : CryptoEnv) (o : Oracle) (n : Node) (now : Int) : Ctx := hkAnnounce o (preAnnounce env o n now) now

theorem housekeep_eq'' (env : CryptoEnv) (o : Oracle) (n : Node) (now : Int) :
    housekeep env o n now = hkOwn (reconnectToPeers env o (preReconnect env o n now) now) now :=
  housekeep_eq env o n now

/-- `c` without what the last two steps of `housekeep` write: pending handshakes, outputs and emission counters (the dial loop), the
    reconnect list, the own addresses and the time of their next reset -/
def untailed (c : Ctx) : Ctx := unowned (undialled { c with node := { c.node with reconnect := [] } })

theorem housekeep_tail (env : CryptoEnv) (o : Oracle) (n : Node) (now : Int) :
    untailed (housekeep env o n now) = untailed (preReconnect env o n now) := by
  rw [housekeep_eq'']
  exact (congrArg (fun c : Ctx => undialled { c with node := { c.node with reconnect := [] } }) (hkOwn_frame _ now)).trans
    (congrArg (fun c : Ctx => unowned { c with node := { c.node with reconnect := [] } }) (reconnectToPeers_frame env o _ now))

theorem foldl_min_le_init (l : List Nat) (i : Nat) : l.foldl min i ≤ i := by
  induction l generalizing i with
  | nil => exact Nat.le_refl _
  | cons x l ih => exact Nat.le_trans (ih (min i x)) (Nat.min_le_left _ _)

theorem foldl_min_le_mem (l : List Nat) (i : Nat) (x : Nat) (hx : x ∈ l) : l.foldl min i ≤ x := by
  induction l generalizing i with
  | nil => cases hx
  | cons y l ih =>
    rcases List.mem_cons.1 hx with rfl | hx
    · exact Nat.le_trans (foldl_min_le_init l (min i x)) (Nat.min_le_right _ _)
    · exact ih (min i y) hx

/-- a due announcement: the step is the broadcast followed by scheduling the next announcement `d` seconds ahead, where `d` is the
    generated interval for the node's `updateFreq` and some `m` — the smallest timeout advertised by the remaining peers; the
    interval is never `none` and `d ≤ 1` or `d` is below each of these timeouts (`C15.interval_safe`) -/
theorem hkAnnounce_due_eq (o : Oracle) (c3 : Ctx) (now : Int) (hdue : c3.node.nextPeers ≤ now) :
    ∃ c' : Ctx, c' = broadcastMsg o c3 Generated.MESSAGE_TYPE_NODE_INFO (Codec.encodeNodeInfo (createNodeInfo c3.node)) ∧
    ∃ m d : Nat, Generated.housekeepInterval c3.node.cfg.updateFreq m = some d ∧
      (d ≤ 1 ∨ ∀ a p, (a, p) ∈ c'.node.peers → d < p.peerTimeout) ∧
      hkAnnounce o c3 now = { c' with node := { c'.node with nextPeers := now + d } } := by
  refine ⟨_, rfl, ?_⟩
  have hfr := broadcastMsg_frame o c3 Generated.MESSAGE_TYPE_NODE_INFO (Codec.encodeNodeInfo (createNodeInfo c3.node))
  unfold hkAnnounce
  rw [if_pos (show Generated.announceDue c3.node.nextPeers now = true by
    simp only [Generated.announceDue, decide_eq_true_eq]; exact hdue)]
  simp only []
  generalize broadcastMsg o c3 Generated.MESSAGE_TYPE_NODE_INFO (Codec.encodeNodeInfo (createNodeInfo c3.node)) = c' at hfr ⊢
  have hcfg : c'.node.cfg = c3.node.cfg := frame_proj hfr (·.node.cfg)
  obtain ⟨d, hd, hsafe⟩ := C15.interval_safe c'.node.cfg.updateFreq
    ((c'.node.peers.map (fun (_, p) => p.peerTimeout)).foldl min (if c'.node.peers.isEmpty then Generated.DEFAULT_PEER_TIMEOUT else 65535))
  unfold announceInterval
  rw [hd]
  refine ⟨_, d, hcfg ▸ hd, ?_, rfl⟩
  rcases hsafe with h | h
  · exact Or.inl h
  · exact Or.inr (fun a p hm => Nat.lt_of_lt_of_le h (foldl_min_le_mem _ _ _ (List.mem_map.2 ⟨(a, p), hm, rfl⟩)))

theorem hkAnnounce_not_due (o : Oracle) (c3 : Ctx) (now : Int) (hdue : ¬ c3.node.nextPeers ≤ now) : hkAnnounce o c3 now = c3 :=
  hkAnnounce_cases (M := fun x => x = c3) o c3 now (fun _ => rfl) (fun h => absurd h hdue) (fun h _ => absurd h hdue)

theorem reconnectToPeers_reconnect (env : CryptoEnv) (o : Oracle) (c : Ctx) (now : Int) :
    (reconnectToPeers env o c now).node.reconnect = c.node.reconnect.map (rcUpdate c.node.peers now) :=
  frame_proj (reconnectToPeers_frame env o c now) (·.node.reconnect)

/-- the back-off of a due entry that is tried again: after more than ten tries the interval doubles; it is capped at one hour.
    `> 10` and the `min` are `Generated.backoffDoubles` and `Generated.backoffCapped` written out; `rcUpdate_eq` is where they must
    agree with the regenerated guards, and it fails to check when the source changes either comparison -/
def backoff (now : Int) (e : Reconnect) : Reconnect :=
  let t := min (if e.tries + 1 > 10 then e.timeout * 2 else e.timeout) Generated.MAX_RECONNECT_INTERVAL
  { e with tries := if e.tries + 1 > 10 then 0 else e.tries + 1, timeout := t, next := now + t }

theorem cap_eq_min (t : Nat) : (if Generated.backoffCapped t then Generated.MAX_RECONNECT_INTERVAL else t) = min t Generated.MAX_RECONNECT_INTERVAL := by
  simp only [Generated.backoffCapped, decide_eq_true_eq]
  split <;> omega

theorem rcUpdate_eq (peers : List (NAddr × Peer)) (now : Int) (e : Reconnect) :
    rcUpdate peers now e =
      let e1 := if e.resolved.any (fun a => (lookupA peers a).isSome) then { e with tries := 0, timeout := 1, next := now + 1 } else e
      if Generated.reconnectNotDue e1.next now then e1 else backoff now e1 := by
  unfold rcUpdate backoff
  dsimp only
  generalize (if e.resolved.any (fun a => (lookupA peers a).isSome) then ({ e with tries := 0, timeout := 1, next := now + 1 } : Reconnect) else e) = e1
  split
  · rfl
  · simp only [Generated.backoffDoubles, decide_eq_true_eq]
    split <;> simp only [cap_eq_min]

theorem backoff_of_tries_le (now : Int) (e : Reconnect) (ht : e.tries + 1 ≤ 10) :
    backoff now e = { e with tries := e.tries + 1, timeout := min e.timeout Generated.MAX_RECONNECT_INTERVAL,
                             next := now + (min e.timeout Generated.MAX_RECONNECT_INTERVAL : Nat) } := by
  unfold backoff
  simp only [if_neg (show ¬ e.tries + 1 > 10 by omega)]

theorem backoff_of_tries_gt (now : Int) (e : Reconnect) (ht : 10 < e.tries + 1) :
    backoff now e = { e with tries := 0, timeout := min (e.timeout * 2) Generated.MAX_RECONNECT_INTERVAL,
                             next := now + (min (e.timeout * 2) Generated.MAX_RECONNECT_INTERVAL : Nat) } := by
  unfold backoff
  simp only [if_pos (show e.tries + 1 > 10 from ht)]

/-- the bookkeeping of one reconnect entry in a tick: same addresses, back-off at most the larger of the old value and one hour,
    next attempt no later than the larger of the old date and one hour from now -/
theorem rcUpdate_spec (peers : List (NAddr × Peer)) (now : Int) (e : Reconnect) :
    (rcUpdate peers now e).resolved = e.resolved ∧
    (rcUpdate peers now e).timeout ≤ max e.timeout Generated.MAX_RECONNECT_INTERVAL ∧
    (rcUpdate peers now e).next ≤ max e.next (now + Generated.MAX_RECONNECT_INTERVAL) := by
  have hb : ∀ e, (backoff now e).timeout ≤ Generated.MAX_RECONNECT_INTERVAL ∧ (backoff now e).next = now + (backoff now e).timeout :=
    fun e => ⟨Nat.min_le_right _ _, rfl⟩
  have h1 : 1 ≤ Generated.MAX_RECONNECT_INTERVAL := by decide
  rw [rcUpdate_eq]
  dsimp only
  split <;> split
  · exact ⟨rfl, show 1 ≤ _ by omega, show now + 1 ≤ _ by omega⟩
  · have := hb { e with tries := 0, timeout := 1, next := now + 1 }
    exact ⟨rfl, by omega, by omega⟩
  · exact ⟨rfl, by omega, by omega⟩
  · have := hb e
    exact ⟨rfl, by omega, by omega⟩

/-- a handshake datagram to `a` -/
def HsTo (a : NAddr) (l : List Out) : Prop := ∃ b, Out.dgram a (Generated.INIT_MESSAGE_FIRST_BYTE :: b) ∈ l

theorem HsTo.mono {a : NAddr} {l l' : List Out} (h : HsTo a l) (hs : ∀ x ∈ l, x ∈ l') : HsTo a l' := by
  obtain ⟨b, hb⟩ := h; exact ⟨b, hs _ hb⟩

theorem connect_fresh (env : CryptoEnv) (o : Oracle) (c : Ctx) (addrs : List NAddr)
    (hf : ∀ a ∈ addrs, c.node.own.contains (mappedAddr a) = false ∧ lookupA c.node.peers (mappedAddr a) = none ∧
      lookupA c.node.pending (mappedAddr a) = none) :
    ∃ ex, (connect env o c addrs).outs = c.outs ++ ex ∧ ∀ a ∈ addrs, HsTo (mappedAddr a) ex :=
  let ⟨_, h, _, d⟩ := connect_dialling env o c addrs
  let ⟨ex, he, _, h2⟩ := h.pings
  ⟨ex, he, fun a ha => h2 _ (d hf a ha)⟩

theorem dialStep_ext (env : CryptoEnv) (o : Oracle) (now : Int) (c : Ctx) (e : Reconnect) :
    Ext IsHs c.outs (dialStep env o now c e).outs := by
  unfold dialStep; split
  · exact Ext.refl _ _
  · exact connect_ext env o c _

/-- every address with a pending handshake satisfies `K` -/
def PendSub (K : NAddr → Prop) (c : Ctx) : Prop := ∀ a, a ∈ c.node.pending.map (·.1) → K a

theorem _root_.VpnCloud.Proofs.NodeLemmas.Dialling.pendSub {env : CryptoEnv} {c c' : Ctx} {as : List NAddr} (h : Dialling env c as c')
    {K : NAddr → Prop} (hp : PendSub K c) (hk : ∀ a ∈ as, K a) : PendSub K c' :=
  fun a ha => (h.new_keys a ha).elim (hp a) (hk a)

theorem connectSock_pendSub (env : CryptoEnv) (o : Oracle) (K : NAddr → Prop) (c : Ctx) (a : NAddr) (h : PendSub K c)
    (ha : K (mappedAddr a)) : PendSub K (connectSock env o c a) :=
  let ⟨_, hd, m⟩ := connectSock_dialling env o c a
  hd.pendSub h (fun b hb => m b hb ▸ ha)

theorem connect_pendSub (env : CryptoEnv) (o : Oracle) (K : NAddr → Prop) (c : Ctx) (l : List NAddr) (h : PendSub K c)
    (hl : ∀ a ∈ l, K (mappedAddr a)) : PendSub K (connect env o c l) :=
  let ⟨_, hd, m, _⟩ := connect_dialling env o c l
  hd.pendSub h (fun b hb => let ⟨a, ha, e⟩ := List.mem_map.1 (m b hb); e ▸ hl a ha)

/-- peer `a` with record `p` has been sent one sealed copy of the message: the datagram is among `outs`, its seal among `log`, and `p'` is the record
    with the session state after sealing -/
def Sent (ty : Nat) (body : Bytes) (a : NAddr) (p p' : Peer) (outs : List Out) (log : Init.SealLog) : Prop :=
  ∃ ct pc' bytes lg, PeerCrypto.sendMessage p.crypto ty body ct = (pc', .ok (bytes, lg)) ∧ p' = { p with crypto := pc' } ∧
    Out.dgram a bytes ∈ outs ∧ ∀ x ∈ lg, x ∈ log

theorem Sent.mono {ty : Nat} {body : Bytes} {a : NAddr} {p p' : Peer} {outs outs' : List Out} {log log' : Init.SealLog}
    (h : Sent ty body a p p' outs log) (ho : ∀ x ∈ outs, x ∈ outs') (hl : ∀ x ∈ log, x ∈ log') : Sent ty body a p p' outs' log' := by
  obtain ⟨ct, pc', bytes, lg, h1, h2, h3, h4⟩ := h
  exact ⟨ct, pc', bytes, lg, h1, h2, ho _ h3, fun x hx => hl x (h4 x hx)⟩

@[simp] theorem addLog_log (l : Init.SealLog) (c : Ctx) : (addLog l c).log = c.log ++ l := rfl

theorem sendTo_of_lookup (o : Oracle) (c : Ctx) (ty : Nat) (body : Bytes) {a : NAddr} {p : Peer} (hp : lookupA c.node.peers a = some p) :
    (canSeal p.crypto → ∃ pc' bytes lg, PeerCrypto.sendMessage p.crypto ty body (rndFor o c a).2.1.ct = (pc', .ok (bytes, lg)) ∧
      sendTo o c ty body a = some ({ p with crypto := pc' }, bytes, lg)) ∧
    (¬ canSeal p.crypto → sendTo o c ty body a = none) := by
  unfold sendTo
  rw [hp]
  simp only []
  refine ⟨fun hs => ?_, fun hs => by rw [sendMessage_cannot p.crypto ty body _ hs]⟩
  obtain ⟨pc', bytes, lg, hsm, _⟩ := sendMessage_canSeal p.crypto ty body (rndFor o c a).2.1.ct hs
  exact ⟨pc', bytes, lg, hsm, by rw [hsm]⟩

theorem broadcastMsg_sent (o : Oracle) (ty : Nat) (body : Bytes) (c : Ctx) (hnd : (c.node.peers.map (·.1)).Nodup) :
    ∃ ex lgx, (broadcastMsg o c ty body).outs = c.outs ++ ex ∧ (broadcastMsg o c ty body).log = c.log ++ lgx ∧
      ∀ a p, lookupA c.node.peers a = some p →
        (canSeal p.crypto → ∃ p', lookupA (broadcastMsg o c ty body).node.peers a = some p' ∧ Sent ty body a p p' ex lgx) ∧
        (¬ canSeal p.crypto → lookupA (broadcastMsg o c ty body).node.peers a = some p) := by
  obtain ⟨ho, hl, hpe⟩ := foldl_sendMsg o ty body c _ c hnd (fun _ _ => ⟨rfl, rfl⟩)
  refine ⟨_, _, ho, hl, fun a p hp => ?_⟩
  have ha : a ∈ c.node.peers.map (·.1) := mem_key (lookupA_some_mem hp)
  obtain ⟨h1, h2⟩ := sendTo_of_lookup o c ty body hp
  have hpa : lookupA (broadcastMsg o c ty body).node.peers a = _ := hpe a
  rw [hpa, if_pos ha]
  refine ⟨fun hs => ?_, fun hs => by rw [h2 hs]; exact hp⟩
  obtain ⟨pc', bytes, lg, hsm, hst⟩ := h1 hs
  rw [hst]
  exact ⟨_, rfl, _, pc', bytes, lg, hsm, rfl, List.mem_filterMap.2 ⟨a, ha, by rw [hst]; rfl⟩,
    fun x hx => List.mem_flatMap.2 ⟨_, List.mem_filterMap.2 ⟨a, ha, hst⟩, hx⟩⟩

/-- `c'` has all outputs of `c` (and possibly more) -/
def Grows (c c' : Ctx) : Prop := Ext (fun _ => True) c.outs c'.outs

theorem Grows.of_ext {P : Out → Prop} {c c' : Ctx} (h : Ext P c.outs c'.outs) : Grows c c' := h.mono (fun _ _ => trivial)
theorem Grows.mem {c c' : Ctx} (h : Grows c c') {x : Out} (hx : x ∈ c.outs) : x ∈ c'.outs := by
  obtain ⟨ex, he, _⟩ := h
  rw [he]; exact List.mem_append_left _ hx

/-- what these loops do to a context, as far as the later steps of the tick care: the scheduling part stays, outputs are only added,
    peer addresses only disappear, and a new pending handshake is with (the mapped form of) a former peer address -/
structure Loops (c c' : Ctx) : Prop where
  sched : sched c'.node = sched c.node
  outs : Grows c c'
  keys : (c'.node.peers.map (·.1)).Sublist (c.node.peers.map (·.1))
  pend : PendSub (fun b => b ∈ c.node.pending.map (·.1) ∨ b ∈ (c.node.peers.map (·.1)).map mappedAddr) c'

theorem Loops.refl (c : Ctx) : Loops c c := ⟨rfl, Ext.refl _ _, List.Sublist.refl _, fun _ h => Or.inl h⟩

theorem Loops.trans {c1 c2 c3 : Ctx} (h1 : Loops c1 c2) (h2 : Loops c2 c3) : Loops c1 c3 := by
  refine ⟨h2.sched.trans h1.sched, h1.outs.trans h2.outs, h2.keys.trans h1.keys, fun b hb => ?_⟩
  rcases h2.pend b hb with h | h
  · exact h1.pend b h
  · obtain ⟨a, ha, rfl⟩ := List.mem_map.1 h
    exact Or.inr (List.mem_map.2 ⟨a, h1.keys.subset ha, rfl⟩)

theorem Loops.foldl {β} (f : Ctx → β → Ctx) (hf : ∀ c x, Loops c (f c x)) : ∀ (l : List β) (c : Ctx), Loops c (l.foldl f c) :=
  foldl_rel Loops Loops.refl (fun _ _ _ => Loops.trans) f hf

-- `sched` with its namespace: in a declaration named `Loops.…` the bare name is the field `Loops.sched`
theorem Loops.of_keys {c c' : Ctx} (hs : VpnCloud.Proofs.C15MoreLemmas.sched c'.node = VpnCloud.Proofs.C15MoreLemmas.sched c.node)
    (ho : Grows c c') (hk : c'.node.peers.map (·.1) = c.node.peers.map (·.1))
    (hp : ∀ b, b ∈ c'.node.pending.map (·.1) → b ∈ c.node.pending.map (·.1)) : Loops c c' :=
  ⟨hs, ho, hk ▸ List.Sublist.refl _, fun b hb => Or.inl (hp b hb)⟩

theorem Loops.send_if {c c' : Ctx} (h : Loops c c') (q : Prop) [Decidable q] (a : NAddr) (out : Bytes) :
    Loops c (if q then c'.send a out else c') := by
  split
  · exact ⟨h.sched, h.outs.trans (Ext.snoc _ trivial), h.keys, h.pend⟩
  · exact h

/-- dropping a peer and dialling its address again (an expired peer, a failed session); `c0` is where the loop started -/
theorem Loops.dead {c0 c : Ctx} (h : Loops c0 c) (env : CryptoEnv) (o : Oracle) (now : Int) {a : NAddr}
    (ha : a ∈ c0.node.peers.map (·.1)) : Loops c0 (deadStep env o now c a) := by
  refine ⟨(connectSock_sched env o _ a).trans h.sched, h.outs.trans (Grows.of_ext (connectSock_ext env o _ a)), ?_,
    connectSock_pendSub env o _ _ a h.pend (Or.inr (List.mem_map.2 ⟨a, ha, rfl⟩))⟩
  unfold deadStep
  rw [connectSock_peers]
  show ((eraseA c.node.peers a).map (·.1)).Sublist _
  rw [keys_eraseA]
  exact List.filter_sublist.trans h.keys

theorem hkDead_loops (env : CryptoEnv) (o : Oracle) (n : Node) (now : Int) : Loops { node := n } (hkDead env o n now) := by
  rw [hkDead_eq]
  apply foldl_inv_mem (Loops { node := n }) _ _ _ _ (Loops.refl _)
  intro c a ha hc
  obtain ⟨x, hx, rfl⟩ := List.mem_map.1 ha
  exact hc.dead env o now (List.mem_map.2 ⟨x, (List.mem_filter.1 hx).1, rfl⟩)

theorem cryptoHousekeep_loops (env : CryptoEnv) (o : Oracle) (c : Ctx) (now : Int) : Loops c (cryptoHousekeep env o c now) := by
  rw [C09MoreLemmas.cryptoHousekeep_eq]
  refine (Loops.foldl _ (fun c a => ?_) _ _).trans (Loops.foldl _ (fun c a => ?_) _ _)
  · apply C09MoreLemmas.pendStep_cases (M := Loops c)
    · exact fun _ => Loops.refl c
    · exact fun _ _ _ _ _ _ => Loops.of_keys rfl (Ext.of_eq rfl) rfl (fun _ hb => key_mem_eraseA hb)
    · exact fun _ _ _ _ => Loops.of_keys rfl (Ext.of_eq rfl) rfl (fun _ hb => hb)
    · intro pc _ pc' out res log hp _
      refine Loops.send_if ?_ ..
      exact Loops.of_keys rfl (Ext.of_eq rfl) rfl
        (fun b hb => Eq.mp (congrArg (b ∈ ·) (insertA_keys_of_some c.node.pending a pc' pc hp)) hb)
  · apply C09MoreLemmas.peerStep_cases (M := Loops c)
    · exact fun _ => Loops.refl c
    · exact fun _ _ _ _ hp _ => (Loops.refl c).dead env o now (mem_key (lookupA_some_mem hp))
    · exact fun _ _ _ _ => Loops.of_keys rfl (Ext.of_eq rfl) rfl (fun _ hb => hb)
    · intro p _ pc' out res log hp _
      refine Loops.send_if ?_ ..
      exact Loops.of_keys rfl (Ext.of_eq rfl) (insertA_keys_of_some _ _ _ _ hp) (fun _ hb => hb)

theorem hkSweep_loops (c : Ctx) (now : Int) : Loops c (hkSweep c now) := Loops.of_keys rfl (Ext.of_eq rfl) rfl (fun _ hb => hb)

theorem preAnnounce_loops (env : CryptoEnv) (o : Oracle) (n : Node) (now : Int) : Loops { node := n } (preAnnounce env o n now) :=
  ((hkDead_loops env o n now).trans (hkSweep_loops _ now)).trans (cryptoHousekeep_loops env o _ now)

theorem preAnnounce_sched (env : CryptoEnv) (o : Oracle) (n : Node) (now : Int) :
    sched (preAnnounce env o n now).node = sched n := (preAnnounce_loops env o n now).sched

theorem preAnnounce_keysNodup (env : CryptoEnv) (o : Oracle) (n : Node) (now : Int) (h : (n.peers.map (·.1)).Nodup) :
    ((preAnnounce env o n now).node.peers.map (·.1)).Nodup := List.Nodup.sublist (preAnnounce_loops env o n now).keys h

theorem reconnectToPeers_ext (env : CryptoEnv) (o : Oracle) (c : Ctx) (now : Int) : Ext IsHs c.outs (reconnectToPeers env o c now).outs := by
  show Ext IsHs c.outs (rcDial env o c now).outs
  exact Ext.foldl _ (dialStep_ext env o now) _ _

/-- the context in which the dial loop runs, as far as `housekeep_dials` cares: the reconnect list and the own addresses are those
    before the tick, peer addresses have only disappeared, and a new pending handshake is with a former peer address -/
theorem preReconnect_rest (env : CryptoEnv) (o : Oracle) (n : Node) (now : Int) :
    (preReconnect env o n now).node.reconnect = n.reconnect ∧ (preReconnect env o n now).node.own = n.own ∧
    (∀ b, b ∈ (preReconnect env o n now).node.peers.map (·.1) → b ∈ n.peers.map (·.1)) ∧
    PendSub (fun b => b ∈ n.pending.map (·.1) ∨ b ∈ (n.peers.map (·.1)).map mappedAddr) (preReconnect env o n now) := by
  have h := hkAnnounce_frame o (preAnnounce env o n now) now
  have hl := preAnnounce_loops env o n now
  unfold preReconnect PendSub
  rw [frame_proj h (·.node.reconnect), frame_proj h (·.node.own), frame_proj h (·.node.pending), TickLemmas.hkAnnounce_keys]
  exact ⟨sched_reconnect hl.sched, sched_own hl.sched, fun b hb => hl.keys.subset hb, hl.pend⟩

theorem housekeep_tail_grows (env : CryptoEnv) (o : Oracle) (n : Node) (now : Int) :
    Grows (preReconnect env o n now) (housekeep env o n now) := by
  rw [housekeep_eq'']
  exact (Grows.of_ext (reconnectToPeers_ext env o _ now)).trans (Ext.of_eq (hkOwn_outs _ now))

/-- a tick at which the announcement is due: up to what the last two steps write, it ends as the broadcast `bc` of the node information
    with the next announcement `d` seconds ahead (`m`, `d` as in `hkAnnounce_due_eq`), and the outputs of the broadcast stay -/
theorem housekeep_of_due (env : CryptoEnv) (o : Oracle) (n : Node) (now : Int) (hdue : n.nextPeers ≤ now) :
    ∃ bc, bc = broadcastMsg o (preAnnounce env o n now) Generated.MESSAGE_TYPE_NODE_INFO
        (Codec.encodeNodeInfo (createNodeInfo (preAnnounce env o n now).node)) ∧
      ∃ m d : Nat, Generated.housekeepInterval n.cfg.updateFreq m = some d ∧
        (d ≤ 1 ∨ ∀ a p, (a, p) ∈ bc.node.peers → d < p.peerTimeout) ∧
        untailed (housekeep env o n now) = untailed { bc with node := { bc.node with nextPeers := now + d } } ∧
        Grows bc (housekeep env o n now) := by
  have hs := preAnnounce_sched env o n now
  obtain ⟨bc, hbc, m, d, hd, hsafe, heq⟩ := hkAnnounce_due_eq o (preAnnounce env o n now) now (by rw [sched_nextPeers hs]; exact hdue)
  have ht := housekeep_tail env o n now
  have hg := housekeep_tail_grows env o n now
  unfold preReconnect at ht hg
  rw [heq] at ht hg
  exact ⟨bc, hbc, m, d, sched_cfg hs ▸ hd, hsafe, ht, hg⟩

theorem housekeep_not_due (env : CryptoEnv) (o : Oracle) (n : Node) (now : Int) (hdue : ¬ n.nextPeers ≤ now) :
    untailed (housekeep env o n now) = untailed (preAnnounce env o n now) := by
  have ht := housekeep_tail env o n now
  unfold preReconnect at ht
  rwa [hkAnnounce_not_due o _ now (by rw [sched_nextPeers (preAnnounce_sched env o n now)]; exact hdue)] at ht

/-- **the announcement of a tick, peer by peer** (due, distinct peer addresses): the record `p3` a peer has when the broadcast starts
    is served from there — if its session can seal, the tick emits `send_message(NODE_INFO, …)` of it and ends with the record after
    sealing; if not, the tick ends with `p3` -/
theorem housekeep_announces (env : CryptoEnv) (o : Oracle) (n : Node) (now : Int) (hdue : n.nextPeers ≤ now)
    (hnd : (n.peers.map (·.1)).Nodup) (a : NAddr) (p3 : Peer) (hp3 : lookupA (preAnnounce env o n now).node.peers a = some p3) :
    (canSeal p3.crypto → ∃ p', lookupA (housekeep env o n now).node.peers a = some p' ∧
      Sent Generated.MESSAGE_TYPE_NODE_INFO (Codec.encodeNodeInfo (createNodeInfo (preAnnounce env o n now).node)) a p3 p'
        (housekeep env o n now).outs (housekeep env o n now).log) ∧
    (¬ canSeal p3.crypto → lookupA (housekeep env o n now).node.peers a = some p3) := by
  obtain ⟨bc, hbc, _, _, _, _, hfr, hg⟩ := housekeep_of_due env o n now hdue
  have hfp : (housekeep env o n now).node.peers = bc.node.peers := frame_proj hfr (·.node.peers)
  have hflog : (housekeep env o n now).log = bc.log := frame_proj hfr (·.log)
  obtain ⟨ex, lgx, ho, hl, hin⟩ := broadcastMsg_sent o Generated.MESSAGE_TYPE_NODE_INFO
    (Codec.encodeNodeInfo (createNodeInfo (preAnnounce env o n now).node)) _ (preAnnounce_keysNodup env o n now hnd)
  rw [← hbc] at ho hl hin
  rw [hfp]
  refine ⟨fun hs => ?_, (hin a p3 hp3).2⟩
  obtain ⟨p', hp', hsent⟩ := (hin a p3 hp3).1 hs
  exact ⟨p', hp', hsent.mono (fun x hx => hg.mem (by rw [ho]; exact List.mem_append_right _ hx))
    (fun x hx => by rw [hflog, hl]; exact List.mem_append_right _ hx)⟩

theorem sendMsg_grows (o : Oracle) (c : Ctx) (a : NAddr) (ty : Nat) (body : Bytes) : Grows c ((sendMsg o c a ty body).getD c) :=
  ⟨_, (sendMsg_effect o c a ty body).1, fun _ _ => trivial⟩

theorem broadcastMsg_grows (o : Oracle) (c : Ctx) (ty : Nat) (body : Bytes) : Grows c (broadcastMsg o c ty body) := by
  unfold broadcastMsg
  exact Ext.foldl _ (fun c a => sendMsg_grows o c a ty body) _ _

theorem hkAnnounce_grows (o : Oracle) (c : Ctx) (now : Int) : Grows c (hkAnnounce o c now) := by
  have hb := broadcastMsg_grows o c Generated.MESSAGE_TYPE_NODE_INFO (Codec.encodeNodeInfo (createNodeInfo c.node))
  exact hkAnnounce_cases (M := Grows c) o c now (fun _ => Ext.refl _ _) (fun _ _ => hb) (fun _ _ => hb)

theorem deadStep_grows (env : CryptoEnv) (o : Oracle) (now : Int) (c : Ctx) (a : NAddr) : Grows c (deadStep env o now c a) :=
  Grows.of_ext (connectSock_ext env o _ a)

theorem deadStep_own (env : CryptoEnv) (o : Oracle) (now : Int) (c : Ctx) (a : NAddr) : (deadStep env o now c a).node.own = c.node.own := by
  unfold deadStep; rw [connectSock_own]

theorem deadStep_pendSub (env : CryptoEnv) (o : Oracle) (now : Int) (K : NAddr → Prop) (c : Ctx) (a : NAddr) (h : PendSub K c)
    (ha : K (mappedAddr a)) : PendSub K (deadStep env o now c a) :=
  connectSock_pendSub env o K _ a h ha

theorem hkDead_redials (env : CryptoEnv) (o : Oracle) (n : Node) (now : Int) (a : NAddr) (p : Peer)
    (hnd : (n.peers.map (·.1)).Nodup) (hmapped : ∀ b ∈ n.peers.map (·.1), mappedAddr b = b)
    (hp : lookupA n.peers a = some p) (hexp : p.timeout < now)
    (hown : n.own.contains a = false) (hpend : lookupA n.pending a = none) :
    HsTo a (hkDead env o n now).outs := by
  rw [hkDead_eq]
  generalize hdead : (n.peers.filter (fun (_, p) => Generated.peerExpired p.timeout now)).map (·.1) = dead
  have hsub : dead.Sublist (n.peers.map (·.1)) := by rw [← hdead]; exact List.Sublist.map _ List.filter_sublist
  have hdnd : dead.Nodup := List.Nodup.sublist hsub hnd
  have hmem : a ∈ dead := by
    rw [← hdead]
    exact List.mem_map.2 ⟨(a, p), List.mem_filter.2 ⟨lookupA_some_mem hp, by simpa using hexp⟩, rfl⟩
  obtain ⟨pre, post, hsplit⟩ := List.append_of_mem hmem
  rw [hsplit] at hdnd hsub
  have hapre : a ∉ pre := by
    intro h
    have := (List.nodup_append.1 hdnd).2.2 a h a (List.mem_cons_self ..)
    exact this rfl
  rw [hsplit, List.foldl_append, List.foldl_cons]
  generalize hcp : pre.foldl (deadStep env o now) { node := n } = cp
  have hown' : cp.node.own = n.own := by
    rw [← hcp]; exact foldl_keep (·.node.own) _ (deadStep_own env o now) _ _
  have hpend' : PendSub (· ≠ a) cp := by
    rw [← hcp]
    refine foldl_inv_mem (PendSub _) _ _ _ ?_ (fun b hb e => (lookupA_none_iff _ _).1 hpend (e ▸ hb))
    intro c' x hx hc'
    apply deadStep_pendSub env o now _ c' x hc'
    rw [hmapped x (hsub.subset (List.mem_append_left _ hx))]
    exact fun e => hapre (e ▸ hx)
  have hma : mappedAddr a = a := hmapped a (mem_key (lookupA_some_mem hp))
  have hc := connectSock_new env o
    { cp with node := { cp.node with peers := eraseA cp.node.peers a, table := cp.node.table.removeClaims now (addrId a) } } a hma
    ⟨by show cp.node.own.contains a = false; rw [hown']; exact hown, lookupA_eraseA_self _ _, by
      show lookupA cp.node.pending a = none
      rw [lookupA_none_iff]
      exact fun hm => hpend' a hm rfl⟩
  have hstep : HsTo a (deadStep env o now cp a).outs := by
    unfold deadStep
    rw [hc]
    exact ⟨_, List.mem_append_right _ (List.mem_singleton.2 rfl)⟩
  exact hstep.mono (fun x hx => Grows.mem (Ext.foldl _ (deadStep_grows env o now) post _) hx)

/-! ## message handling and the schedule of the announcement: only a completed handshake (`add_new_peer`) touches `next_peers`,
    and it can only pull it forward to `now` -/

theorem addNewPeer_nextPeers (env : CryptoEnv) (o : Oracle) (c : Ctx) (now : Int) (a : NAddr) (info : NodeInfo) (pc : PeerCrypto)
    (hp : lookupA c.node.pending a = some pc) :
    (addNewPeer env o c now a info).node.nextPeers = min c.node.nextPeers now := by
  rw [addNewPeer_eq hp]
  exact congrArg (min · now) (updatePeerInfo_nextPeers ..)

/-! ## for `Proofs/GuardsUsed.lean`: the reset time of the own addresses, the announcement step with its delay -/

theorem housekeep_own_step (env : CryptoEnv) (o : Oracle) (n : Node) (now : Int) :
    ∃ c5 : Ctx, housekeep env o n now = hkOwn c5 now ∧ c5.node.nextOwnReset = n.nextOwnReset :=
  ⟨_, housekeep_eq'' env o n now,
    (frame_proj (reconnectToPeers_frame env o _ now) (·.node.nextOwnReset)).trans
      ((frame_proj (hkAnnounce_frame o _ now) (·.node.nextOwnReset)).trans (sched_nextOwnReset (preAnnounce_sched env o n now)))⟩

-- the generated expression changes with the Rust source
set_option linter.unusedSimpArgs false

theorem interval_pos (updateFreq m d : Nat) (h : Generated.housekeepInterval updateFreq m = some d) (hu : 1 ≤ updateFreq) : 1 ≤ d := by
  simp [Generated.housekeepInterval, Generated.oMin, Generated.oMax, Generated.oSatSub,
     Generated.oDiv, Generated.oAdd, Generated.oMul, Generated.oCheckedSub] at h
  omega

end VpnCloud.Proofs.C15MoreLemmas
