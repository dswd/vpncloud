import VpnCloud.Proofs.Lemmas.Node.C01MoreLemmas
import VpnCloud.Proofs.C15More
import VpnCloud.Proofs.Lemmas.Node.C10NetLemmas
/-
  Helper lemmas for `Proofs/C14Exchange.lean` (property C14, first half: one peer-exchange round realises `Graph.step`).

  * `Dialled`: the handshake object `connect_sock` stores and the ping it emits, in closed form (`attemptSt` stands in `ConnectLemmas.lean`);
  * `Keeps`: what dialling never undoes (identity, peer list, own addresses, outputs, pending attempts), and `Dialled` of every
    address dialled — both read off `NodeLemmas.Dialling` (`Dialling.keeps`, `Dialling.dialled`); `connect_dials_all`;
  * `connectToPeers_entry_dialled`: an `Unknown` entry whose turn comes is dialled (one entry of `connect_to_peers` by cases and the
    whole list stand in `ConnectLemmas.lean`, the own addresses afterwards and the classification of everything it dials in
    `C01MoreLemmas.lean`);
  * a node information message from an established peer at node level (`afterInfo`, `handleNet_nodeinfo`);
  * `normAddrs` facts and the size bound that makes `Spec.C16.WF (createNodeInfo n)` a statement about the node (`AnnounceWF`);
  * a session in sync opens what the other one sealed (`sync_opens`).
-/
namespace VpnCloud.Proofs.C14ExchangeLemmas

open VpnCloud.Node
open VpnCloud.Proofs.AssocLemmas VpnCloud.Proofs.NodeLemmas

/-- **`a` has been dialled in the step that led to `c`**: among the outputs is the datagram `0xff :: ping` and the pending attempt
    stored for `a` is the handshake object that has sent exactly this ping (`Init.sendPing`), where the handshake object was created
    by this node (its id, its configuration, its peer list; own addresses a subset of the current ones) with some salted node-id hash
    and random parts (the oracle's) -/
def Dialled (env : CryptoEnv) (a : NAddr) (c : Ctx) : Prop :=
  ∃ (m : Node) (hash : Bytes) (rnd : Rand),
    m.nodeId = c.node.nodeId ∧ m.cfg = c.node.cfg ∧ m.peers = c.node.peers ∧ (∀ x ∈ m.own, x ∈ c.node.own) ∧
    Out.dgram a (Generated.INIT_MESSAGE_FIRST_BYTE :: (Init.sendPing env (attemptSt m hash) rnd).2) ∈ c.outs ∧
    lookupA c.node.pending a = some { init := some (Init.sendPing env (attemptSt m hash) rnd).1 }

/-- what dialling never undoes -/
structure Keeps (c c' : Ctx) : Prop where
  nodeId : c'.node.nodeId = c.node.nodeId
  cfg : c'.node.cfg = c.node.cfg
  peers : c'.node.peers = c.node.peers
  own : ∀ x ∈ c.node.own, x ∈ c'.node.own
  outs : ∀ x ∈ c.outs, x ∈ c'.outs
  pending : ∀ a pc, lookupA c.node.pending a = some pc → lookupA c'.node.pending a = some pc

theorem Keeps.refl (c : Ctx) : Keeps c c := ⟨rfl, rfl, rfl, fun _ h => h, fun _ h => h, fun _ _ h => h⟩

theorem Keeps.trans {c1 c2 c3 : Ctx} (h1 : Keeps c1 c2) (h2 : Keeps c2 c3) : Keeps c1 c3 :=
  ⟨h2.nodeId.trans h1.nodeId, h2.cfg.trans h1.cfg, h2.peers.trans h1.peers, fun x hx => h2.own x (h1.own x hx),
   fun x hx => h2.outs x (h1.outs x hx), fun a pc h => h2.pending a pc (h1.pending a pc h)⟩

theorem Dialled.keeps {env : CryptoEnv} {a : NAddr} {c c' : Ctx} (h : Dialled env a c) (k : Keeps c c') : Dialled env a c' := by
  obtain ⟨m, hash, rnd, h1, h2, h3, h4, h5, h6⟩ := h
  exact ⟨m, hash, rnd, h1.trans k.nodeId.symm, h2.trans k.cfg.symm, h3.trans k.peers.symm, fun x hx => k.own x (h4 x hx),
    k.outs _ h5, k.pending _ _ h6⟩

theorem _root_.VpnCloud.Proofs.NodeLemmas.Dialling.keeps {env : CryptoEnv} {c c' : Ctx} {as : List NAddr} (h : Dialling env c as c') : Keeps c c' :=
  ⟨frame_proj h.toDial.frame (·.node.nodeId), frame_proj h.toDial.frame (·.node.cfg), frame_proj h.toDial.frame (·.node.peers), h.own,
    fun _ hx => let ⟨_, he, _⟩ := h.toDial.outs; he ▸ List.mem_append_left _ hx, h.pending⟩

theorem _root_.VpnCloud.Proofs.NodeLemmas.Dialling.dialled {env : CryptoEnv} {c c' : Ctx} {as : List NAddr} (h : Dialling env c as c') :
    ∀ a ∈ as, Dialled env a c' := by
  induction h with
  | refl => exact fun _ ha => absurd ha List.not_mem_nil
  | dial a hash rnd _ hm hn ih =>
    intro b hb
    rcases List.mem_append.1 hb with hb | hb
    · exact (ih b hb).keeps (Dialling.dial (env := env) a hash rnd .refl hm hn).keeps
    · cases List.mem_singleton.1 hb
      exact ⟨_, hash, rnd, rfl, rfl, rfl, fun _ hx => hx, List.mem_append_right _ (List.mem_singleton.2 rfl), lookupA_insertA_self _ _ _⟩
  | adopt l _ ih => exact fun b hb => (ih b hb).keeps (Dialling.adopt (env := env) l .refl).keeps

theorem connectToPeers_keeps (env : CryptoEnv) (o : Oracle) (l : List PeerInfo) (c : Ctx) : Keeps c (connectToPeers env o c l) :=
  let ⟨_, h, _⟩ := connectToPeers_dialling env o l c
  h.keeps

theorem connect_dials_all (env : CryptoEnv) (o : Oracle) (c : Ctx) (addrs : List NAddr)
    (hf : ∀ a ∈ addrs, c.node.own.contains (mappedAddr a) = false ∧ lookupA c.node.peers (mappedAddr a) = none ∧
      lookupA c.node.pending (mappedAddr a) = none) :
    ∀ a ∈ addrs, Dialled env (mappedAddr a) (connect env o c addrs) :=
  let ⟨_, h, _, d⟩ := connect_dialling env o c addrs
  fun a ha => h.dialled _ (d hf a ha)

/-- **exact (stateful) version**: the entry `e` of the list `pre ++ e :: post` is unknown, and when its turn comes — after `pre` has been
    processed — none of its (mapped) addresses is an own address, a peer address or pending: then every one of them is dialled, and
    stays so while the rest of the list is processed -/
theorem connectToPeers_entry_dialled (env : CryptoEnv) (o : Oracle) (c : Ctx) (pre post : List PeerInfo) (e : PeerInfo)
    (hu : Unknown c.node e)
    (hf : ∀ a ∈ e.addrs, (connectToPeers env o c pre).node.own.contains (mappedAddr a) = false ∧
      lookupA c.node.peers (mappedAddr a) = none ∧ lookupA (connectToPeers env o c pre).node.pending (mappedAddr a) = none) :
    ∀ a ∈ e.addrs, Dialled env (mappedAddr a) (connectToPeers env o c (pre ++ e :: post)) := by
  intro a ha
  rw [connectToPeers_append, connectToPeers_cons]
  have hk := connectToPeers_keeps env o pre c
  have hu1 : Unknown (connectToPeers env o c pre).node e := hu.congr hk.nodeId hk.peers
  rw [connectToPeers_unknown env o _ e hu1]
  refine (connect_dials_all env o _ e.addrs ?_ a ha).keeps (connectToPeers_keeps env o post _)
  intro b hb
  obtain ⟨h1, h2, h3⟩ := hf b hb
  exact ⟨h1, by rw [hk.peers]; exact h2, h3⟩

/-- the earlier entries of the list do not interfere with the entry `e`: none of the (mapped) addresses of `e` is listed (as it is) in
    an earlier entry that carries the node's own id — it would be adopted as own address — or (in mapped form) in an earlier entry
    that does not — it might be dialled for that entry, and `connect` does nothing if ANY address is already pending -/
def NoInterference (ownId : Bytes) (pre : List PeerInfo) (e : PeerInfo) : Prop :=
  ∀ e' ∈ pre, ∀ a ∈ e.addrs, (e'.nodeId = some ownId → mappedAddr a ∉ e'.addrs) ∧
    (e'.nodeId ≠ some ownId → mappedAddr a ∉ e'.addrs.map mappedAddr)

/-- **static version**: hypotheses about the state before `connect_to_peers` and about the list only -/
theorem connectToPeers_entry_dialled_static (env : CryptoEnv) (o : Oracle) (c : Ctx) (pre post : List PeerInfo) (e : PeerInfo)
    (hu : Unknown c.node e)
    (haddr : ∀ a ∈ e.addrs, mappedAddr a ∉ c.node.peers.map (·.1) ∧ mappedAddr a ∉ c.node.own ∧ mappedAddr a ∉ c.node.pending.map (·.1))
    (hpre : NoInterference c.node.nodeId pre e) :
    ∀ a ∈ e.addrs, Dialled env (mappedAddr a) (connectToPeers env o c (pre ++ e :: post)) := by
  apply connectToPeers_entry_dialled env o c pre post e hu
  intro a ha
  obtain ⟨h1, h2, h3⟩ := haddr a ha
  refine ⟨?_, (lookupA_none_iff _ _).2 h1, (lookupA_none_iff _ _).2 ?_⟩
  · cases hc : (connectToPeers env o c pre).node.own.contains (mappedAddr a) with
    | false => rfl
    | true =>
      exfalso
      rcases (C01MoreLemmas.connectToPeers_own env o pre c _).1 (List.contains_iff_mem.1 hc) with h | ⟨pi, hpi, hid, _, hm⟩
      · exact h2 h
      · exact (hpre pi hpi a ha).1 hid hm
  · intro hm
    rcases (C01MoreLemmas.connectToPeers_dials env o pre c).1.pending _ hm with h | ⟨_, pi, hpi, hid, hm'⟩
    · exact h3 h
    · exact (hpre pi hpi a ha).2 hid hm'

open VpnCloud.Proofs.C15MoreLemmas (refreshed) in
/-- the state in which `connect_to_peers` starts when the node information `info` of the established peer `s` has been accepted:
    the record of `s` refreshed (session state `pc`, new expiry, announced addresses), its claims entered, nothing emitted yet -/
def afterInfo (n : Node) (now : Int) (s : NAddr) (p : Peer) (pc : PeerCrypto) (info : NodeInfo) (log : Init.SealLog) : Ctx :=
  { node := { n with peers := insertA n.peers s (refreshed { p with crypto := pc } (now + n.cfg.peerTimeout) s (some info)),
                     table := n.table.setClaims now (addrId s) info.claims },
    log := log }

open VpnCloud.Proofs.C15More (FromPeer) in
theorem handleNet_nodeinfo {env : CryptoEnv} {bodyOf : Init.BodyOf} {o : Oracle} {n : Node} {src : NAddr} {data tail : Bytes}
    {p : Peer} {pc : PeerCrypto} {body : Bytes} (h : FromPeer env bodyOf o n src data tail p pc Generated.MESSAGE_TYPE_NODE_INFO body)
    (now : Int) (info : NodeInfo) (hdec : Codec.decodeNodeInfo body = some info) :
    ∃ log, handleNet env bodyOf o n now src data tail =
      (connectToPeers env o (afterInfo n now (mappedAddr src) p pc info log) info.peers, none) := by
  obtain ⟨out, log, hm⟩ := h.opened
  refine ⟨log, ?_⟩
  rw [handleNet_established env bodyOf o n now src data tail p pc out _ log h.peer h.plain hm]
  have hr : handleResult env o (addLog log { node := { n with peers := insertA n.peers (mappedAddr src) { p with crypto := pc } } })
      now (mappedAddr src) (.message Generated.MESSAGE_TYPE_NODE_INFO body) out =
      (connectToPeers env o (afterInfo n now (mappedAddr src) p pc info log) info.peers, none) := by
    unfold handleResult
    simp only []
    rw [if_neg (by decide), if_pos trivial]
    simp only [hdec]
    rw [C15MoreLemmas.updatePeerInfo_eq ?hl]
    case hl => exact lookupA_insertA_self _ _ _
    simp only [addLog, insertA_insertA]
    rfl
  rw [hr]
  exact finish_of_not_fatal _ _ _ (by intro e; cases e)

section Info
open VpnCloud.Spec.C16 VpnCloud.Codec VpnCloud.Proofs.CodecLemmas

/-- the entry `create_node_info` makes of a peer record -/
def entryOf (p : Peer) : PeerInfo := { nodeId := some p.nodeId, addrs := p.addrs }

theorem createNodeInfo_peers (n : Node) : (createNodeInfo n).peers = n.peers.map (fun x => entryOf x.2) := rfl

/-- **the guard of the encoder, as a statement about the node** (sufficient for `Spec.C16.WF (createNodeInfo n)`): ids of 16 proper
    bytes, socket addresses of proper widths, claims of proper widths, a 16-bit advertised timeout, and few enough peers and claims
    for the 16-bit length fields of the two list parts (an entry takes at most 269 bytes, a claim at most 18) -/
structure AnnounceWF (n : Node) : Prop where
  nodeId : n.nodeId.length = 16 ∧ Bytes.WF n.nodeId
  peerIds : ∀ x ∈ n.peers, x.2.nodeId.length = 16 ∧ Bytes.WF x.2.nodeId
  peerAddrs : ∀ x ∈ n.peers, ∀ a ∈ x.2.addrs, sockWF a = true
  claims : ∀ r ∈ n.cfg.claims, rangeWF r = true
  own : ∀ a ∈ n.own, sockWF a = true
  timeout : n.cfg.peerTimeoutPublish < 65536
  peerCount : n.peers.length ≤ 243
  claimCount : n.cfg.claims.length ≤ 3640

theorem flatMap_len_le {α} (f : α → Bytes) (k : Nat) (l : List α) (h : ∀ x ∈ l, (f x).length ≤ k) :
    (l.flatMap f).length ≤ k * l.length := by
  induction l with
  | nil => simp
  | cons a l ih =>
    have h1 := h a List.mem_cons_self
    have h2 := ih (fun x hx => h x (List.mem_cons_of_mem _ hx))
    rw [List.flatMap_cons, List.length_append, List.length_cons, Nat.mul_succ]
    omega

theorem encodePeer_len_le (p : PeerInfo) (hid : ∀ i, p.nodeId = some i → i.length = 16) (ha : ∀ a ∈ p.addrs, sockWF a = true) :
    (encodePeer p).length ≤ 269 := by
  rw [encodePeer_eq]
  have h1 := encodeAddrList_body_len p.addrs ha (if p.nodeId.isSome then 0x80 else 0)
  have h2 : (p.nodeId.getD []).length ≤ 16 := by
    cases hp : p.nodeId with
    | none => simp
    | some i => simp [hid i hp]
  simp only [List.length_cons, List.length_append]
  omega

theorem writeRange_len_le (r : Range) (h : rangeWF r = true) : (writeRange r).length ≤ 18 := by
  simp only [rangeWF, Bool.and_eq_true, decide_eq_true_eq] at h
  simp only [writeRange, writeAddress, List.length_append, List.length_cons, List.length_nil]
  omega

theorem createNodeInfo_WF (n : Node) (h : AnnounceWF n) : WF (createNodeInfo n) = true := by
  have hp : ((createNodeInfo n).peers.flatMap encodePeer).length < 65536 := by
    have := flatMap_len_le encodePeer 269 (createNodeInfo n).peers (by
      intro p hp
      rw [createNodeInfo_peers] at hp
      obtain ⟨x, hx, rfl⟩ := List.mem_map.1 hp
      exact encodePeer_len_le _ (fun i hi => by cases hi; exact (h.peerIds x hx).1) (h.peerAddrs x hx))
    rw [createNodeInfo_peers] at this ⊢
    rw [List.length_map] at this
    have := h.peerCount
    omega
  have hc : ((createNodeInfo n).claims.flatMap writeRange).length < 65536 := by
    have := flatMap_len_le writeRange 18 n.cfg.claims (fun r hr => writeRange_len_le r (h.claims r hr))
    have := h.claimCount
    show (n.cfg.claims.flatMap writeRange).length < 65536
    omega
  simp only [WF, Bool.and_eq_true, decide_eq_true_eq, List.all_eq_true]
  refine ⟨⟨⟨⟨⟨⟨⟨h.nodeId.1, h.nodeId.2⟩, ?_⟩, h.claims⟩, h.own⟩, decide_eq_true h.timeout⟩, hp⟩, hc⟩
  intro p hp
  rw [createNodeInfo_peers] at hp
  obtain ⟨x, hx, rfl⟩ := List.mem_map.1 hp
  exact ⟨by simpa [entryOf] using h.peerIds x hx, h.peerAddrs x hx⟩

theorem normalise_createNodeInfo_peers (n : Node) :
    (normalise (createNodeInfo n)).peers = n.peers.map (fun x => ({ nodeId := some x.2.nodeId, addrs := normAddrs x.2.addrs } : PeerInfo)) := by
  simp only [normalise, createNodeInfo_peers, List.map_map]
  rfl

theorem normAddrs_id (l6 l4 : List SockAddr) (h6 : ∀ a ∈ l6, isV4 a = false) (h4 : ∀ a ∈ l4, isV4 a = true)
    (n6 : l6.length ≤ 7) (n4 : l4.length ≤ 7) : normAddrs (l6 ++ l4) = l6 ++ l4 := by
  have f1 : (l6 ++ l4).filter (fun a => !isV4 a) = l6 := by
    rw [List.filter_append, List.filter_eq_self.2 (fun a ha => by simp [h6 a ha]), List.filter_eq_nil_iff.2 (fun a ha => by simp [h4 a ha]),
      List.append_nil]
  have f2 : (l6 ++ l4).filter isV4 = l4 := by
    rw [List.filter_append, List.filter_eq_nil_iff.2 (fun a ha => by simp [h6 a ha]), List.filter_eq_self.2 (fun a ha => h4 a ha),
      List.nil_append]
  unfold normAddrs
  rw [f1, f2, List.take_of_length_le n6, List.take_of_length_le n4]

theorem mem_of_mem_normAddrs {l : List SockAddr} {a : SockAddr} (h : a ∈ normAddrs l) : a ∈ l := by
  unfold normAddrs at h
  rcases List.mem_append.1 h with h | h
  · exact (List.mem_filter.1 (List.mem_of_mem_take h)).1
  · exact (List.mem_filter.1 (List.mem_of_mem_take h)).1

end Info

section Sync
open VpnCloud.Proofs.C10NetLemmas

theorem InSync.canSeal {room : Nat} {sa sb : PeerCrypto} (h : InSync room sa sb) : VpnCloud.Proofs.C15MoreLemmas.canSeal sa := by
  cases h with
  | enc ca cb hua hub hca hcb hc => exact Or.inr (by rw [hca]; rfl)
  | plain hua hub => exact Or.inl hua

theorem sync_opens (env : CryptoEnv) (bodyOf : Init.BodyOf) (ok : Bytes → Bool) {room : Nat} {sa sb : PeerCrypto}
    (h : InSync (room + 1) sa sb) (ty : Nat) (body ct tail : Bytes) (rnd : Rand) (rr : RotRand)
    (hty : ty ≠ Generated.MESSAGE_TYPE_ROTATION) (hty' : ty ≠ Generated.INIT_MESSAGE_FIRST_BYTE)
    (sa' : PeerCrypto) (bytes : Bytes) (lg : Init.SealLog) (hs : PeerCrypto.sendMessage sa ty body ct = (sa', .ok (bytes, lg)))
    (hlog : LogOK bodyOf lg) :
    bytes.head? ≠ some Generated.INIT_MESSAGE_FIRST_BYTE ∧
    ∃ sb', PeerCrypto.handleMessage env bodyOf ok sb bytes tail rnd rr = .ok sb' [] (.message ty body) [] := by
  obtain ⟨_, _, _, hsm, hrecv⟩ := send_deliver env bodyOf ok h ty body ct tail rnd rr hty (fun _ => hty')
  rw [hs] at hsm
  simp only [Prod.mk.injEq, Except.ok.injEq] at hsm
  obtain ⟨_, rfl, rfl⟩ := hsm
  obtain ⟨_, hopen, _⟩ := hrecv hlog
  -- a datagram with the handshake marker is never answered with a message
  exact ⟨fun hm => C10MoreLemmas.handleMessage_init_not_message env bodyOf ok sb bytes tail rnd rr hm _ _ _ _ _ hopen, _, hopen⟩

end Sync

end VpnCloud.Proofs.C14ExchangeLemmas
