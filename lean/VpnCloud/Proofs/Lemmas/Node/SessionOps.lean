import VpnCloud.Proofs.Lemmas.Node.SessionStages
import VpnCloud.Proofs.Lemmas.Core.C04SessionLemmas
/-
  Outside the handshake the session layer touches a session in three places only: the crypto core, the rotation state and its
  counter.  What it does to the core is a trace of core operations (`C04Session.SOp`): `sealMsg` is a `.seal`, `decMsg` an `.open`,
  `installKey` a `.rotate`, the first stage of `every_second` a `.tick`.  The elementary updates are restated in that form
  (`sealMsg_eq`, `decMsg_eq`, `installKey_eq`, `tick1_core`); what a predicate on sessions needs in order to be kept by them is
  then closure under `onCore` (`SessionInvLemmas.sessClosed_of_onCore`), and what a predicate on cores needs is closure under `C04Session.step`.
-/
namespace VpnCloud.Proofs.SessionOps

open VpnCloud.Proofs.C04Session VpnCloud.Proofs.SessionInvLemmas

def onCore (pc : PeerCrypto) (ops : List SOp) : PeerCrypto := { pc with core := pc.core.map fun c => (run c ops).1 }

theorem onCore_of_none {pc : PeerCrypto} (h : pc.core = none) (ops : List SOp) : onCore pc ops = pc := by
  cases pc
  cases h
  rfl

theorem onCore_of_some {pc : PeerCrypto} {c : Core} (h : pc.core = some c) (ops : List SOp) :
    onCore pc ops = { pc with core := some (run c ops).1 } := by
  unfold onCore
  rw [h]
  rfl

theorem onCore_nil (pc : PeerCrypto) : onCore pc [] = pc := by
  cases hc : pc.core with
  | none => exact onCore_of_none hc _
  | some c => rw [onCore_of_some hc]; cases pc; cases hc; rfl

/-- `encrypt_message`: the state is the session after a `.seal` (untouched on a plain session), the result a function of the old core -/
theorem sealMsg_eq (pc : PeerCrypto) (plain ct : Bytes) :
    PeerCrypto.sealMsg pc plain ct =
      (onCore pc (if pc.unencrypted then [] else [.seal plain]),
       if pc.unencrypted then .ok (plain, [])
       else match pc.core with
        | none => .error .state
        | some c => .ok ((c.encrypt plain).2.hdr ++ ct, [(ct, (c.encrypt plain).2.body)])) := by
  unfold PeerCrypto.sealMsg
  by_cases hu : pc.unencrypted = true
  · rw [if_pos hu, if_pos hu, if_pos hu, onCore_nil]
  · rw [if_neg hu, if_neg hu, if_neg hu]
    cases hc : pc.core with
    | none => rw [onCore_of_none hc]
    | some c => rw [onCore_of_some hc]; rfl

/-- `encrypt_message` of an encrypted session that has a core -/
theorem sealMsg_enc {pc : PeerCrypto} {c : Core} (hu : pc.unencrypted = false) (hc : pc.core = some c) (plain ct : Bytes) :
    PeerCrypto.sealMsg pc plain ct =
      ({ pc with core := some (c.encrypt plain).1 }, .ok ((c.encrypt plain).2.hdr ++ ct, [(ct, (c.encrypt plain).2.body)])) := by
  simp only [PeerCrypto.sealMsg, hu, Bool.false_eq_true, if_false, hc]

theorem decMsg_eq (bodyOf : Init.BodyOf) (pc : PeerCrypto) (d : Bytes) :
    decMsg bodyOf pc d =
      (onCore pc (if pc.unencrypted then [] else [.open ⟨d.take 8, bodyOf (d.drop 8)⟩]),
       if pc.unencrypted then .ok d
       else match pc.core with
        | none => .error .state
        | some c => match (c.decrypt ⟨d.take 8, bodyOf (d.drop 8)⟩).2 with
          | .ok p => .ok p
          | .error _ => .error .crypto) := by
  unfold decMsg
  by_cases hu : pc.unencrypted = true
  · rw [if_pos hu, if_pos hu, if_pos hu, onCore_nil]
  · rw [if_neg hu, if_neg hu, if_neg hu]
    cases hc : pc.core with
    | none => rw [onCore_of_none hc]
    | some c =>
      rw [onCore_of_some hc]
      dsimp only
      show _ = (({ pc with core := some (c.decrypt ⟨d.take 8, bodyOf (d.drop 8)⟩).1 } : PeerCrypto), _)
      generalize c.decrypt ⟨d.take 8, bodyOf (d.drop 8)⟩ = x
      obtain ⟨c', r⟩ := x
      cases r <;> rfl

theorem sealMsg_fst (pc : PeerCrypto) (plain ct : Bytes) :
    (PeerCrypto.sealMsg pc plain ct).1 = onCore pc (if pc.unencrypted then [] else [.seal plain]) := by
  rw [sealMsg_eq]

theorem decMsg_fst (bodyOf : Init.BodyOf) (pc : PeerCrypto) (d : Bytes) :
    (decMsg bodyOf pc d).1 = onCore pc (if pc.unencrypted then [] else [.open ⟨d.take 8, bodyOf (d.drop 8)⟩]) := by
  rw [decMsg_eq]

theorem installKey_eq (pc : PeerCrypto) (key : Rot.Key) (id : Nat) (use : Bool) (starts : List Nat) :
    PeerCrypto.installKey pc key id use starts =
      onCore pc [.rotate (PeerCrypto.keyRefOf pc.master key) id use (starts.getD (id % 4) 0)] := by
  unfold PeerCrypto.installKey
  cases hc : pc.core with
  | none => exact (onCore_of_none hc _).symm
  | some c => exact (onCore_of_some hc [.rotate _ id use _]).symm

theorem tick1_core (pc : PeerCrypto) : (tick1 pc).1.core = (onCore pc [.tick]).core := by
  rw [tick1_eq]
  rfl

end VpnCloud.Proofs.SessionOps
