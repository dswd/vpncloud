import VpnCloud.Proofs.Lemmas.Node.NodeLemmas
/-
  `send_msg` / `broadcast_msg` and `handle_interface_data`.  `send_msg` to one peer reads and writes only the record and the counter
  of that peer (`sendTo`), so a fold over distinct addresses serves each from the start context (`foldl_sendMsg`);
  `handle_interface_data` is a table lookup followed by `route`, the table update pulled outside (`handleIface_route`).
-/
namespace VpnCloud.Proofs.NodeLemmas

open VpnCloud.Node VpnCloud.Proofs.AssocLemmas

def ToPeers (keys : List NAddr) (c : Ctx) : Prop :=
  (∀ x ∈ c.outs, ∃ d b, x = .dgram d b ∧ d ∈ keys) ∧ c.node.peers.map (·.1) = keys

/-! ### what sending a message to peers does

  `send_msg` to `a` reads the context only through the record stored for `a` and (through `rndFor`) the emission counter of `a`, and
  writes only that record, that counter, `outs` and `log`.  So a fold over pairwise distinct addresses does to each address what
  `send_msg` alone would do from the start. -/

/-- the effect of `send_msg` for the peer `a`: the record with the session after sealing, the datagram, its seals; `none` if `a` is no
    peer or its session cannot seal -/
def sendTo (o : Oracle) (c : Ctx) (ty : Nat) (body : Bytes) (a : NAddr) : Option (Peer × Bytes × Init.SealLog) :=
  match lookupA c.node.peers a with
  | none => none
  | some p =>
    match PeerCrypto.sendMessage p.crypto ty body (rndFor o c a).2.1.ct with
    | (pc', .ok (bytes, lg)) => some ({ p with crypto := pc' }, bytes, lg)
    | (_, .error _) => none

theorem sendTo_congr (o : Oracle) {c c0 : Ctx} (ty : Nat) (body : Bytes) {a : NAddr}
    (h : lookupA c.node.peers a = lookupA c0.node.peers a ∧ c.count a = c0.count a) : sendTo o c ty body a = sendTo o c0 ty body a := by
  unfold sendTo rndFor
  rw [h.1, h.2]

theorem sendTo_some {o : Oracle} {c : Ctx} {ty : Nat} {body : Bytes} {a : NAddr} {s : Peer × Bytes × Init.SealLog}
    (h : sendTo o c ty body a = some s) :
    ∃ p pc', lookupA c.node.peers a = some p ∧
      PeerCrypto.sendMessage p.crypto ty body (rndFor o c a).2.1.ct = (pc', .ok (s.2.1, s.2.2)) ∧ s.1 = { p with crypto := pc' } := by
  unfold sendTo at h
  cases hp : lookupA c.node.peers a with
  | none => rw [hp] at h; cases h
  | some p =>
    rw [hp] at h
    simp only [] at h
    rcases hs : PeerCrypto.sendMessage p.crypto ty body (rndFor o c a).2.1.ct with ⟨pc', r⟩
    rw [hs] at h
    cases r with
    | error e => cases h
    | ok x =>
      simp only [Option.some.injEq] at h
      subst h
      exact ⟨p, pc', rfl, hs, rfl⟩

theorem sendMsg_eq (o : Oracle) (c : Ctx) (a : NAddr) (ty : Nat) (body : Bytes) :
    (sendMsg o c a ty body).getD c =
      match sendTo o c ty body a with
      | none => c
      | some (p', bytes, lg) => (addLog lg { c with node := { c.node with peers := insertA c.node.peers a p' } }).send a bytes := by
  unfold sendMsg sendTo
  cases lookupA c.node.peers a with
  | none => rfl
  | some p =>
    simp only []
    rcases PeerCrypto.sendMessage p.crypto ty body (rndFor o c a).2.1.ct with ⟨pc', r⟩
    cases r with
    | error e => rfl
    | ok x => rfl

theorem sendMsg_keys (o : Oracle) (c : Ctx) (a : NAddr) (ty : Nat) (body : Bytes) :
    ((sendMsg o c a ty body).getD c).node.peers.map (·.1) = c.node.peers.map (·.1) := by
  rw [sendMsg_eq]
  cases h : sendTo o c ty body a with
  | none => rfl
  | some s =>
    obtain ⟨p, _, hp, _⟩ := sendTo_some h
    exact insertA_keys_of_some _ _ _ _ hp

theorem broadcastMsg_keys (o : Oracle) (c : Ctx) (ty : Nat) (body : Bytes) :
    (broadcastMsg o c ty body).node.peers.map (·.1) = c.node.peers.map (·.1) := by
  unfold broadcastMsg
  exact foldl_keep (fun c => c.node.peers.map (·.1)) _ (fun c a => sendMsg_keys o c a ty body) _ _

theorem sendMsg_effect (o : Oracle) (c : Ctx) (a : NAddr) (ty : Nat) (body : Bytes) :
    ((sendMsg o c a ty body).getD c).outs = c.outs ++ ((sendTo o c ty body a).map (fun s => Out.dgram a s.2.1)).toList ∧
    ((sendMsg o c a ty body).getD c).log = c.log ++ ((sendTo o c ty body a).map (·.2.2)).getD [] ∧
    lookupA ((sendMsg o c a ty body).getD c).node.peers a = ((sendTo o c ty body a).map (·.1)).or (lookupA c.node.peers a) ∧
    ∀ b, b ≠ a → lookupA ((sendMsg o c a ty body).getD c).node.peers b = lookupA c.node.peers b ∧
      ((sendMsg o c a ty body).getD c).count b = c.count b := by
  rw [sendMsg_eq]
  cases sendTo o c ty body a with
  | none => simp
  | some s =>
    refine ⟨by simp, by simp [addLog], by simp [lookupA_insertA_self], fun b hb => ⟨by simp [lookupA_insertA_ne _ _ hb], ?_⟩⟩
    simp only [Ctx.count, Ctx.send, addLog_cnt]
    rw [lookupA_insertA_ne _ _ hb]

theorem foldl_sendMsg (o : Oracle) (ty : Nat) (body : Bytes) (c0 : Ctx) :
    ∀ (l : List NAddr) (c : Ctx), l.Nodup → (∀ a ∈ l, lookupA c.node.peers a = lookupA c0.node.peers a ∧ c.count a = c0.count a) →
      (l.foldl (fun c a => (sendMsg o c a ty body).getD c) c).outs =
        c.outs ++ l.filterMap (fun a => (sendTo o c0 ty body a).map (fun s => Out.dgram a s.2.1)) ∧
      (l.foldl (fun c a => (sendMsg o c a ty body).getD c) c).log = c.log ++ (l.filterMap (sendTo o c0 ty body)).flatMap (·.2.2) ∧
      ∀ b, lookupA (l.foldl (fun c a => (sendMsg o c a ty body).getD c) c).node.peers b =
        if b ∈ l then ((sendTo o c0 ty body b).map (·.1)).or (lookupA c.node.peers b) else lookupA c.node.peers b
  | [], c, _, _ => by simp
  | a :: l, c, hnd, hc => by
    obtain ⟨hal, hnd'⟩ := List.nodup_cons.1 hnd
    obtain ⟨ho, hl, ha, hne⟩ := sendMsg_effect o c a ty body
    rw [sendTo_congr o ty body (hc a (List.mem_cons_self ..))] at ho hl ha
    have hb : ∀ b ∈ l, b ≠ a := fun b hb e => hal (e ▸ hb)
    obtain ⟨io, il, ip⟩ := foldl_sendMsg o ty body c0 l ((sendMsg o c a ty body).getD c) hnd' (fun b hbl =>
      ⟨(hne b (hb b hbl)).1.trans (hc b (List.mem_cons_of_mem _ hbl)).1, (hne b (hb b hbl)).2.trans (hc b (List.mem_cons_of_mem _ hbl)).2⟩)
    simp only [List.foldl_cons]
    refine ⟨?_, ?_, fun b => ?_⟩
    · rw [io, ho, List.filterMap_cons]
      cases sendTo o c0 ty body a <;> simp
    · rw [il, hl, List.filterMap_cons]
      cases sendTo o c0 ty body a <;> simp
    · rw [ip b]
      by_cases hba : b = a
      · subst hba
        rw [if_neg hal, if_pos (List.mem_cons_self ..), ha]
      · rw [(hne b hba).1]
        simp only [List.mem_cons, hba, false_or]

theorem sendMsg_toPeers (o : Oracle) (c : Ctx) (a : NAddr) (ty : Nat) (body : Bytes) (keys : List NAddr) (h : ToPeers keys c) :
    ToPeers keys ((sendMsg o c a ty body).getD c) := by
  refine ⟨fun x hx => ?_, (sendMsg_keys o c a ty body).trans h.2⟩
  rw [(sendMsg_effect o c a ty body).1] at hx
  rcases List.mem_append.1 hx with hx | hx
  · exact h.1 x hx
  · cases hs : sendTo o c ty body a with
    | none => rw [hs] at hx; cases hx
    | some s =>
      obtain ⟨p, _, hp, _⟩ := sendTo_some hs
      rw [hs] at hx
      exact ⟨a, _, List.mem_singleton.1 hx, by rw [← h.2]; exact mem_key (lookupA_some_mem hp)⟩

theorem broadcastMsg_toPeers (o : Oracle) (c : Ctx) (ty : Nat) (body : Bytes) (keys : List NAddr) (h : ToPeers keys c) :
    ToPeers keys (broadcastMsg o c ty body) := by
  unfold broadcastMsg
  exact foldl_inv (ToPeers keys) _ (fun c a hc => sendMsg_toPeers o c a ty body keys hc) _ _ h

/-! ## `send_msg` / `broadcast_msg`: number of datagrams, drop counter -/

theorem sendMsg_len (o : Oracle) (c : Ctx) (a : NAddr) (ty : Nat) (body : Bytes) :
    ((sendMsg o c a ty body).getD c).outs.length ≤ c.outs.length + 1 ∧
    ((sendMsg o c a ty body).getD c).node.droppedOut = c.node.droppedOut := by
  rw [sendMsg_eq]
  cases sendTo o c ty body a with
  | none => exact ⟨Nat.le_succ _, rfl⟩
  | some s => exact ⟨by simp, rfl⟩

theorem foldl_sendMsg_len (o : Oracle) (ty : Nat) (body : Bytes) :
    ∀ (l : List NAddr) (c : Ctx),
      (l.foldl (fun c a => (sendMsg o c a ty body).getD c) c).outs.length ≤ c.outs.length + l.length ∧
      (l.foldl (fun c a => (sendMsg o c a ty body).getD c) c).node.droppedOut = c.node.droppedOut
  | [], c => ⟨Nat.le_refl _, rfl⟩
  | a :: l, c => by
    have h1 := sendMsg_len o c a ty body
    have h2 := foldl_sendMsg_len o ty body l ((sendMsg o c a ty body).getD c)
    simp only [List.foldl_cons, List.length_cons]
    refine ⟨?_, h2.2.trans h1.2⟩
    have := h2.1
    have := h1.1
    omega

theorem broadcastMsg_len (o : Oracle) (c : Ctx) (ty : Nat) (body : Bytes) :
    (broadcastMsg o c ty body).outs.length ≤ c.outs.length + c.node.peers.length ∧
    (broadcastMsg o c ty body).node.droppedOut = c.node.droppedOut := by
  have h := foldl_sendMsg_len o ty body (c.node.peers.map (·.1)) c
  rw [List.length_map] at h
  exact h

def setT (t : Table) (c : Ctx) : Ctx := { c with node := { c.node with table := t } }

/-- what `handle_interface_data` does with the answer `r` of the table -/
def route (o : Oracle) (c : Ctx) (r : Option PeerId) (data : Bytes) : Ctx :=
  match r with
  | some pid =>
    match (c.node.peers.map (·.1)).find? (fun a => addrId a = pid) with
    | some a => (sendMsg o c a Generated.MESSAGE_TYPE_DATA data).getD c
    | none => c
  | none =>
    if c.node.cfg.broadcast then broadcastMsg o c Generated.MESSAGE_TYPE_DATA data
    else { c with node := { c.node with droppedOut := c.node.droppedOut + 1 } }

theorem handleIface_eq (o : Oracle) (n : Node) (now : Int) (data : Bytes) :
    handleIface o n now data =
      match parseAddrs n data with
      | none => { node := n }
      | some (_, dst) => route o { node := { n with table := (n.table.lookup now dst).1 } } (n.table.lookup now dst).2 data := by
  unfold handleIface
  cases parseAddrs n data with
  | none => rfl
  | some x =>
    rcases x with ⟨s, dst⟩
    simp only []
    rcases n.table.lookup now dst with ⟨tb, r⟩
    cases r <;> rfl

theorem sendMsg_setT (o : Oracle) (t : Table) (c : Ctx) (a : NAddr) (ty : Nat) (body : Bytes) :
    (sendMsg o (setT t c) a ty body).getD (setT t c) = setT t ((sendMsg o c a ty body).getD c) := by
  rw [sendMsg_eq, sendMsg_eq, show sendTo o (setT t c) ty body a = sendTo o c ty body a from rfl]
  cases sendTo o c ty body a <;> rfl

theorem broadcastMsg_setT (o : Oracle) (t : Table) (c : Ctx) (ty : Nat) (body : Bytes) :
    broadcastMsg o (setT t c) ty body = setT t (broadcastMsg o c ty body) :=
  List.foldl_hom (setT t) (H := fun c a => sendMsg_setT o t c a ty body)

/-- the table enters the routing of a frame only through the answer of the lookup -/
theorem route_setT (o : Oracle) (t : Table) (c : Ctx) (r : Option PeerId) (data : Bytes) :
    route o (setT t c) r data = setT t (route o c r data) := by
  unfold route
  cases r with
  | none =>
    simp only []
    show (if c.node.cfg.broadcast = true then _ else _) = _
    split
    · exact broadcastMsg_setT o t c _ _
    · rfl
  | some pid =>
    simp only []
    show (match (c.node.peers.map (·.1)).find? (fun a => addrId a = pid) with | some a => _ | none => _) = _
    cases (c.node.peers.map (·.1)).find? (fun a => addrId a = pid) with
    | none => rfl
    | some a => exact sendMsg_setT o t c a _ _

theorem handleIface_route (o : Oracle) (n : Node) (now : Int) (data : Bytes) (s dst : Addr) (hp : parseAddrs n data = some (s, dst)) :
    handleIface o n now data = setT (n.table.lookup now dst).1 (route o { node := n } (n.table.lookup now dst).2 data) := by
  rw [handleIface_eq, hp]
  exact route_setT o _ { node := n } _ data

/-- The table update is pulled outside (`route_setT`), so that what is sent is said about `{ node := n }`, the state the hypotheses
    of the users speak of. -/
theorem handleIface_hit (o : Oracle) (n : Node) (now : Int) (data : Bytes) {s dst : Addr} {pid : PeerId} {a : NAddr}
    (hp : parseAddrs n data = some (s, dst)) (hl : (n.table.lookup now dst).2 = some pid)
    (ha : (n.peers.map (·.1)).find? (fun a => addrId a = pid) = some a) :
    handleIface o n now data =
      setT (n.table.lookup now dst).1 ((sendMsg o { node := n } a Generated.MESSAGE_TYPE_DATA data).getD { node := n }) := by
  rw [handleIface_route o n now data s dst hp, hl]
  unfold route
  simp only [ha]

theorem handleIface_flood (o : Oracle) (n : Node) (now : Int) (data : Bytes) {s dst : Addr}
    (hp : parseAddrs n data = some (s, dst)) (hl : (n.table.lookup now dst).2 = none) (hb : n.cfg.broadcast = true) :
    handleIface o n now data = setT (n.table.lookup now dst).1 (broadcastMsg o { node := n } Generated.MESSAGE_TYPE_DATA data) := by
  rw [handleIface_route o n now data s dst hp, hl]
  unfold route
  simp only [hb, if_true]

theorem handleIface_drop (o : Oracle) (n : Node) (now : Int) (data : Bytes) {s dst : Addr}
    (hp : parseAddrs n data = some (s, dst)) (hl : (n.table.lookup now dst).2 = none) (hb : n.cfg.broadcast = false) :
    handleIface o n now data = setT (n.table.lookup now dst).1 { node := { n with droppedOut := n.droppedOut + 1 } } := by
  rw [handleIface_route o n now data s dst hp, hl]
  unfold route
  simp only [hb, Bool.false_eq_true, if_false]

/-- The leaves keep the table as `lookup` left it for the destination `dst` (it caches its decision): an invariant that speaks
    of the table needs that. -/
theorem handleIface_cases {M : Ctx → Prop} (o : Oracle) (n : Node) (now : Int) (data : Bytes) (bad : M { node := n })
    (hit : ∀ dst a, M ((sendMsg o { node := { n with table := (n.table.lookup now dst).1 } } a Generated.MESSAGE_TYPE_DATA data).getD
      { node := { n with table := (n.table.lookup now dst).1 } }))
    (gone : ∀ dst, M { node := { n with table := (n.table.lookup now dst).1 } })
    (flood : ∀ dst, M (broadcastMsg o { node := { n with table := (n.table.lookup now dst).1 } } Generated.MESSAGE_TYPE_DATA data))
    (drop : ∀ dst, M { node := { n with table := (n.table.lookup now dst).1, droppedOut := n.droppedOut + 1 } }) :
    M (handleIface o n now data) := by
  rw [handleIface_eq]
  cases parseAddrs n data with
  | none => exact bad
  | some x =>
    simp only []
    unfold route
    cases (n.table.lookup now x.2).2 with
    | none => exact iteInduction (fun _ => flood _) (fun _ => drop _)
    | some pid =>
      simp only []
      cases ((n.peers.map (·.1)).find? fun a => addrId a = pid) with
      | none => exact gone _
      | some a => exact hit _ a

theorem handleIface_toPeers (o : Oracle) (n : Node) (now : Int) (data : Bytes) :
    ToPeers (n.peers.map (·.1)) (handleIface o n now data) := by
  have h0 : ∀ m : Node, m.peers = n.peers → ToPeers (n.peers.map (·.1)) { node := m } :=
    fun m hm => ⟨fun _ hx => (nomatch hx), congrArg (List.map (·.1)) hm⟩
  exact handleIface_cases o n now data (h0 n rfl) (fun _ _ => sendMsg_toPeers o _ _ _ _ _ (h0 _ rfl)) (fun _ => h0 _ rfl)
    (fun _ => broadcastMsg_toPeers o _ _ _ _ (h0 _ rfl)) (fun _ => h0 _ rfl)

end VpnCloud.Proofs.NodeLemmas
