import VpnCloud.Model.Node
/-
  The association lists of the node model (`lookupA` / `insertA` / `eraseA` of `Model/Node.lean`, keyed by socket address): membership
  and keys after an insertion or a removal, lookups under the same and under another key, lists with pairwise distinct keys;
  `mappedAddr` is idempotent.
-/
namespace VpnCloud.Proofs.AssocLemmas

open VpnCloud.Node

theorem lookupA_some_mem {α} {l : List (NAddr × α)} {a : NAddr} {v : α} (h : lookupA l a = some v) : (a, v) ∈ l := by
  unfold lookupA at h
  cases hf : l.find? (fun p => p.1 = a) with
  | none => simp [hf] at h
  | some p =>
    rw [hf] at h
    have h1 := List.mem_of_find?_eq_some hf
    have h2 := List.find?_some hf
    simp at h h2
    cases p with
    | mk x y => simp at h h2; subst h; subst h2; exact h1

theorem lookupA_isSome_iff {α} (l : List (NAddr × α)) (a : NAddr) : (lookupA l a).isSome = true ↔ a ∈ l.map (·.1) := by
  unfold lookupA
  simp [List.find?_isSome]

theorem lookupA_none_iff {α} (l : List (NAddr × α)) (a : NAddr) : lookupA l a = none ↔ a ∉ l.map (·.1) := by
  rw [← lookupA_isSome_iff]
  cases lookupA l a <;> simp

theorem insertA_keys {α} (l : List (NAddr × α)) (a : NAddr) (v : α) (h : (lookupA l a).isSome = true) :
    (insertA l a v).map (·.1) = l.map (·.1) := by
  have hany : l.any (fun p => decide (p.1 = a)) = true := by
    rw [lookupA_isSome_iff] at h
    simpa using h
  unfold insertA
  rw [if_pos hany, List.map_map]
  apply List.map_congr_left
  intro p _
  by_cases hp : p.1 = a <;> simp [hp]

theorem insertA_keys_of_some {α} (l : List (NAddr × α)) (a : NAddr) (v w : α) (h : lookupA l a = some w) :
    (insertA l a v).map (·.1) = l.map (·.1) :=
  insertA_keys l a v (by rw [h]; rfl)

theorem mem_eraseA {α} {l : List (NAddr × α)} {a : NAddr} {x : NAddr × α} (h : x ∈ eraseA l a) : x ∈ l ∧ x.1 ≠ a := by
  unfold eraseA at h
  rw [List.mem_filter] at h
  exact ⟨h.1, by simpa using h.2⟩

theorem mem_insertA {α} {l : List (NAddr × α)} {a : NAddr} {v : α} {x : NAddr × α} (h : x ∈ insertA l a v) : x = (a, v) ∨ x ∈ l := by
  unfold insertA at h
  split at h
  · rcases List.mem_map.1 h with ⟨y, hy, rfl⟩
    by_cases hya : y.1 = a
    · rw [if_pos hya]; exact Or.inl rfl
    · rw [if_neg hya]; exact Or.inr hy
  · rcases List.mem_append.1 h with h | h
    · exact Or.inr h
    · exact Or.inl (by simpa using h)

theorem key_mem_eraseA {α} {l : List (NAddr × α)} {a b : NAddr} (h : b ∈ (eraseA l a).map (·.1)) : b ∈ l.map (·.1) := by
  rcases List.mem_map.1 h with ⟨x, hx, rfl⟩
  exact List.mem_map.2 ⟨x, (mem_eraseA hx).1, rfl⟩

theorem key_mem_insertA {α} {l : List (NAddr × α)} {a b : NAddr} {v : α} (h : b ∈ (insertA l a v).map (·.1)) : b = a ∨ b ∈ l.map (·.1) := by
  rcases List.mem_map.1 h with ⟨x, hx, rfl⟩
  rcases mem_insertA hx with rfl | hx
  · exact Or.inl rfl
  · exact Or.inr (List.mem_map.2 ⟨x, hx, rfl⟩)

theorem keys_eraseA {α} (l : List (NAddr × α)) (a : NAddr) : (eraseA l a).map (·.1) = (l.map (·.1)).filter (fun b => b ≠ a) := by
  unfold eraseA
  rw [List.filter_map]
  rfl

theorem key_mem_eraseA_iff {α} (l : List (NAddr × α)) (a b : NAddr) : b ∈ (eraseA l a).map (·.1) ↔ b ∈ l.map (·.1) ∧ b ≠ a := by
  rw [keys_eraseA, List.mem_filter]
  simp

theorem key_mem_insertA_of_mem {α} (l : List (NAddr × α)) (a b : NAddr) (v : α) (h : b ∈ l.map (·.1)) : b ∈ (insertA l a v).map (·.1) := by
  unfold insertA
  split
  · rw [List.map_map]
    rcases List.mem_map.1 h with ⟨x, hx, rfl⟩
    refine List.mem_map.2 ⟨x, hx, ?_⟩
    by_cases hxa : x.1 = a <;> simp [hxa]
  · rw [List.map_append]
    exact List.mem_append_left _ h

theorem lookupA_eraseA_self {α} (l : List (NAddr × α)) (a : NAddr) : lookupA (eraseA l a) a = none := by
  rw [lookupA_none_iff, key_mem_eraseA_iff]
  exact fun h => h.2 rfl

theorem mem_key {α} {l : List (NAddr × α)} {a : NAddr} {v : α} (h : (a, v) ∈ l) : a ∈ l.map (·.1) :=
  List.mem_map.2 ⟨(a, v), h, rfl⟩

theorem map_noKey {α} (l : List (NAddr × α)) (a : NAddr) (w : α) (hn : ¬ l.any (fun p => decide (p.1 = a)) = true) :
    l.map (fun p => if p.1 = a then (a, w) else p) = l := by
  induction l with
  | nil => rfl
  | cons x l ih =>
    simp only [List.any_cons, Bool.or_eq_true, decide_eq_true_eq, not_or] at hn
    simp only [List.map_cons, hn.1, if_false]
    rw [ih hn.2]

theorem insertA_of_any {α} (l : List (NAddr × α)) (a : NAddr) (v : α) (h : l.any (fun p => decide (p.1 = a)) = true) :
    insertA l a v = l.map (fun p => if p.1 = a then (a, v) else p) := by
  unfold insertA; rw [if_pos h]

theorem lookupA_of_mem_nodup {α} {l : List (NAddr × α)} {a : NAddr} {v : α} (hnd : (l.map (·.1)).Nodup) (h : (a, v) ∈ l) :
    lookupA l a = some v := by
  induction l with
  | nil => cases h
  | cons x l ih =>
    rw [List.map_cons, List.nodup_cons] at hnd
    rcases List.mem_cons.1 h with rfl | h
    · simp [lookupA]
    · have hx : ¬ x.1 = a := by
        intro e
        exact hnd.1 (e ▸ mem_key h)
      have := ih hnd.2 h
      unfold lookupA at this ⊢
      simp only [List.find?_cons, hx, decide_false]
      exact this

theorem nodup_eraseA {α} (l : List (NAddr × α)) (a : NAddr) (h : (l.map (·.1)).Nodup) : ((eraseA l a).map (·.1)).Nodup := by
  rw [keys_eraseA]
  exact h.sublist List.filter_sublist

theorem nodup_insertA {α} (l : List (NAddr × α)) (a : NAddr) (v : α) (h : (l.map (·.1)).Nodup) : ((insertA l a v).map (·.1)).Nodup := by
  cases hl : lookupA l a with
  | some w => rw [insertA_keys_of_some _ _ _ _ hl]; exact h
  | none =>
    have hn : a ∉ l.map (·.1) := (lookupA_none_iff l a).1 hl
    have hany : l.any (fun p => p.1 = a) = false := by
      rw [Bool.eq_false_iff]
      intro ht
      rw [List.any_eq_true] at ht
      obtain ⟨x, hx, hxa⟩ := ht
      exact hn (List.mem_map.2 ⟨x, hx, by simpa using hxa⟩)
    unfold insertA
    rw [hany]
    simp only [Bool.false_eq_true, if_false, List.map_append, List.map_cons, List.map_nil]
    rw [List.nodup_append]
    refine ⟨h, by simp, ?_⟩
    intro x hx y hy
    simp only [List.mem_singleton] at hy
    subst hy
    intro hxy
    exact hn (hxy ▸ hx)

theorem lookupA_insertA_self {α} (l : List (NAddr × α)) (a : NAddr) (v : α) : lookupA (insertA l a v) a = some v := by
  unfold insertA
  split
  · rename_i h
    unfold lookupA
    induction l with
    | nil => simp at h
    | cons x l ih =>
      by_cases hx : x.1 = a
      · simp [hx]
      · have h' : l.any (fun p => decide (p.1 = a)) = true := by simpa [hx] using h
        simp only [List.map_cons, hx, if_false, List.find?_cons, decide_false]
        exact ih h'
  · rename_i h
    unfold lookupA
    have : l.find? (fun p => decide (p.1 = a)) = none := by
      rw [List.find?_eq_none]
      intro x hx hxa
      apply h
      rw [List.any_eq_true]
      exact ⟨x, hx, hxa⟩
    rw [List.find?_append, this]
    simp

theorem lookupA_map_ne {α} (l : List (NAddr × α)) {a b : NAddr} (v : α) (h : b ≠ a) :
    lookupA (l.map (fun p => if p.1 = a then (a, v) else p)) b = lookupA l b := by
  have hab : ¬ a = b := fun e => h e.symm
  have hba : ¬ b = a := h
  induction l with
  | nil => rfl
  | cons x l ih =>
    unfold lookupA at ih ⊢
    by_cases hx : x.1 = a
    · have hxb : ¬ x.1 = b := fun e => h (e.symm.trans hx)
      simp only [List.map_cons, hx, if_true, List.find?_cons, hab, decide_false]
      exact ih
    · by_cases hxb : x.1 = b
      · simp only [List.map_cons, if_false, List.find?_cons, hxb, hba, decide_true]
      · simp only [List.map_cons, hx, if_false, List.find?_cons, hxb, decide_false]
        exact ih

theorem lookupA_insertA_ne {α} (l : List (NAddr × α)) {a b : NAddr} (v : α) (h : b ≠ a) :
    lookupA (insertA l a v) b = lookupA l b := by
  have hab : ¬ a = b := fun e => h e.symm
  unfold insertA
  split
  · exact lookupA_map_ne l v h
  · simp only [lookupA, List.find?_append, List.find?_cons, hab, decide_false, List.find?_nil, Option.or_none]

theorem insertA_insertA {α} (l : List (NAddr × α)) (a : NAddr) (v w : α) : insertA (insertA l a v) a w = insertA l a w := by
  have hself : (lookupA (insertA l a v) a).isSome = true := by rw [lookupA_insertA_self]; rfl
  have hany : (insertA l a v).any (fun p => decide (p.1 = a)) = true := by
    rw [lookupA_isSome_iff] at hself; simpa using hself
  rw [insertA_of_any _ _ _ hany]
  unfold insertA
  split
  · rw [List.map_map]; apply List.map_congr_left; intro x _; by_cases hx : x.1 = a <;> simp [hx]
  · rename_i hn
    rw [List.map_append, map_noKey l a w hn]
    simp

theorem eraseA_map_self {α} (l : List (NAddr × α)) (a : NAddr) (v : α) :
    eraseA (l.map (fun p => if p.1 = a then (a, v) else p)) a = eraseA l a := by
  unfold eraseA
  induction l with
  | nil => rfl
  | cons x l ih =>
    by_cases hx : x.1 = a
    · simp only [List.map_cons, List.filter_cons, hx, if_true, ne_eq, not_true_eq_false, decide_false, Bool.false_eq_true, if_false]
      exact ih
    · simp only [List.map_cons, List.filter_cons, hx, if_false, ne_eq, not_false_eq_true, decide_true, if_true]
      rw [ih]

theorem eraseA_insertA_self {α} (l : List (NAddr × α)) (a : NAddr) (v : α) : eraseA (insertA l a v) a = eraseA l a := by
  unfold insertA
  split
  · exact eraseA_map_self l a v
  · unfold eraseA; simp [List.filter_append]

theorem eraseA_idem {α} (l : List (NAddr × α)) (s : NAddr) : eraseA (eraseA l s) s = eraseA l s := by
  unfold eraseA
  rw [List.filter_filter]
  exact List.filter_congr fun _ _ => Bool.and_self _

theorem nodup_keys_unique {α} (l : List (NAddr × α)) {a : NAddr} {v w : α} (hnd : (l.map (·.1)).Nodup) (hv : (a, v) ∈ l) (hw : (a, w) ∈ l) :
    v = w :=
  Option.some.inj ((lookupA_of_mem_nodup hnd hv).symm.trans (lookupA_of_mem_nodup hnd hw))

theorem insertA_self_of_nodup {α} : ∀ (l : List (NAddr × α)) (a : NAddr) (v : α), (l.map (·.1)).Nodup → lookupA l a = some v →
    insertA l a v = l := by
  intro l a v hnd hl
  have hmem : (a, v) ∈ l := lookupA_some_mem hl
  have hany : l.any (fun p => p.1 = a) = true := by
    rw [List.any_eq_true]
    exact ⟨(a, v), hmem, by simp⟩
  unfold insertA
  rw [hany]
  simp only [if_true]
  have : ∀ x ∈ l, (if x.1 = a then (a, v) else x) = x := by
    intro x hx
    by_cases hxa : x.1 = a
    · rw [if_pos hxa]
      obtain ⟨x1, x2⟩ := x
      simp only at hxa
      subst hxa
      rw [nodup_keys_unique l hnd hmem hx]
    · rw [if_neg hxa]
  calc l.map (fun p => if p.1 = a then (a, v) else p) = l.map id := List.map_congr_left this
    _ = l := List.map_id l

theorem mappedAddr_idem (a : NAddr) : mappedAddr (mappedAddr a) = mappedAddr a := by cases a <;> rfl

theorem lookupA_eraseA_ne {α} (l : List (NAddr × α)) {a s : NAddr} (h : a ≠ s) : lookupA (eraseA l s) a = lookupA l a := by
  unfold lookupA eraseA
  rw [List.find?_filter]
  congr 2
  funext p
  by_cases hp : p.1 = a
  · simp [hp, h]
  · simp [hp]

theorem lookupA_of_eraseA_eq {α} {l1 l2 : List (NAddr × α)} {a s : NAddr} (h : eraseA l1 s = eraseA l2 s) (ha : a ≠ s) :
    lookupA l1 a = lookupA l2 a := by
  rw [← lookupA_eraseA_ne l1 ha, ← lookupA_eraseA_ne l2 ha, h]

theorem eraseA_insertA_ne {α} (l : List (NAddr × α)) {a s : NAddr} (v : α) (h : a ≠ s) :
    eraseA (insertA l a v) s = insertA (eraseA l s) a v := by
  have hany : (eraseA l s).any (fun p => decide (p.1 = a)) = l.any (fun p => decide (p.1 = a)) := by
    unfold eraseA
    rw [List.any_filter]
    congr 1
    funext p
    by_cases hp : p.1 = a
    · simp [hp, h]
    · simp [hp]
  have hf1 : ∀ x : NAddr × α, (if x.1 = a then (a, v) else x).1 = x.1 := by
    intro x; by_cases hx : x.1 = a <;> simp [hx]
  unfold insertA
  rw [hany]
  split
  · unfold eraseA
    rw [List.filter_map]
    congr 1
    apply List.filter_congr
    intro x _
    simp only [Function.comp, hf1]
  · unfold eraseA
    have : ¬ a = s := h
    simp [List.filter_append, this]

theorem eraseA_insertA_eq_of {α} {l1 l2 : List (NAddr × α)} {a s : NAddr} (v : α) (h : eraseA l1 s = eraseA l2 s) (ha : a ≠ s) :
    eraseA (insertA l1 a v) s = eraseA (insertA l2 a v) s := by
  rw [eraseA_insertA_ne l1 v ha, eraseA_insertA_ne l2 v ha, h]

theorem lookupA_insertA_isSome {α} (l : List (NAddr × α)) (a : NAddr) (v : α) : (lookupA (insertA l a v) a).isSome = true := by
  rw [lookupA_insertA_self]; rfl

end VpnCloud.Proofs.AssocLemmas
