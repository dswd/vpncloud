import VpnCloud.Proofs.Lemmas.Node.NodeInvLemmas
import VpnCloud.Proofs.Lemmas.Node.NetStepLemmas
/-
  Helper lemmas for `Proofs/C10More.lean` (forwarding isolation, exact once-only delivery):

  * the frames written to the interface during `handle_net_message`, computed exactly (`ifaces`, `handleNet_ifaces`),
  * `housekeep` / `connect` only emit datagrams, and what `housekeep` emits / seals (`HkOut`, `LogHk`),
  * `send_msg` / `broadcast_msg` computed exactly when the peer addresses are pairwise distinct.
  The round trip of one message between two sessions (`session_roundtrip`, namespace `C10MoreLemmas`) stands at the end of
  `SessionInvLemmas.lean`: it is a fact of the session layer alone; `resIface` (what a message result writes to the interface) and
  `outcomeIface`, of the same namespace, stand in `DatagramLemmas.lean` and `NetStepLemmas.lean`.
-/
namespace VpnCloud.Proofs.C10MoreLemmas

open VpnCloud.Node
open VpnCloud.Proofs.NodeLemmas VpnCloud.Proofs.SessionInvLemmas VpnCloud.Proofs.NodeInvLemmas

def ifaces (l : List Out) : List Out := l.filter (fun x => match x with | .iface _ => true | _ => false)

theorem ifaces_append (l e : List Out) : ifaces (l ++ e) = ifaces l ++ ifaces e := List.filter_append ..

theorem mem_ifaces {l : List Out} {b : Bytes} : Out.iface b ∈ ifaces l ↔ Out.iface b ∈ l := by
  unfold ifaces
  rw [List.mem_filter]
  simp

/-- the frames `handle_net_message` writes to the interface are those of the one session that handles the datagram (no hypothesis
    on the state) -/
theorem handleNet_ifaces (env : CryptoEnv) (bodyOf : Init.BodyOf) (o : Oracle) (n : Node) (now : Int) (src : NAddr) (data tail : Bytes) :
    NetStepLemmas.Handled env bodyOf o n (mappedAddr src) data tail (ifaces (handleNet env bodyOf o n now src data tail).1.outs) := by
  obtain ⟨fr, hfr, dg, hdg, ho⟩ := (NetStepLemmas.handleNet_effect env bodyOf o n now src data tail).outs
  -- of the outputs `fr ++ dg`, the frames are `fr`: `dg` are datagrams
  have hi : ifaces (handleNet env bodyOf o n now src data tail).1.outs = fr := by
    rw [ho, List.nil_append, ifaces_append]
    have h1 : ifaces dg = [] := List.filter_eq_nil_iff.2 fun x hx => by
      rcases hdg x hx with ⟨_, _, rfl⟩ | ⟨_, rfl⟩ <;> simp
    have h2 : ifaces fr = fr := by
      rcases hfr with rfl | ⟨_, _, _, _, _, rfl, _⟩ <;> rfl
    rw [h1, h2, List.append_nil]
  rw [hi]
  exact hfr

/-- `handle_net_message` for a datagram that the session of the established peer `src` opens as the DATA message `data`: all the
    node emits is the frame `data` on its interface (nothing if `data` does not parse as a frame / packet of the node's device
    type); in the node only the session of `src` (now the one that opened the datagram) and — when the node learns addresses —
    the table change -/
theorem handleNet_data (env : CryptoEnv) (bodyOf : Init.BodyOf) (o : Oracle) (n : Node) (now : Int) (src : NAddr)
    (bytes tail data : Bytes) (pb : Peer) (pc : PeerCrypto) (out : Bytes) (log : Init.SealLog)
    (hpb : lookupA n.peers (mappedAddr src) = some pb)
    (hopen : PeerCrypto.handleMessage env bodyOf payloadOk pb.crypto bytes tail
        (rndFor o { node := n } (mappedAddr src)).1 (rndFor o { node := n } (mappedAddr src)).2.1 =
      .ok pc out (.message Generated.MESSAGE_TYPE_DATA data) log) :
    (handleNet env bodyOf o n now src bytes tail).1.outs = (if (parseAddrs n data).isSome = true then [Out.iface data] else []) ∧
    (handleNet env bodyOf o n now src bytes tail).1.node =
      { n with peers := insertA n.peers (mappedAddr src) { pb with crypto := pc },
               table := match parseAddrs n data with
                 | some (sa, _) => if n.cfg.learning then n.table.learn now sa (addrId (mappedAddr src)) else n.table
                 | none => n.table } := by
  have hi : ¬ bytes.head? = some Generated.INIT_MESSAGE_FIRST_BYTE := fun hi =>
    handleMessage_init_not_message env bodyOf payloadOk pb.crypto bytes tail _ _ hi pc out _ data log hopen
  rw [handleNet_established env bodyOf o n now src bytes tail pb pc out _ log hpb hi hopen]
  have hpa : parseAddrs (addLog log ({ node := { n with peers := insertA n.peers (mappedAddr src) { pb with crypto := pc } } } : Ctx)).node data =
      parseAddrs n data := parseAddrs_congr _ _ _ rfl
  refine handleResult_message (M := fun ty r => ty = Generated.MESSAGE_TYPE_DATA →
      (finish (mappedAddr src) r).1.outs = _ ∧ (finish (mappedAddr src) r).1.node = _) env o _ now (mappedAddr src) _ data out
    (fun h _ => ?_) (fun sa da h _ => ?_) (fun _ h => absurd h (by decide)) (fun _ _ h => absurd h (by decide))
    (fun h => absurd h (by decide)) (fun h => absurd h (by decide)) (fun h _ _ _ e => absurd e h) rfl
  · rw [finish_of_not_fatal _ _ _ (by simp), ← hpa, h]
    exact ⟨rfl, rfl⟩
  · rw [finish_of_not_fatal _ _ _ (by simp), ← hpa, h]
    exact ⟨rfl, rfl⟩

/-- every genuine seal in the log is the seal of a ROTATION or a NODE_INFO message -/
def LogHk (log : Init.SealLog) : Prop :=
  ∀ ct b, (ct, b) ∈ log → ∀ k nn p, b = .sealed k nn p →
    p.head? = some Generated.MESSAGE_TYPE_ROTATION ∨ p.head? = some Generated.MESSAGE_TYPE_NODE_INFO

theorem logHk_nil : LogHk [] := LogPLemmas.logP_nil

theorem LogHk.append {l1 l2 : Init.SealLog} (h1 : LogHk l1) (h2 : LogHk l2) : LogHk (l1 ++ l2) :=
  LogPLemmas.LogP.append h1 h2

theorem sealMsg_logHk (pc pc' : PeerCrypto) (ty : Nat) (body ct bytes : Bytes) (log : Init.SealLog)
    (hty : ty = Generated.MESSAGE_TYPE_ROTATION ∨ ty = Generated.MESSAGE_TYPE_NODE_INFO)
    (h : PeerCrypto.sealMsg pc (ty :: body) ct = (pc', .ok (bytes, log))) : LogHk log := by
  refine LogPLemmas.sealMsg_logP pc _ ct bytes log (congrArg Prod.snd h) ?_
  rcases hty with rfl | rfl
  · exact Or.inl rfl
  · exact Or.inr rfl

/-- what `housekeep` may emit, relative to the seal log `L` of the step: a handshake datagram, the seal of a ROTATION message, or
    the seal of a NODE_INFO message carrying the node info of some node state -/
inductive HkOut (L : Init.SealLog) : Out → Prop
  | hs (d : NAddr) (b : Bytes) : HkOut L (.dgram d (Generated.INIT_MESSAGE_FIRST_BYTE :: b))
  | rot (d : NAddr) (pc pc' : PeerCrypto) (body ct bytes : Bytes) (log : Init.SealLog) :
      PeerCrypto.sealMsg pc (Generated.MESSAGE_TYPE_ROTATION :: body) ct = (pc', .ok (bytes, log)) → (∀ e ∈ log, e ∈ L) →
      HkOut L (.dgram d bytes)
  | info (d : NAddr) (pc pc' : PeerCrypto) (m : Node) (ct bytes : Bytes) (log : Init.SealLog) :
      PeerCrypto.sendMessage pc Generated.MESSAGE_TYPE_NODE_INFO (Codec.encodeNodeInfo (createNodeInfo m)) ct = (pc', .ok (bytes, log)) →
      (∀ e ∈ log, e ∈ L) → HkOut L (.dgram d bytes)

theorem HkOut.mono {L L' : Init.SealLog} {x : Out} (h : HkOut L x) (hl : ∀ e ∈ L, e ∈ L') : HkOut L' x := by
  cases h with
  | hs d b => exact .hs d b
  | rot d pc pc' body ct bytes log hs hm => exact .rot d pc pc' body ct bytes log hs (fun e he => hl e (hm e he))
  | info d pc pc' m ct bytes log hs hm => exact .info d pc pc' m ct bytes log hs (fun e he => hl e (hm e he))

theorem HkOut.isDgram {L : Init.SealLog} {x : Out} (h : HkOut L x) : ∃ d b, x = .dgram d b := by
  cases h <;> exact ⟨_, _, rfl⟩

theorem HkOut.of_isHs {L : Init.SealLog} {x : Out} (h : IsHs x) : HkOut L x := by
  obtain ⟨d, b, rfl⟩ := h
  exact .hs d b

/-- what every stage of `housekeep` keeps (`housekeep_hk`); at the end of the tick it is `C10More.housekeep_sends_no_payload` -/
def HkInv (c : Ctx) : Prop := (∀ x ∈ c.outs, HkOut c.log x) ∧ LogHk c.log

theorem HkInv.dial {u : Ctx → Ctx} {c c' : Ctx} (h : HkInv c) (hd : Dial u c c')
    (hu : ∀ c, (u c).log = c.log := by intro; rfl) : HkInv c' := by
  unfold HkInv
  rw [frame_proj hd.frame (·.log) hu]
  refine ⟨fun x hx => ?_, h.2⟩
  rcases hd.outs.mem hx with hx | hx
  · exact h.1 x hx
  · exact HkOut.of_isHs hx

theorem connectSock_hk (env : CryptoEnv) (o : Oracle) (c : Ctx) (a : NAddr) (h : HkInv c) : HkInv (connectSock env o c a) :=
  h.dial (connectSock_dial env o c a)

theorem HkInv.step {c : Ctx} (h : HkInv c) (n' : Node) (log : Init.SealLog) (hl : LogHk log) :
    HkInv (addLog log { c with node := n' }) := by
  refine ⟨fun x hx => ?_, h.2.append hl⟩
  exact (h.1 x hx).mono (fun e he => List.mem_append_left _ he)

theorem HkInv.send {c : Ctx} (h : HkInv c) (a : NAddr) (b : Bytes) (hb : HkOut c.log (.dgram a b)) : HkInv (c.send a b) := by
  refine ⟨fun x hx => ?_, h.2⟩
  simp only [send_outs, List.mem_append, List.mem_singleton] at hx
  rcases hx with hx | hx
  · exact h.1 x hx
  · rw [hx]; exact hb

theorem tick_hk {c : Ctx} (h : HkInv c) (n' : Node) (a : NAddr) {pc : PeerCrypto} {rr : RotRand} {pc' : PeerCrypto} {out : Bytes}
    {res : MsgResult} {log : Init.SealLog} (hok : PeerCrypto.everySecond pc rr = .ok pc' out res log) :
    HkInv (if res = .reply then (addLog log { c with node := n' }).send a out else addLog log { c with node := n' }) := by
  have hw := WireLemmas.everySecond_wire pc rr
  rw [hok] at hw
  have hw : (log = [] ∧ (res = .reply → ∃ b, out = Generated.INIT_MESSAGE_FIRST_BYTE :: b)) ∨
      (∃ pc4 m, PeerCrypto.sealMsg pc4 (Generated.MESSAGE_TYPE_ROTATION :: Codec.writeRotMsg (PeerCrypto.rotMsgToBytes m)) rr.ct =
        (pc', .ok (out, log))) := hw
  have hl : LogHk log := by
    rcases hw with ⟨h0, _⟩ | ⟨pc4, m, hs⟩
    · rw [h0]; exact logHk_nil
    · exact sealMsg_logHk pc4 pc' _ _ rr.ct out log (Or.inl rfl) hs
  have h1 := h.step n' log hl
  split
  · rename_i hr
    apply h1.send
    rcases hw with ⟨_, hb⟩ | ⟨pc4, m, hs⟩
    · obtain ⟨b, rfl⟩ := hb hr
      exact .hs a b
    · exact .rot a pc4 pc' _ rr.ct out log hs (fun e he => List.mem_append_right _ he)
  · exact h1

theorem cryptoHousekeep_hk (env : CryptoEnv) (o : Oracle) (c : Ctx) (now : Int) (h : HkInv c) : HkInv (cryptoHousekeep env o c now) := by
  rw [C09MoreLemmas.cryptoHousekeep_eq]
  refine foldl_inv HkInv _ (fun c a hc => ?_) _ _ (foldl_inv HkInv _ (fun c a hc => ?_) _ _ h)
  · exact C09MoreLemmas.peerStep_cases (M := HkInv) env o now c a (fun _ => hc) (fun _ _ _ _ _ _ => connectSock_hk env o _ a hc)
      (fun _ _ _ _ => hc) (fun _ _ _ _ _ _ _ hok => tick_hk hc _ a hok)
  · exact C09MoreLemmas.pendStep_cases (M := HkInv) o c a (fun _ => hc) (fun _ _ _ _ _ _ => hc) (fun _ _ _ _ => hc)
      (fun _ _ _ _ _ _ _ hok => tick_hk hc _ a hok)

theorem sendMsg_hk (o : Oracle) (c : Ctx) (a : NAddr) (m : Node) (h : HkInv c) :
    HkInv ((sendMsg o c a Generated.MESSAGE_TYPE_NODE_INFO (Codec.encodeNodeInfo (createNodeInfo m))).getD c) := by
  rw [sendMsg_eq]
  cases hst : sendTo o c Generated.MESSAGE_TYPE_NODE_INFO (Codec.encodeNodeInfo (createNodeInfo m)) a with
  | none => exact h
  | some s =>
    obtain ⟨p, pc', _, hs, _⟩ := sendTo_some hst
    apply (h.step _ s.2.2 (sealMsg_logHk _ pc' _ _ _ s.2.1 s.2.2 (Or.inr rfl) hs)).send
    exact .info a p.crypto pc' m _ s.2.1 s.2.2 hs (fun e he => List.mem_append_right _ he)

theorem broadcastMsg_hk (o : Oracle) (c : Ctx) (m : Node) (h : HkInv c) :
    HkInv (broadcastMsg o c Generated.MESSAGE_TYPE_NODE_INFO (Codec.encodeNodeInfo (createNodeInfo m))) := by
  unfold broadcastMsg
  exact foldl_inv HkInv _ (fun c a hc => sendMsg_hk o c a m hc) _ _ h

theorem hkAnnounce_hk (o : Oracle) (c : Ctx) (now : Int) (h : HkInv c) : HkInv (hkAnnounce o c now) := by
  have hb := broadcastMsg_hk o c c.node h
  exact hkAnnounce_cases (M := HkInv) o c now (fun _ => h) (fun _ _ => hb) (fun _ _ => hb)

theorem reconnectToPeers_hk (env : CryptoEnv) (o : Oracle) (c : Ctx) (now : Int) (h : HkInv c) : HkInv (reconnectToPeers env o c now) := by
  unfold reconnectToPeers
  refine foldl_inv HkInv _ (fun c e hc => ?_) _ _ h
  split
  · exact hc
  · exact hc.dial (connect_dial env o c _)

theorem hkDead_hk (env : CryptoEnv) (o : Oracle) (n : Node) (now : Int) : HkInv (hkDead env o n now) := by
  unfold hkDead
  apply foldl_inv HkInv
  · exact fun c a hc => connectSock_hk env o _ a hc
  · exact ⟨fun x hx => (by cases hx), logHk_nil⟩

theorem hkOwn_hk (c : Ctx) (now : Int) (h : HkInv c) : HkInv (hkOwn c now) := by
  unfold hkOwn
  split
  · exact h
  · exact h

theorem housekeep_hk (env : CryptoEnv) (o : Oracle) (n : Node) (now : Int) : HkInv (housekeep env o n now) := by
  rw [housekeep_eq]
  apply hkOwn_hk
  apply reconnectToPeers_hk
  apply hkAnnounce_hk
  apply cryptoHousekeep_hk
  exact hkDead_hk env o n now

/-- what `send_msg` puts on the wire for peer `a` of node `n` as the first datagram of a step -/
def sealFor (o : Oracle) (n : Node) (ty : Nat) (body : Bytes) (a : NAddr) : Option Bytes :=
  match lookupA n.peers a with
  | none => none
  | some p =>
    match (PeerCrypto.sendMessage p.crypto ty body (rndFor o { node := n } a).2.1.ct).2 with
    | .ok (bytes, _) => some bytes
    | .error _ => none

theorem sealFor_eq (o : Oracle) (n : Node) (ty : Nat) (body : Bytes) (a : NAddr) :
    sealFor o n ty body a = (sendTo o { node := n } ty body a).map (·.2.1) := by
  unfold sealFor sendTo
  cases lookupA n.peers a with
  | none => rfl
  | some p =>
    simp only []
    rcases PeerCrypto.sendMessage p.crypto ty body (rndFor o { node := n } a).2.1.ct with ⟨pc', r⟩
    cases r with
    | error e => rfl
    | ok x => rfl

theorem sealFor_some (o : Oracle) (n : Node) (ty : Nat) (body : Bytes) (a : NAddr) (bytes : Bytes) :
    sealFor o n ty body a = some bytes ↔
      ∃ p pc' log, lookupA n.peers a = some p ∧
        PeerCrypto.sendMessage p.crypto ty body (rndFor o { node := n } a).2.1.ct = (pc', .ok (bytes, log)) := by
  rw [sealFor_eq, Option.map_eq_some_iff]
  constructor
  · rintro ⟨s, hs, rfl⟩
    obtain ⟨p, pc', hp, hm, _⟩ := sendTo_some hs
    exact ⟨p, pc', s.2.2, hp, hm⟩
  · rintro ⟨p, pc', log, hp, hm⟩
    exact ⟨({ p with crypto := pc' }, bytes, log), by simp only [sendTo, hp, hm], rfl⟩

theorem sendMsg_outs (o : Oracle) (n : Node) (c : Ctx) (a : NAddr) (ty : Nat) (body : Bytes)
    (hp : lookupA c.node.peers a = lookupA n.peers a) (hc : c.count a = 0) :
    ((sendMsg o c a ty body).getD c).outs = c.outs ++ ((sealFor o n ty body a).map (Out.dgram a)).toList := by
  rw [(sendMsg_effect o c a ty body).1, sendTo_congr o ty body (c0 := { node := n }) ⟨hp, hc⟩, sealFor_eq, Option.map_map]
  rfl

/-- `broadcast_msg` from the state at the beginning of a step, peer addresses pairwise distinct: one datagram for every peer whose session
    can seal, in the order of the peer list, each sealed by that peer's session as stored in `n` -/
theorem broadcastMsg_outs (o : Oracle) (n : Node) (ty : Nat) (body : Bytes) (hnd : (n.peers.map (·.1)).Nodup) :
    (broadcastMsg o { node := n } ty body).outs = (n.peers.map (·.1)).filterMap (fun a => (sealFor o n ty body a).map (Out.dgram a)) := by
  unfold broadcastMsg
  rw [(foldl_sendMsg o ty body { node := n } _ _ hnd (fun _ _ => ⟨rfl, rfl⟩)).1]
  simp only [sealFor_eq, Option.map_map]
  rfl

end VpnCloud.Proofs.C10MoreLemmas
