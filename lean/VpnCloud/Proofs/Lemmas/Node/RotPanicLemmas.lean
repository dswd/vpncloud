import VpnCloud.Proofs.Lemmas.Node.NodeInvLemmas
/-
  Helper lemmas for `Proofs/RotPanic.lean` (the `derive_key(..).unwrap()` panic site of `RotationState::process_message`):

  * what `RotationMessage::write_to` writes for a message whose keys are 32 bytes long is read back with keys of 32 bytes
    (for EVERY id, also one that does not fit a `u64`: only the low 64 bits are written);
  * `LogRot` (every seal in a log is the seal of a ROTATION message written from 32-byte keys, an instance of `LogPLemmas.LogP`;
    `LogRot.valid`: such a log meets `LogRotValid`) through `every_second` and the end of the handshake;
  * `rotatePanics` / `derivePanics` by cases (what a panic of `handle_message` says about the datagram is `SessionInvLemmas.KeepsInit`);
  * a datagram whose ciphertext is no seal under a key of the core is rejected by the core.
-/
namespace VpnCloud.Proofs.RotPanicLemmas

open VpnCloud.Codec
open VpnCloud.Proofs.SessionInvLemmas VpnCloud.Proofs.NodeInvLemmas VpnCloud.Proofs.C09MoreLemmas

/-- `read_from ∘ write_to` on a message whose keys have 32 bytes: the keys come back unchanged, the id modulo `2^64` (`write_to` writes
    its low eight bytes, `read_from` takes any eight bytes) -/
theorem read_write_keys32 (m : RotMsg) (hp : m.propose.length = 32) (hc : ∀ c, m.confirm = some c → c.length = 32) :
    readRotMsg (writeRotMsg m) = some { m with id := m.id % 2 ^ 64 } := by
  refine (CodecLemmas.readRotMsg_eq_some_iff _ _).2 ⟨Bytes.ofBE 8 m.id, [], Bytes.ofBE_length 8 m.id, (Bytes.beVal_ofBE 8 m.id).symm,
    fun c h => by rw [hc c h]; decide, ?_⟩
  unfold writeRotMsg
  rw [hp]
  cases hcf : m.confirm with
  | none => simp only [List.append_assoc, List.cons_append, List.nil_append]
  | some c => simp only [hc c hcf, List.append_assoc, List.cons_append, List.nil_append, List.append_nil]

theorem rotMsgToBytes_propose (m : Rot.Msg) : (PeerCrypto.rotMsgToBytes m).propose.length = 32 :=
  Bytes.ofBE_length _ _

theorem rotMsgToBytes_confirm (m : Rot.Msg) (c : Bytes) (h : (PeerCrypto.rotMsgToBytes m).confirm = some c) : c.length = 32 := by
  obtain ⟨id, pr, cf⟩ := m
  cases cf with
  | none => cases h
  | some c0 =>
    simp only [PeerCrypto.rotMsgToBytes, Option.map_some, Option.some.injEq] at h
    subst h
    exact Bytes.ofBE_length _ _

/-- the wire form of every rotation message the session layer writes (`rotMsgToBytes`: public keys as 32 bytes, what
    `compute_public_key` of an X25519 private key yields) is read back with keys of 32 bytes -/
theorem written_keysOK (m : Rot.Msg) : RotKeysOK (writeRotMsg (PeerCrypto.rotMsgToBytes m)) := by
  intro bm hbm
  rw [read_write_keys32 _ (rotMsgToBytes_propose m) (rotMsgToBytes_confirm m)] at hbm
  simp only [Option.some.injEq] at hbm
  subst hbm
  exact ⟨rotMsgToBytes_propose m, rotMsgToBytes_confirm m⟩

/-- every seal in the log is the seal of a ROTATION message written by `write_to` from 32-byte keys -/
def LogRot (log : Init.SealLog) : Prop :=
  ∀ ct b, (ct, b) ∈ log → ∀ k n p, b = .sealed k n p →
    ∃ m : Rot.Msg, p = Generated.MESSAGE_TYPE_ROTATION :: writeRotMsg (PeerCrypto.rotMsgToBytes m)

/-- every seal of a ROTATION message in the log carries keys of 32 bytes -/
def LogRotValid (log : Init.SealLog) : Prop :=
  ∀ ct k n body, (ct, Body.sealed k n (Generated.MESSAGE_TYPE_ROTATION :: body)) ∈ log → RotKeysOK body

theorem LogRot.valid {log : Init.SealLog} (h : LogRot log) : LogRotValid log := by
  intro ct k n body hm
  obtain ⟨m, hp⟩ := h ct _ hm k n _ rfl
  simp only [List.cons.injEq, true_and] at hp
  rw [hp]
  exact written_keysOK m

theorem sealMsg_logRot (pc pc' : PeerCrypto) (m : Rot.Msg) (ct bytes : Bytes) (log : Init.SealLog)
    (h : PeerCrypto.sealMsg pc (Generated.MESSAGE_TYPE_ROTATION :: writeRotMsg (PeerCrypto.rotMsgToBytes m)) ct = (pc', .ok (bytes, log))) :
    LogRot log :=
  LogPLemmas.sealMsg_logP (P := fun p => ∃ m : Rot.Msg, p = Generated.MESSAGE_TYPE_ROTATION :: writeRotMsg (PeerCrypto.rotMsgToBytes m))
    pc _ ct bytes log (congrArg Prod.snd h) ⟨m, rfl⟩

/-- what `every_second` seals is the rotation message of its `cycle` -/
theorem everySecond_logRot {pc : PeerCrypto} {rr : RotRand} {pc' : PeerCrypto} {out : Bytes} {res : MsgResult} {log : Init.SealLog}
    (h : PeerCrypto.everySecond pc rr = .ok pc' out res log) : LogRot log := by
  have hw := WireLemmas.everySecond_wire pc rr
  rw [h] at hw
  rcases hw with ⟨rfl, _⟩ | ⟨pc4, m, hs⟩
  · exact LogPLemmas.logP_nil
  · exact sealMsg_logRot pc4 pc' m rr.ct out log hs

/-- the log after a completed handshake: the log of the handshake layer, followed by nothing or by the seal of the first rotation message -/
theorem successOut_logRot (pc1 : PeerCrypto) (core : Option Core) (ini : Bool) (out1 payload : Bytes) (ilog : Init.SealLog) (rr : RotRand) :
    LogPLemmas.SuccLogP (fun p => ∃ m : Rot.Msg, p = Generated.MESSAGE_TYPE_ROTATION :: writeRotMsg (PeerCrypto.rotMsgToBytes m)) ilog
      (successOut pc1 core ini out1 payload ilog rr) :=
  LogPLemmas.successOut_logP (fun m => ⟨m, rfl⟩) ..

theorem derivePanics_iff (sd : Rot.Side) (bm : RotMsg) :
    PeerCrypto.derivePanics sd bm = true ↔
      sd.id < bm.id ∧ (bm.propose.length ≠ 32 ∨ ∃ c p, bm.confirm = some c ∧ sd.proposed = some p ∧ c.length ≠ 32) := by
  unfold PeerCrypto.derivePanics PeerCrypto.ROT_KEY_LEN
  split
  · rename_i h
    constructor
    · intro hf; cases hf
    · rintro ⟨h1, _⟩; omega
  · rename_i h
    split
    · rename_i h2
      exact ⟨fun _ => ⟨by omega, Or.inl h2⟩, fun _ => rfl⟩
    · rename_i h2
      split
      · rename_i c p hc hp
        simp only [decide_eq_true_eq]
        constructor
        · intro h3
          exact ⟨by omega, Or.inr ⟨c, p, hc, hp, h3⟩⟩
        · rintro ⟨_, h3 | ⟨c', p', hc', _, h3⟩⟩
          · exact absurd h3 h2
          · rw [hc] at hc'; cases hc'; exact h3
      · rename_i hno
        constructor
        · intro hf; cases hf
        · rintro ⟨_, h3 | ⟨c', p', hc', hp', _⟩⟩
          · exact absurd h3 h2
          · exact absurd hp' (hno c' p' hc')

theorem rotatePanics_iff (pc : PeerCrypto) (data : Bytes) :
    PeerCrypto.rotatePanics pc data = true ↔
      pc.unencrypted = false ∧ ∃ sd bm, pc.rot = some sd ∧ readRotMsg data = some bm ∧ PeerCrypto.derivePanics sd bm = true := by
  unfold PeerCrypto.rotatePanics
  split
  · rename_i hu
    constructor
    · intro hf; cases hf
    · rintro ⟨h, _⟩; rw [hu] at h; cases h
  · rename_i hu
    have hu' : pc.unencrypted = false := by simpa using hu
    split
    · rename_i hr
      constructor
      · intro hf; cases hf
      · rintro ⟨_, sd, bm, h, _⟩; rw [hr] at h; cases h
    · rename_i sd hr
      split
      · rename_i hm
        constructor
        · intro hf; cases hf
        · rintro ⟨_, sd', bm, _, h, _⟩; rw [hm] at h; cases h
      · rename_i bm hm
        constructor
        · intro h; exact ⟨hu', sd, bm, hr, hm, h⟩
        · rintro ⟨_, sd', bm', h1, h2, h3⟩
          rw [hr] at h1; rw [hm] at h2
          cases h1; cases h2
          exact h3

theorem not_keysOK_of_rotatePanics (pc : PeerCrypto) (data : Bytes) (h : PeerCrypto.rotatePanics pc data = true) : ¬ RotKeysOK data := by
  intro hk
  rw [rotatePanics_of_keysOK pc data hk] at h
  cases h

/-- the ciphertext of the datagram (the bytes behind the 8 header bytes) is, in the ideal-AEAD view, no seal under any key a slot of
    the core holds: garbage, or a seal under some other key.  This is all a sender WITHOUT the session keys can produce, apart from
    replaying what a key holder sealed. -/
def NoSessionSeal (bodyOf : Init.BodyOf) (core : Core) (data : Bytes) : Prop :=
  ∀ k n p, bodyOf (data.drop 8) = .sealed k n p → ∀ s ∈ core.slots, s.key ≠ k

theorem noSessionSeal_rejected (bodyOf : Init.BodyOf) (core : Core) (data : Bytes) (h : NoSessionSeal bodyOf core data) :
    ∃ e', (core.decrypt (dgramOf bodyOf data)).2 = .error e' := by
  cases hr : (core.decrypt (dgramOf bodyOf data)).2 with
  | error e => exact ⟨e, rfl⟩
  | ok p =>
    exfalso
    obtain ⟨_, _, k, hk, hb⟩ := VpnCloud.Proofs.C02.accepted_is_genuine core _ p hr
    exact h k.key _ p hb k (List.mem_of_getElem? hk) rfl

end VpnCloud.Proofs.RotPanicLemmas
