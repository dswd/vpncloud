import VpnCloud.Proofs.Lemmas.Node.DatagramLemmas
import VpnCloud.Proofs.Lemmas.Node.SessionInvLemmas
/-
  What one datagram does to the peer addresses, the announcement schedule and the routing table of a node: nothing joins or
  leaves (the table is untouched, learns one address for the sender, or gets the claims of the sender set), the sender joins
  (`Joined`: its handshake object completes on the datagram and reports node information; schedule pulled to `now`; the claims
  of that information set), or the sender leaves (its CLOSE message, opened by the session of
  the established peer; its entries removed).  `KeyStep` says this for one result of the session layer, `NetStep` for the datagram.
  Beside it, uniformly in all cases: the records of other addresses are untouched (`eraseA … s` of the peer list is the same), and
  the outputs are the frame of a DATA message that parses, then handshake datagrams and datagrams to the sender (`OutsStep`).
  `handleNet_effect` has the three together.
-/
namespace VpnCloud.Proofs.C10MoreLemmas

def outcomeIface (n : Node) : POutcome MsgResult → List Out
  | .ok _ _ res _ => resIface n res
  | _ => []

/-- all `outcomeIface` can be: nothing, or the one frame of a DATA message that parses -/
theorem outcomeIface_cases (n : Node) (r : POutcome MsgResult) :
    outcomeIface n r = [] ∨ ∃ pc out b log, r = .ok pc out (.message Generated.MESSAGE_TYPE_DATA b) log ∧
      (Node.parseAddrs n b).isSome = true ∧ outcomeIface n r = [.iface b] := by
  cases r with
  | ok pc out res log =>
    cases res with
    | message ty data =>
      by_cases hc : ty = Generated.MESSAGE_TYPE_DATA ∧ (Node.parseAddrs n data).isSome = true
      · obtain ⟨rfl, hp⟩ := hc
        exact Or.inr ⟨pc, out, data, log, rfl, hp, if_pos ⟨rfl, hp⟩⟩
      · exact Or.inl (if_neg hc)
    | _ => exact Or.inl rfl
  | _ => exact Or.inl rfl

open VpnCloud.Proofs.SessionInvLemmas in
theorem handleMessage_init_not_message (env : CryptoEnv) (bodyOf : Init.BodyOf) (ok : Bytes → Bool) (pc : PeerCrypto) (data tail : Bytes)
    (rnd : Rand) (rr : RotRand) (hinit : data.head? = some Generated.INIT_MESSAGE_FIRST_BYTE)
    (pc' : PeerCrypto) (out : Bytes) (ty : Nat) (b : Bytes) (log : Init.SealLog) :
    PeerCrypto.handleMessage env bodyOf ok pc data tail rnd rr ≠ .ok pc' out (.message ty b) log := by
  intro h
  rcases handleMessage_marker_ok env bodyOf ok pc pc' data tail rnd rr out _ log hinit h with h1 | ⟨_, _, _, _, _, _, _, _, h1 | h1, _⟩ <;> cases h1

end VpnCloud.Proofs.C10MoreLemmas

namespace VpnCloud.Proofs.NetStepLemmas

open VpnCloud.Node
open VpnCloud.Proofs.AssocLemmas VpnCloud.Proofs.NodeLemmas VpnCloud.Proofs.SessionInvLemmas
open VpnCloud.Proofs.C10MoreLemmas (resIface resIface_congr outcomeIface outcomeIface_cases handleMessage_init_not_message)

/-- the table when nobody joins or leaves: untouched, one address learned for `s` (learning mode, from a message), or the claims of
    the peer `s` set -/
def TblKeep (now : Int) (s : NAddr) (res : MsgResult) (n n' : Node) : Prop :=
  n'.table = n.table ∨
  (∃ addr, n.cfg.learning = true ∧ n'.table = n.table.learn now addr (addrId s) ∧ ∃ ty d, res = .message ty d) ∨
  ∃ cs, s ∈ n.peers.map (·.1) ∧ n'.table = n.table.setClaims now (addrId s) cs

/-- `P`: a handshake is pending for `s` when `handle_message` runs (`add_new_peer` does nothing otherwise) -/
inductive KeyStep (now : Int) (s : NAddr) (res : MsgResult) (P : Prop) (n n' : Node) : Prop
  | same : n'.peers.map (·.1) = n.peers.map (·.1) → n'.nextPeers = n.nextPeers → TblKeep now s res n n' → KeyStep now s res P n n'
  | join (pl : Bytes) (info : NodeInfo) : res = .initialized pl ∨ res = .initializedWithReply pl → Codec.decodeNodeInfo pl = some info → P →
      (∀ b, b ∈ n'.peers.map (·.1) ↔ b = s ∨ b ∈ n.peers.map (·.1)) →
      n'.nextPeers = min n.nextPeers now → n'.table = n.table.setClaims now (addrId s) info.claims → KeyStep now s res P n n'
  | leave (body : Bytes) : res = .message Generated.MESSAGE_TYPE_CLOSE body → s ∈ n.peers.map (·.1) →
      n'.peers = eraseA n.peers s → n'.nextPeers = n.nextPeers → n'.table = n.table.removeClaims now (addrId s) →
      KeyStep now s res P n n'

theorem addNewPeer_keyStep (env : CryptoEnv) (o : Oracle) (c : Ctx) (now : Int) (s : NAddr) (info : NodeInfo) {res : MsgResult} (pl : Bytes)
    (hres : res = .initialized pl ∨ res = .initializedWithReply pl) (hd : Codec.decodeNodeInfo pl = some info) :
    KeyStep now s res ((lookupA c.node.pending s).isSome = true) c.node (addNewPeer env o c now s info).node := by
  cases hpc : lookupA c.node.pending s with
  | none => rw [C15MoreLemmas.addNewPeer_none env o c now s info hpc]; exact .same rfl rfl (Or.inl rfl)
  | some pc =>
    rw [C15MoreLemmas.addNewPeer_eq hpc]
    refine .join pl info hres hd rfl (fun b => ?_) ?_ ?_
    · show b ∈ (updatePeerInfo env o _ now s (some info)).node.peers.map (·.1) ↔ _
      rw [updatePeerInfo_keys]
      exact ⟨key_mem_insertA, fun h => h.elim (fun e => e ▸ mem_key (lookupA_some_mem (lookupA_insertA_self _ _ _)))
        (key_mem_insertA_of_mem _ _ _ _)⟩
    · show min (updatePeerInfo env o _ now s (some info)).node.nextPeers now = _
      rw [updatePeerInfo_nextPeers]
    · show (updatePeerInfo env o _ now s (some info)).node.table = _
      rw [updatePeerInfo_table_some env o _ now s info ?p ?hl]
      case hl => exact lookupA_insertA_self _ _ _

theorem updatePeerInfo_tblKeep (env : CryptoEnv) (o : Oracle) (c : Ctx) (now : Int) (s : NAddr) (res : MsgResult) (info : Option NodeInfo) :
    TblKeep now s res c.node (updatePeerInfo env o c now s info).node := by
  cases info with
  | none => exact Or.inl (updatePeerInfo_table_none ..)
  | some i =>
    cases hp : lookupA c.node.peers s with
    | none => rw [C15MoreLemmas.updatePeerInfo_absent hp]; exact Or.inl rfl
    | some p => exact Or.inr (Or.inr ⟨i.claims, mem_key (lookupA_some_mem hp), updatePeerInfo_table_some env o c now s i p hp⟩)

theorem handleResult_keyStep (env : CryptoEnv) (o : Oracle) (c : Ctx) (now : Int) (s : NAddr) (res : MsgResult) (out : Bytes) :
    KeyStep now s res ((lookupA c.node.pending s).isSome = true) c.node (handleResult env o c now s res out).1.node := by
  apply handleResult_leaves (M := fun r => KeyStep now s res _ c.node r.1.node)
  · exact fun _ _ => .same rfl rfl (Or.inl rfl)
  · exact fun ty d _ hr ht => .same rfl rfl (ht.elim Or.inl fun h => Or.inr (Or.inl ⟨h.2.choose, h.1, h.2.choose_spec, ty, d, hr⟩))
  · exact fun _ _ _ => .same rfl rfl (Or.inl rfl)
  · exact fun _ _ _ _ => .same (updatePeerInfo_keys ..) (updatePeerInfo_nextPeers ..) (updatePeerInfo_tblKeep ..)
  · intro d hr
    unfold removePeer
    simp only []
    split
    · exact .same rfl rfl (Or.inl rfl)
    · rename_i p hp
      exact .leave d hr (mem_key (lookupA_some_mem hp)) rfl rfl rfl
  · exact fun p info hr hd => addNewPeer_keyStep env o c now s info p (Or.inl hr) hd
  · exact fun p info hr hd => addNewPeer_keyStep env o c now s info p (Or.inr hr) hd
  · exact fun _ => .same rfl rfl (Or.inl rfl)

theorem KeyStep.pre {now : Int} {s : NAddr} {res : MsgResult} {P : Prop} {n0 n n' : Node} (h : KeyStep now s res P n n')
    (hk : n.peers.map (·.1) = n0.peers.map (·.1)) (hn : n.nextPeers = n0.nextPeers)
    (he : eraseA n.peers s = eraseA n0.peers s) (ht : n.table = n0.table) (hc : n.cfg = n0.cfg) :
    KeyStep now s res P n0 n' := by
  cases h with
  | same h1 h2 h3 => exact .same (h1.trans hk) (h2.trans hn) (by unfold TblKeep at h3 ⊢; rw [ht, hk, hc] at h3; exact h3)
  | join pl info h1 hd hP h2 h3 h4 => exact .join pl info h1 hd hP (fun b => hk ▸ h2 b) (hn ▸ h3) (ht ▸ h4)
  | leave b h1 h2 h3 h4 h5 => exact .leave b h1 (hk ▸ h2) (h3.trans he) (h4.trans hn) (ht ▸ h5)

theorem storePc_rest (c : Ctx) (s : NAddr) (inPeers : Bool) (pc : PeerCrypto) :
    eraseA (storePc c s inPeers pc).node.peers s = eraseA c.node.peers s := by
  unfold storePc
  simp only []
  split
  · split
    · exact eraseA_insertA_self _ _ _
    · rfl
  · rfl

theorem applyOutcome_keyStep (env : CryptoEnv) (o : Oracle) (c : Ctx) (now : Int) (s : NAddr) (inPeers : Bool) (r : POutcome MsgResult) :
    ((applyOutcome env o c now s inPeers r).1.node.peers.map (·.1) = c.node.peers.map (·.1) ∧
      (applyOutcome env o c now s inPeers r).1.node.nextPeers = c.node.nextPeers ∧
      (applyOutcome env o c now s inPeers r).1.node.table = c.node.table) ∨
    ∃ pc out res log, r = .ok pc out res log ∧
      KeyStep now s res ((lookupA (storePc c s inPeers pc).node.pending s).isSome = true) c.node
        (applyOutcome env o c now s inPeers r).1.node := by
  rw [applyOutcome_eq]
  cases r with
  | panic => exact Or.inl ⟨rfl, rfl, rfl⟩
  | err pc e =>
    exact Or.inl ⟨storePc_keys c s inPeers pc, frame_proj (storePc_frame c s inPeers pc) (·.node.nextPeers),
      frame_proj (storePc_frame c s inPeers pc) (·.node.table)⟩
  | ok pc out res log =>
    have h := storePc_frame c s inPeers pc
    exact Or.inr ⟨pc, out, res, log, rfl, (handleResult_keyStep env o (addLog log (storePc c s inPeers pc)) now s res out).pre (storePc_keys c s inPeers pc)
      (frame_proj h (·.node.nextPeers)) (storePc_rest c s inPeers pc) (frame_proj h (·.node.table)) (frame_proj h (·.node.cfg))⟩

theorem updatePeerInfo_rest (env : CryptoEnv) (o : Oracle) (c : Ctx) (now : Int) (s : NAddr) (info : Option NodeInfo) :
    eraseA (updatePeerInfo env o c now s info).node.peers s = eraseA c.node.peers s := by
  cases hp : lookupA c.node.peers s with
  | none => rw [C15MoreLemmas.updatePeerInfo_absent hp]
  | some p => rw [C15MoreLemmas.updatePeerInfo_peers env o c now s info p hp]; exact eraseA_insertA_self _ _ _

theorem addNewPeer_rest (env : CryptoEnv) (o : Oracle) (c : Ctx) (now : Int) (s : NAddr) (info : NodeInfo) :
    eraseA (addNewPeer env o c now s info).node.peers s = eraseA c.node.peers s := by
  cases hp : lookupA c.node.pending s with
  | none => rw [C15MoreLemmas.addNewPeer_none env o c now s info hp]
  | some pc =>
    rw [C15MoreLemmas.addNewPeer_eq hp]
    exact (updatePeerInfo_rest ..).trans (eraseA_insertA_self _ _ _)

theorem handleResult_rest (env : CryptoEnv) (o : Oracle) (c : Ctx) (now : Int) (s : NAddr) (res : MsgResult) (out : Bytes) :
    eraseA (handleResult env o c now s res out).1.node.peers s = eraseA c.node.peers s := by
  apply handleResult_leaves (M := fun r => eraseA r.1.node.peers s = eraseA c.node.peers s)
  · exact fun _ _ => rfl
  · exact fun _ _ _ _ _ => rfl
  · exact fun _ _ _ => rfl
  · exact fun _ _ _ _ => updatePeerInfo_rest ..
  · intro _ _
    unfold removePeer
    simp only []
    split
    · rfl
    · exact eraseA_idem _ _
  · exact fun _ _ _ _ => addNewPeer_rest ..
  · exact fun _ _ _ _ => addNewPeer_rest ..
  · exact fun _ => rfl

/-- the outputs grow by `fr`, then by handshake datagrams and datagrams to `s` -/
def OutsStep (s : NAddr) (fr outs outs' : List Out) : Prop :=
  ∃ dg, (∀ x ∈ dg, IsHs x ∨ ∃ b, x = .dgram s b) ∧ outs' = outs ++ fr ++ dg

theorem OutsStep.of_ext {s : NAddr} {outs outs' : List Out} (h : Ext IsHs outs outs') : OutsStep s [] outs outs' :=
  h.elim fun ex hx => ⟨ex, fun x hm => Or.inl (hx.2 x hm), by rw [hx.1, List.append_nil]⟩

theorem OutsStep.send {s : NAddr} {fr outs outs' : List Out} (h : OutsStep s fr outs outs') (b : Bytes) :
    OutsStep s fr outs (outs' ++ [.dgram s b]) :=
  h.elim fun dg hd => ⟨dg ++ [.dgram s b], fun x hm => (List.mem_append.1 hm).elim (hd.1 x)
    (fun hx => Or.inr ⟨b, List.mem_singleton.1 hx⟩), by rw [hd.2, List.append_assoc]⟩

theorem OutsStep.refl (s : NAddr) (outs : List Out) : OutsStep s [] outs outs := ⟨[], nofun, by simp⟩

theorem handleResult_outs (env : CryptoEnv) (o : Oracle) (c : Ctx) (now : Int) (s : NAddr) (res : MsgResult) (out : Bytes) :
    OutsStep s (resIface c.node res) c.outs (handleResult env o c now s res out).1.outs := by
  have plain : PlainRes res → OutsStep s (resIface c.node res) c.outs (handleResult env o c now s res out).1.outs := fun h =>
    (handleResult_plain_outs env o c now s out h).elim fun ex hx => ⟨ex, fun x hm => Or.inl (hx.2 x hm), hx.1⟩
  cases res with
  | message ty data => exact plain (Or.inr ⟨ty, data, rfl⟩)
  | initialized payload =>
    simp only [handleResult, resIface]
    split
    · exact .of_ext (addNewPeer_ext env o c now s _)
    · exact .refl s _
  | initializedWithReply payload =>
    simp only [handleResult, resIface]
    split
    · rw [send_outs]
      exact (OutsStep.of_ext (addNewPeer_ext env o c now s _)).send out
    · exact .refl s _
  | reply =>
    simp only [handleResult, resIface, send_outs]
    exact (OutsStep.refl s _).send out
  | none => exact plain (Or.inl rfl)

theorem applyOutcome_outs (env : CryptoEnv) (o : Oracle) (c : Ctx) (now : Int) (s : NAddr) (inPeers : Bool) (r : POutcome MsgResult) :
    eraseA (applyOutcome env o c now s inPeers r).1.node.peers s = eraseA c.node.peers s ∧
    OutsStep s (outcomeIface c.node r) c.outs (applyOutcome env o c now s inPeers r).1.outs := by
  rw [applyOutcome_eq]
  cases r with
  | panic => exact ⟨rfl, .refl s _⟩
  | err pc e => exact ⟨storePc_rest c s inPeers pc, frame_proj (storePc_frame c s inPeers pc) (·.outs) ▸ .refl s _⟩
  | ok pc out res log =>
    have h := handleResult_outs env o (addLog log (storePc c s inPeers pc)) now s res out
    rw [addLog_outs, frame_proj (storePc_frame c s inPeers pc) (·.outs), addLog_node,
      resIface_congr _ c.node res (frame_proj (storePc_frame c s inPeers pc) (·.node.cfg))] at h
    exact ⟨(handleResult_rest ..).trans (storePc_rest c s inPeers pc), h⟩

/-- some session `pc` opens the datagram as a message, and `s` is a peer address or `pc` is the handshake pending for `s` (for a peer
    address `pc` is not tied to the record of `s`) -/
def Opened (env : CryptoEnv) (bodyOf : Init.BodyOf) (o : Oracle) (n : Node) (s : NAddr) (data tail : Bytes) : Prop :=
  ∃ pc pc' out ty d log, (s ∈ n.peers.map (·.1) ∨ lookupA n.pending s = some pc) ∧
    PeerCrypto.handleMessage env bodyOf payloadOk pc data tail (rndFor o { node := n } s).1 (rndFor o { node := n } s).2.1 =
      .ok pc' out (.message ty d) log

/-- the handshake object for `s` (the pending attempt, or a throw-away responder if nothing is pending) completes its handshake on the
    datagram, and the payload it reports decodes to `info` -/
def Joined (env : CryptoEnv) (bodyOf : Init.BodyOf) (o : Oracle) (n : Node) (s : NAddr) (data tail : Bytes) (info : NodeInfo) : Prop :=
  ∃ pc pc' out res log pl,
    (lookupA n.pending s = some pc ∨ lookupA n.pending s = none ∧ pc = newAttempt n ((rndFor o { node := n } s).2.2.getD [])) ∧
    PeerCrypto.handleMessage env bodyOf payloadOk pc data tail (rndFor o { node := n } s).1 (rndFor o { node := n } s).2.1 =
      .ok pc' out res log ∧
    (res = .initialized pl ∨ res = .initializedWithReply pl) ∧ Codec.decodeNodeInfo pl = some info

/-- what one datagram from `s` does to the peer addresses, the announcement schedule and the table of `n` -/
inductive NetStep (env : CryptoEnv) (bodyOf : Init.BodyOf) (o : Oracle) (n : Node) (now : Int) (s : NAddr) (data tail : Bytes) (c' : Ctx) : Prop
  | same : c'.node.peers.map (·.1) = n.peers.map (·.1) → c'.node.nextPeers = n.nextPeers →
      (c'.node.table = n.table ∨
        (∃ addr, n.cfg.learning = true ∧ c'.node.table = n.table.learn now addr (addrId s) ∧ Opened env bodyOf o n s data tail) ∨
        ∃ cs, s ∈ n.peers.map (·.1) ∧ c'.node.table = n.table.setClaims now (addrId s) cs) →
      NetStep env bodyOf o n now s data tail c'
  | join (info : NodeInfo) : Joined env bodyOf o n s data tail info → data.head? = some Generated.INIT_MESSAGE_FIRST_BYTE → (∀ b, b ∈ c'.node.peers.map (·.1) ↔ b = s ∨ b ∈ n.peers.map (·.1)) →
      c'.node.nextPeers = min n.nextPeers now → c'.node.table = n.table.setClaims now (addrId s) info.claims →
      NetStep env bodyOf o n now s data tail c'
  | leave (p : Peer) (pc : PeerCrypto) (out body : Bytes) (log : Init.SealLog) : lookupA n.peers s = some p →
      data.head? ≠ some Generated.INIT_MESSAGE_FIRST_BYTE →
      PeerCrypto.handleMessage env bodyOf payloadOk p.crypto data tail (rndFor o { node := n } s).1 (rndFor o { node := n } s).2.1 =
        .ok pc out (.message Generated.MESSAGE_TYPE_CLOSE body) log →
      c'.node.peers = eraseA n.peers s → c'.node.nextPeers = n.nextPeers → c'.node.table = n.table.removeClaims now (addrId s) →
      NetStep env bodyOf o n now s data tail c'

theorem freshOut_no_message {ok : Bytes → Bool} {pc' : PeerCrypto} {out : Bytes} {ty : Nat} {d : Bytes} {log : Init.SealLog}
    (h : FreshOut ok (.ok pc' out (.message ty d) log)) : False := by
  rcases h with ⟨h, _⟩ | ⟨p, h | h, _⟩ <;> cases h

theorem dispatch_netStep (env : CryptoEnv) (bodyOf : Init.BodyOf) (o : Oracle) (n : Node) (now : Int) (s : NAddr) (data tail : Bytes) :
    NetStep env bodyOf o n now s data tail (dispatch env bodyOf o n now s data tail).1 := by
  -- a session `pc` whose outcome is stored and handled: a result that completes a handshake needs the marker, a message its absence.
  -- `hst`: if `pc` opens a message, it is stored for `s` as `Opened` asks; `hobj`: on a handshake datagram `pc` is the session of a
  -- peer with nothing pending (then `add_new_peer` does nothing) or the handshake object `Joined` speaks of; `hrec`: a datagram
  -- without the marker from a peer is handed to the session of its record, which `NetStep.leave` names
  have sess : ∀ (pc : PeerCrypto) (inPeers : Bool),
      (∀ pc' out ty d log, PeerCrypto.handleMessage env bodyOf payloadOk pc data tail (rndFor o { node := n } s).1 (rndFor o { node := n } s).2.1 =
          .ok pc' out (.message ty d) log → s ∈ n.peers.map (·.1) ∨ lookupA n.pending s = some pc) →
      (data.head? = some Generated.INIT_MESSAGE_FIRST_BYTE → inPeers = true ∧ lookupA n.pending s = none ∨
        (lookupA n.pending s = some pc ∨ lookupA n.pending s = none ∧ pc = newAttempt n ((rndFor o { node := n } s).2.2.getD []))) →
      (data.head? ≠ some Generated.INIT_MESSAGE_FIRST_BYTE → s ∈ n.peers.map (·.1) → ∃ p, lookupA n.peers s = some p ∧ p.crypto = pc) →
      NetStep env bodyOf o n now s data tail (applyOutcome env o { node := n } now s inPeers (PeerCrypto.handleMessage env bodyOf payloadOk pc data tail
        (rndFor o { node := n } s).1 (rndFor o { node := n } s).2.1)).1 := by
    intro pc inPeers hst hobj hrec
    rcases applyOutcome_keyStep env o { node := n } now s inPeers (PeerCrypto.handleMessage env bodyOf payloadOk pc data tail
        (rndFor o { node := n } s).1 (rndFor o { node := n } s).2.1) with ⟨h1, h2, h3⟩ | ⟨pc', out, res, log, hm, hk⟩
    · exact .same h1 h2 (Or.inl h3)
    · generalize (applyOutcome env o { node := n } now s inPeers (PeerCrypto.handleMessage env bodyOf payloadOk pc data tail
        (rndFor o { node := n } s).1 (rndFor o { node := n } s).2.1)).1 = c' at hk ⊢
      have keep : c'.node.peers.map (·.1) = n.peers.map (·.1) → c'.node.nextPeers = n.nextPeers → TblKeep now s res n c'.node →
          NetStep env bodyOf o n now s data tail c' := fun h1 h2 h3 =>
        .same h1 h2 (h3.imp_right (Or.imp_left fun ⟨addr, hl, ht, ty, d, hr⟩ =>
          ⟨addr, hl, ht, pc, pc', out, ty, d, log, hst pc' out ty d log (hr ▸ hm), hr ▸ hm⟩))
      by_cases hinit : data.head? = some Generated.INIT_MESSAGE_FIRST_BYTE
      · cases hk with
        | same h1 h2 h3 => exact keep h1 h2 h3
        | join pl info h1 hd hP h2 h3 h4 =>
          -- for the session of a peer nothing is pending, and `add_new_peer` does nothing
          rcases hobj hinit with ⟨rfl, hq⟩ | ho
          · rw [storePc_peers_pending, hq] at hP
            cases hP
          · exact .join info ⟨pc, pc', out, res, log, pl, ho, hm, h1, hd⟩ hinit h2 h3 h4
        | leave body hr _ _ _ _ =>
          subst hr
          rcases handleMessage_marker_ok env bodyOf payloadOk pc pc' data tail _ _ out _ log hinit hm with
            h1 | ⟨pl, _, _, _, _, _, _, _, h1 | h1, _⟩ <;> cases h1
      · have hpl := handleMessage_plain env bodyOf payloadOk pc data tail _ _ hinit pc' out res log hm
        cases hk with
        | same h1 h2 h3 => exact keep h1 h2 h3
        | join pl _ h1 _ _ _ _ _ => rcases hpl with rfl | ⟨_, _, rfl⟩ <;> rcases h1 with h1 | h1 <;> cases h1
        | leave body hr h2 h3 h4 h5 =>
          subst hr
          obtain ⟨p, hp, rfl⟩ := hrec hinit h2
          exact .leave p pc' out body log hp hinit hm h3 h4 h5
  apply dispatch_cases (M := fun r => NetStep env bodyOf o n now s data tail r.1)
  · exact fun p hp hbr => sess p.crypto true (fun _ _ _ _ _ _ => Or.inl (mem_key (lookupA_some_mem hp)))
      (fun hinit => Or.inl ⟨rfl, (hbr.resolve_left fun h => h hinit).1⟩) (fun _ _ => ⟨p, hp, rfl⟩)
  · exact fun pc hq hc => sess pc false (fun _ _ _ _ _ _ => Or.inr hq) (fun _ => Or.inr (Or.inl hq))
      (fun hni hs => absurd hs ((lookupA_none_iff _ _).1 (hc.resolve_left hni)))
  · -- the throw-away responder is fresh: it opens nothing as a message
    rintro _ rfl _ hinit hq _
    have hf := handleMessage_fresh env bodyOf payloadOk (newAttempt n (((rndFor o { node := n } s).2.2).getD [])) data tail
      (rndFor o { node := n } s).1 (rndFor o { node := n } s).2.1 ⟨rfl, rfl⟩
    exact sess _ false (fun _ _ _ _ _ hm => (freshOut_no_message (hm ▸ hf)).elim) (fun _ => Or.inr (Or.inr ⟨hq, rfl⟩))
      (fun hni => absurd hinit hni)
  · exact fun _ _ _ _ _ _ => .same rfl rfl (Or.inl rfl)
  · exact fun _ _ _ => .same rfl rfl (Or.inl rfl)

theorem handleNet_netStep (env : CryptoEnv) (bodyOf : Init.BodyOf) (o : Oracle) (n : Node) (now : Int) (src0 : NAddr) (data tail : Bytes) :
    NetStep env bodyOf o n now (mappedAddr src0) data tail (handleNet env bodyOf o n now src0 data tail).1 := by
  rw [handleNet_eq]
  have hp := finish_peers (mappedAddr src0) (dispatch env bodyOf o n now (mappedAddr src0) data tail)
  have hn := finish_nextPeers (mappedAddr src0) (dispatch env bodyOf o n now (mappedAddr src0) data tail)
  have ht := finish_table (mappedAddr src0) (dispatch env bodyOf o n now (mappedAddr src0) data tail)
  cases dispatch_netStep env bodyOf o n now (mappedAddr src0) data tail with
  | same h1 h2 h3 => exact .same (hp.symm ▸ h1) (hn.trans h2) (by rw [ht]; exact h3)
  | join info hj h1 h2 h3 h4 => exact .join info hj h1 (fun b => hp.symm ▸ h2 b) (hn.trans h3) (ht.trans h4)
  | leave p pc out body log h1 h2 h3 h4 h5 h6 => exact .leave p pc out body log h1 h2 h3 (hp.trans h4) (hn.trans h5) (ht.trans h6)

/-- `fr` is what the one session that handles the datagram hands to the interface: nothing, or the body `b` of the DATA message that
    the session of the sender — of the peer `s`, or the one pending for `s` if `s` is no peer — opened from a datagram without
    handshake marker, if `b` parses -/
def Handled (env : CryptoEnv) (bodyOf : Init.BodyOf) (o : Oracle) (n : Node) (s : NAddr) (data tail : Bytes) (fr : List Out) : Prop :=
  fr = [] ∨ ∃ pc pc' out b log, fr = [.iface b] ∧ (parseAddrs n b).isSome = true ∧
    data.head? ≠ some Generated.INIT_MESSAGE_FIRST_BYTE ∧
    PeerCrypto.handleMessage env bodyOf payloadOk pc data tail (rndFor o { node := n } s).1 (rndFor o { node := n } s).2.1 =
      .ok pc' out (.message Generated.MESSAGE_TYPE_DATA b) log ∧
    ((lookupA n.peers s = none ∧ lookupA n.pending s = some pc) ∨ ∃ p, lookupA n.peers s = some p ∧ pc = p.crypto)

/-- a datagram with handshake marker is never opened as a message, so only the session stored for `s` hands on a frame -/
theorem Handled.of_outcome {env : CryptoEnv} {bodyOf : Init.BodyOf} {o : Oracle} {n : Node} {s : NAddr} {data tail : Bytes} (pc : PeerCrypto)
    (hw : data.head? ≠ some Generated.INIT_MESSAGE_FIRST_BYTE →
      (lookupA n.peers s = none ∧ lookupA n.pending s = some pc) ∨ ∃ p, lookupA n.peers s = some p ∧ pc = p.crypto) :
    Handled env bodyOf o n s data tail (outcomeIface n (PeerCrypto.handleMessage env bodyOf payloadOk pc data tail
      (rndFor o { node := n } s).1 (rndFor o { node := n } s).2.1)) := by
  rcases outcomeIface_cases n (PeerCrypto.handleMessage env bodyOf payloadOk pc data tail
      (rndFor o { node := n } s).1 (rndFor o { node := n } s).2.1) with h | ⟨pc', out, b, log, hr, hp, h⟩
  · exact Or.inl h
  · have hni : data.head? ≠ some Generated.INIT_MESSAGE_FIRST_BYTE :=
      fun hi => handleMessage_init_not_message env bodyOf payloadOk pc data tail _ _ hi pc' out _ b log hr
    exact Or.inr ⟨pc, pc', out, b, log, h, hp, hni, hr, hw hni⟩

theorem dispatch_outs (env : CryptoEnv) (bodyOf : Init.BodyOf) (o : Oracle) (n : Node) (now : Int) (s : NAddr) (data tail : Bytes) :
    eraseA (dispatch env bodyOf o n now s data tail).1.node.peers s = eraseA n.peers s ∧
    ∃ fr, Handled env bodyOf o n s data tail fr ∧ OutsStep s fr [] (dispatch env bodyOf o n now s data tail).1.outs := by
  apply dispatch_cases (M := fun r => eraseA r.1.node.peers s = eraseA n.peers s ∧
    ∃ fr, Handled env bodyOf o n s data tail fr ∧ OutsStep s fr [] r.1.outs)
  · intro p hp _
    have h := applyOutcome_outs env o { node := n } now s true (PeerCrypto.handleMessage env bodyOf payloadOk p.crypto data tail
      (rndFor o { node := n } s).1 (rndFor o { node := n } s).2.1)
    exact ⟨h.1, _, .of_outcome _ fun _ => Or.inr ⟨p, hp, rfl⟩, h.2⟩
  · intro pc hq hc
    have h := applyOutcome_outs env o { node := n } now s false (PeerCrypto.handleMessage env bodyOf payloadOk pc data tail
      (rndFor o { node := n } s).1 (rndFor o { node := n } s).2.1)
    exact ⟨h.1, _, .of_outcome _ fun hni => Or.inl ⟨hc.resolve_left hni, hq⟩, h.2⟩
  · rintro _ rfl _ hinit _ _
    have h := applyOutcome_outs env o { node := n } now s false (PeerCrypto.handleMessage env bodyOf payloadOk
      (newAttempt n ((rndFor o { node := n } s).2.2.getD [])) data tail (rndFor o { node := n } s).1 (rndFor o { node := n } s).2.1)
    exact ⟨h.1, _, .of_outcome _ fun hni => absurd hinit hni, h.2⟩
  · exact fun _ _ _ _ _ _ => ⟨rfl, [], Or.inl rfl, .refl s _⟩
  · exact fun _ _ _ => ⟨rfl, [], Or.inl rfl, .refl s _⟩

/-- **what one datagram does**: to peer addresses, schedule and table (`state`), to the records of other addresses (none of it),
    and what it emits -/
structure NetEffect (env : CryptoEnv) (bodyOf : Init.BodyOf) (o : Oracle) (n : Node) (now : Int) (s : NAddr) (data tail : Bytes)
    (c' : Ctx) : Prop where
  state : NetStep env bodyOf o n now s data tail c'
  rest : eraseA c'.node.peers s = eraseA n.peers s
  outs : ∃ fr, Handled env bodyOf o n s data tail fr ∧ OutsStep s fr [] c'.outs

theorem NetEffect.others {env : CryptoEnv} {bodyOf : Init.BodyOf} {o : Oracle} {n : Node} {now : Int} {s : NAddr} {data tail : Bytes}
    {c' : Ctx} (h : NetEffect env bodyOf o n now s data tail c') {b : NAddr} (hb : b ≠ s) :
    lookupA c'.node.peers b = lookupA n.peers b := lookupA_of_eraseA_eq h.rest hb

theorem NetEffect.dgrams {env : CryptoEnv} {bodyOf : Init.BodyOf} {o : Oracle} {n : Node} {now : Int} {s : NAddr} {data tail : Bytes}
    {c' : Ctx} (h : NetEffect env bodyOf o n now s data tail c') {d : NAddr} {b : Bytes} (hm : Out.dgram d b ∈ c'.outs) :
    d = s ∨ b.head? = some Generated.INIT_MESSAGE_FIRST_BYTE := by
  obtain ⟨fr, hfr, dg, hdg, ho⟩ := h.outs
  rw [ho, List.nil_append] at hm
  rcases List.mem_append.1 hm with hm | hm
  · rcases hfr with rfl | ⟨_, _, _, _, _, rfl, _⟩
    · cases hm
    · cases List.mem_singleton.1 hm
  · rcases hdg _ hm with ⟨d', b', hb⟩ | ⟨b', hb⟩
    · cases hb
      exact Or.inr rfl
    · cases hb
      exact Or.inl rfl

theorem handleNet_effect (env : CryptoEnv) (bodyOf : Init.BodyOf) (o : Oracle) (n : Node) (now : Int) (src0 : NAddr) (data tail : Bytes) :
    NetEffect env bodyOf o n now (mappedAddr src0) data tail (handleNet env bodyOf o n now src0 data tail).1 := by
  refine ⟨handleNet_netStep env bodyOf o n now src0 data tail, ?_, ?_⟩
  · rw [handleNet_eq, finish_peers]
    exact (dispatch_outs env bodyOf o n now (mappedAddr src0) data tail).1
  · rw [handleNet_eq, finish_outs]
    exact (dispatch_outs env bodyOf o n now (mappedAddr src0) data tail).2

end VpnCloud.Proofs.NetStepLemmas
