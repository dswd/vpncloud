import VpnCloud.Proofs.Lemmas.Node.C10MoreLemmas
import VpnCloud.Proofs.C04Session
import VpnCloud.Proofs.Lemmas.Core.C07SessionLemmas
/-
  Definitions and helper lemmas for `Proofs/C10Net.lean` (C10 / C02 over whole traffic histories between two nodes):

  * `CoreSync` / `InSync`: two sessions in sync for the direction A → B, with room for `room` more seals;
  * one seal at A followed by its delivery at B, a tick at A, a tick at B — each keeps `InSync` (core level, then session level;
    `tick_effect`: what a tick changes when no rotation falls due, whether or not it succeeds);
  * the link A → B as a small executable system (`LOp`, `LSt`, `stepL`, `runL`), the admissibility of a history (`RunOK`);
  * the trace of `C04Session.SOp`s that B's core undergoes during a history (last clause of `runL_inv`), for the replay statements
    (`coreSync_replay`: a replayed datagram is accepted until B's second tick; `replay_outcome`: the same at session level);
  * node level: what `handle_interface_data` does to A, exactly, for one frame (`handleIface_exact`; for B:
    `C10MoreLemmas.handleNet_data`); the two nodes with the network between them as an executable system (`FrameEv`, `NSt`, `deliver`,
    `stepN`, `runN`), its admissible histories (`FramesOK`), `NodeSync`, one frame through it (`stepN_frame`) and a history of frames
    (`runN_inv`);
  * `runOK_of_quiet`: `RunOK` from hypotheses on the initial state alone (sessions `C07SessionLemmas.Quiet`, rotate counters that
    do not reach `ROTATE_INTERVAL` within the ticks of the history).
-/
namespace VpnCloud.Proofs.C10NetLemmas

open VpnCloud.Node VpnCloud.Spec.C04 VpnCloud.Spec.C03
open VpnCloud.Proofs.CoreLemmas VpnCloud.Proofs.AssocLemmas VpnCloud.Proofs.NodeLemmas VpnCloud.Proofs.SessionInvLemmas
open VpnCloud.Proofs.C10MoreLemmas
open VpnCloud.Proofs.C09MoreLemmas (dgramOf)

/-- the crypto cores `ca` (at A) and `cb` (at B) are in sync for the direction A → B, with room for `room` more seals:
    A's sending slot `ca.cur` holds at B, under the same index, the same key; the cores use opposite halves of the nonce space;
    A's counter lies in A's half and `room` more seals still fit the 56 transmitted bits; and B's replay window of that slot lies
    below A's next nonce: the floor `min`, the floor-to-be `nextMin` (what the next tick makes the floor) and the highest nonce
    seen so far (from which the next tick computes the floor after it). -/
structure CoreSync (room : Nat) (ca cb : Core) : Prop where
  cur : ca.cur < 4
  half : cb.half = !ca.half
  slot : ∃ ks kr v, ca.slots[ca.cur]? = some ks ∧ cb.slots[ca.cur]? = some kr ∧ kr.key = ks.key ∧
    ks.send = base ca.half + v ∧ v + room < 2 ^ 56 ∧
    kr.min ≤ ks.send + 1 ∧ kr.nextMin ≤ ks.send + 1 ∧ kr.seen ≤ ks.send

theorem CoreSync.mono {room room' : Nat} {ca cb : Core} (h : CoreSync room ca cb) (hr : room' ≤ room) : CoreSync room' ca cb := by
  obtain ⟨h1, h2, ks, kr, v, a1, a2, a3, a4, a5, a6⟩ := h
  exact ⟨h1, h2, ks, kr, v, a1, a2, a3, a4, by omega, a6⟩

theorem coreSync_encrypt {room : Nat} {ca cb : Core} (h : CoreSync (room + 1) ca cb) (p : Bytes) :
    ∃ ks kr, ca.slots[ca.cur]? = some ks ∧ cb.slots[ca.cur]? = some kr ∧ kr.key = ks.key ∧ ks.send + 1 < NONCE_MOD ∧
      kr.min ≤ ks.send + 1 ∧ kr.nextMin ≤ ks.send + 1 ∧ kr.seen ≤ ks.send ∧
      (ca.encrypt p).2 = { hdr := ca.cur :: Bytes.ofBE 7 (ks.send + 1), body := .sealed ks.key (ks.send + 1) p } ∧
      (ca.encrypt p).1 = { ca with slots := ca.slots.set ca.cur { ks with send := ks.send + 1 } } ∧
      ∃ w, ks.send + 1 = base ca.half + w ∧ w + room < 2 ^ 56 := by
  obtain ⟨_, _, ks, kr, v, hs, hr, hkey, hsend, hv, hmin, hnext, hseen⟩ := h
  have hsend' : ks.send + 1 = base ca.half + (v + 1) := by omega
  have hlt : ks.send + 1 < NONCE_MOD := by rw [hsend']; exact C02.base_add_lt _ _ (by omega)
  obtain ⟨e1, e2⟩ := C04.encrypt_spec ca p ks hs hlt
  exact ⟨ks, kr, hs, hr, hkey, hlt, hmin, hnext, hseen, e1, e2, v + 1, hsend', by omega⟩

theorem coreSync_hdr_wf {room : Nat} {ca cb : Core} (h : CoreSync (room + 1) ca cb) (p : Bytes) : Bytes.WF (ca.encrypt p).2.hdr := by
  obtain ⟨ks, _, _, _, _, _, _, _, _, e1, _, _⟩ := coreSync_encrypt h p
  rw [e1]
  show Bytes.WF (ca.cur :: Bytes.ofBE 7 (ks.send + 1))
  rw [Bytes.wf_cons]
  exact ⟨by have := h.cur; omega, Bytes.ofBE_wf _ _⟩

theorem coreSync_send {room : Nat} {ca cb : Core} (h : CoreSync (room + 1) ca cb) (p : Bytes) :
    (cb.decrypt (ca.encrypt p).2).2 = .ok p ∧ CoreSync room (ca.encrypt p).1 (cb.decrypt (ca.encrypt p).2).1 := by
  obtain ⟨ks, kr, hs, hr, hkey, hlt, hmin, hnext, hseen, e1, e2, w, hw, hwr⟩ := coreSync_encrypt h p
  have ho := C02.opens_sealed cb ca.cur kr ca.half w p h.cur hr h.half (by omega) (hw ▸ hmin)
  rw [← hw, hkey, ← e1] at ho
  refine ⟨ho.1, ?_⟩
  rw [ho.2, e2]
  have hcl : ca.cur < ca.slots.length := (List.getElem?_eq_some_iff.1 hs).1
  have hbl : ca.cur < cb.slots.length := (List.getElem?_eq_some_iff.1 hr).1
  obtain ⟨a1, _, a3, a4⟩ := C04Session.slotStep_accept_key kr (ks.send + 1)
  refine ⟨h.cur, h.half, { ks with send := ks.send + 1 }, slotStep kr (.accept (ks.send + 1)), w, ?_, ?_, a1.trans hkey, hw, hwr, ?_⟩
  · simp only [List.getElem?_set_self hcl]
  · simp only [List.getElem?_set_self hbl]
  · -- accepting the nonce leaves both floors (they were at most this nonce) and makes it the highest nonce seen
    rw [a3, a4]
    refine ⟨Nat.le_succ_of_le hmin, Nat.le_succ_of_le hnext, ?_⟩
    simp only [slotStep]
    split
    · exact Nat.le_refl _
    · exact Nat.le_succ_of_le hseen

theorem CoreSync.one_shot {room : Nat} {ca cb : Core} (h : CoreSync (room + 1) ca cb) (p : Bytes) :
    ∃ ks, ca.slots[ca.cur]? = some ks ∧ ks.send + 1 < NONCE_MOD ∧ (cb.decrypt (ca.encrypt p).2).2 = .ok p := by
  obtain ⟨ks, _, hs, _, _, hlt, _⟩ := coreSync_encrypt h p
  exact ⟨ks, hs, hlt, (coreSync_send h p).1⟩

theorem coreSync_tickA {room : Nat} {ca cb : Core} (h : CoreSync room ca cb) : CoreSync room ca.everySecond cb := by
  obtain ⟨hcur, hhalf, ks, kr, v, hs, hr, hkey, hsend, hv, hw⟩ := h
  refine ⟨hcur, hhalf, ks.updateMinNonce, kr, v, ?_, hr, hkey, hsend, hv, hw⟩
  show ca.everySecond.slots[ca.cur]? = _
  rw [C04Session.tick_slots, hs]; rfl

/-- a housekeeping tick at B keeps the cores in sync: the new floor is the old floor-to-be, the new floor-to-be is one above the
    highest nonce seen, and both are at most A's next nonce -/
theorem coreSync_tickB {room : Nat} {ca cb : Core} (h : CoreSync room ca cb) : CoreSync room ca cb.everySecond := by
  obtain ⟨hcur, hhalf, ks, kr, v, hs, hr, hkey, hsend, hv, hmin, hnext, hseen⟩ := h
  refine ⟨hcur, hhalf, ks, kr.updateMinNonce, v, hs, ?_, hkey, hsend, hv, hnext, ?_, hseen⟩
  · rw [C04Session.tick_slots, hr]; rfl
  · show (kr.seen + 1) % NONCE_MOD ≤ ks.send + 1
    have := Nat.mod_le (kr.seen + 1) NONCE_MOD
    omega

/-- **InSync**: A's session `sa` (for B) and B's session `sb` (for A) are in sync for the direction A → B with room for `room` more
    messages: both encrypted with cores in sync (`CoreSync`), or both in unencrypted mode. -/
inductive InSync (room : Nat) (sa sb : PeerCrypto) : Prop
  | enc (ca cb : Core) (hua : sa.unencrypted = false) (hub : sb.unencrypted = false)
      (hca : sa.core = some ca) (hcb : sb.core = some cb) (h : CoreSync room ca cb)
  | plain (hua : sa.unencrypted = true) (hub : sb.unencrypted = true)

theorem InSync.mono {room room' : Nat} {sa sb : PeerCrypto} (h : InSync room sa sb) (hr : room' ≤ room) : InSync room' sa sb := by
  cases h with
  | enc ca cb hua hub hca hcb h => exact .enc ca cb hua hub hca hcb (h.mono hr)
  | plain hua hub => exact .plain hua hub

/-- `every_second` of the session succeeds and no key rotation falls due in it: the session has no rotation state (unencrypted mode),
    or its rotate counter stays below `ROTATE_INTERVAL`.  (Rotation itself is the subject of `C07Session`.) -/
def TickOK (pc : PeerCrypto) (rr : RotRand) : Prop :=
  (pc.rot = none ∨ pc.rotateCounter + 1 < Generated.ROTATE_INTERVAL) ∧
  ∃ pc' out res log, PeerCrypto.everySecond pc rr = .ok pc' out res log

/-- the session object as a call leaves it: `handle_message` and `every_second` work on `&mut self`, so also after an error the object is
    what the call made of it (`.err` carries that); a panic leaves nothing to go on with -/
def after (pc : PeerCrypto) : POutcome MsgResult → PeerCrypto
  | .ok pc' _ _ _ => pc'
  | .err pc' _ => pc'
  | .panic => pc

theorem tick1_fields (pc : PeerCrypto) :
    (tick1 pc).1.core = pc.core.map Core.everySecond ∧ (tick1 pc).1.unencrypted = pc.unencrypted ∧
    (tick1 pc).1.rot = pc.rot ∧ (tick1 pc).1.rotateCounter = pc.rotateCounter := by
  rw [tick1_eq]
  exact ⟨rfl, rfl, rfl, rfl⟩

theorem tickRot_idle (pc2 : PeerCrypto) (rr : RotRand) (h : pc2.rot = none ∨ pc2.rotateCounter + 1 < Generated.ROTATE_INTERVAL) :
    tickRot pc2 rr = .ok pc2 [] .none [] ∨ tickRot pc2 rr = .ok { pc2 with rotateCounter := pc2.rotateCounter + 1 } [] .none [] := by
  unfold tickRot
  split
  · exact Or.inl rfl
  · rename_i sd hsd
    rcases h with hn | hlt
    · rw [hn] at hsd; cases hsd
    · right
      simp only []
      rw [if_pos hlt]

/-- `every_second` of a session in which no rotation falls due: whatever the handshake timer does (`tick1` may fail or retransmit), outside
    the handshake object only the core (one `Core.every_second`) and the rotate counter (at most one up) change; and if the timer is
    silent the tick succeeds and emits nothing -/
theorem tick_effect {pc : PeerCrypto} {rr : RotRand} (h : pc.rot = none ∨ pc.rotateCounter + 1 < Generated.ROTATE_INTERVAL) :
    (after pc (PeerCrypto.everySecond pc rr)).core = pc.core.map Core.everySecond ∧
    (after pc (PeerCrypto.everySecond pc rr)).unencrypted = pc.unencrypted ∧
    (after pc (PeerCrypto.everySecond pc rr)).rot = pc.rot ∧
    (after pc (PeerCrypto.everySecond pc rr)).rotateCounter ≤ pc.rotateCounter + 1 ∧
    ((tick1 pc).2 = .ok [] → PeerCrypto.everySecond pc rr = .ok (after pc (PeerCrypto.everySecond pc rr)) [] .none [] ∧
      (after pc (PeerCrypto.everySecond pc rr)).init = (tick2 (tick1 pc).1).init) := by
  rw [everySecond_eq]
  obtain ⟨t1, t2, t3, t4⟩ := tick1_fields pc
  generalize tick1 pc = t at t1 t2 t3 t4 ⊢
  obtain ⟨pc1, r⟩ := t
  have t3' : (tick2 pc1).rot = pc.rot := t3
  have t4' : (tick2 pc1).rotateCounter = pc.rotateCounter := t4
  cases r with
  | error e => exact ⟨t1, t2, t3, Nat.le_succ_of_le (Nat.le_of_eq t4), nofun⟩
  | ok out1 =>
    simp only []
    by_cases hemp : (!out1.isEmpty) = true
    · rw [if_pos hemp]
      exact ⟨t1, t2, t3, Nat.le_succ_of_le (Nat.le_of_eq t4'), fun h0 => by cases h0; cases hemp⟩
    · rw [if_neg hemp]
      rcases tickRot_idle (tick2 pc1) rr (by rw [t3', t4']; exact h) with e | e
      · rw [e]
        exact ⟨t1, t2, t3, Nat.le_succ_of_le (Nat.le_of_eq t4'), fun _ => ⟨rfl, rfl⟩⟩
      · rw [e]
        exact ⟨t1, t2, t3, Nat.succ_le_succ (Nat.le_of_eq t4'), fun _ => ⟨rfl, rfl⟩⟩

/-- the operations of a traffic history on the link A → B:
    * `send`: A's session seals the message `(ty, body)` (`ct`: the ciphertext bytes the implementation produced) and the datagram is
      delivered at once to B's session (a loss-free, in-order, non-duplicating link); `tail`, `rnd`, `rr`: what else B's
      `handle_message` gets to see (stale buffer bytes, randomness) — irrelevant for the result;
    * `tickA` / `tickB`: `every_second` of A's / B's session. -/
inductive LOp
  | send (ty : Nat) (body ct tail : Bytes) (rnd : Rand) (rr : RotRand)
  | tickA (rr : RotRand)
  | tickB (rr : RotRand)

/-- the two sessions, the datagrams A put on the wire, what B's session made of each delivered datagram, and the genuine seals -/
structure LSt where
  a : PeerCrypto
  b : PeerCrypto
  wire : List Bytes := []
  got : List (Option (MsgResult × Bytes)) := []
  log : Init.SealLog := []

/-- what a session made of a datagram: the result it hands to the node and the bytes it wants sent back; `none` = error or panic -/
def recvOf : POutcome MsgResult → Option (MsgResult × Bytes)
  | .ok _ out res _ => some (res, out)
  | _ => none

section
variable (env : CryptoEnv) (bodyOf : Init.BodyOf) (ok : Bytes → Bool)

def stepL (s : LSt) : LOp → LSt
  | .send ty body ct tail rnd rr =>
    match PeerCrypto.sendMessage s.a ty body ct with
    | (a', .ok (bytes, log)) =>
      let r := PeerCrypto.handleMessage env bodyOf ok s.b bytes tail rnd rr
      { a := a', b := after s.b r, wire := s.wire ++ [bytes], got := s.got ++ [recvOf r], log := s.log ++ log }
    | (a', .error _) => { s with a := a' }
  | .tickA rr => { s with a := after s.a (PeerCrypto.everySecond s.a rr) }
  | .tickB rr => { s with b := after s.b (PeerCrypto.everySecond s.b rr) }

def runL (s : LSt) : List LOp → LSt
  | [] => s
  | op :: ops => runL (stepL env bodyOf ok s op) ops

/-- the operation is one the theorem is about: a message of a type other than ROTATION (in unencrypted mode also other than 255: there
    the type byte travels in the clear and 255 is the handshake marker), a tick without rotation falling due -/
def OpOK (s : LSt) : LOp → Prop
  | .send ty _ _ _ _ _ => ty ≠ Generated.MESSAGE_TYPE_ROTATION ∧ (s.a.unencrypted = true → ty ≠ Generated.INIT_MESSAGE_FIRST_BYTE)
  | .tickA rr => TickOK s.a rr
  | .tickB rr => TickOK s.b rr

def RunOK (s : LSt) : List LOp → Prop
  | [] => True
  | op :: ops => OpOK s op ∧ RunOK (stepL env bodyOf ok s op) ops

end

def sent : List LOp → List (Nat × Bytes)
  | [] => []
  | .send ty body _ _ _ _ :: ops => (ty, body) :: sent ops
  | .tickA _ :: ops => sent ops
  | .tickB _ :: ops => sent ops

def numSends (ops : List LOp) : Nat := (sent ops).length

def numTicksB : List LOp → Nat
  | [] => 0
  | .tickB _ :: ops => numTicksB ops + 1
  | .send _ _ _ _ _ _ :: ops => numTicksB ops
  | .tickA _ :: ops => numTicksB ops

def numTicksA : List LOp → Nat
  | [] => 0
  | .tickA _ :: ops => numTicksA ops + 1
  | .send _ _ _ _ _ _ :: ops => numTicksA ops
  | .tickB _ :: ops => numTicksA ops

/-- ideal AEAD, consistency with a log of genuine seals: `bodyOf` views the ciphertext bytes of every logged seal as what was sealed -/
def LogOK (bodyOf : Init.BodyOf) (log : Init.SealLog) : Prop := ∀ e ∈ log, bodyOf e.1 = e.2

section
variable (env : CryptoEnv) (bodyOf : Init.BodyOf) (ok : Bytes → Bool)

theorem stepL_log_mono (s : LSt) (op : LOp) : ∀ e ∈ s.log, e ∈ (stepL env bodyOf ok s op).log := by
  intro e he
  cases op with
  | send ty body ct tail rnd rr =>
    simp only [stepL]
    split
    · exact List.mem_append_left _ he
    · exact he
  | tickA rr => exact he
  | tickB rr => exact he

theorem runL_log_mono (ops : List LOp) : ∀ (s : LSt), ∀ e ∈ s.log, e ∈ (runL env bodyOf ok s ops).log := by
  induction ops with
  | nil => intro s e he; exact he
  | cons op ops ih => intro s e he; exact ih _ e (stepL_log_mono env bodyOf ok s op e he)

/-- **one message** from A's session to B's session in sync: A's session seals it into one datagram, and — if the ideal AEAD views the
    ciphertext A emitted as what A sealed — B's session answers the datagram with exactly `.message ty body`, nothing to send back;
    of the two sessions only the cores change (B's, if there is one, by opening a datagram that consists of bytes), and they stay in
    sync (with one message less to go) -/
theorem send_deliver {room : Nat} {sa sb : PeerCrypto} (h : InSync (room + 1) sa sb)
    (ty : Nat) (body ct tail : Bytes) (rnd : Rand) (rr : RotRand) (hty : ty ≠ Generated.MESSAGE_TYPE_ROTATION)
    (hty' : sa.unencrypted = true → ty ≠ Generated.INIT_MESSAGE_FIRST_BYTE) :
    ∃ ca' bytes log, PeerCrypto.sendMessage sa ty body ct = ({ sa with core := ca' }, .ok (bytes, log)) ∧
      (LogOK bodyOf log → ∃ cb', PeerCrypto.handleMessage env bodyOf ok sb bytes tail rnd rr =
          .ok { sb with core := cb' } [] (.message ty body) [] ∧
        InSync room { sa with core := ca' } { sb with core := cb' } ∧
        (sb.unencrypted = false → ∀ cb, sb.core = some cb → ∃ d : Dgram, Bytes.WF d.hdr ∧ cb' = some (cb.decrypt d).1)) := by
  cases h with
  | enc ca cb hua hub hca hcb hc =>
    refine ⟨_, _, _, sendMessage_enc hua hca ty body ct, fun hlog => ?_⟩
    obtain ⟨ks, hs, hlt, hdec⟩ := hc.one_shot (ty :: body)
    obtain ⟨hrecv, _⟩ := enc_deliver env bodyOf ok hub hcb hs hlt hc.cur hdec ct tail rnd rr hty (hlog (ct, _) (List.mem_singleton.2 rfl))
    refine ⟨_, hrecv, .enc _ _ hua hub rfl rfl (coreSync_send hc (ty :: body)).2, fun _ cb0 h0 => ?_⟩
    cases hcb.symm.trans h0
    exact ⟨_, coreSync_hdr_wf hc (ty :: body), rfl⟩
  | plain hua hub =>
    exact ⟨sa.core, _, _, sendMessage_unenc hua ty body ct, fun _ =>
      ⟨sb.core, handleMessage_unenc_ok env bodyOf ok hub ty body tail rnd rr hty (hty' hua), .plain hua hub,
        fun hu => absurd (hub.symm.trans hu) (by decide)⟩⟩

/-- `stepL_send` on an encrypted link with every component named: a replay is compared with the very datagram B's core has opened
    (`replay_outcome`), which the existential form below forgets -/
theorem stepL_send_enc {room : Nat} {s : LSt} {ca cb : Core} (hua : s.a.unencrypted = false) (hub : s.b.unencrypted = false)
    (hca : s.a.core = some ca) (hcb : s.b.core = some cb) (hc : CoreSync (room + 1) ca cb)
    (ty : Nat) (body ct tail : Bytes) (rnd : Rand) (rr : RotRand) (hty : ty ≠ Generated.MESSAGE_TYPE_ROTATION)
    (hlog : LogOK bodyOf (stepL env bodyOf ok s (.send ty body ct tail rnd rr)).log) :
    stepL env bodyOf ok s (.send ty body ct tail rnd rr) =
      { a := { s.a with core := some (ca.encrypt (ty :: body)).1 },
        b := { s.b with core := some (cb.decrypt (ca.encrypt (ty :: body)).2).1 },
        wire := s.wire ++ [(ca.encrypt (ty :: body)).2.hdr ++ ct],
        got := s.got ++ [some (.message ty body, [])],
        log := s.log ++ [(ct, (ca.encrypt (ty :: body)).2.body)] } ∧
    dgramOf bodyOf ((ca.encrypt (ty :: body)).2.hdr ++ ct) = (ca.encrypt (ty :: body)).2 ∧
    ∃ rest, (ca.encrypt (ty :: body)).2.hdr ++ ct = ca.cur :: rest := by
  have hsm := sendMessage_enc hua hca ty body ct
  have hb : bodyOf ct = (ca.encrypt (ty :: body)).2.body := by
    apply hlog (ct, (ca.encrypt (ty :: body)).2.body)
    simp only [stepL, hsm]
    exact List.mem_append_right _ (List.mem_singleton.2 rfl)
  obtain ⟨ks, hs, hlt, hdec⟩ := hc.one_shot (ty :: body)
  obtain ⟨hrecv, hdg, hcons⟩ := enc_deliver env bodyOf ok hub hcb hs hlt hc.cur hdec ct tail rnd rr hty hb
  refine ⟨?_, hdg, hcons⟩
  simp only [stepL, hsm, hrecv, recvOf, after]

theorem stepL_send {room : Nat} {s : LSt} (h : InSync (room + 1) s.a s.b) (ty : Nat) (body ct tail : Bytes) (rnd : Rand) (rr : RotRand)
    (hok : OpOK s (.send ty body ct tail rnd rr))
    (hlog : LogOK bodyOf (stepL env bodyOf ok s (.send ty body ct tail rnd rr)).log) :
    ∃ ca' cb' bytes log, stepL env bodyOf ok s (.send ty body ct tail rnd rr) =
        { a := { s.a with core := ca' }, b := { s.b with core := cb' }, wire := s.wire ++ [bytes],
          got := s.got ++ [some (.message ty body, [])], log := s.log ++ log } ∧
      InSync room { s.a with core := ca' } { s.b with core := cb' } ∧
      (s.b.unencrypted = false → ∀ cb, s.b.core = some cb → ∃ d : Dgram, Bytes.WF d.hdr ∧ cb' = some (cb.decrypt d).1) := by
  obtain ⟨ca', bytes, log, hsm, himp⟩ := send_deliver env bodyOf ok h ty body ct tail rnd rr hok.1 hok.2
  have hl : LogOK bodyOf log := fun e he => hlog e (by simp only [stepL, hsm]; exact List.mem_append_right _ he)
  obtain ⟨cb', hrecv, hs', hb'⟩ := himp hl
  exact ⟨ca', cb', bytes, log, by simp only [stepL, hsm, hrecv, recvOf, after], hs', hb'⟩

theorem stepL_tickA {room : Nat} {s : LSt} (h : InSync room s.a s.b) (rr : RotRand)
    (hok : s.a.rot = none ∨ s.a.rotateCounter + 1 < Generated.ROTATE_INTERVAL) :
    InSync room (stepL env bodyOf ok s (.tickA rr)).a (stepL env bodyOf ok s (.tickA rr)).b := by
  obtain ⟨hcore, hun, _⟩ := tick_effect (rr := rr) hok
  cases h with
  | enc ca cb hua hub hca hcb hc =>
    exact .enc ca.everySecond cb (hun.trans hua) hub (by rw [hca] at hcore; exact hcore) hcb (coreSync_tickA hc)
  | plain hua hub => exact .plain (hun.trans hua) hub

theorem stepL_tickB {room : Nat} {s : LSt} (h : InSync room s.a s.b) (rr : RotRand)
    (hok : s.b.rot = none ∨ s.b.rotateCounter + 1 < Generated.ROTATE_INTERVAL) :
    InSync room (stepL env bodyOf ok s (.tickB rr)).a (stepL env bodyOf ok s (.tickB rr)).b := by
  obtain ⟨hcore, hun, _⟩ := tick_effect (rr := rr) hok
  cases h with
  | enc ca cb hua hub hca hcb hc =>
    exact .enc ca cb.everySecond hua (hun.trans hub) hca (by rw [hcb] at hcore; exact hcore) (coreSync_tickB hc)
  | plain hua hub => exact .plain hua (hun.trans hub)

end

/-- while the slot holds key `K` and fewer than two ticks have passed (`t` = number of ticks so far), the floor of the window is still at
    most `n`: before the first tick both the floor and the floor-to-be are -/
def Win (K : KeyRef) (n t : Nat) (k : SlotKey) : Prop :=
  k.key = K ∧ (t = 0 → k.min ≤ n ∧ k.nextMin ≤ n) ∧ (t ≤ 1 → k.min ≤ n)

section
open VpnCloud.Proofs.C04Session

theorem numTicks_nil_of (op : SOp) (h : ∀ K id use start, op ≠ .rotate K id use start) :
    (op = .tick ∧ numTicks [op] = 1) ∨ (op ≠ .tick ∧ numTicks [op] = 0) := by
  cases op with
  | «seal» p => exact Or.inr ⟨by simp, rfl⟩
  | tick => exact Or.inl ⟨rfl, rfl⟩
  | rotate K id use start => exact absurd rfl (h K id use start)
  | «open» d => exact Or.inr ⟨by simp, rfl⟩

/-- no operation but a tick moves the floors of a slot (rotations apart), and a tick makes the floor-to-be the floor -/
theorem slotAfter_win (K : KeyRef) (n t j : Nat) (c : Core) (op : SOp) (k : SlotKey) (w : Win K n t k)
    (hnr : rotatedKeys [op] = []) : Win K n (t + numTicks [op]) (slotAfter c j k op) := by
  cases op with
  | «seal» p => simp only [slotAfter]; split <;> exact w
  | tick =>
    refine ⟨w.1, fun h => ?_, fun h => (w.2.1 ?_).2⟩
    all_goals simp only [numTicks] at h; omega
  | rotate K' id use start => cases hnr
  | «open» d =>
    simp only [slotAfter]
    split
    · simp only [slotStep]; split <;> exact w
    · exact w

theorem win_open_run (K : KeyRef) (n j : Nat) : ∀ (ops : List SOp) (t : Nat) (c : Core) (k : SlotKey),
    c.slots[j]? = some k → Win K n t k → rotatedKeys ops = [] →
    ∃ k', (run c ops).1.slots[j]? = some k' ∧ Win K n (t + numTicks ops) k' := by
  intro ops
  induction ops with
  | nil => intro t c k hk w _; exact ⟨k, hk, w⟩
  | cons op ops ih =>
    intro t c k hk w hr
    rw [rotatedKeys_cons, List.append_eq_nil_iff] at hr
    rw [numTicks_cons, ← Nat.add_assoc]
    exact ih _ _ _ (step_slot c op j k hk) (slotAfter_win K n t j c op k w hr.1) hr.2

/-- **a replay lives until the second tick**: B's core has opened the datagram A's core sealed for `p` and then undergone `sops` (no
    rotation).  Delivered again, the datagram is accepted while at most one tick has passed — the floor of the window is still at most
    its nonce (`win_open_run`) — and rejected from the second tick on (`C04Session.replay_dies`: the nonce has been seen, so two ticks lift the floor above it). -/
theorem coreSync_replay {room : Nat} {ca cb : Core} (hc : CoreSync (room + 1) ca cb) (p : Bytes) (sops : List SOp)
    (hrk : rotatedKeys sops = []) (hwf : DeliveredWF sops) :
    (numTicks sops ≤ 1 → ((run (cb.decrypt (ca.encrypt p).2).1 sops).1.decrypt (ca.encrypt p).2).2 = .ok p) ∧
    (2 ≤ numTicks sops → ∃ e, ((run (cb.decrypt (ca.encrypt p).2).1 sops).1.decrypt (ca.encrypt p).2).2 = .error e) := by
  obtain ⟨ks, kr, _, hr, hkey, hlt, hmin, hnext, _, e1, _, w, hw, hwr⟩ := coreSync_encrypt hc p
  have hdec := (coreSync_send hc p).1
  have hwfd := coreSync_hdr_wf hc p
  have hcur := hc.cur
  generalize (ca.encrypt p).2 = d at hdec e1 hwfd
  have f1 : d.keyId = ca.cur := by rw [e1]; rfl
  have hb : d.body = .sealed ks.key (ks.send + 1) p := by rw [e1]
  constructor
  · intro h1
    obtain ⟨k2, hk2, w2⟩ := win_open_run ks.key (ks.send + 1) ca.cur (.open d :: sops) 0 cb kr hr
      ⟨hkey, fun _ => ⟨hmin, hnext⟩, fun _ => hmin⟩ hrk
    have w2 : Win ks.key (ks.send + 1) (0 + numTicks sops) k2 := w2
    have hhalf : (run (cb.decrypt d).1 sops).1.half = cb.half := by
      rw [run_half]; exact step_half cb (.open d)
    have ho := C02.opens_sealed _ ca.cur k2 ca.half w p hcur hk2 (hhalf.trans hc.half) (by omega) (hw ▸ w2.2.2 (by omega))
    rw [← hw, w2.1, ← e1] at ho
    exact ho.1
  · intro h2
    exact replay_dies cb sops d d ks.key (ks.send + 1) (ks.send + 1) p p kr (by rw [f1]; exact hr) (by omega) hwfd hwf hdec hb hb rfl
      (Nat.le_refl _) (by rw [hrk]; simp) h2

variable (env : CryptoEnv) (bodyOf : Init.BodyOf) (ok : Bytes → Bool)

/-- the invariant of a history on a link in sync; last clause, **the link to `C04Session`**: if B's session is encrypted, its core
    undergoes a trace of `C04Session.SOp`s — one `.open` (of a datagram that consists of bytes) per send, one `.tick` per tick at B,
    no rotation.  The room at the start is written as a sum, so that at a send it is `_ + 1` by computation, as `stepL_send` wants it. -/
theorem runL_inv (ops : List LOp) : ∀ (s : LSt) (room : Nat), InSync (room + numSends ops) s.a s.b →
    RunOK env bodyOf ok s ops → LogOK bodyOf (runL env bodyOf ok s ops).log →
    (runL env bodyOf ok s ops).got = s.got ++ (sent ops).map (fun m => some (MsgResult.message m.1 m.2, [])) ∧
    (runL env bodyOf ok s ops).wire.length = s.wire.length + numSends ops ∧
    InSync room (runL env bodyOf ok s ops).a (runL env bodyOf ok s ops).b ∧
    (s.b.unencrypted = false → ∀ cb, s.b.core = some cb →
      ∃ sops, (runL env bodyOf ok s ops).b.core = some (run cb sops).1 ∧ (runL env bodyOf ok s ops).b.unencrypted = false ∧
        numTicks sops = numTicksB ops ∧ rotatedKeys sops = [] ∧ DeliveredWF sops) := by
  induction ops with
  | nil =>
    intro s room h _ _
    exact ⟨by simp [runL, sent], by simp [runL, sent, numSends], h, fun hub cb hcb => ⟨[], hcb, hub, rfl, rfl, fun d hd => by cases hd⟩⟩
  | cons op ops ih =>
    intro s room h hok hlog
    obtain ⟨hop, hrest⟩ := hok
    cases op with
    | send ty body ct tail rnd rr =>
      obtain ⟨ca', cb', bytes, log, hst, s1, hb1⟩ := stepL_send env bodyOf ok (room := room + numSends ops) h ty body ct tail rnd rr hop
        (fun e he => hlog e (runL_log_mono env bodyOf ok ops _ e he))
      have ih' := ih (stepL env bodyOf ok s (.send ty body ct tail rnd rr)) room (by rw [hst]; exact s1) hrest hlog
      simp only [runL]
      rw [hst] at ih' ⊢
      obtain ⟨g2, w2, s2, t2⟩ := ih'
      refine ⟨?_, ?_, s2, fun hub cb hcb => ?_⟩
      · rw [g2]
        simp only [sent, List.map_cons, List.append_assoc, List.singleton_append]
      · rw [w2]
        simp only [numSends, sent, List.length_cons, List.length_append, List.length_nil]
        omega
      · obtain ⟨d, hwf, rfl⟩ := hb1 hub cb hcb
        obtain ⟨sops, h1, h2, h3, h4, h5⟩ := t2 hub _ rfl
        refine ⟨.open d :: sops, h1, h2, h3, h4, fun d' hd => ?_⟩
        rcases List.mem_cons.1 hd with rfl | hd
        · exact hwf
        · exact h5 d' hd
    | tickA rr => exact ih _ room (stepL_tickA env bodyOf ok h rr hop.1) hrest hlog
    | tickB rr =>
      obtain ⟨g2, w2, s2, t2⟩ := ih _ room (stepL_tickB env bodyOf ok h rr hop.1) hrest hlog
      refine ⟨g2, w2, s2, fun hub cb hcb => ?_⟩
      obtain ⟨hcore, hun, _⟩ := tick_effect hop.1
      rw [hcb] at hcore
      obtain ⟨sops, h1, h2, h3, h4, h5⟩ := t2 (hun.trans hub) _ hcore
      exact ⟨.tick :: sops, h1, h2, by rw [numTicks_cons, h3]; simp only [numTicks, numTicksB]; omega, h4, h5⟩

/-- the datagram A's session puts on the wire for a message (`[]` if it cannot seal) -/
def wireOf (sa : PeerCrypto) (ty : Nat) (body ct : Bytes) : Bytes :=
  match (PeerCrypto.sendMessage sa ty body ct).2 with
  | .ok (bytes, _) => bytes
  | .error _ => []

/-- `coreSync_replay` at session level: a send on an encrypted link in sync, a further history `more`, then the datagram of that send once more.  The
    send is taken exactly (`stepL_send_enc`); the trace B's core undergoes during `more` is the last clause of `runL_inv`. -/
theorem replay_outcome {room : Nat} {s : LSt} (hs : InSync (room + 1) s.a s.b) (henc : s.a.unencrypted = false)
    (ty : Nat) (body ct tail : Bytes) (rnd : Rand) (rr : RotRand) (more : List LOp) (hroom : numSends more ≤ room)
    (hok : RunOK env bodyOf ok s (.send ty body ct tail rnd rr :: more))
    (hlog : LogOK bodyOf (runL env bodyOf ok s (.send ty body ct tail rnd rr :: more)).log) (tail' : Bytes) (rnd' : Rand) (rr' : RotRand) :
    (numTicksB more ≤ 1 → ∃ b', PeerCrypto.handleMessage env bodyOf ok (runL env bodyOf ok s (.send ty body ct tail rnd rr :: more)).b
      (wireOf s.a ty body ct) tail' rnd' rr' = .ok b' [] (.message ty body) []) ∧
    (2 ≤ numTicksB more → ∃ b', PeerCrypto.handleMessage env bodyOf ok (runL env bodyOf ok s (.send ty body ct tail rnd rr :: more)).b
      (wireOf s.a ty body ct) tail' rnd' rr' = .err b' .crypto) := by
  cases hs with
  | plain hua _ => rw [henc] at hua; cases hua
  | enc ca cb hua hub hca hcb hc =>
    obtain ⟨hst, hdg, rest, hcons⟩ := stepL_send_enc env bodyOf ok hua hub hca hcb hc ty body ct tail rnd rr hok.1.1
      (fun e he => hlog e (runL_log_mono env bodyOf ok more _ e he))
    obtain ⟨sops, hcore, hun, hnt, hrk, hwf⟩ := (runL_inv env bodyOf ok more (stepL env bodyOf ok s (.send ty body ct tail rnd rr)) (room - numSends more)
      (by rw [hst, Nat.sub_add_cancel hroom]; exact .enc _ _ hua hub rfl rfl (coreSync_send hc (ty :: body)).2) hok.2 hlog).2.2.2
      (by rw [hst]; exact hub) _ (by rw [hst])
    obtain ⟨hacc, hrej⟩ := coreSync_replay hc (ty :: body) sops hrk hwf
    have hne : ca.cur ≠ Generated.INIT_MESSAGE_FIRST_BYTE := by
      have := hc.cur
      simp only [Generated.INIT_MESSAGE_FIRST_BYTE]; omega
    have hw : wireOf s.a ty body ct = ca.cur :: rest := by
      unfold wireOf
      rw [sendMessage_enc hua hca ty body ct]
      exact hcons
    rw [hcons] at hdg
    rw [hw, ← hnt]
    refine ⟨fun h1 => ⟨_, handleMessage_enc_ok env bodyOf ok hun hcore ca.cur rest tail' rnd' rr' hne ty body
      (by rw [hdg]; exact hacc h1) hok.1.1⟩, fun h2 => ?_⟩
    obtain ⟨e, he⟩ := hrej h2
    exact ⟨_, handleMessage_enc_err env bodyOf ok hun hcore ca.cur rest tail' rnd' rr' hne e (by rw [hdg]; exact he)⟩

end

theorem handleIface_exact (o : Oracle) (n : Node) (now : Int) (data : Bytes) (sa dst : Addr) (pid : PeerId) (b : NAddr) (pa : Peer)
    (pa' : PeerCrypto) (bytes : Bytes) (log : Init.SealLog)
    (hp : parseAddrs n data = some (sa, dst)) (hl : (n.table.lookup now dst).2 = some pid)
    (ha : (n.peers.map (·.1)).find? (fun x => addrId x = pid) = some b) (hpa : lookupA n.peers b = some pa)
    (hs : PeerCrypto.sendMessage pa.crypto Generated.MESSAGE_TYPE_DATA data (rndFor o { node := n } b).2.1.ct = (pa', .ok (bytes, log))) :
    (handleIface o n now data).node =
      { n with table := (n.table.lookup now dst).1, peers := insertA n.peers b { pa with crypto := pa' } } ∧
    (handleIface o n now data).outs = [.dgram b bytes] ∧ (handleIface o n now data).log = log := by
  rw [handleIface_hit o n now data hp hl ha]
  simp only [sendMsg, hpa, hs, Option.getD_some]
  exact ⟨rfl, rfl, rfl⟩

/-- one frame read from A's interface, with the circumstances of its processing: the times at A and at B, the oracles (randomness of the
    step as observed from the implementation: `oA` supplies the ciphertext bytes of A's datagram), stale bytes behind the datagram in
    B's receive buffer -/
structure FrameEv where
  data : Bytes
  nowA : Int
  oA : Oracle
  nowB : Int
  oB : Oracle
  tail : Bytes

/-- node A (address `a`), node B (address `b`), everything A has emitted, everything B has emitted (datagrams and frames written to its
    interface), all genuine seals of A's steps -/
structure NSt where
  nA : Node
  nB : Node
  wire : List Out := []
  outB : List Out := []
  log : Init.SealLog := []

section
variable (env : CryptoEnv) (bodyOf : Init.BodyOf)

/-- the network: a datagram A emitted for address `b` is handed to node B (`handle_net_message`, sender address `a`) — once, at once;
    datagrams for other addresses do not reach B -/
def deliver (a b : NAddr) (ev : FrameEv) (st : Node × List Out) : Out → Node × List Out
  | .dgram d bytes =>
    if d = b then
      ((handleNet env bodyOf ev.oB st.1 ev.nowB a bytes ev.tail).1.node,
       st.2 ++ (handleNet env bodyOf ev.oB st.1 ev.nowB a bytes ev.tail).1.outs)
    else st
  | .iface _ => st

/-- one frame: `handle_interface_data` at A, then the network delivers what A emitted, in order -/
def stepN (a b : NAddr) (s : NSt) (ev : FrameEv) : NSt :=
  { nA := (handleIface ev.oA s.nA ev.nowA ev.data).node,
    nB := ((handleIface ev.oA s.nA ev.nowA ev.data).outs.foldl (deliver env bodyOf a b ev) (s.nB, s.outB)).1,
    wire := s.wire ++ (handleIface ev.oA s.nA ev.nowA ev.data).outs,
    outB := ((handleIface ev.oA s.nA ev.nowA ev.data).outs.foldl (deliver env bodyOf a b ev) (s.nB, s.outB)).2,
    log := s.log ++ (handleIface ev.oA s.nA ev.nowA ev.data).log }

def runN (a b : NAddr) (s : NSt) : List FrameEv → NSt
  | [] => s
  | ev :: evs => runN a b (stepN env bodyOf a b s ev) evs

/-- the frame parses at A (as a frame / packet of A's device type) and A's table — in the state in which the frame is read — names
    `b` as next hop for its destination -/
def FrameOK (b : NAddr) (n : Node) (ev : FrameEv) : Prop :=
  ∃ sa dst, parseAddrs n ev.data = some (sa, dst) ∧ (n.table.lookup ev.nowA dst).2 = some (addrId b)

/-- `FrameOK` for every frame of the list, the table being carried along (`lookup` updates the cache) -/
def FramesOK (a b : NAddr) : NSt → List FrameEv → Prop
  | _, [] => True
  | s, ev :: evs => FrameOK b s.nA ev ∧ FramesOK a b (stepN env bodyOf a b s ev) evs

end

/-- the two nodes hold established sessions for each other's address that are in sync for the direction A → B (`InSync`), and `b` is
    the first of A's peer addresses with its table id (`emit_known`: the table names peers by id) -/
def NodeSync (room : Nat) (a b : NAddr) (nA nB : Node) : Prop :=
  (nA.peers.map (·.1)).find? (fun x => addrId x = addrId b) = some b ∧
  ∃ pa pb, lookupA nA.peers b = some pa ∧ lookupA nB.peers (mappedAddr a) = some pb ∧ InSync room pa.crypto pb.crypto

section
variable (env : CryptoEnv) (bodyOf : Init.BodyOf)

theorem stepN_log_mono (a b : NAddr) (s : NSt) (ev : FrameEv) : ∀ e ∈ s.log, e ∈ (stepN env bodyOf a b s ev).log :=
  fun _ he => List.mem_append_left _ he

theorem runN_log_mono (a b : NAddr) (evs : List FrameEv) : ∀ (s : NSt), ∀ e ∈ s.log, e ∈ (runN env bodyOf a b s evs).log := by
  induction evs with
  | nil => intro s e he; exact he
  | cons ev evs ih => intro s e he; exact ih _ e (stepN_log_mono env bodyOf a b s ev e he)

theorem stepN_frame {room : Nat} (a b : NAddr) (s : NSt) (ev : FrameEv) (h : NodeSync (room + 1) a b s.nA s.nB)
    (hf : FrameOK b s.nA ev) (hlog : LogOK bodyOf (stepN env bodyOf a b s ev).log) :
    (∃ bytes, (stepN env bodyOf a b s ev).wire = s.wire ++ [.dgram b bytes]) ∧
    (stepN env bodyOf a b s ev).outB = s.outB ++ (if (parseAddrs s.nB ev.data).isSome = true then [Out.iface ev.data] else []) ∧
    NodeSync room a b (stepN env bodyOf a b s ev).nA (stepN env bodyOf a b s ev).nB ∧
    (stepN env bodyOf a b s ev).nA.cfg = s.nA.cfg ∧ (stepN env bodyOf a b s ev).nB.cfg = s.nB.cfg := by
  obtain ⟨hfind, pa, pb, hpa, hpb, hsync⟩ := h
  obtain ⟨sa, dst, hp, hl⟩ := hf
  obtain ⟨ca', bytes, log, hsm, himp⟩ := send_deliver env bodyOf payloadOk hsync Generated.MESSAGE_TYPE_DATA ev.data
    (rndFor ev.oA { node := s.nA } b).2.1.ct ev.tail (rndFor ev.oB { node := s.nB } (mappedAddr a)).1
    (rndFor ev.oB { node := s.nB } (mappedAddr a)).2.1 (by decide) (fun _ => by decide)
  obtain ⟨hnode, houts, hlg⟩ := handleIface_exact ev.oA s.nA ev.nowA ev.data sa dst (addrId b) b pa _ bytes log hp hl hfind hpa hsm
  obtain ⟨cb', hrecv, hsync', _⟩ := himp (fun e he => hlog e (by
    show e ∈ s.log ++ (handleIface ev.oA s.nA ev.nowA ev.data).log
    rw [hlg]
    exact List.mem_append_right _ he))
  obtain ⟨hbo, hbn⟩ := handleNet_data env bodyOf ev.oB s.nB ev.nowB a bytes ev.tail ev.data pb _ [] [] hpb hrecv
  have hA : (stepN env bodyOf a b s ev).nA =
      { s.nA with table := (s.nA.table.lookup ev.nowA dst).1, peers := insertA s.nA.peers b { pa with crypto := { pa.crypto with core := ca' } } } :=
    hnode
  obtain ⟨tb, hB⟩ : ∃ tb, (stepN env bodyOf a b s ev).nB =
      { s.nB with peers := insertA s.nB.peers (mappedAddr a) { pb with crypto := { pb.crypto with core := cb' } }, table := tb } := by
    simp only [stepN, houts, List.foldl_cons, List.foldl_nil, deliver, if_true]
    exact ⟨_, hbn⟩
  refine ⟨⟨bytes, by simp only [stepN, houts]⟩, ?_, ?_, by rw [hA], by rw [hB]⟩
  · simp only [stepN, houts, List.foldl_cons, List.foldl_nil, deliver, if_true]
    rw [hbo]
  · rw [hA, hB]
    refine ⟨?_, _, _, lookupA_insertA_self _ _ _, lookupA_insertA_self _ _ _, hsync'⟩
    show ((insertA s.nA.peers b _).map (·.1)).find? _ = _
    rw [insertA_keys_of_some _ _ _ _ hpa]
    exact hfind

/-- the invariant of a history of frames between two nodes in sync; last clause: every frame parses at A (for `frames_delivered_same_mode`) -/
theorem runN_inv (a b : NAddr) (evs : List FrameEv) : ∀ (s : NSt) (room : Nat), NodeSync (room + evs.length) a b s.nA s.nB →
    FramesOK env bodyOf a b s evs → LogOK bodyOf (runN env bodyOf a b s evs).log →
    (∃ ws : List Bytes, ws.length = evs.length ∧ (runN env bodyOf a b s evs).wire = s.wire ++ ws.map (Out.dgram b)) ∧
    (runN env bodyOf a b s evs).outB =
      s.outB ++ ((evs.map (·.data)).filter (fun d => (parseAddrs s.nB d).isSome)).map Out.iface ∧
    NodeSync room a b (runN env bodyOf a b s evs).nA (runN env bodyOf a b s evs).nB ∧
    (∀ ev ∈ evs, (parseAddrs s.nA ev.data).isSome = true) := by
  induction evs with
  | nil =>
    intro s room h _ _
    exact ⟨⟨[], rfl, by simp [runN]⟩, by simp [runN], h, fun _ h => by cases h⟩
  | cons ev evs ih =>
    intro s room h hok hlog
    obtain ⟨hf, hrest⟩ := hok
    have hl1 : LogOK bodyOf (stepN env bodyOf a b s ev).log := fun e he => hlog e (runN_log_mono env bodyOf a b evs _ e he)
    obtain ⟨⟨bytes, hw⟩, ho, hs1, hcA, hcB⟩ := stepN_frame env bodyOf (room := room + evs.length) a b s ev h hf hl1
    obtain ⟨⟨ws, hwl, hw2⟩, ho2, hs2, hp2⟩ := ih (stepN env bodyOf a b s ev) room hs1 hrest hlog
    have hpred : (fun d => (parseAddrs (stepN env bodyOf a b s ev).nB d).isSome) = (fun d => (parseAddrs s.nB d).isSome) :=
      funext fun d => by rw [parseAddrs_congr _ _ d hcB]
    simp only [runN]
    refine ⟨⟨bytes :: ws, by simp [hwl], ?_⟩, ?_, hs2, fun ev' hev' => ?_⟩
    · rw [hw2, hw]
      simp only [List.map_cons, List.append_assoc, List.singleton_append]
    · rw [ho2, ho, hpred]
      simp only [List.map_cons, List.filter_cons]
      split <;> simp
    · rcases List.mem_cons.1 hev' with rfl | hev'
      · obtain ⟨sa, dst, hp, _⟩ := hf
        rw [hp]; rfl
      · rw [← parseAddrs_congr _ _ _ hcA]
        exact hp2 ev' hev'

end

section
open VpnCloud.Proofs.C07SessionLemmas

/-- a tick of a quiet session whose rotate counter has `n + 1` ticks to go before a rotation falls due: it succeeds, and the session is
    quiet afterwards with `n` ticks to go -/
theorem quiet_tickOK {pc : PeerCrypto} (hq : Quiet pc) (rr : RotRand) {n : Nat}
    (hrot : pc.rot = none ∨ pc.rotateCounter + (n + 1) < Generated.ROTATE_INTERVAL) :
    TickOK pc rr ∧ Quiet (after pc (PeerCrypto.everySecond pc rr)) ∧
    ((after pc (PeerCrypto.everySecond pc rr)).rot = none ∨
      (after pc (PeerCrypto.everySecond pc rr)).rotateCounter + n < Generated.ROTATE_INTERVAL) := by
  have hrot1 : pc.rot = none ∨ pc.rotateCounter + 1 < Generated.ROTATE_INTERVAL := hrot.imp id (fun h0 => by omega)
  obtain ⟨h1, q1⟩ := tick1_quiet hq
  obtain ⟨_, _, hr, hc, hs⟩ := tick_effect (rr := rr) hrot1
  obtain ⟨he, hi⟩ := hs h1
  refine ⟨⟨hrot1, _, _, _, _, he⟩, fun ist hist => tick2_quiet q1 ist (hi ▸ hist), ?_⟩
  rcases hrot with h0 | h0
  · exact Or.inl (hr.trans h0)
  · exact Or.inr (by omega)

variable (env : CryptoEnv) (bodyOf : Init.BodyOf) (ok : Bytes → Bool)

theorem runOK_of_quiet (ops : List LOp) : ∀ (s : LSt) (room : Nat), InSync (room + numSends ops) s.a s.b →
    Quiet s.a → Quiet s.b →
    (s.a.rot = none ∨ s.a.rotateCounter + numTicksA ops < Generated.ROTATE_INTERVAL) →
    (s.b.rot = none ∨ s.b.rotateCounter + numTicksB ops < Generated.ROTATE_INTERVAL) →
    (∀ m ∈ sent ops, m.1 ≠ Generated.MESSAGE_TYPE_ROTATION ∧ (s.a.unencrypted = true → m.1 ≠ Generated.INIT_MESSAGE_FIRST_BYTE)) →
    LogOK bodyOf (runL env bodyOf ok s ops).log → RunOK env bodyOf ok s ops := by
  induction ops with
  | nil => intro _ _ _ _ _ _ _ _ _; trivial
  | cons op ops ih =>
    intro s room h hqa hqb hra hrb hty hlog
    cases op with
    | send ty body ct tail rnd rr =>
      have hop : OpOK s (.send ty body ct tail rnd rr) := hty (ty, body) (by simp [sent])
      obtain ⟨ca', cb', bytes, log, hst, s1, _⟩ := stepL_send env bodyOf ok (room := room + numSends ops) h ty body ct tail rnd rr hop
        (fun e he => hlog e (runL_log_mono env bodyOf ok ops _ e he))
      have hlog' : LogOK bodyOf (runL env bodyOf ok (stepL env bodyOf ok s (.send ty body ct tail rnd rr)) ops).log := hlog
      refine ⟨hop, ?_⟩
      rw [hst] at hlog' ⊢
      -- the send touched nothing of the two sessions but their cores
      exact ih _ room s1 hqa hqb hra hrb (fun m hm => hty m (by simp [sent, hm])) hlog'
    | tickA rr =>
      obtain ⟨hop, hq', hra'⟩ := quiet_tickOK hqa rr hra
      obtain ⟨_, hun, _⟩ := tick_effect (rr := rr) hop.1
      exact ⟨hop, ih _ room (stepL_tickA env bodyOf ok h rr hop.1) hq' hqb hra' hrb
        (fun m hm => ⟨(hty m hm).1, fun hu => (hty m hm).2 (hun.symm.trans hu)⟩) hlog⟩
    | tickB rr =>
      obtain ⟨hop, hq', hrb'⟩ := quiet_tickOK hqb rr hrb
      exact ⟨hop, ih _ room (stepL_tickB env bodyOf ok h rr hop.1) hqa hq' hra hrb' hty hlog⟩

end

end VpnCloud.Proofs.C10NetLemmas
