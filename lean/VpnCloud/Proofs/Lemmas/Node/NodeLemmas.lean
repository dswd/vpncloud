import VpnCloud.Proofs.Lemmas.Node.AssocLemmas
/-
  What the node-level proofs of all operation groups share (namespace `NodeLemmas`, continued in the files of the groups): the shape of
  the outputs (`Ext`), folds over a step context, and how an operation says what it leaves alone — one equation between blanked
  contexts, from which every untouched projection follows by `frame_proj`.
-/
namespace VpnCloud.Proofs.NodeLemmas

open VpnCloud.Node

/-! ## shape of outputs: `Ext P l l'` = `l'` extends `l` by outputs that all satisfy `P` -/

def Ext (P : Out → Prop) (l l' : List Out) : Prop := ∃ ex, l' = l ++ ex ∧ ∀ x ∈ ex, P x

theorem Ext.refl (P : Out → Prop) (l : List Out) : Ext P l l := ⟨[], by simp, by simp⟩

theorem Ext.of_eq {P : Out → Prop} {l l' : List Out} (h : l' = l) : Ext P l l' := h ▸ Ext.refl P l

theorem Ext.trans {P : Out → Prop} {l1 l2 l3 : List Out} (h1 : Ext P l1 l2) (h2 : Ext P l2 l3) : Ext P l1 l3 := by
  obtain ⟨e1, rfl, p1⟩ := h1
  obtain ⟨e2, rfl, p2⟩ := h2
  refine ⟨e1 ++ e2, by simp, ?_⟩
  intro x hx
  rcases List.mem_append.1 hx with h | h
  · exact p1 x h
  · exact p2 x h

theorem Ext.mono {P Q : Out → Prop} {l l' : List Out} (hpq : ∀ x, P x → Q x) (h : Ext P l l') : Ext Q l l' := by
  obtain ⟨e, rfl, p⟩ := h
  exact ⟨e, rfl, fun x hx => hpq x (p x hx)⟩

theorem Ext.snoc {P : Out → Prop} (l : List Out) {x : Out} (h : P x) : Ext P l (l ++ [x]) :=
  ⟨[x], rfl, by simpa using h⟩

theorem Ext.mem {P : Out → Prop} {l l' : List Out} (h : Ext P l l') {x : Out} (hx : x ∈ l') : x ∈ l ∨ P x := by
  obtain ⟨e, rfl, p⟩ := h
  rcases List.mem_append.1 hx with h | h
  · exact Or.inl h
  · exact Or.inr (p x h)

theorem foldl_inv {β} (P : Ctx → Prop) (f : Ctx → β → Ctx) (hf : ∀ c x, P c → P (f c x)) :
    ∀ (l : List β) (c : Ctx), P c → P (l.foldl f c)
  | [], _, h => h
  | x :: l, c, h => foldl_inv P f hf l (f c x) (hf c x h)

theorem foldl_inv_mem {β} (P : Ctx → Prop) (f : Ctx → β → Ctx) :
    ∀ (l : List β) (c : Ctx), (∀ c x, x ∈ l → P c → P (f c x)) → P c → P (l.foldl f c)
  | [], _, _, h => h
  | x :: l, c, hf, h =>
    foldl_inv_mem P f l (f c x) (fun c y hy => hf c y (List.mem_cons_of_mem _ hy)) (hf c x (List.mem_cons_self ..) h)

theorem foldl_rel {β} (R : Ctx → Ctx → Prop) (hr : ∀ c, R c c) (ht : ∀ c1 c2 c3, R c1 c2 → R c2 c3 → R c1 c3)
    (f : Ctx → β → Ctx) (hf : ∀ c x, R c (f c x)) (l : List β) (c : Ctx) : R c (l.foldl f c) :=
  foldl_inv (R c) f (fun c' x h => ht c c' _ h (hf c' x)) l c (hr c)

theorem foldl_sim {β} (R : Ctx → Ctx → Prop) (f g : Ctx → β → Ctx) (hf : ∀ c1 c2 x, R c1 c2 → R (f c1 x) (g c2 x)) :
    ∀ (l : List β) (c1 c2 : Ctx), R c1 c2 → R (l.foldl f c1) (l.foldl g c2)
  | [], _, _, h => h
  | x :: l, c1, c2, h => foldl_sim R f g hf l (f c1 x) (g c2 x) (hf c1 c2 x h)

theorem foldl_keep {α β} (g : Ctx → α) (f : Ctx → β → Ctx) (hf : ∀ c x, g (f c x) = g c) (l : List β) (c : Ctx) :
    g (l.foldl f c) = g c :=
  foldl_rel (fun c c' => g c' = g c) (fun _ => rfl) (fun _ _ _ h1 h2 => h2.trans h1) f hf l c

theorem Ext.foldl {P : Out → Prop} {β} (f : Ctx → β → Ctx) (hf : ∀ c x, Ext P c.outs (f c x).outs) (l : List β) (c : Ctx) :
    Ext P c.outs (l.foldl f c).outs :=
  foldl_rel (fun c c' => Ext P c.outs c'.outs) (fun _ => Ext.refl P _) (fun _ _ _ => Ext.trans) f hf l c

def IsHs (x : Out) : Prop := ∃ d b, x = .dgram d (Generated.INIT_MESSAGE_FIRST_BYTE :: b)

@[simp] theorem send_outs (c : Ctx) (a : NAddr) (b : Bytes) : (c.send a b).outs = c.outs ++ [.dgram a b] := rfl
@[simp] theorem send_node (c : Ctx) (a : NAddr) (b : Bytes) : (c.send a b).node = c.node := rfl
@[simp] theorem send_panicked (c : Ctx) (a : NAddr) (b : Bytes) : (c.send a b).panicked = c.panicked := rfl
@[simp] theorem send_log (c : Ctx) (a : NAddr) (b : Bytes) : (c.send a b).log = c.log := rfl
@[simp] theorem addLog_outs (l : Init.SealLog) (c : Ctx) : (addLog l c).outs = c.outs := rfl
@[simp] theorem addLog_node (l : Init.SealLog) (c : Ctx) : (addLog l c).node = c.node := rfl
@[simp] theorem addLog_cnt (l : Init.SealLog) (c : Ctx) : (addLog l c).cnt = c.cnt := rfl
@[simp] theorem addLog_panicked (l : Init.SealLog) (c : Ctx) : (addLog l c).panicked = c.panicked := rfl
@[simp] theorem countInvalid_outs (c : Ctx) : (countInvalid c).outs = c.outs := rfl
@[simp] theorem countInvalid_panicked (c : Ctx) : (countInvalid c).panicked = c.panicked := rfl

/-! ## frames: what an operation leaves alone

  An operation comes with one statement saying that the context is the same before and after once the parts the operation
  writes are blanked; every untouched projection then follows by `frame_proj`. -/

/-- `congrArg π h` alone makes the unifier compare `u c'` with `c'`, which unfolds `c'`. -/
theorem frame_proj {γ} {u : Ctx → Ctx} {c c' : Ctx} (h : u c' = u c) (π : Ctx → γ) (hπ : ∀ c, π (u c) = π c := by intro; rfl) :
    π c' = π c :=
  (hπ c').symm.trans ((congrArg π h).trans (hπ c))

end VpnCloud.Proofs.NodeLemmas
