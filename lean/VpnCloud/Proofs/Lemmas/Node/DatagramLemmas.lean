import VpnCloud.Proofs.Lemmas.Node.ConnectLemmas
import VpnCloud.Proofs.C01
import VpnCloud.Proofs.Lemmas.Node.SessionStages
/-
  `handle_net_message` in two layers.  `handle_message` on one session-layer result is opened once, by motive lemmas
  (`handleResult_leaves`, and exactly for a message `handleResult_message`; the nested `if`s are taken apart with `iteInduction`,
  `split` is slow on them).  `handleNet` is `finish ∘ dispatch`; `dispatch_cases` has the branches of the dispatch with the
  condition under which each is taken, the throw-away responder being one more stored session that is dropped after an error
  (`responder_eq`).  Last, refused datagrams: when every session the datagram may be handed to answers with an error and stays as
  it is (`handleMessage_reject` for a rejected handshake datagram), the step leaves no trace (`Traceless`, `dispatch_refused`).
-/
namespace VpnCloud.Proofs.C15MoreLemmas
open VpnCloud.Node VpnCloud.Proofs.NodeLemmas

/-- the record `update_peer_info` writes: new expiry; with node information also the address list (seen address first) -/
def refreshed (p : Peer) (expiry : Int) (a : NAddr) : Option NodeInfo → Peer
  | none => { p with timeout := expiry }
  | some i => { p with timeout := expiry, addrs := i.addrs.foldl (fun l x => if l.contains x then l else l ++ [x]) [a] }

theorem refreshed_timeout (p : Peer) (e : Int) (a : NAddr) (i : Option NodeInfo) : (refreshed p e a i).timeout = e := by
  cases i <;> rfl
theorem refreshed_crypto (p : Peer) (e : Int) (a : NAddr) (i : Option NodeInfo) : (refreshed p e a i).crypto = p.crypto := by
  cases i <;> rfl
theorem refreshed_peerTimeout (p : Peer) (e : Int) (a : NAddr) (i : Option NodeInfo) : (refreshed p e a i).peerTimeout = p.peerTimeout := by
  cases i <;> rfl
theorem refreshed_nodeId (p : Peer) (e : Int) (a : NAddr) (i : Option NodeInfo) : (refreshed p e a i).nodeId = p.nodeId := by
  cases i <;> rfl

/-- `update_peer_info` for a peer: the record refreshed; with node information also its claims set and its peers dialled -/
theorem updatePeerInfo_eq {env : CryptoEnv} {o : Oracle} {c : Ctx} {now : Int} {a : NAddr} {info : Option NodeInfo} {p : Peer}
    (hp : lookupA c.node.peers a = some p) :
    updatePeerInfo env o c now a info =
      match info with
      | none => { c with node := { c.node with peers := insertA c.node.peers a (refreshed p (now + c.node.cfg.peerTimeout) a none) } }
      | some i => connectToPeers env o { c with node := { c.node with
          peers := insertA c.node.peers a (refreshed p (now + c.node.cfg.peerTimeout) a (some i)),
          table := c.node.table.setClaims now (addrId a) i.claims } } i.peers := by
  unfold updatePeerInfo
  simp only [hp]
  cases info <;> rfl

theorem updatePeerInfo_absent {env : CryptoEnv} {o : Oracle} {c : Ctx} {now : Int} {a : NAddr} {info : Option NodeInfo}
    (hp : lookupA c.node.peers a = none) : updatePeerInfo env o c now a info = c := by
  unfold updatePeerInfo
  simp only [hp]

theorem updatePeerInfo_peers (env : CryptoEnv) (o : Oracle) (c : Ctx) (now : Int) (a : NAddr) (info : Option NodeInfo) (p : Peer)
    (hp : lookupA c.node.peers a = some p) :
    (updatePeerInfo env o c now a info).node.peers = insertA c.node.peers a (refreshed p (now + c.node.cfg.peerTimeout) a info) := by
  rw [updatePeerInfo_eq hp]
  cases info with
  | none => rfl
  | some i => exact connectToPeers_peers ..

theorem addNewPeer_none (env : CryptoEnv) (o : Oracle) (c : Ctx) (now : Int) (a : NAddr) (info : NodeInfo)
    (hp : lookupA c.node.pending a = none) : addNewPeer env o c now a info = c := by
  unfold addNewPeer
  simp only [hp]

/-- `add_new_peer` for a pending handshake: the session moves to a new peer record, which `update_peer_info` refreshes at once;
    the next announcement is pulled forward to `now` -/
theorem addNewPeer_eq {env : CryptoEnv} {o : Oracle} {c : Ctx} {now : Int} {a : NAddr} {info : NodeInfo} {pc : PeerCrypto}
    (hp : lookupA c.node.pending a = some pc) :
    addNewPeer env o c now a info =
      let c1 := updatePeerInfo env o { c with node := { c.node with
        pending := eraseA c.node.pending a,
        peers := insertA c.node.peers a { addrs := info.addrs, crypto := pc, nodeId := info.nodeId,
                                          peerTimeout := info.peerTimeout.getD Generated.DEFAULT_PEER_TIMEOUT,
                                          timeout := now + c.node.cfg.peerTimeout } } } now a (some info)
      { c1 with node := { c1.node with nextPeers := min c1.node.nextPeers now } } := by
  unfold addNewPeer
  simp only [hp]

end VpnCloud.Proofs.C15MoreLemmas

namespace VpnCloud.Proofs.NodeLemmas

open VpnCloud.Node VpnCloud.Proofs.AssocLemmas
open VpnCloud.Proofs.C15MoreLemmas (updatePeerInfo_eq updatePeerInfo_absent updatePeerInfo_peers addNewPeer_none addNewPeer_eq)

theorem updatePeerInfo_table_some (env : CryptoEnv) (o : Oracle) (c : Ctx) (now : Int) (a : NAddr) (info : NodeInfo) (p : Peer)
    (hp : lookupA c.node.peers a = some p) :
    (updatePeerInfo env o c now a (some info)).node.table = c.node.table.setClaims now (addrId a) info.claims := by
  rw [updatePeerInfo_eq hp]
  exact connectToPeers_table ..

theorem updatePeerInfo_table_none (env : CryptoEnv) (o : Oracle) (c : Ctx) (now : Int) (a : NAddr) :
    (updatePeerInfo env o c now a none).node.table = c.node.table := by
  cases hp : lookupA c.node.peers a with
  | none => rw [updatePeerInfo_absent hp]
  | some p => rw [updatePeerInfo_eq hp]

theorem updatePeerInfo_keys (env : CryptoEnv) (o : Oracle) (c : Ctx) (now : Int) (a : NAddr) (info : Option NodeInfo) :
    (updatePeerInfo env o c now a info).node.peers.map (·.1) = c.node.peers.map (·.1) := by
  cases hp : lookupA c.node.peers a with
  | none => rw [updatePeerInfo_absent hp]
  | some p => rw [updatePeerInfo_peers env o c now a info p hp]; exact insertA_keys_of_some _ _ _ _ hp

theorem updatePeerInfo_ext (env : CryptoEnv) (o : Oracle) (c : Ctx) (now : Int) (a : NAddr) (info : Option NodeInfo) :
    Ext IsHs c.outs (updatePeerInfo env o c now a info).outs := by
  cases hp : lookupA c.node.peers a with
  | none => rw [updatePeerInfo_absent hp]; exact Ext.refl _ _
  | some p =>
    rw [updatePeerInfo_eq hp]
    cases info with
    | none => exact Ext.refl _ _
    | some i => exact connectToPeers_ext env o _ _

theorem updatePeerInfo_nextPeers (env : CryptoEnv) (o : Oracle) (c : Ctx) (now : Int) (a : NAddr) (info : Option NodeInfo) :
    (updatePeerInfo env o c now a info).node.nextPeers = c.node.nextPeers := by
  cases hp : lookupA c.node.peers a with
  | none => rw [updatePeerInfo_absent hp]
  | some p =>
    rw [updatePeerInfo_eq hp]
    cases info with
    | none => rfl
    | some i => exact connectToPeers_nextPeers ..

theorem addNewPeer_ext (env : CryptoEnv) (o : Oracle) (c : Ctx) (now : Int) (a : NAddr) (info : NodeInfo) :
    Ext IsHs c.outs (addNewPeer env o c now a info).outs := by
  cases hp : lookupA c.node.pending a with
  | none => rw [addNewPeer_none env o c now a info hp]; exact Ext.refl _ _
  | some pc => rw [addNewPeer_eq hp]; exact updatePeerInfo_ext env o _ now a _

theorem removePeer_outs (c : Ctx) (now : Int) (a : NAddr) : (removePeer c now a).outs = c.outs := by
  unfold removePeer
  simp only []
  split <;> rfl

theorem parseAddrs_congr (n1 n2 : Node) (data : Bytes) (hc : n1.cfg = n2.cfg) : parseAddrs n1 data = parseAddrs n2 data := by
  unfold parseAddrs; rw [hc]

/-- the leaves of a message, exactly.  `M` sees the message type, so that a statement that is itself a case distinction on the type is evaluated in each leaf -/
theorem handleResult_message {M : Nat → Ctx × Option InitErr → Prop} (env : CryptoEnv) (o : Oracle) (c : Ctx) (now : Int) (src : NAddr)
    (ty : Nat) (d out : Bytes)
    (noparse : parseAddrs c.node d = none → M Generated.MESSAGE_TYPE_DATA (c, some .parse))
    (data : ∀ sa da, parseAddrs c.node d = some (sa, da) →
      M Generated.MESSAGE_TYPE_DATA ({ c with outs := c.outs ++ [.iface d], node := { c.node with
        table := if c.node.cfg.learning then c.node.table.learn now sa (addrId src) else c.node.table } }, none))
    (badInfo : Codec.decodeNodeInfo d = none → M Generated.MESSAGE_TYPE_NODE_INFO (countInvalid c, some .message))
    (info : ∀ i, Codec.decodeNodeInfo d = some i → M Generated.MESSAGE_TYPE_NODE_INFO (updatePeerInfo env o c now src (some i), none))
    (keepalive : M Generated.MESSAGE_TYPE_KEEPALIVE (updatePeerInfo env o c now src none, none))
    (close : M Generated.MESSAGE_TYPE_CLOSE (removePeer c now src, none))
    (other : ty ≠ Generated.MESSAGE_TYPE_DATA → ty ≠ Generated.MESSAGE_TYPE_NODE_INFO → ty ≠ Generated.MESSAGE_TYPE_KEEPALIVE →
      ty ≠ Generated.MESSAGE_TYPE_CLOSE → M ty (countInvalid c, some .message)) :
    M ty (handleResult env o c now src (.message ty d) out) := by
  unfold handleResult
  simp only []
  refine iteInduction (fun h0 => ?_) (fun h0 => iteInduction (fun h1 => ?_) (fun h1 => iteInduction (fun h2 => ?_)
    (fun h2 => iteInduction (fun h3 => ?_) (fun h3 => other h0 h1 h2 h3))))
  · subst h0
    cases hpa : parseAddrs c.node d with
    | none => exact noparse hpa
    | some r =>
      have hd := data r.1 r.2 hpa
      simp only []
      split
      · rename_i hl; rw [if_pos hl] at hd; exact hd
      · rename_i hl; rw [if_neg hl] at hd; exact hd
  · subst h1
    cases hdi : Codec.decodeNodeInfo d with
    | none => exact badInfo hdi
    | some i => exact info i hdi
  · subst h2; exact keepalive
  · subst h3; exact close

/-- the leaves of `handle_message` on a session-layer result.  `keep`: the context is left as it is; what is known there of the result
    is that a completed handshake it reports carries a payload that does not decode (an invariant that tracks `payloadOk` refutes that) -/
theorem handleResult_leaves {M : Ctx × Option InitErr → Prop} (env : CryptoEnv) (o : Oracle) (c : Ctx) (now : Int) (src : NAddr)
    (res : MsgResult) (out : Bytes)
    (keep : ∀ e, (∀ p, res = .initialized p ∨ res = .initializedWithReply p → Codec.decodeNodeInfo p = none) → M (c, e))
    (data : ∀ ty d t, res = .message ty d →
      (t = c.node.table ∨ (c.node.cfg.learning = true ∧ ∃ sa, t = c.node.table.learn now sa (addrId src))) →
      M ({ c with outs := c.outs ++ [.iface d], node := { c.node with table := t } }, none))
    (invalid : ∀ ty d, res = .message ty d → M (countInvalid c, some .message))
    (upd : ∀ ty d info, res = .message ty d → M (updatePeerInfo env o c now src info, none))
    (rem : ∀ d, res = .message Generated.MESSAGE_TYPE_CLOSE d → M (removePeer c now src, none))
    (add : ∀ p info, res = .initialized p → Codec.decodeNodeInfo p = some info → M (addNewPeer env o c now src info, none))
    (addReply : ∀ p info, res = .initializedWithReply p → Codec.decodeNodeInfo p = some info →
      M ((addNewPeer env o c now src info).send src out, none))
    (reply : res = .reply → M (c.send src out, none)) : M (handleResult env o c now src res out) := by
  cases res with
  | message ty d =>
    have hno : ∀ p, MsgResult.message ty d = .initialized p ∨ MsgResult.message ty d = .initializedWithReply p →
        Codec.decodeNodeInfo p = none := fun p hp => by rcases hp with hp | hp <;> cases hp
    -- the leaves of a message with less said about each; the type in the motive is what the CLOSE leaf needs
    refine handleResult_message (M := fun t r => t = ty → M r) env o c now src ty d out (fun _ _ => keep _ hno) (fun sa da _ _ => ?_)
      (fun _ _ => invalid ty d rfl) (fun i _ _ => upd ty d (some i) rfl) (fun _ => upd ty d none rfl) (fun h => rem d (by rw [h]))
      (fun _ _ _ _ _ => invalid ty d rfl) rfl
    exact iteInduction (motive := fun t => M ({ c with outs := c.outs ++ [.iface d], node := { c.node with table := t } }, none))
      (fun hl => data ty d _ rfl (Or.inr ⟨hl, sa, rfl⟩)) (fun _ => data ty d _ rfl (Or.inl rfl))
  | initialized payload =>
    simp only [handleResult]
    split
    · rename_i info hd; exact add payload info rfl hd
    · rename_i hd
      exact keep _ (fun p hp => by rcases hp with hp | hp <;> cases hp; exact hd)
  | initializedWithReply payload =>
    simp only [handleResult]
    split
    · rename_i info hd; exact addReply payload info rfl hd
    · rename_i hd
      exact keep _ (fun p hp => by rcases hp with hp | hp <;> cases hp; exact hd)
  | reply => exact reply rfl
  | none => exact keep _ (fun p hp => by rcases hp with hp | hp <;> cases hp)

end VpnCloud.Proofs.NodeLemmas

namespace VpnCloud.Proofs.C15MoreLemmas
open VpnCloud.Node VpnCloud.Proofs.NodeLemmas

theorem handleResult_message_peers (env : CryptoEnv) (o : Oracle) (c : Ctx) (now : Int) (s : NAddr) (ty : Nat) (body out : Bytes) (q : Peer)
    (hq : lookupA c.node.peers s = some q) :
    (handleResult env o c now s (.message ty body) out).1.node.peers =
      if ty = Generated.MESSAGE_TYPE_KEEPALIVE then insertA c.node.peers s (refreshed q (now + c.node.cfg.peerTimeout) s none)
      else if ty = Generated.MESSAGE_TYPE_NODE_INFO then
        match Codec.decodeNodeInfo body with
        | some i => insertA c.node.peers s (refreshed q (now + c.node.cfg.peerTimeout) s (some i))
        | none => c.node.peers
      else if ty = Generated.MESSAGE_TYPE_CLOSE then eraseA c.node.peers s
      else c.node.peers := by
  apply handleResult_message (M := fun ty r => r.1.node.peers = ite (ty = Generated.MESSAGE_TYPE_KEEPALIVE) _ _)
  · intro _
    rw [if_neg (by decide), if_neg (by decide), if_neg (by decide)]
  · intro _ _ _
    show c.node.peers = _
    rw [if_neg (by decide), if_neg (by decide), if_neg (by decide)]
  · intro hd
    rw [if_neg (by decide), if_pos rfl, hd]
    rfl
  · intro i hd
    rw [if_neg (by decide), if_pos rfl, hd]
    exact updatePeerInfo_peers env o c now s (some i) q hq
  · rw [if_pos rfl]
    exact updatePeerInfo_peers env o c now s none q hq
  · rw [if_neg (by decide), if_neg (by decide), if_pos rfl]
    unfold removePeer
    simp only [hq]
  · intro _ h1 h2 h3
    rw [if_neg h2, if_neg h1, if_neg h3]
    rfl

end VpnCloud.Proofs.C15MoreLemmas

namespace VpnCloud.Proofs.C10MoreLemmas
open VpnCloud.Node VpnCloud.Proofs.NodeLemmas

/-- the frame `handle_message` writes to the interface for a session-layer result: the body of a DATA message that parses -/
def resIface (n : Node) : MsgResult → List Out
  | .message ty data => if ty = Generated.MESSAGE_TYPE_DATA ∧ (parseAddrs n data).isSome = true then [.iface data] else []
  | _ => []

theorem resIface_congr (n1 n2 : Node) (res : MsgResult) (hc : n1.cfg = n2.cfg) : resIface n1 res = resIface n2 res := by
  cases res <;> simp only [resIface]
  rw [parseAddrs_congr n1 n2 _ hc]

end VpnCloud.Proofs.C10MoreLemmas

namespace VpnCloud.Proofs.NodeLemmas

open VpnCloud.Node VpnCloud.Proofs.AssocLemmas
open VpnCloud.Proofs.SessionInvLemmas (PlainRes)
open VpnCloud.Proofs.C10MoreLemmas (resIface)

theorem handleResult_message_table (env : CryptoEnv) (o : Oracle) (c : Ctx) (now : Int) (s : NAddr) (ty : Nat) (body out : Bytes) (q : Peer)
    (hq : lookupA c.node.peers s = some q) :
    (handleResult env o c now s (.message ty body) out).1.node.table =
      if ty = Generated.MESSAGE_TYPE_DATA then
        match parseAddrs c.node body with
        | some (sa, _) => if c.node.cfg.learning then c.node.table.learn now sa (addrId s) else c.node.table
        | none => c.node.table
      else if ty = Generated.MESSAGE_TYPE_NODE_INFO then
        match Codec.decodeNodeInfo body with
        | some i => c.node.table.setClaims now (addrId s) i.claims
        | none => c.node.table
      else if ty = Generated.MESSAGE_TYPE_KEEPALIVE then c.node.table
      else if ty = Generated.MESSAGE_TYPE_CLOSE then c.node.table.removeClaims now (addrId s)
      else c.node.table := by
  apply handleResult_message (M := fun ty r => r.1.node.table = ite (ty = Generated.MESSAGE_TYPE_DATA) _ _)
  · intro hpa
    rw [if_pos rfl, hpa]
  · intro sa da hpa
    rw [if_pos rfl, hpa]
  · intro hd
    rw [if_neg (by decide), if_pos rfl, hd]
    rfl
  · intro i hd
    rw [if_neg (by decide), if_pos rfl, hd]
    exact updatePeerInfo_table_some env o c now s i q hq
  · rw [if_neg (by decide), if_neg (by decide), if_pos rfl]
    exact updatePeerInfo_table_none env o c now s
  · rw [if_neg (by decide), if_neg (by decide), if_neg (by decide), if_pos rfl]
    unfold removePeer
    simp only [hq]
  · intro h0 h1 h2 h3
    rw [if_neg h0, if_neg h1, if_neg h2, if_neg h3]
    rfl

theorem handleResult_plain_outs (env : CryptoEnv) (o : Oracle) (c : Ctx) (now : Int) (s : NAddr) {res : MsgResult} (out : Bytes)
    (hres : PlainRes res) : Ext IsHs (c.outs ++ resIface c.node res) (handleResult env o c now s res out).1.outs := by
  rcases hres with rfl | ⟨ty, data, rfl⟩
  · exact Ext.of_eq (List.append_nil _).symm
  · have hno : ∀ ty, ty ≠ Generated.MESSAGE_TYPE_DATA → c.outs ++ resIface c.node (.message ty data) = c.outs :=
      fun ty h => by rw [resIface, if_neg (fun h' => h h'.1), List.append_nil]
    apply handleResult_message (M := fun ty r => Ext IsHs (c.outs ++ resIface c.node (.message ty data)) r.1.outs) (out := out)
    · exact fun hpa => Ext.of_eq (by simp [resIface, hpa])
    · exact fun sa da hpa => Ext.of_eq (by simp [resIface, hpa])
    · exact fun _ => Ext.of_eq (hno Generated.MESSAGE_TYPE_NODE_INFO (by decide)).symm
    · rw [hno Generated.MESSAGE_TYPE_NODE_INFO (by decide)]
      exact fun i _ => updatePeerInfo_ext env o c now s _
    · rw [hno Generated.MESSAGE_TYPE_KEEPALIVE (by decide)]
      exact updatePeerInfo_ext env o c now s _
    · rw [hno Generated.MESSAGE_TYPE_CLOSE (by decide)]
      exact Ext.of_eq (removePeer_outs c now s)
    · exact fun h0 _ _ _ => Ext.of_eq (hno _ h0).symm

/-- `store` of `applyOutcome` -/
def storePc (c : Ctx) (src : NAddr) (inPeers : Bool) (pc : PeerCrypto) : Ctx :=
  let n := c.node
  if inPeers then
    match lookupA n.peers src with
    | some p => { c with node := { n with peers := insertA n.peers src { p with crypto := pc } } }
    | none => c
  else { c with node := { n with pending := insertA n.pending src pc } }

theorem applyOutcome_eq (env : CryptoEnv) (o : Oracle) (c : Ctx) (now : Int) (src : NAddr) (inPeers : Bool) (r : POutcome MsgResult) :
    applyOutcome env o c now src inPeers r =
    match r with
    | .panic => ({ c with panicked := true }, none)
    | .err pc e => (countInvalid (storePc c src inPeers pc), some e)
    | .ok pc out res log => handleResult env o (addLog log (storePc c src inPeers pc)) now src res out := by
  cases r <;> rfl

theorem storePc_peers_keys (c : Ctx) (src : NAddr) (pc : PeerCrypto) : (storePc c src true pc).node.peers.map (·.1) = c.node.peers.map (·.1) := by
  unfold storePc
  simp only [if_true]
  split
  · rename_i p hp
    exact insertA_keys_of_some _ _ _ _ hp
  · rfl

theorem storePc_peers_pending (c : Ctx) (src : NAddr) (pc : PeerCrypto) : (storePc c src true pc).node.pending = c.node.pending := by
  unfold storePc
  simp only [if_true]
  split <;> rfl

theorem storePc_keys (c : Ctx) (src : NAddr) (inPeers : Bool) (pc : PeerCrypto) :
    (storePc c src inPeers pc).node.peers.map (·.1) = c.node.peers.map (·.1) := by
  cases inPeers with
  | true => exact storePc_peers_keys c src pc
  | false => rfl

/-- `c` without the stored sessions, which are all that `store` writes -/
def unstored (c : Ctx) : Ctx := { c with node := { c.node with peers := [], pending := [] } }

theorem storePc_frame (c : Ctx) (src : NAddr) (inPeers : Bool) (pc : PeerCrypto) : unstored (storePc c src inPeers pc) = unstored c := by
  unfold storePc
  simp only []
  split
  · split <;> rfl
  · rfl

/-! ## `handleNet` = `finish ∘ dispatch` -/

/-- the error handling of `handle_socket_event`: a fatal handshake error closes the pending connection -/
def finish (src : NAddr) (r : Ctx × Option InitErr) : Ctx × Option InitErr :=
  match r with
  | (c', some .cryptoInitFatal) => ({ c' with node := { c'.node with pending := eraseA c'.node.pending src } }, some .cryptoInitFatal)
  | r => r

/-- the throw-away responder for a handshake datagram from an address without a handshake object -/
def responder (env : CryptoEnv) (bodyOf : Init.BodyOf) (o : Oracle) (n : Node) (now : Int) (src : NAddr) (data tail : Bytes)
    (rnd : Rand) (rr : RotRand) (hash : Option Bytes) : Ctx × Option InitErr :=
  let c : Ctx := { node := n }
  match PeerCrypto.handleMessage env bodyOf payloadOk (newAttempt n (hash.getD [])) data tail rnd rr with
  | .ok pc' out res log =>
    handleResult env o (addLog log { c with node := { n with pending := insertA n.pending src pc' } }) now src res out
  | .err _ e => (countInvalid c, some e)
  | .panic => ({ c with panicked := true }, none)

/-- the throw-away responder is handled like a pending attempt, except that after an error it is not stored -/
theorem responder_eq (env : CryptoEnv) (bodyOf : Init.BodyOf) (o : Oracle) (n : Node) (now : Int) (src : NAddr) (data tail : Bytes)
    (rnd : Rand) (rr : RotRand) (hash : Option Bytes) :
    responder env bodyOf o n now src data tail rnd rr hash =
      match PeerCrypto.handleMessage env bodyOf payloadOk (newAttempt n (hash.getD [])) data tail rnd rr with
      | .err _ e => (countInvalid { node := n }, some e)
      | r => applyOutcome env o { node := n } now src false r := by
  unfold responder
  generalize PeerCrypto.handleMessage env bodyOf payloadOk (newAttempt n (hash.getD [])) data tail rnd rr = r
  cases r <;> rfl

/-- the dispatch of `handle_net_message` between established peer, pending handshake and throw-away responder -/
def dispatch (env : CryptoEnv) (bodyOf : Init.BodyOf) (o : Oracle) (n : Node) (now : Int) (src : NAddr) (data tail : Bytes) :
    Ctx × Option InitErr :=
  let c : Ctx := { node := n }
  let isInit := data.head? = some Generated.INIT_MESSAGE_FIRST_BYTE
  let rnd := (rndFor o c src).1
  let rr := (rndFor o c src).2.1
  let hash := (rndFor o c src).2.2
  match lookupA n.peers src, lookupA n.pending src with
  | some p, pend =>
    if !isInit then
      applyOutcome env o c now src true (PeerCrypto.handleMessage env bodyOf payloadOk p.crypto data tail rnd rr)
    else match pend with
      | some pc => applyOutcome env o c now src false (PeerCrypto.handleMessage env bodyOf payloadOk pc data tail rnd rr)
      | none =>
        if p.crypto.init.isSome then
          applyOutcome env o c now src true (PeerCrypto.handleMessage env bodyOf payloadOk p.crypto data tail rnd rr)
        else responder env bodyOf o n now src data tail rnd rr hash
  | none, some pc =>
    applyOutcome env o c now src false (PeerCrypto.handleMessage env bodyOf payloadOk pc data tail rnd rr)
  | none, none =>
    if isInit then responder env bodyOf o n now src data tail rnd rr hash
    else (countInvalid c, none)

theorem handleNet_eq (env : CryptoEnv) (bodyOf : Init.BodyOf) (o : Oracle) (n : Node) (now : Int) (src0 : NAddr) (data tail : Bytes) :
    handleNet env bodyOf o n now src0 data tail = finish (mappedAddr src0) (dispatch env bodyOf o n now (mappedAddr src0) data tail) := rfl

theorem dispatch_peer (env : CryptoEnv) (bodyOf : Init.BodyOf) (o : Oracle) (n : Node) (now : Int) {src : NAddr} {data : Bytes} (tail : Bytes)
    {p : Peer} (hp : lookupA n.peers src = some p) (hinit : data.head? ≠ some Generated.INIT_MESSAGE_FIRST_BYTE) :
    dispatch env bodyOf o n now src data tail =
      applyOutcome env o { node := n } now src true (PeerCrypto.handleMessage env bodyOf payloadOk p.crypto data tail
        (rndFor o { node := n } src).1 (rndFor o { node := n } src).2.1) := by
  unfold dispatch
  simp only [hp, hinit, decide_false, Bool.not_false, if_true]

theorem handleNet_established (env : CryptoEnv) (bodyOf : Init.BodyOf) (o : Oracle) (n : Node) (now : Int) (src : NAddr)
    (data tail : Bytes) (p : Peer) (pc : PeerCrypto) (out : Bytes) (res : MsgResult) (log : Init.SealLog)
    (hp : lookupA n.peers (mappedAddr src) = some p)
    (hinit : data.head? ≠ some Generated.INIT_MESSAGE_FIRST_BYTE)
    (hm : PeerCrypto.handleMessage env bodyOf payloadOk p.crypto data tail (rndFor o { node := n } (mappedAddr src)).1
            (rndFor o { node := n } (mappedAddr src)).2.1 = .ok pc out res log) :
    handleNet env bodyOf o n now src data tail =
      finish (mappedAddr src) (handleResult env o
        (addLog log { node := { n with peers := insertA n.peers (mappedAddr src) { p with crypto := pc } } })
        now (mappedAddr src) res out) := by
  rw [handleNet_eq, dispatch_peer env bodyOf o n now tail hp hinit, hm]
  unfold applyOutcome
  simp only [if_true, hp]

theorem finish_of_not_fatal (src : NAddr) (c : Ctx) (e : Option InitErr) (h : e ≠ some .cryptoInitFatal) : finish src (c, e) = (c, e) := by
  unfold finish
  split
  · rename_i heq
    cases heq
    exact absurd rfl h
  · rfl

@[simp] theorem finish_outs (src : NAddr) (r : Ctx × Option InitErr) : (finish src r).1.outs = r.1.outs := by
  unfold finish; split <;> rfl
@[simp] theorem finish_panicked (src : NAddr) (r : Ctx × Option InitErr) : (finish src r).1.panicked = r.1.panicked := by
  unfold finish; split <;> rfl
@[simp] theorem finish_peers (src : NAddr) (r : Ctx × Option InitErr) : (finish src r).1.node.peers = r.1.node.peers := by
  unfold finish; split <;> rfl
@[simp] theorem finish_table (src : NAddr) (r : Ctx × Option InitErr) : (finish src r).1.node.table = r.1.node.table := by
  unfold finish; split <;> rfl
@[simp] theorem finish_own (src : NAddr) (r : Ctx × Option InitErr) : (finish src r).1.node.own = r.1.node.own := by
  unfold finish; split <;> rfl
theorem finish_nextPeers (s : NAddr) (r : Ctx × Option InitErr) : (finish s r).1.node.nextPeers = r.1.node.nextPeers := by
  unfold finish; split <;> rfl

/-- the branches of `handle_net_message` with the conditions under which each is taken: the session of the peer (no handshake marker, or
    nothing pending and a lingering handshake), the pending attempt (handshake marker, or no peer), the throw-away responder (handshake
    marker, nothing pending), nobody (no marker, neither peer nor pending).  The throw-away responder is one more stored session
    (`responder_eq`): whatever is shown of `applyOutcome` serves all three; after an error the responder is dropped, not stored
    (`dropped`), so `resp` is asked only for the other outcomes -/
theorem dispatch_cases {M : Ctx × Option InitErr → Prop} (env : CryptoEnv) (bodyOf : Init.BodyOf) (o : Oracle) (n : Node) (now : Int)
    (src : NAddr) (data tail : Bytes)
    (peer : ∀ p, lookupA n.peers src = some p →
      data.head? ≠ some Generated.INIT_MESSAGE_FIRST_BYTE ∨ lookupA n.pending src = none ∧ p.crypto.init.isSome = true →
      M (applyOutcome env o { node := n } now src true (PeerCrypto.handleMessage env bodyOf payloadOk p.crypto data tail
        (rndFor o { node := n } src).1 (rndFor o { node := n } src).2.1)))
    (pend : ∀ pc, lookupA n.pending src = some pc → data.head? = some Generated.INIT_MESSAGE_FIRST_BYTE ∨ lookupA n.peers src = none →
      M (applyOutcome env o { node := n } now src false (PeerCrypto.handleMessage env bodyOf payloadOk pc data tail
        (rndFor o { node := n } src).1 (rndFor o { node := n } src).2.1)))
    (resp : ∀ r, PeerCrypto.handleMessage env bodyOf payloadOk (newAttempt n ((rndFor o { node := n } src).2.2.getD [])) data tail
        (rndFor o { node := n } src).1 (rndFor o { node := n } src).2.1 = r → (∀ pc' e, r ≠ .err pc' e) →
      data.head? = some Generated.INIT_MESSAGE_FIRST_BYTE → lookupA n.pending src = none →
      (∀ p, lookupA n.peers src = some p → p.crypto.init = none) → M (applyOutcome env o { node := n } now src false r))
    (dropped : data.head? = some Generated.INIT_MESSAGE_FIRST_BYTE → lookupA n.pending src = none →
      (∀ p, lookupA n.peers src = some p → p.crypto.init = none) →
      ∀ pc' e, PeerCrypto.handleMessage env bodyOf payloadOk (newAttempt n ((rndFor o { node := n } src).2.2.getD [])) data tail
        (rndFor o { node := n } src).1 (rndFor o { node := n } src).2.1 = .err pc' e → M (countInvalid { node := n }, some e))
    (unknown : data.head? ≠ some Generated.INIT_MESSAGE_FIRST_BYTE → lookupA n.peers src = none → lookupA n.pending src = none →
      M (countInvalid { node := n }, none)) : M (dispatch env bodyOf o n now src data tail) := by
  have responds : data.head? = some Generated.INIT_MESSAGE_FIRST_BYTE → lookupA n.pending src = none →
      (∀ p, lookupA n.peers src = some p → p.crypto.init = none) →
      M (responder env bodyOf o n now src data tail (rndFor o { node := n } src).1 (rndFor o { node := n } src).2.1 (rndFor o { node := n } src).2.2) := by
    intro hinit hq hp
    rw [responder_eq]
    generalize hr : PeerCrypto.handleMessage env bodyOf payloadOk (newAttempt n ((rndFor o { node := n } src).2.2.getD [])) data tail
        (rndFor o { node := n } src).1 (rndFor o { node := n } src).2.1 = r
    cases r with
    | err pc' e => exact dropped hinit hq hp pc' e hr
    | panic => exact resp _ hr (fun _ _ h => nomatch h) hinit hq hp
    | ok pc' out res log => exact resp _ hr (fun _ _ h => nomatch h) hinit hq hp
  unfold dispatch
  simp only []
  split
  · rename_i p hp
    refine iteInduction (fun hni => peer p hp (Or.inl (by simpa using hni))) (fun hni => ?_)
    have hinit : data.head? = some Generated.INIT_MESSAGE_FIRST_BYTE := by simpa using hni
    split
    · rename_i pc hq
      exact pend pc hq (Or.inl hinit)
    · rename_i hq
      refine iteInduction (fun hi => peer p hp (Or.inr ⟨hq, hi⟩)) (fun hi => responds hinit hq (fun p' hp' => ?_))
      rw [hp] at hp'
      cases hp'
      simpa using hi
  · rename_i pc hp hq
    exact pend pc hq (Or.inr hp)
  · rename_i hp hq
    exact iteInduction (fun hi => responds (by simpa using hi) hq (fun p' hp' => by rw [hp] at hp'; cases hp'))
      (fun hi => unknown (by simpa using hi) hp hq)

/-- a handshake-marked datagram whose content `read_from` rejects under trusted keys `T` is answered by a session whose handshake object
    (if any) uses `T` with a non-fatal error and the UNCHANGED session object -/
theorem handleMessage_reject (env : CryptoEnv) (bodyOf : Init.BodyOf) (ok : Bytes → Bool) (pc : PeerCrypto) (T : List Bytes)
    (rest tail : Bytes) (rnd : Rand) (rr : RotRand) (e : InitErr)
    (htr : ∀ i, pc.init = some i → i.trusted = T) (h : InitMsg.readFrom env rest T = .error e) :
    ∃ e', PeerCrypto.handleMessage env bodyOf ok pc (Generated.INIT_MESSAGE_FIRST_BYTE :: rest) tail rnd rr = .err pc e' ∧
      e' ≠ .cryptoInitFatal := by
  obtain ⟨hparse, hstate, _⟩ := SessionInvLemmas.handleMessage_marker_err env bodyOf ok pc rest tail rnd rr
  by_cases hne : rest = []
  · exact ⟨.parse, hparse hne, by decide⟩
  · cases hi : pc.init with
    | none => exact ⟨.state, hstate hne hi, by decide⟩
    | some ist =>
      have h' : InitMsg.readFrom env rest ist.trusted = .error e := by rw [htr ist hi]; exact h
      exact ⟨e, C01.peerCrypto_reject_eq env bodyOf ok pc ist rest tail rnd rr e hi hne h', (C01.handleInit_reject_pure env bodyOf ok ist rest rnd e h').2⟩

/-- the step left no trace except in the counters and inside the stored sessions -/
def Traceless (n : Node) (c : Ctx) : Prop :=
  c.panicked = false ∧ c.outs = [] ∧ c.node.table = n.table ∧
  c.node.peers.map (·.1) = n.peers.map (·.1) ∧ c.node.pending.map (·.1) = n.pending.map (·.1) ∧ c.node.own = n.own

/-- a stored session that answers with an error and stays as it is: no trace, and with distinct keys nothing but the counter moves -/
theorem applyOutcome_err_kept (env : CryptoEnv) (o : Oracle) (n : Node) (now : Int) (s : NAddr) (inPeers : Bool) (pc : PeerCrypto) (e : InitErr)
    (hst : if inPeers = true then ∃ p, lookupA n.peers s = some p ∧ p.crypto = pc else lookupA n.pending s = some pc) :
    (applyOutcome env o { node := n } now s inPeers (.err pc e)).2 = some e ∧
    Traceless n (applyOutcome env o { node := n } now s inPeers (.err pc e)).1 ∧
    ((n.peers.map (·.1)).Nodup → (n.pending.map (·.1)).Nodup →
      (applyOutcome env o { node := n } now s inPeers (.err pc e)).1 = { node := { n with droppedIn := n.droppedIn + 1 } }) := by
  rw [applyOutcome_eq]
  cases inPeers with
  | true =>
    simp only [if_true] at hst
    obtain ⟨p, hp, hpc⟩ := hst
    subst hpc
    simp only [storePc, if_true, hp, countInvalid]
    refine ⟨trivial, ⟨rfl, rfl, rfl, insertA_keys_of_some _ _ _ _ hp, rfl, rfl⟩, fun hnp _ => ?_⟩
    have : insertA n.peers s { p with crypto := p.crypto } = n.peers := insertA_self_of_nodup n.peers s p hnp hp
    rw [this]
  | false =>
    simp only [Bool.false_eq_true, if_false] at hst
    simp only [storePc, Bool.false_eq_true, if_false, countInvalid]
    refine ⟨trivial, ⟨rfl, rfl, rfl, rfl, insertA_keys_of_some _ _ _ _ hst, rfl⟩, fun _ hnq => ?_⟩
    rw [insertA_self_of_nodup n.pending s pc hnq hst]

/-- a refused datagram: whichever session `handle_net_message` hands it to answers with an error that satisfies `E` and stays as it
    is.  Then the step leaves no trace (a throw-away responder is dropped), with distinct keys nothing but the counter moves, and
    the error reported satisfies `E`; one is reported for every datagram with handshake marker -/
theorem dispatch_refused (env : CryptoEnv) (bodyOf : Init.BodyOf) (o : Oracle) (n : Node) (now : Int) (src : NAddr) (data tail : Bytes)
    (E : InitErr → Prop)
    (peer : ∀ p, lookupA n.peers src = some p →
      data.head? ≠ some Generated.INIT_MESSAGE_FIRST_BYTE ∨ lookupA n.pending src = none ∧ p.crypto.init.isSome = true →
      ∃ e, PeerCrypto.handleMessage env bodyOf payloadOk p.crypto data tail (rndFor o { node := n } src).1 (rndFor o { node := n } src).2.1 =
        .err p.crypto e ∧ E e)
    (pend : ∀ pc, lookupA n.pending src = some pc → data.head? = some Generated.INIT_MESSAGE_FIRST_BYTE ∨ lookupA n.peers src = none →
      ∃ e, PeerCrypto.handleMessage env bodyOf payloadOk pc data tail (rndFor o { node := n } src).1 (rndFor o { node := n } src).2.1 =
        .err pc e ∧ E e)
    (resp : data.head? = some Generated.INIT_MESSAGE_FIRST_BYTE →
      ∃ pc' e, PeerCrypto.handleMessage env bodyOf payloadOk (newAttempt n ((rndFor o { node := n } src).2.2.getD [])) data tail
        (rndFor o { node := n } src).1 (rndFor o { node := n } src).2.1 = .err pc' e ∧ E e) :
    Traceless n (dispatch env bodyOf o n now src data tail).1 ∧
    ((n.peers.map (·.1)).Nodup → (n.pending.map (·.1)).Nodup →
      (dispatch env bodyOf o n now src data tail).1 = { node := { n with droppedIn := n.droppedIn + 1 } }) ∧
    (∀ e, (dispatch env bodyOf o n now src data tail).2 = some e → E e) ∧
    (data.head? = some Generated.INIT_MESSAGE_FIRST_BYTE → (dispatch env bodyOf o n now src data tail).2 ≠ none) := by
  apply dispatch_cases (M := fun r => Traceless n r.1 ∧ (_ → _ → r.1 = _) ∧ (∀ e, r.2 = some e → E e) ∧ (_ → r.2 ≠ none))
  · intro p hp hbr
    obtain ⟨e, hm, he⟩ := peer p hp hbr
    obtain ⟨h2, ht, hs⟩ := applyOutcome_err_kept env o n now src true p.crypto e ⟨p, hp, rfl⟩
    rw [hm, h2]
    exact ⟨ht, hs, fun e' h => Option.some.inj h ▸ he, fun _ => nofun⟩
  · intro pc hq hc
    obtain ⟨e, hm, he⟩ := pend pc hq hc
    obtain ⟨h2, ht, hs⟩ := applyOutcome_err_kept env o n now src false pc e hq
    rw [hm, h2]
    exact ⟨ht, hs, fun e' h => Option.some.inj h ▸ he, fun _ => nofun⟩
  · intro r hr hok hi _ _
    obtain ⟨pc', e, hm, _⟩ := resp hi
    exact absurd (hr.symm.trans hm) (hok pc' e)
  · intro hi _ _ pc' e hm
    obtain ⟨_, e', hm', he⟩ := resp hi
    rw [hm'] at hm
    cases hm
    exact ⟨⟨rfl, rfl, rfl, rfl, rfl, rfl⟩, fun _ _ => rfl, fun e' h => Option.some.inj h ▸ he, fun _ => nofun⟩
  · exact fun hni _ _ => ⟨⟨rfl, rfl, rfl, rfl, rfl, rfl⟩, fun _ _ => rfl, nofun, fun hi => absurd hi hni⟩

end VpnCloud.Proofs.NodeLemmas
