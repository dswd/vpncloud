import VpnCloud.Proofs.Lemmas.Node.NodeLemmas
import VpnCloud.Proofs.Lemmas.Node.SessionInvLemmas
/-
  What the session layer hands to `send_to`: the wire form of one output of a step (`C02MoreLemmas.WOut`), of what `handle_message`
  returns (`OutWire`) and of what `every_second` returns (`TickWire`).  These facts hold of every session; the generic
  node invariant (`NodeInvLemmas.lean`) uses them to track the outputs of a step.
-/
namespace VpnCloud.Proofs.WireLemmas

open VpnCloud.Proofs.SessionInvLemmas

/-- what `every_second` of a session puts on the wire and into the seal log: nothing, a handshake datagram (retransmission), or the seal
    of a ROTATION message -/
def TickWire (rr : RotRand) : POutcome MsgResult → Prop
  | .ok pc' out res log =>
      (log = [] ∧ (res = .reply → ∃ b, out = Generated.INIT_MESSAGE_FIRST_BYTE :: b)) ∨
      (∃ pc4 m, PeerCrypto.sealMsg pc4 (Generated.MESSAGE_TYPE_ROTATION :: Codec.writeRotMsg (PeerCrypto.rotMsgToBytes m)) rr.ct =
        (pc', .ok (out, log)))
  | _ => True

theorem tickRot_wire (pc2 : PeerCrypto) (rr : RotRand) : TickWire rr (tickRot pc2 rr) :=
  tickRot_cases (M := TickWire rr) pc2 rr (fun _ => Or.inl ⟨rfl, nofun⟩) (fun _ => Or.inl ⟨rfl, nofun⟩) (fun _ _ _ _ => Or.inl ⟨rfl, nofun⟩)
    (fun sd m _ _ _ _ _ _ hs => Or.inr ⟨cycPc pc2 sd rr, m, hs⟩) (fun _ _ _ _ _ _ _ _ => trivial)

theorem everySecond_wire (pc : PeerCrypto) (rr : RotRand) : TickWire rr (PeerCrypto.everySecond pc rr) :=
  tick_cases (M := TickWire rr) pc rr (fun _ _ => trivial) (fun out _ _ => Or.inl ⟨rfl, fun _ => ⟨out, rfl⟩⟩) (fun _ => tickRot_wire _ rr)

end VpnCloud.Proofs.WireLemmas

namespace VpnCloud.Proofs.C02MoreLemmas

open VpnCloud.Proofs.NodeLemmas

/-- one output of a step, as the wire sees it: a frame for the interface, or a datagram that is empty, a handshake datagram (first byte
    0xff), or the product of `encrypt_message` (`PeerCrypto.sealMsg`) of a session `pc` on a non-empty plaintext, whose log entries are in
    `L` and whose resulting session `pc'` (the one that is stored for the destination at that moment) satisfies `X` -/
def WOut (X : NAddr → PeerCrypto → Prop) (L : Init.SealLog) : Out → Prop
  | .iface _ => True
  | .dgram d bytes =>
      bytes = [] ∨ (∃ b, bytes = Generated.INIT_MESSAGE_FIRST_BYTE :: b) ∨
      ∃ pc pc' plain ct log, PeerCrypto.sealMsg pc plain ct = (pc', .ok (bytes, log)) ∧ plain ≠ [] ∧ (∀ e ∈ log, e ∈ L) ∧ X d pc'

theorem WOut.mono {X : NAddr → PeerCrypto → Prop} {L L' : Init.SealLog} {x : Out} (h : WOut X L x) (hl : ∀ e ∈ L, e ∈ L') : WOut X L' x := by
  cases x with
  | iface b => trivial
  | dgram d bytes =>
    rcases h with h | h | ⟨pc, pc', plain, ct, log, hs, hp, hm, hx⟩
    · exact Or.inl h
    · exact Or.inr (Or.inl h)
    · exact Or.inr (Or.inr ⟨pc, pc', plain, ct, log, hs, hp, fun e he => hl e (hm e he), hx⟩)

theorem WOut.of_isHs {X : NAddr → PeerCrypto → Prop} {L : Init.SealLog} {x : Out} (h : IsHs x) : WOut X L x := by
  obtain ⟨d, b, rfl⟩ := h
  exact Or.inr (Or.inl ⟨b, rfl⟩)

end VpnCloud.Proofs.C02MoreLemmas

namespace VpnCloud.Proofs.WireLemmas

open VpnCloud.Proofs.SessionInvLemmas VpnCloud.Proofs.C02MoreLemmas

/-- what the session layer hands to `send_to` together with an `.ok` outcome: nothing, a handshake datagram, or the product of
    `encrypt_message` whose resulting session is the returned one and whose log entries are part of the returned log -/
def OutWire : POutcome MsgResult → Prop
  | .ok pc' out _ log =>
      out = [] ∨ (∃ b, out = Generated.INIT_MESSAGE_FIRST_BYTE :: b) ∨
      ∃ pc plain ct log', PeerCrypto.sealMsg pc plain ct = (pc', .ok (out, log')) ∧ plain ≠ [] ∧ (∀ e ∈ log', e ∈ log)
  | _ => True

theorem out1_wire (out : Bytes) :
    (if out.isEmpty then [] else Generated.INIT_MESSAGE_FIRST_BYTE :: out) = [] ∨
    ∃ b, (if out.isEmpty then [] else Generated.INIT_MESSAGE_FIRST_BYTE :: out) = Generated.INIT_MESSAGE_FIRST_BYTE :: b := by
  split
  · exact Or.inl rfl
  · exact Or.inr ⟨out, rfl⟩

theorem successOut_wire (pc1 : PeerCrypto) (core : Option Core) (ini : Bool) (out payload : Bytes) (ilog : Init.SealLog) (rr : RotRand) :
    OutWire (successOut pc1 core ini (if out.isEmpty then [] else Generated.INIT_MESSAGE_FIRST_BYTE :: out) payload ilog rr) := by
  have h1 : ∀ pc' res, OutWire (.ok pc' (if out.isEmpty then [] else Generated.INIT_MESSAGE_FIRST_BYTE :: out) res ilog) :=
    fun _ _ => (out1_wire out).imp id Or.inl
  exact successOut_cases (M := OutWire) _ _ _ _ _ _ _ (fun _ _ _ => h1 _ _) (h1 _ _)
    (fun _ _ log hs => Or.inr (Or.inr ⟨_, _, _, log, hs, List.cons_ne_nil _ _, fun e he => List.mem_append_right _ he⟩)) (fun _ _ _ _ => trivial)

theorem handleInitMessage_wire (env : CryptoEnv) (bodyOf : Init.BodyOf) (ok : Bytes → Bool) (pc : PeerCrypto) (w : Bytes) (rnd : Rand) (rr : RotRand) :
    OutWire (PeerCrypto.handleInitMessage env bodyOf ok pc w rnd rr) :=
  handleInitMessage_cases (Q := fun _ _ => True) (M := OutWire) env bodyOf ok pc w rnd rr (fun _ _ => trivial)
    (noInit := fun _ => trivial) (panic := fun _ _ => trivial) (err := fun _ _ => trivial)
    (cont := fun _ _ => (out1_wire _).imp id Or.inl) (success := fun _ _ hs _ _ => hs ▸ successOut_wire ..)

theorem handleMessage_wire (env : CryptoEnv) (bodyOf : Init.BodyOf) (ok : Bytes → Bool) (pc : PeerCrypto) (data tail : Bytes) (rnd : Rand) (rr : RotRand) :
    OutWire (PeerCrypto.handleMessage env bodyOf ok pc data tail rnd rr) :=
  handleMessage_cases (M := OutWire) env bodyOf ok pc data tail rnd rr (fun _ _ => trivial) (fun _ _ => handleInitMessage_wire ..) (fun _ _ _ _ => trivial)
    (fun _ _ _ => trivial) (fun _ _ _ _ _ => Or.inl rfl) (fun _ _ _ _ _ _ => trivial) (fun _ _ _ _ _ => Or.inl rfl)

theorem everySecond_outWire (pc : PeerCrypto) (rr : RotRand) :
    match PeerCrypto.everySecond pc rr with
    | .ok pc' out res log => res = .reply → OutWire (.ok pc' out res log)
    | _ => True := by
  have h := everySecond_wire pc rr
  generalize PeerCrypto.everySecond pc rr = r at h
  cases r with
  | panic => trivial
  | err _ _ => trivial
  | ok pc' out res log =>
    intro hr
    rcases h with ⟨_, hb⟩ | ⟨pc4, m, hs⟩
    · exact Or.inr (Or.inl (hb hr))
    · exact Or.inr (Or.inr ⟨pc4, _, rr.ct, log, hs, by simp, fun e he => he⟩)

theorem outWire_wout {X : NAddr → PeerCrypto → Prop} {pc' : PeerCrypto} {out : Bytes} {res : MsgResult} {log : Init.SealLog}
    (hw : OutWire (.ok pc' out res log)) (L : Init.SealLog) (src : NAddr) (hx : X src pc') : WOut X (L ++ log) (.dgram src out) := by
  rcases hw with h | h | ⟨pc, plain, ct, log', hs, hp, hm⟩
  · exact Or.inl h
  · exact Or.inr (Or.inl h)
  · exact Or.inr (Or.inr ⟨pc, pc', plain, ct, log', hs, hp, fun e he => List.mem_append_right _ (hm e he), hx⟩)

end VpnCloud.Proofs.WireLemmas
