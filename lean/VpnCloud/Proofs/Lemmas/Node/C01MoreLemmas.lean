import VpnCloud.Proofs.Lemmas.Node.NodeInvLemmas
import VpnCloud.Proofs.Lemmas.Node.NetStepLemmas
import VpnCloud.Proofs.C08
import VpnCloud.Proofs.C14
/-
  Helper lemmas for `Proofs/C01More.lean` (C01 / C14 at node level):

  * what the session layer does to a handshake object: its identity (`nodeId`, `trusted`) is immutable, a live object stays live,
  * own addresses and dialled addresses (`connect_sock`, `connect`),
  * the node invariants `NI` (node id, configuration and listen address constant; node id and trusted keys of every handshake object
    satisfy a predicate `P`, e.g. "are those of the node") and
    `PK` (new pending attempts are not for own addresses), together one instance (`SNK`, `nk_iff`) of the generic node invariant of
    `NodeInvLemmas.lean`,
  * what `connect_to_peers` dials and what it adopts, read off `NodeLemmas.connectToPeers_dialling`: the own addresses afterwards
    (`connectToPeers_own`), everything dialled comes from an unknown entry (`connectToPeers_dials_unknown`),
  * inversion of a completed handshake at `PeerCrypto.handleMessage`; a handshake datagram of the node itself,
  * what `handle_net_message` does to the table (`TblCase`, `handleNet_tbl`),
  * pending sessions keep a live handshake object (an instance of the generic invariant of `NodeInvLemmas`).
-/
namespace VpnCloud.Proofs.C01MoreLemmas

open VpnCloud.Node
open VpnCloud.Proofs.AssocLemmas VpnCloud.Proofs.NodeLemmas VpnCloud.Proofs.SessionInvLemmas VpnCloud.Proofs.NodeInvLemmas VpnCloud.Proofs.InitLemmas

def SameId (a b : InitSt) : Prop := b.nodeId = a.nodeId ∧ b.trusted = a.trusted

theorem SameId.refl (a : InitSt) : SameId a a := ⟨rfl, rfl⟩

theorem SameId.transfer {P : Bytes → List Bytes → Prop} {a b : InitSt} (h : SameId a b) (h0 : P a.nodeId a.trusted) :
    P b.nodeId b.trusted := by
  rw [h.1, h.2]; exact h0

theorem SameId.of_static {a b : InitSt} (h : C05AgreeLemmas.Static a b) : SameId a b := ⟨h.1, h.2.2.2.2.1⟩

def LiveSt (i : InitSt) : Prop := i.stage ≠ Generated.CLOSING ∧ i.stage ≠ Generated.WAITING_TO_CLOSE

theorem handleInit_live (env : CryptoEnv) (bodyOf : Init.BodyOf) (ok : Bytes → Bool) (st : InitSt) (w : Bytes) (rnd : Rand) (hl : LiveSt st) :
    InitHands LiveSt (fun _ => True) (Init.handleInit env bodyOf ok st w rnd) := by
  have he := handleInit_eff env bodyOf ok st w rnd
  generalize Init.handleInit env bodyOf ok st w rnd = R at he
  cases he with
  | quietErr | pongSelErr => exact Or.inr hl
  | quietOk => exact hl
  | panic | pongOk | pengOk => trivial
  | pingErr _ _ _ _ _ _ _ _ hst0 =>
    refine Or.inr ?_
    rcases hst0 with ⟨rfl, _⟩ | ⟨rfl, _⟩
    · exact hl
    · exact ⟨(by decide : Generated.STAGE_PING ≠ Generated.CLOSING), (by decide : Generated.STAGE_PING ≠ Generated.WAITING_TO_CLOSE)⟩
  | pingOk =>
    exact ⟨(by decide : Generated.STAGE_PENG ≠ Generated.CLOSING), (by decide : Generated.STAGE_PENG ≠ Generated.WAITING_TO_CLOSE)⟩
  | pongFail | pengFail => exact Or.inl rfl

theorem init_everySecond_spec (st : InitSt) :
    SameId st (Init.everySecond st).1 ∧ (LiveSt st → (∃ e, (Init.everySecond st).2 = .error e) ∨ LiveSt (Init.everySecond st).1) := by
  rcases everySecond_cases st with ⟨hw, e⟩ | ⟨hw, e⟩ | ⟨hc, e⟩ | ⟨_, _, e⟩ | ⟨_, _, e⟩ <;> rw [e]
  · exact ⟨⟨rfl, rfl⟩, fun hl => absurd hw hl.2⟩
  · exact ⟨⟨rfl, rfl⟩, fun hl => absurd hw hl.2⟩
  · exact ⟨⟨rfl, rfl⟩, fun hl => absurd hc hl.1⟩
  · exact ⟨⟨rfl, rfl⟩, Or.inr⟩
  · exact ⟨⟨rfl, rfl⟩, fun _ => Or.inl ⟨_, rfl⟩⟩

theorem sendPing_id (env : CryptoEnv) (ist : InitSt) (rnd : Rand) : SameId ist (Init.sendPing env ist rnd).1 :=
  .of_static (init_sendMessage_static env { ist with ecdh := some rnd.ecdhPub } Generated.STAGE_PING rnd)

def SessP (P : Bytes → List Bytes → Prop) (pc : PeerCrypto) : Prop := ∀ i, pc.init = some i → P i.nodeId i.trusted

theorem SessP.of_none {P : Bytes → List Bytes → Prop} {pc : PeerCrypto} (hi : pc.init = none) : SessP P pc := by
  intro i h'; rw [hi] at h'; cases h'

theorem SessP.of_some {P : Bytes → List Bytes → Prop} {pc : PeerCrypto} {i : InitSt} (hi : pc.init = some i) (h : P i.nodeId i.trusted) :
    SessP P pc := by
  intro j h'; rw [hi] at h'; cases h'; exact h

theorem newAttempt_sessP (P : Bytes → List Bytes → Prop) (n : Node) (hash : Bytes) (h : P n.nodeId n.cfg.trusted) : SessP P (newAttempt n hash) :=
  newAttempt_onInit n hash h

def LivePC (pc : PeerCrypto) : Prop := ∃ i, pc.init = some i ∧ LiveSt i

theorem LivePC.of_init {pc pc' : PeerCrypto} (h : LivePC pc) (hi : pc'.init = pc.init) : LivePC pc' := by
  obtain ⟨i, h1, h2⟩ := h
  exact ⟨i, hi.trans h1, h2⟩

theorem LivePC.isSome {pc : PeerCrypto} (h : LivePC pc) : pc.init.isSome = true := by
  obtain ⟨i, h1, _⟩ := h
  rw [h1]; rfl

theorem handleMessage_id (env : CryptoEnv) (bodyOf : Init.BodyOf) (ok : Bytes → Bool) (pc : PeerCrypto) (datagram tail : Bytes) (rnd : Rand) (rr : RotRand)
    (P : Bytes → List Bytes → Prop) (hp : SessP P pc) : Leaves (SessP P) (PeerCrypto.handleMessage env bodyOf ok pc datagram tail rnd rr) :=
  handleMessage_lift (.of_init fun _ _ hi h => OnInit.of_init h hi) env bodyOf ok pc datagram tail rnd rr hp
    (fun w ist hi => handleInit_static (Φ := fun i => P i.nodeId i.trusted) env bodyOf ok ist w rnd
      (fun _ hs => SameId.transfer (.of_static hs) (hp ist hi)))
    (fun _ h => OnInit.set pc h) (fun ist' h => successPc_onInit pc ist' h)

theorem everySecond_id (pc : PeerCrypto) (rr : RotRand) (P : Bytes → List Bytes → Prop) (hp : SessP P pc)
    (pc' : PeerCrypto) (out : Bytes) (res : MsgResult) (log : Init.SealLog) (h : PeerCrypto.everySecond pc rr = .ok pc' out res log) :
    SessP P pc' :=
  everySecond_onInit (Φ := fun i => P i.nodeId i.trusted) (fun ist h => (init_everySecond_spec ist).1.transfer h) hp h

/-- node id `N`, configuration `K` and listen address `A`; `P` holds of `N` and the trusted keys of `K` (what a new handshake object gets)
    and of node id and trusted keys of every handshake object of every session -/
structure NI (P : Bytes → List Bytes → Prop) (N : Bytes) (K : NodeCfg) (A : NAddr) (c : Ctx) : Prop where
  nodeId : c.node.nodeId = N
  cfg : c.node.cfg = K
  addr : c.node.addr = A
  new : P N K.trusted
  peers : ∀ a p, (a, p) ∈ c.node.peers → SessP P p.crypto
  pending : ∀ a pc, (a, pc) ∈ c.node.pending → SessP P pc

theorem NI.triv (c : Ctx) : NI (fun _ _ => True) c.node.nodeId c.node.cfg c.node.addr c :=
  { nodeId := rfl, cfg := rfl, addr := rfl, new := trivial, peers := fun _ _ _ _ _ => trivial, pending := fun _ _ _ _ _ => trivial }

def IsDialTo (D : NAddr → Prop) (x : Out) : Prop := ∃ d b, x = .dgram d (Generated.INIT_MESSAGE_FIRST_BYTE :: b) ∧ D d

structure Dials (D : NAddr → Prop) (c c' : Ctx) : Prop where
  outs : Ext (IsDialTo D) c.outs c'.outs
  pending : ∀ a, a ∈ c'.node.pending.map (·.1) → a ∈ c.node.pending.map (·.1) ∨ D a

theorem Dials.mono {D D' : NAddr → Prop} {c c' : Ctx} (h : Dials D c c') (hd : ∀ d, D d → D' d) : Dials D' c c' :=
  ⟨h.outs.mono (fun _ ⟨d, b, hx, hD⟩ => ⟨d, b, hx, hd d hD⟩), fun a ha => (h.pending a ha).imp id (hd a)⟩

theorem _root_.VpnCloud.Proofs.NodeLemmas.Dialling.dials {env : CryptoEnv} {c c' : Ctx} {as : List NAddr} (h : Dialling env c as c') :
    Dials (fun d => d ∈ as ∧ d ∉ c.node.own ∧ d ∉ c.node.peers.map (·.1) ∧ d ∉ c.node.pending.map (·.1)) c c' := by
  obtain ⟨ex, he, h1, _⟩ := h.pings
  exact ⟨⟨ex, he, fun x hx => let ⟨d, b, e, hd⟩ := h1 x hx; ⟨d, b, e, hd, h.was_new d hd⟩⟩,
    fun a ha => (h.new_keys a ha).imp id (fun hd => ⟨hd, h.was_new a hd⟩)⟩

theorem connectSock_dials (env : CryptoEnv) (o : Oracle) (c : Ctx) (a0 : NAddr) :
    Dials (fun d => d = mappedAddr a0 ∧ d ∉ c.node.own ∧ d ∉ c.node.peers.map (·.1) ∧ d ∉ c.node.pending.map (·.1)) c (connectSock env o c a0) :=
  let ⟨_, h, m⟩ := connectSock_dialling env o c a0
  h.dials.mono (fun d hd => ⟨m d hd.1, hd.2⟩)

theorem connect_dials (env : CryptoEnv) (o : Oracle) (c : Ctx) (l : List NAddr) :
    Dials (fun d => d ∈ l.map mappedAddr ∧ d ∉ c.node.own) c (connect env o c l) ∧ (connect env o c l).node.own = c.node.own :=
  let ⟨_, h, m, _⟩ := connect_dialling env o c l
  ⟨h.dials.mono (fun d hd => ⟨m d hd.1, hd.2.1⟩), frame_proj (connect_frame env o c l) (·.node.own)⟩

/-- the addresses `own0` are still own addresses, and every pending attempt was pending before (`pend0`), is for the address `s`,
    or is for an address outside `own0` -/
structure PK (own0 pend0 : List NAddr) (s : Option NAddr) (c : Ctx) : Prop where
  own : ∀ a ∈ own0, a ∈ c.node.own
  pending : ∀ a, a ∈ c.node.pending.map (·.1) → a ∈ pend0 ∨ some a = s ∨ a ∉ own0

theorem PK.init (c : Ctx) (s : Option NAddr) : PK c.node.own (c.node.pending.map (·.1)) s c :=
  ⟨fun _ ha => ha, fun _ ha => Or.inl ha⟩

theorem PK.triv (s : Option NAddr) (c : Ctx) : PK [] [] s c :=
  ⟨fun _ ha => (nomatch ha), fun _ _ => Or.inr (Or.inr List.not_mem_nil)⟩

/-! ## `NI` and `PK` as an instance of the generic node invariant

  Identity and own addresses are the node-level component `C`; the handshake objects are the session predicates; where a pending attempt may
  be keyed is a predicate on the address alone, so the session layer keeps it for free and only `connect_sock` has to justify it.
  Table, panic flag and seal log are not tracked (`T`, `P`, `L` off).  What the instance owes to the traversal — as for every
  instance, named after `SOK` / `TOK` — is `sokNK` (a message), `tokNK` (a tick) and `attNK` (the throw-away responder satisfies `Q`
  at the sender's address, which is why `PK` excuses the sender `s`). -/

def SNK (P : Bytes → List Bytes → Prop) (N : Bytes) (K : NodeCfg) (A : NAddr) (hnew : P N K.trusted) (own0 pend0 : List NAddr) (s : Option NAddr) : NS where
  Q := fun a pc => SessP P pc ∧ (a ∈ pend0 ∨ some a = s ∨ a ∉ own0)
  R := fun _ pc => SessP P pc
  C := fun i k a own => (i = N ∧ k = K ∧ a = A) ∧ ∀ x ∈ own0, x ∈ own
  c_mono := fun _ _ _ _ _ hm h => ⟨h.1, fun x hx => hm x (h.2 x hx)⟩
  T := False
  P := False
  L := False
  q_new := by
    intro env n hash rnd ist a hc ha hist
    refine ⟨SessP.of_some rfl ((sendPing_id env _ _).transfer ?_), Or.inr (Or.inr fun h0 => ha (hc.2 a h0))⟩
    refine newAttempt_sessP P n hash ?_ ist hist
    rw [hc.1.1, hc.1.2.1]; exact hnew
  r_seal := fun _ _ _ _ _ h => OnInit.of_init h (sealMsg_init _ _ _)

section NKsec
variable {P : Bytes → List Bytes → Prop} {N : Bytes} {K : NodeCfg} {A : NAddr} {own0 pend0 : List NAddr} {s : Option NAddr}

theorem nk_iff (hnew : P N K.trusted) (c : Ctx) : NI P N K A c ∧ PK own0 pend0 s c ↔ GI (SNK P N K A hnew own0 pend0 s) c := by
  constructor
  · rintro ⟨hn, hk⟩
    exact ⟨fun a pc hm _ => ⟨hn.pending a pc hm, hk.pending a (mem_key hm)⟩, hn.peers, nofun, nofun, nofun, ⟨⟨hn.nodeId, hn.cfg, hn.addr⟩, hk.own⟩, nofun, nofun, nofun⟩
  · rintro ⟨hq, hr, _, _, _, ⟨hc, ho⟩, _, _, _⟩
    refine ⟨⟨hc.1, hc.2.1, hc.2.2, hnew, hr, fun a pc hm => (hq a pc hm nofun).1⟩, ho, fun a ha => ?_⟩
    obtain ⟨⟨_, pc⟩, hm, rfl⟩ := List.mem_map.1 ha
    exact (hq _ pc hm nofun).2

theorem sokNK (hnew : P N K.trusted) (env : CryptoEnv) (bodyOf : Init.BodyOf) (a : NAddr) (pc : PeerCrypto) (inPeers : Bool) (data tail : Bytes)
    (rnd : Rand) (rr : RotRand) (h : if inPeers then (SNK P N K A hnew own0 pend0 s).R a pc else (SNK P N K A hnew own0 pend0 s).Q a pc) :
    MsgOK (SNK P N K A hnew own0 pend0 s) a inPeers (PeerCrypto.handleMessage env bodyOf payloadOk pc data tail rnd rr) := by
  have hp : SessP P pc := by
    cases inPeers
    · exact h.1
    · exact h
  refine .of_leaves (X := SessP P) (handleMessage_id env bodyOf payloadOk pc data tail rnd rr P hp) (fun pc' h' => ⟨h', fun hi => ?_⟩) id id nofun
  subst hi
  exact ⟨h', h.2⟩

theorem tokNK (hnew : P N K.trusted) (a : NAddr) (pc : PeerCrypto) (rr : RotRand) :
    ((SNK P N K A hnew own0 pend0 s).Q a pc → TickOK (SNK P N K A hnew own0 pend0 s) ((SNK P N K A hnew own0 pend0 s).Q a) (PeerCrypto.everySecond pc rr)) ∧
    ((SNK P N K A hnew own0 pend0 s).R a pc → TickOK (SNK P N K A hnew own0 pend0 s) ((SNK P N K A hnew own0 pend0 s).R a) (PeerCrypto.everySecond pc rr)) :=
  ⟨fun hq => .of_ok id id fun pc' out res log hr => ⟨everySecond_id pc rr P hq.1 pc' out res log hr, hq.2⟩,
   fun hq => .of_ok id id fun pc' out res log hr => everySecond_id pc rr P hq pc' out res log hr⟩

theorem attNK (hnew : P N K.trusted) (n : Node) (h : GI (SNK P N K A hnew own0 pend0 s) { node := n }) (src : NAddr) (hs : src ∈ pend0 ∨ some src = s ∨ src ∉ own0) (hash : Bytes) :
    (SNK P N K A hnew own0 pend0 s).Q src (newAttempt n hash) := by
  refine ⟨newAttempt_sessP P n hash ?_, hs⟩
  have hc : (n.nodeId = N ∧ n.cfg = K ∧ n.addr = A) ∧ _ := h.static
  rw [hc.1.1, hc.1.2.1]; exact hnew

end NKsec

open VpnCloud.Proofs.C14ExchangeLemmas (Unknown)

theorem connectToPeers_own (env : CryptoEnv) (o : Oracle) (infos : List PeerInfo) (c : Ctx) (x : NAddr) :
    x ∈ (connectToPeers env o c infos).node.own ↔ x ∈ c.node.own ∨ ∃ pi ∈ infos, pi.nodeId = some c.node.nodeId ∧
      (∀ a ∈ pi.addrs, a ∉ c.node.peers.map (·.1)) ∧ x ∈ pi.addrs :=
  let ⟨_, _, _, h⟩ := connectToPeers_dialling env o infos c
  h x

theorem connectToPeers_dials_unknown (env : CryptoEnv) (o : Oracle) (infos : List PeerInfo) (c : Ctx) :
    Dials (fun d => d ∉ c.node.own ∧ d ∉ c.node.peers.map (·.1) ∧ ∃ pi ∈ infos, Unknown c.node pi ∧ d ∈ pi.addrs.map mappedAddr) c
      (connectToPeers env o c infos) :=
  let ⟨_, h, m, _⟩ := connectToPeers_dialling env o infos c
  h.dials.mono (fun d hd => ⟨hd.2.1, hd.2.2.1, m d hd.1⟩)

theorem connectToPeers_dials (env : CryptoEnv) (o : Oracle) (infos : List PeerInfo) (c : Ctx) :
    Dials (fun d => d ∉ c.node.own ∧ ∃ pi ∈ infos, pi.nodeId ≠ some c.node.nodeId ∧ d ∈ pi.addrs.map mappedAddr) c (connectToPeers env o c infos) ∧
    ∀ a ∈ c.node.own, a ∈ (connectToPeers env o c infos).node.own :=
  let ⟨_, h, m, _⟩ := connectToPeers_dialling env o infos c
  ⟨h.dials.mono (fun d hd => let ⟨pi, hpi, hu, hm⟩ := m d hd.1; ⟨hd.2.1, pi, hpi, hu.1, hm⟩), h.own⟩

theorem handleMessage_init_inv (env : CryptoEnv) (bodyOf : Init.BodyOf) (ok : Bytes → Bool) (pc : PeerCrypto) (data tail : Bytes)
    (rnd : Rand) (rr : RotRand) (pc' : PeerCrypto) (out : Bytes) (res : MsgResult) (log : Init.SealLog)
    (h : PeerCrypto.handleMessage env bodyOf ok pc data tail rnd rr = .ok pc' out res log) (hres : IsInitRes res) :
    ∃ rest ist ist' o p ini l, data = Generated.INIT_MESSAGE_FIRST_BYTE :: rest ∧ pc.init = some ist ∧
      Init.handleInit env bodyOf ok ist rest rnd = .ok ist' (o, .success p ini, l) := by
  rcases handleMessage_split env bodyOf ok pc data tail rnd rr with ⟨rest, rfl, _⟩ | hk
  · rcases handleMessage_marker_ok env bodyOf ok pc pc' _ tail rnd rr out res log rfl h with rfl | ⟨p, ist, ist', o, ini, l, hi, hh, _⟩
    · obtain ⟨p, hp | hp⟩ := hres <;> cases hp
    · exact ⟨rest, ist, ist', o, p, ini, l, rfl, hi, hh⟩
  · rw [h] at hk
    exact absurd hres (plainRes_not_init hk.2.1)

/-- the handshake object that processes a datagram from `s` when `s` is not an established peer: the pending attempt stored for `s`,
    or a fresh throw-away responder (`Crypto::peer_instance`) -/
def hsObject (o : Oracle) (n : Node) (s : NAddr) : PeerCrypto :=
  match lookupA n.pending s with
  | some pc => pc
  | none => newAttempt n ((rndFor o { node := n } s).2.2.getD [])

def NodeP (P : Bytes → List Bytes → Prop) (n : Node) : Prop :=
  (∀ a p, (a, p) ∈ n.peers → SessP P p.crypto) ∧ (∀ a pc, (a, pc) ∈ n.pending → SessP P pc)

theorem NI.of_nodeP {P : Bytes → List Bytes → Prop} (n : Node) (hnew : P n.nodeId n.cfg.trusted) (h : NodeP P n) :
    NI P n.nodeId n.cfg n.addr { node := n } :=
  { nodeId := rfl, cfg := rfl, addr := rfl, new := hnew, peers := h.1, pending := h.2 }

theorem NI.nodeP {P : Bytes → List Bytes → Prop} {N : Bytes} {K : NodeCfg} {A : NAddr} {c : Ctx} (h : NI P N K A c) : NodeP P c.node :=
  ⟨h.peers, h.pending⟩

theorem regular_iff (n : Node) : C08.Regular n ↔ NodeP (fun _ t => t = n.cfg.trusted) n := Iff.rfl

/-- a session whose handshake object carries node id `N` and trusted keys `T` refuses an accepted handshake message whose salted node-id
    hash was derived from `N`: fatal error if it has a handshake object, state error if it has none; the session is unchanged -/
theorem handleMessage_self (env : CryptoEnv) (bodyOf : Init.BodyOf) (ok : Bytes → Bool) (pc : PeerCrypto) (N : Bytes) (T : List Bytes)
    (rest tail : Bytes) (rnd : Rand) (rr : RotRand) (m : InitMsg) (k salt : Bytes)
    (hid : SessP (fun i t => i = N ∧ t = T) pc)
    (hr : InitMsg.readFrom env rest T = .ok (m, k)) (hs : salt.length = 4) (hh : m.hash = salt ++ env.nodeHash salt N) :
    ∃ e, PeerCrypto.handleMessage env bodyOf ok pc (Generated.INIT_MESSAGE_FIRST_BYTE :: rest) tail rnd rr = .err pc e ∧
      (pc.init.isSome = true → e = .cryptoInitFatal) := by
  have hne : rest ≠ [] := by
    rintro rfl
    cases hr
  obtain ⟨_, hstate, herr⟩ := handleMessage_marker_err env bodyOf ok pc rest tail rnd rr
  cases hi : pc.init with
  | none => exact ⟨.state, hstate hne hi, nofun⟩
  | some ist =>
    obtain ⟨h1, h2⟩ := hid ist hi
    have hsd := C14.self_detect env bodyOf ok ist rest rnd m k salt (by rw [h2]; exact hr) hs (by rw [h1]; exact hh)
    cases hh' : Init.handleInit env bodyOf ok ist rest rnd with
    | panic => rw [hh'] at hsd; exact hsd.elim
    | ok st' x => rw [hh'] at hsd; exact hsd.elim
    | err st' e =>
      rw [hh'] at hsd
      obtain ⟨rfl, rfl⟩ := hsd
      exact ⟨.cryptoInitFatal, herr hne _ _ hi hh', fun _ => rfl⟩

theorem finish_fatal (src : NAddr) (c : Ctx) :
    finish src (c, some .cryptoInitFatal) = ({ c with node := { c.node with pending := eraseA c.node.pending src } }, some .cryptoInitFatal) := rfl

structure Refused (n : Node) (s : NAddr) (r : Ctx × Option InitErr) : Prop where
  panicked : r.1.panicked = false
  outs : r.1.outs = []
  table : r.1.node.table = n.table
  peers : r.1.node.peers.map (·.1) = n.peers.map (·.1)
  own : r.1.node.own = n.own
  pending : r.1.node.pending.map (·.1) = n.pending.map (·.1) ∨
            (r.2 = some .cryptoInitFatal ∧ r.1.node.pending.map (·.1) = (n.pending.map (·.1)).filter (fun b => b ≠ s))

structure SelfRefused (n : Node) (s : NAddr) (r : Ctx × Option InitErr) : Prop where
  refused : Refused n s r
  closed : (∀ pc, lookupA n.pending s = some pc → pc.init.isSome = true) → r.2 = some .cryptoInitFatal ∧ lookupA r.1.node.pending s = none

theorem SelfRefused.of_traceless {n : Node} {s : NAddr} {r : Ctx × Option InitErr} {e : InitErr} (h2 : r.2 = some e) (hq : Traceless n r.1)
    (hf : (∀ pc, lookupA n.pending s = some pc → pc.init.isSome = true) → e = .cryptoInitFatal) : SelfRefused n s (finish s r) := by
  obtain ⟨c, e'⟩ := r
  subst h2
  obtain ⟨h1, h2, h3, h4, h5, h6⟩ := hq
  by_cases he : e = .cryptoInitFatal
  · subst he
    rw [finish_fatal]
    refine ⟨⟨h1, h2, h3, h4, h6, Or.inr ⟨rfl, ?_⟩⟩, fun _ => ⟨rfl, lookupA_eraseA_self _ _⟩⟩
    show (eraseA c.node.pending s).map (·.1) = _
    rw [keys_eraseA, h5]
  · rw [finish_of_not_fatal _ _ _ (by intro h; exact he (Option.some.inj h))]
    exact ⟨⟨h1, h2, h3, h4, h6, Or.inl h5⟩, fun hp => absurd (hf hp) he⟩

theorem dispatch_self (env : CryptoEnv) (bodyOf : Init.BodyOf) (o : Oracle) (n : Node) (now : Int) (s : NAddr) (rest tail : Bytes)
    (m : InitMsg) (k salt : Bytes)
    (hid : NodeP (fun i t => i = n.nodeId ∧ t = n.cfg.trusted) n)
    (hr : InitMsg.readFrom env rest n.cfg.trusted = .ok (m, k)) (hs : salt.length = 4) (hh : m.hash = salt ++ env.nodeHash salt n.nodeId) :
    SelfRefused n s (finish s (dispatch env bodyOf o n now s (Generated.INIT_MESSAGE_FIRST_BYTE :: rest) tail)) := by
  -- every session refuses the datagram, fatally if it has a handshake object: the session of the peer is asked only when nothing is
  -- pending and it has one, a throw-away responder has one
  have self : ∀ pc rnd rr, SessP (fun i t => i = n.nodeId ∧ t = n.cfg.trusted) pc →
      ∃ e, PeerCrypto.handleMessage env bodyOf payloadOk pc (Generated.INIT_MESSAGE_FIRST_BYTE :: rest) tail rnd rr = .err pc e ∧
        (pc.init.isSome = true → e = .cryptoInitFatal) :=
    fun pc rnd rr hpc => handleMessage_self env bodyOf payloadOk pc n.nodeId n.cfg.trusted rest tail rnd rr m k salt hpc hr hs hh
  obtain ⟨ht, _, he, hsome⟩ := dispatch_refused env bodyOf o n now s (Generated.INIT_MESSAGE_FIRST_BYTE :: rest) tail
    (fun e => (∀ pc, lookupA n.pending s = some pc → pc.init.isSome = true) → e = .cryptoInitFatal)
    (fun p hp hbr => (self _ _ _ (hid.1 _ _ (lookupA_some_mem hp))).imp fun e h =>
      ⟨h.1, fun _ => h.2 (hbr.resolve_left fun hni => hni rfl).2⟩)
    (fun pc hq _ => (self _ _ _ (hid.2 _ _ (lookupA_some_mem hq))).imp fun e h => ⟨h.1, fun hl => h.2 (hl pc hq)⟩)
    (fun _ => ⟨_, (self _ _ _ (newAttempt_sessP _ n _ ⟨rfl, rfl⟩)).imp fun e h => ⟨h.1, fun _ => h.2 rfl⟩⟩)
  cases h2 : (dispatch env bodyOf o n now s (Generated.INIT_MESSAGE_FIRST_BYTE :: rest) tail).2 with
  | none => exact absurd h2 (hsome rfl)
  | some e => exact .of_traceless h2 ht (he e h2)

/-- the table of `c` is `t`, or `t` after exactly one table operation for the id of the address `s`:
    a learned address (then `L` holds), announced claims (then `s` is a peer in `c`), or the removal of its entries -/
inductive TblCase (t : Table) (now : Int) (s : NAddr) (L : Prop) (c : Ctx) : Prop
  | same : c.node.table = t → TblCase t now s L c
  | learn (addr : Addr) : c.node.table = t.learn now addr (addrId s) → L → TblCase t now s L c
  | set (cs : List Range) : c.node.table = t.setClaims now (addrId s) cs → s ∈ c.node.peers.map (·.1) → TblCase t now s L c
  | remove : c.node.table = t.removeClaims now (addrId s) → TblCase t now s L c

theorem TblCase.mono {t : Table} {now : Int} {s : NAddr} {L L' : Prop} {c : Ctx} (h : TblCase t now s L c) (hl : L → L') :
    TblCase t now s L' c := by
  cases h with
  | same h => exact .same h
  | learn a h l => exact .learn a h (hl l)
  | set cs h k => exact .set cs h k
  | remove h => exact .remove h

/-- the pending session of a sender that is not a peer (if there is one) has no crypto core and is not in unencrypted mode -/
def SenderFresh (n : Node) (s : NAddr) : Prop :=
  ∀ pc, lookupA n.peers s = none → lookupA n.pending s = some pc → pc.unencrypted = false ∧ pc.core = none

/-- `NetStepLemmas.handleNet_netStep` on the table; an address is learned from a message, which a fresh session does not open -/
theorem handleNet_tbl (env : CryptoEnv) (bodyOf : Init.BodyOf) (o : Oracle) (n : Node) (now : Int) (src : NAddr) (data tail : Bytes) :
    TblCase n.table now (mappedAddr src)
      ((SenderFresh n (mappedAddr src) → mappedAddr src ∈ (handleNet env bodyOf o n now src data tail).1.node.peers.map (·.1)) ∧
        n.cfg.learning = true)
      (handleNet env bodyOf o n now src data tail).1 := by
  cases NetStepLemmas.handleNet_netStep env bodyOf o n now src data tail with
  | same h1 _ h3 =>
    rcases h3 with h | ⟨addr, hl, h, pc, pc', out, ty, d, log, hst, hm⟩ | ⟨cs, hs, h⟩
    · exact .same h
    · refine .learn addr h ⟨fun hfresh => Classical.byContradiction fun hns => ?_, hl⟩
      rw [h1] at hns
      have hf := handleMessage_fresh env bodyOf payloadOk pc data tail (rndFor o { node := n } (mappedAddr src)).1
        (rndFor o { node := n } (mappedAddr src)).2.1 (hfresh pc ((lookupA_none_iff _ _).2 hns) (hst.resolve_left hns))
      rw [hm] at hf
      exact NetStepLemmas.freshOut_no_message hf
    · exact .set cs h (h1 ▸ hs)
  | join _ _ _ h2 _ h4 => exact .set _ h4 ((h2 _).2 (Or.inl rfl))
  | leave _ _ _ _ _ _ _ _ _ _ h6 => exact .remove h6

theorem handleMessage_live (env : CryptoEnv) (bodyOf : Init.BodyOf) (ok : Bytes → Bool) (pc : PeerCrypto) (datagram tail : Bytes) (rnd : Rand) (rr : RotRand)
    (hp : LivePC pc) : Hands LivePC (fun _ => True) ok (PeerCrypto.handleMessage env bodyOf ok pc datagram tail rnd rr) :=
  handleMessage_hands (.of_init fun _ _ _ _ => trivial) env bodyOf ok pc datagram tail rnd rr (fun _ hi => hp.of_init hi)
    (fun w ist hi => handleInit_live env bodyOf ok ist w rnd (by obtain ⟨i, h, hl⟩ := hp; rw [hi] at h; cases h; exact hl))
    (fun ist' h => ⟨ist', rfl, h⟩) (fun _ _ => trivial)

theorem everySecond_live (pc : PeerCrypto) (rr : RotRand) (hp : LivePC pc)
    (pc' : PeerCrypto) (out : Bytes) (res : MsgResult) (log : Init.SealLog) (h : PeerCrypto.everySecond pc rr = .ok pc' out res log) :
    LivePC pc' := by
  obtain ⟨ist, hi, hl⟩ := hp
  have hs := everySecond_spec pc rr
  rw [h] at hs
  have hinit : pc'.init = tickInit pc := hs
  rcases (init_everySecond_spec ist).2 hl with ⟨e, he⟩ | hlive
  · exfalso
    have h2 : (tick1 pc).2 = .error e := by rw [tick1_eq, hi]; exact he
    revert h
    exact tick_cases (M := (· ≠ .ok pc' out res log)) pc rr (fun _ _ => nofun) (fun _ ho _ => by rw [h2] at ho; cases ho)
      (fun h0 => by rw [h2] at h0; cases h0)
  · refine ⟨(Init.everySecond ist).1, ?_, hlive⟩
    rw [hinit]
    unfold tickInit
    simp only [hi]
    rw [if_neg hlive.1]

/-- the instance for `PendLive` (`pendLive_iff`): pending sessions are live, nothing is asked of a peer's session, and table, panic flag
    and seal log are not tracked; `sokD` and `tokD` are what it owes for a message and a tick -/
def SD : SI where
  Q := LivePC
  R := fun _ => True
  T := False
  P := False
  L := False
  q_new := by
    intro env n hash rnd ist _
    exact ⟨_, rfl, (by decide : Generated.STAGE_PONG ≠ Generated.CLOSING), (by decide : Generated.STAGE_PONG ≠ Generated.WAITING_TO_CLOSE)⟩
  q_att := fun _ _ => ⟨_, rfl, (by decide : Generated.STAGE_PING ≠ Generated.CLOSING), (by decide : Generated.STAGE_PING ≠ Generated.WAITING_TO_CLOSE)⟩
  r_seal := fun _ _ _ _ _ => trivial

theorem sokD (env : CryptoEnv) (bodyOf : Init.BodyOf) (pc : PeerCrypto) (inPeers : Bool) (data tail : Bytes) (rnd : Rand) (rr : RotRand)
    (h : if inPeers then SD.R pc else SD.Q pc) : SOK SD inPeers (PeerCrypto.handleMessage env bodyOf payloadOk pc data tail rnd rr) := by
  cases inPeers with
  | true => exact .of_peers (Leaves.of_forall (fun _ => trivial) _) nofun id
  | false => exact .of_hands (handleMessage_live env bodyOf payloadOk pc data tail rnd rr h) nofun nofun id

theorem tokD (pc : PeerCrypto) (rr : RotRand) :
    (SD.Q pc → TOK SD SD.Q (PeerCrypto.everySecond pc rr)) ∧ (SD.R pc → TOK SD SD.R (PeerCrypto.everySecond pc rr)) := by
  constructor
  · intro hq
    exact { no_panic := fun hf => hf.elim, ok := fun pc' out res log hr => everySecond_live pc rr hq pc' out res log hr, log_ok := fun hf => hf.elim }
  · intro _
    exact { no_panic := fun hf => hf.elim, ok := fun _ _ _ _ _ => trivial, log_ok := fun hf => hf.elim }

/-- every pending session has a handshake object that is neither closing nor waiting to close -/
def PendLive (n : Node) : Prop := ∀ a pc, (a, pc) ∈ n.pending → LivePC pc

theorem pendLive_iff (c : Ctx) : PendLive c.node ↔ GI SD.ns c :=
  ⟨fun h => (SD.gi_iff c).2 ⟨h, fun _ _ _ => trivial, nofun, nofun, nofun⟩, fun h => ((SD.gi_iff c).1 h).1⟩

end VpnCloud.Proofs.C01MoreLemmas
