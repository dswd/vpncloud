import VpnCloud.Proofs.Lemmas.Node.C15MoreLemmas
/-
  Helper lemmas for `Proofs/C12More.lean` (C12 at node level, step by step):

  * `NoRoutes pid t`: the table `t` holds no claim and no cached decision of the peer id `pid`;
  * `Shrinks c c'`: from `c` to `c'` the peer list lost keys at most and the table lost entries at most (`TSub`: no entry was
    added or rewritten); what the tick does in these terms, and that whoever it drops leaves no route (`Tick.gone`,
    `cryptoHousekeep_gone`), is read off `TickLemmas.housekeep_tick`; `remove_claims` is `TableLemmas.pruned` for one peer id
    (`removeClaims_eq_pruned`), as the sweep is for none and the tick for all that left;
  * `Announced`: what `set_claims` does to the table, clause by clause (`announced_setClaims`).  `C12More` states the Boolean
    `TableSpec.announceOk` beside it; no lemma relates the two.
-/
namespace VpnCloud.Proofs.C12MoreLemmas

open VpnCloud.Node
open VpnCloud.Proofs.AssocLemmas VpnCloud.Proofs.NodeLemmas

/-- no claim and no cached / learned decision of the table names the peer id `pid` -/
def NoRoutes (pid : PeerId) (t : Table) : Prop :=
  (∀ e ∈ t.claims, e.peer ≠ pid) ∧ (∀ v ∈ t.cache, v.peer ≠ pid)

instance (pid : PeerId) (t : Table) : Decidable (NoRoutes pid t) := by unfold NoRoutes; exact inferInstance

def TSub (t' t : Table) : Prop := (∀ e ∈ t'.claims, e ∈ t.claims) ∧ (∀ v ∈ t'.cache, v ∈ t.cache)

theorem TSub.refl (t : Table) : TSub t t := ⟨fun _ h => h, fun _ h => h⟩

theorem housekeep_tsub (t : Table) (now : Int) : TSub (t.housekeep now) t :=
  ⟨fun _ he => (List.mem_filter.1 he).1, fun _ hv => (List.mem_filter.1 hv).1⟩

/-- all claims of the table are live at `now` (what the sweep establishes) -/
def Swept (now : Int) (t : Table) : Prop := ∀ e ∈ t.claims, now ≤ e.timeout

theorem housekeep_swept (t : Table) (now : Int) : Swept now (t.housekeep now) := by
  intro e he
  have := C12.claims_expire t now e he
  omega

theorem Swept.of_tsub {now : Int} {t t' : Table} (h : Swept now t) (hs : TSub t' t) : Swept now t' :=
  fun e he => h e (hs.1 e he)

def Shrinks (c c' : Ctx) : Prop :=
  (∀ a ∈ c'.node.peers.map (·.1), a ∈ c.node.peers.map (·.1)) ∧ TSub c'.node.table c.node.table

theorem connect_shrinks (env : CryptoEnv) (o : Oracle) (c : Ctx) (l : List NAddr) : Shrinks c (connect env o c l) :=
  ⟨fun _ ha => connect_peers env o c l ▸ ha, connect_table env o c l ▸ TSub.refl _⟩

open TableLemmas (pruned mem_pruned_claims mem_pruned_cache removeClaims_eq_pruned)
open TickLemmas (Tick Fails housekeep_tick cryptoHousekeep_tick)

theorem pruned_tsub (t : Table) (now : Int) (G : List PeerId) : TSub (pruned t now G) t :=
  ⟨fun _ he => (mem_pruned_claims.1 he).1, fun _ hv => (mem_pruned_cache.1 hv).1⟩

theorem pruned_noRoutes (t : Table) (now : Int) {G : List PeerId} {pid : PeerId} (h : pid ∈ G) : NoRoutes pid (pruned t now G) :=
  ⟨fun _ he hp => (mem_pruned_claims.1 he).2.1 (hp ▸ h), fun _ hv hp => (mem_pruned_cache.1 hv).2.1 (hp ▸ h)⟩

theorem removeClaims_noRoutes (t : Table) (now : Int) (hnow : 0 < now) (pid : PeerId) : NoRoutes pid (t.removeClaims now pid) :=
  removeClaims_eq_pruned t now hnow pid ▸ pruned_noRoutes t now (List.mem_singleton.2 rfl)

theorem Tick.gone {n : Node} {now : Int} {s : Prop} {c : Ctx} {L : List NAddr} (h : Tick n now s c L) (hnow : 0 < now) {a : NAddr}
    (ha : a ∈ L) : a ∉ c.node.peers.map (·.1) ∧ NoRoutes (addrId a) c.node.table := by
  refine ⟨((h.mem_iff a).1 ha).2, ?_⟩
  rw [h.table_eq hnow (Or.inr (List.ne_nil_of_mem ha))]
  exact pruned_noRoutes _ now (List.mem_map_of_mem ha)

theorem housekeep_shrinks (env : CryptoEnv) (o : Oracle) (n : Node) (now : Int) (hnow : 0 < now) :
    Shrinks { node := n } (housekeep env o n now) := by
  obtain ⟨L, h⟩ := housekeep_tick env o n now
  refine ⟨fun a ha => ?_, ?_⟩
  · rw [h.keys] at ha; exact (List.mem_filter.1 ha).1
  · rw [h.table hnow]; exact pruned_tsub _ now _

theorem cryptoHousekeep_gone (env : CryptoEnv) (o : Oracle) (now : Int) (hnow : 0 < now) (c : Ctx) (a : NAddr) (hf : Fails c a) :
    a ∉ (cryptoHousekeep env o c now).node.peers.map (·.1) ∧ NoRoutes (addrId a) (cryptoHousekeep env o c now).node.table := by
  obtain ⟨L, h, hs, _⟩ := cryptoHousekeep_tick env o (Tick.start c now)
  exact Tick.gone h hnow (hs a (Or.inr hf))

/-- what an announcement `cs` of the peer id `pid` at time `now` does to the table `t` (result `t'`) -/
structure Announced (t : Table) (now : Int) (pid : PeerId) (cs : List Range) (t' : Table) : Prop where
  /-- the timeouts of the table are not changed -/
  params : t'.cacheTimeout = t.cacheTimeout ∧ t'.claimTimeout = t.claimTimeout
  /-- the ranges attributed to `pid` are exactly the announced ones (as a set) -/
  exact : ∀ r, (∃ e ∈ t'.claims, e.peer = pid ∧ e.claim = r) ↔ r ∈ cs
  /-- … each with the expiry `now + claimTimeout` -/
  fresh : ∀ e ∈ t'.claims, e.peer = pid → e.timeout = now + t.claimTimeout
  /-- claims of other peers: untouched, except that the expired ones are swept; order kept -/
  others : t'.claims.filter (fun e => e.peer ≠ pid) = (t.claims.filter (fun e => e.peer ≠ pid)).filter (fun e => e.timeout ≥ now)
  /-- if a range of `pid` was dropped every cached decision of `pid` is gone -/
  dropped : (∃ e ∈ t.claims, e.peer = pid ∧ e.claim ∉ cs) → ∀ v ∈ t'.cache, v.peer ≠ pid
  /-- cached decisions of other peers: untouched, except that the expired ones are swept -/
  cacheOthers : ∀ v, v.peer ≠ pid → (v ∈ t'.cache ↔ v ∈ t.cache ∧ now ≤ v.timeout)
  /-- no cached decision is added or rewritten -/
  cacheSub : ∀ v ∈ t'.cache, v ∈ t.cache ∧ now ≤ v.timeout

theorem announced_setClaims (t : Table) (now : Int) (hnow : 0 < now) (pid : PeerId) (cs : List Range) :
    Announced t now pid cs (t.setClaims now pid cs) := by
  have hsub : ∀ v ∈ (t.setClaims now pid cs).cache, v ∈ t.cache ∧ now ≤ v.timeout :=
    fun v hv => by simpa using (TableRefresh.setClaims_cache_sub t now hnow pid cs).subset hv
  refine ⟨⟨rfl, rfl⟩, fun r => ⟨?_, fun hr => C12.setClaims_cover t now pid cs hnow r hr⟩,
    fun e he hp => (C12.setClaims_mem_peer t now pid cs hnow e he hp).1, C12.setClaims_others t now pid cs, ?_,
    fun v hvp => TableLemmas.mem_setClaims_cache_other t now pid cs hvp, hsub⟩
  · rintro ⟨e, he, hp, rfl⟩
    exact (C12.setClaims_mem_peer t now pid cs hnow e he hp).2
  · rintro ⟨e, he, hp, hc⟩
    -- the claim `e` of `pid` is not announced again, so it is not refreshed
    refine (TableRefresh.setClaims_keeps t now hnow pid cs e he hp).resolve_left fun hin => hc ?_
    exact (C12.setClaims_mem_peer t now pid cs hnow _ hin hp).2

theorem addNewPeer_table (env : CryptoEnv) (o : Oracle) (c : Ctx) (now : Int) (a : NAddr) (info : NodeInfo) (pc : PeerCrypto)
    (hp : lookupA c.node.pending a = some pc) :
    (addNewPeer env o c now a info).node.table = c.node.table.setClaims now (addrId a) info.claims := by
  rw [C15MoreLemmas.addNewPeer_eq hp]
  simp only []
  rw [updatePeerInfo_table_some env o _ now a info ?p ?hl]
  case hl => exact lookupA_insertA_self _ _ _

end VpnCloud.Proofs.C12MoreLemmas
