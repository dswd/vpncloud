import VpnCloud.Proofs.Lemmas.Node.DatagramLemmas
import VpnCloud.Proofs.Lemmas.Node.LogPLemmas
import VpnCloud.Proofs.Lemmas.Node.WireLemmas
import VpnCloud.Proofs.C12
import VpnCloud.Proofs.C15
/-
  The generic node invariant `GI S` (structure `NS`, see there for its components): every building block of `Model/Node.lean` is
  traversed once for `GI S`; the instances (`C12Node.SA`, `C08Node.SB`, `C08Node.SP`, `C01MoreLemmas.SD`, `C01MoreLemmas.SNK`,
  `C02MoreLemmas.WS.si`) only have to supply what the session layer returns (`MsgOK`, `TickOK`).  Before it, what two of its
  components are stated with: the claim table relative to a set of peer addresses (`TP`), and `every_second` of a session (`TickOut`).

  What the session layer does to the predicates on one session object is in `SessionInvLemmas.lean` and `LogPLemmas.lean`.
-/
namespace VpnCloud.Proofs.NodeInvLemmas

open VpnCloud.Node
open VpnCloud.Proofs.AssocLemmas VpnCloud.Proofs.NodeLemmas VpnCloud.Proofs.LogPLemmas VpnCloud.Proofs.SessionInvLemmas
open VpnCloud.Proofs.C09MoreLemmas (pendStep_cases peerStep_cases cryptoHousekeep_eq)
open VpnCloud.Proofs.C02MoreLemmas (WOut)
open VpnCloud.Proofs.WireLemmas (OutWire handleMessage_wire everySecond_outWire outWire_wout)

theorem key_mem_insertA_self {α} (l : List (NAddr × α)) (a : NAddr) (v : α) : a ∈ (insertA l a v).map (·.1) :=
  mem_key (lookupA_some_mem (lookupA_insertA_self l a v))

def TP (keys : List NAddr) (t : Table) : Prop :=
  (∀ e ∈ t.claims, ∃ a ∈ keys, addrId a = e.peer) ∧ (∀ v ∈ t.cache, ∃ a ∈ keys, addrId a = v.peer)

theorem TP.mono {keys keys' : List NAddr} {t : Table} (h : TP keys t) (hk : ∀ a ∈ keys, a ∈ keys') : TP keys' t :=
  ⟨fun e he => let ⟨a, ha, hp⟩ := h.1 e he; ⟨a, hk a ha, hp⟩, fun v hv => let ⟨a, ha, hp⟩ := h.2 v hv; ⟨a, hk a ha, hp⟩⟩

theorem TP.housekeep {keys : List NAddr} {t : Table} (h : TP keys t) (now : Int) : TP keys (t.housekeep now) :=
  ⟨fun e he => h.1 e (List.mem_filter.1 he).1, fun v hv => h.2 v (List.mem_filter.1 hv).1⟩

theorem TP.cacheInsert {keys : List NAddr} {t : Table} (h : TP keys t) (v : CacheEntry) (hv : ∃ a ∈ keys, addrId a = v.peer) :
    TP keys { t with cache := Table.cacheInsert t.cache v } :=
  ⟨h.1, fun w hw => (TableLemmas.mem_cacheInsert.1 hw).elim (fun e => e ▸ hv) fun hw => h.2 w hw.1⟩

theorem TP.learn {keys : List NAddr} {t : Table} (h : TP keys t) (now : Int) (addr : Addr) (a : NAddr) (ha : a ∈ keys) :
    TP keys (t.learn now addr (addrId a)) :=
  h.cacheInsert _ ⟨a, ha, rfl⟩

theorem TP.setClaims {keys : List NAddr} {t : Table} (h : TP keys t) (now : Int) (a : NAddr) (ha : a ∈ keys) (cs : List Range) :
    TP keys (t.setClaims now (addrId a) cs) :=
  ⟨fun e he => (TableLemmas.mem_setClaims_claims t now _ cs e he).1.elim (h.1 e) fun hp => ⟨a, ha, hp.symm⟩,
   fun v hv => (TableLemmas.mem_setClaims_cache t now _ cs v hv).1.elim (h.2 v) fun hp => ⟨a, ha, hp.symm⟩⟩

/-- `remove_claims` for the id of `a`: what is left names addresses other than `a`.  `0 < now`: `remove_claims` marks the entries with the
    expiry `0` and sweeps, which removes them only at a time after `0`. -/
theorem TP.removeClaims {keys : List NAddr} {t : Table} (h : TP keys t) (now : Int) (hnow : 0 < now) (a : NAddr) :
    TP (keys.filter (fun b => b ≠ a)) (t.removeClaims now (addrId a)) := by
  have key : ∀ q, (∃ b ∈ keys, addrId b = q) → q ≠ addrId a → ∃ b ∈ keys.filter (fun b => b ≠ a), addrId b = q :=
    fun q ⟨b, hb, hp⟩ hne => ⟨b, List.mem_filter.2 ⟨hb, by simpa using fun hba : b = a => hne (by rw [← hp, hba])⟩, hp⟩
  constructor
  · intro e he
    obtain ⟨he, hne, _⟩ := (TableLemmas.mem_removeClaims_claims t now _ hnow e).1 he
    exact key _ (h.1 e he) hne
  · intro v hv
    obtain ⟨hv, hne, _⟩ := (TableLemmas.mem_removeClaims_cache t now _ hnow v).1 hv
    exact key _ (h.2 v hv) hne

theorem TP.lookup {keys : List NAddr} {t : Table} (h : TP keys t) (now : Int) (dst : Addr) : TP keys (t.lookup now dst).1 := by
  rw [TableLemmas.lookup_frame]
  refine ⟨h.1, fun v hv => ?_⟩
  rcases TableLemmas.mem_lookup_cache t now dst v hv with hv | ⟨e, he, _, rfl⟩
  · exact h.2 v hv
  · exact h.1 e he

theorem TP.lookup_result {keys : List NAddr} {t : Table} (h : TP keys t) (now : Int) (dst : Addr) (pid : PeerId)
    (hl : (t.lookup now dst).2 = some pid) : ∃ a ∈ keys, addrId a = pid := by
  rcases C12.lookup_result_mem t now dst pid hl with ⟨v, hv, hp⟩ | ⟨e, he, hp⟩
  · rw [← hp]; exact h.2 v hv
  · rw [← hp]; exact h.1 e he

theorem logNE_nil : LogNE [] := logP_nil

theorem LogNE.append {l1 l2 : Init.SealLog} (h1 : LogNE l1) (h2 : LogNE l2) : LogNE (l1 ++ l2) :=
  LogP.append (P := (· ≠ [])) h1 h2

theorem sendMessage_pay (pc : PeerCrypto) (ty : Nat) (body ct bytes : Bytes) (log : Init.SealLog)
    (h : (PeerCrypto.sendMessage pc ty body ct).2 = .ok (bytes, log)) : LogNE log :=
  sealMsg_logP pc (ty :: body) ct bytes log h (List.cons_ne_nil ty body)

/-- `every_second` has no panic site, and what it returns holds the handshake object `i`: that of the session for the rotation part
    (`tickRot`), and `tickInit pc` for the whole, whose first part advances the handshake object -/
def TickOut (i : Option InitSt) : POutcome MsgResult → Prop
  | .panic => False
  | .err _ _ => True
  | .ok pc' _ _ _ => pc'.init = i

theorem tickRot_spec (pc2 : PeerCrypto) (rr : RotRand) : TickOut pc2.init (tickRot pc2 rr) := by
  have hc : SessClosed (fun p => p.init = pc2.init) := .of_init fun _ _ hi h => hi.trans h
  exact tickRot_cases (M := TickOut pc2.init) pc2 rr (fun _ => rfl) (fun _ => rfl) (fun sd _ _ _ => cycPc_keeps hc pc2 sd rr rfl)
    (fun sd _ _ _ _ _ _ _ hs => hc.seal_eq hs (cycPc_keeps hc pc2 sd rr rfl)) (fun _ _ _ _ _ _ _ _ => trivial)

theorem everySecond_spec (pc : PeerCrypto) (rr : RotRand) : TickOut (tickInit pc) (PeerCrypto.everySecond pc rr) :=
  tick_cases (M := TickOut (tickInit pc)) pc rr (fun _ _ => trivial) (fun _ _ _ => tick2_init pc)
    (fun _ => by rw [← tick2_init pc]; exact tickRot_spec _ rr)

theorem everySecond_no_panic (pc : PeerCrypto) (rr : RotRand) : PeerCrypto.everySecond pc rr ≠ .panic := by
  intro h
  have hs := everySecond_spec pc rr
  rw [h] at hs
  exact hs

theorem everySecond_onInit {Φ : InitSt → Prop} (hΦ : ∀ i, Φ i → Φ (Init.everySecond i).1) {pc pc' : PeerCrypto} {rr : RotRand} {out : Bytes}
    {res : MsgResult} {log : Init.SealLog} (h : OnInit Φ pc) (hok : PeerCrypto.everySecond pc rr = .ok pc' out res log) : OnInit Φ pc' := by
  have hs := everySecond_spec pc rr
  rw [hok] at hs
  intro i hi
  exact tickInit_onInit hΦ h i (Eq.trans (Eq.symm hs) hi)

theorem initWF_tick (ist : InitSt) (h : InitWF ist) : InitWF (Init.everySecond ist).1 := by
  intro hp
  have hfr := InitLemmas.init_everySecond_frame ist
  rw [hfr.2]
  rcases hfr.1 with h1 | h1
  · exact h (h1 ▸ hp)
  · rw [h1] at hp; exact absurd hp (by decide)

theorem notPong_tick (ist : InitSt) (h : ist.stage ≠ Generated.STAGE_PONG) : (Init.everySecond ist).1.stage ≠ Generated.STAGE_PONG := by
  rcases (InitLemmas.init_everySecond_frame ist).1 with h1 | h1
  · rw [h1]; exact h
  · rw [h1]; decide

theorem addNewPeer_log (env : CryptoEnv) (o : Oracle) (c : Ctx) (now : Int) (a : NAddr) (info : NodeInfo) :
    (addNewPeer env o c now a info).log = c.log := by
  cases hp : lookupA c.node.pending a with
  | none => rw [C15MoreLemmas.addNewPeer_none env o c now a info hp]
  | some pc =>
    rw [C15MoreLemmas.addNewPeer_eq hp, C15MoreLemmas.updatePeerInfo_eq ?hl]
    case hl => exact lookupA_insertA_self _ _ _
    exact frame_proj (connectToPeers_dial env o _ _).frame (·.log)

/-- what the fields `q_new` / `q_att` of an instance ask for, when its `Q` reads the handshake object -/
theorem newAttempt_onInit {Φ : InitSt → Prop} (n : Node) (hash : Bytes) (h : Φ (C14ExchangeLemmas.attemptSt n hash)) :
    OnInit Φ (newAttempt n hash) :=
  OnInit.set (newAttempt n hash) h

/-! ## a generic node invariant

  One invariant of a step in progress, `GI S c`, is carried through every building block of `Model/Node.lean` once; what it says is
  chosen by `S : NS`.  Its components, and the instances that use them:

  * `Q a pc` for the session `pc` of every pending handshake at address `a`, `R a pc` for the session of every peer.  They differ
    where a session changes when its handshake completes (`C12Node.SA`: pending sessions have no core; `C08Node.SB`: which stage
    may await a pong; `C01MoreLemmas.SD`: pending handshake objects are live) and agree otherwise (`C08Node.SP`,
    `C02MoreLemmas.WS.si`, `C01MoreLemmas.SNK`).  The address matters where a predicate speaks of one destination
    (`C02More.flipWS`), or speaks of the address only: in `SNK` "a pending attempt is keyed by an old key, by the sender,
    or by no own address" is part of `Q`, so the session layer keeps it for free and only `connect_sock`, whose guard
    `a ∉ n.own` is handed to `q_new`, has to justify it.
  * `C nodeId cfg addr own`: what stays fixed in the node (`WS.si`: the configuration; `SNK`: identity, and that the own addresses
    of the start are still own addresses).  `own` only grows (`c_mono`) except in the last stage of `housekeep`, which is why
    `housekeep_GI` is `hkOwn_GI` after `hkCore_GI`.
  * `T`: the table names only peers (`SA`; needs `0 < now`).  `P`: the panic flag is off (`SB`).  `L`: the seal log of the step
    satisfies `LG` (`SP`; by default every seal has a non-empty plaintext).
  * `O`: every output has wire form (`WOut`) with respect to the seal log, and the session a sealed datagram leaves behind satisfies
    `W` at its destination (`WS.si`, with `W = Q = R`).  `N`: the keys of `peers` and of `pending` are pairwise distinct (`WS.si`).

  What an instance owes for the session layer is `MsgOK` (for `handle_message`) and `TickOK` (for `every_second`); an instance with
  `Q = R` that tracks neither table, panic flag nor log owes only that the session layer keeps its predicate (`MsgOK.of_leaves`,
  `TickOK.of_ok`). -/

structure NS where
  Q : NAddr → PeerCrypto → Prop
  R : NAddr → PeerCrypto → Prop
  C : Bytes → NodeCfg → NAddr → List NAddr → Prop := fun _ _ _ _ => True
  c_mono : ∀ (i : Bytes) (k : NodeCfg) (a : NAddr) (own own' : List NAddr), (∀ x ∈ own, x ∈ own') → C i k a own → C i k a own' := by
    exact fun _ _ _ _ _ _ h => h
  /-- switch: the outputs are tracked (each has wire form `WOut S.W` with respect to the seal log); off by default -/
  O : Prop := False
  W : NAddr → PeerCrypto → Prop := fun _ _ => True
  w_q : ∀ (a : NAddr) (pc : PeerCrypto), Q a pc → W a pc := by exact fun _ _ _ => trivial
  w_r : ∀ (a : NAddr) (pc : PeerCrypto), R a pc → W a pc := by exact fun _ _ _ => trivial
  /-- switch: the keys of `peers` and of `pending` are tracked as pairwise distinct; off by default -/
  N : Prop := False
  /-- switch: the table is tracked (it names only peers, `TP`); steps then need `0 < now` -/
  T : Prop
  /-- switch: the panic flag is tracked (it is off); the session layer then owes `≠ .panic` -/
  P : Prop
  /-- switch: the seal log of the step is tracked (it satisfies `LG`) -/
  L : Prop
  /-- the session `connect_sock` creates, for an address that is not an own address -/
  q_new : ∀ (env : CryptoEnv) (n : Node) (hash : Bytes) (rnd : Rand) (ist : InitSt) (a : NAddr), C n.nodeId n.cfg n.addr n.own → a ∉ n.own →
    (newAttempt n hash).init = some ist → Q a { newAttempt n hash with init := some (Init.sendPing env ist rnd).1 }
  r_seal : ∀ (a : NAddr) (pc : PeerCrypto) (ty : Nat) (body ct : Bytes), R a pc → R a (PeerCrypto.sendMessage pc ty body ct).1
  /-- the predicate on the seal log of a step that is tracked when `L` holds (default: every seal has a non-empty plaintext) -/
  LG : Init.SealLog → Prop := LogNE
  lg_nil : LG [] := by exact logNE_nil
  lg_append : ∀ l1 l2 : Init.SealLog, LG l1 → LG l2 → LG (l1 ++ l2) := by exact fun _ _ h1 h2 => LogNE.append h1 h2
  /-- what the node seals with `send_message`: `type :: body` with a type other than ROTATION (`assert_ne!` in the Rust) -/
  lg_send : ∀ (pc : PeerCrypto) (ty : Nat) (body ct bytes : Bytes) (log : Init.SealLog), ty ≠ Generated.MESSAGE_TYPE_ROTATION →
    (PeerCrypto.sendMessage pc ty body ct).2 = .ok (bytes, log) → LG log := by
      exact fun pc ty body ct bytes log _ h => sendMessage_pay pc ty body ct bytes log h

/-- the invariant, with the pending handshake of the address `x` (if any) exempt from `Q`.  The exemption lives only while a datagram
    from `src` is processed: `storePc_pend_GIx` stores what the session layer returned for the pending handshake of `src` before it is
    known to satisfy `Q`; it ends in `handleResult_GI` (`addNewPeer_GI` moves the session to the peers, `GIx.full` otherwise) or, after
    a fatal error, in `finish_GI` (`PostD`) -/
structure GIx (S : NS) (x : Option NAddr) (c : Ctx) : Prop where
  pend : ∀ a pc, (a, pc) ∈ c.node.pending → some a ≠ x → S.Q a pc
  peers : ∀ a p, (a, p) ∈ c.node.peers → S.R a p.crypto
  table : S.T → TP (c.node.peers.map (·.1)) c.node.table
  calm : S.P → c.panicked = false
  log : S.L → S.LG c.log
  static : S.C c.node.nodeId c.node.cfg c.node.addr c.node.own
  outs : S.O → ∀ x ∈ c.outs, WOut S.W c.log x
  keysP : S.N → (c.node.peers.map (·.1)).Nodup
  keysQ : S.N → (c.node.pending.map (·.1)).Nodup

abbrev GI (S : NS) (c : Ctx) : Prop := GIx S none c

theorem GIx.weaken {S : NS} {x : Option NAddr} {c : Ctx} (h : GI S c) : GIx S x c :=
  { h with pend := fun a pc hm _ => h.pend a pc hm (by simp) }

theorem GIx.send {S : NS} {x : Option NAddr} {c : Ctx} (h : GIx S x c) (a : NAddr) (b : Bytes) (hb : S.O → WOut S.W c.log (.dgram a b)) :
    GIx S x (c.send a b) := by
  refine { h with outs := fun hO x hx => ?_ }
  simp only [send_outs, List.mem_append, List.mem_singleton] at hx
  rcases hx with hx | hx
  · exact h.outs hO x hx
  · rw [hx]; exact hb hO

theorem GIx.addLog {S : NS} {x : Option NAddr} {c : Ctx} (h : GIx S x c) (l : Init.SealLog) (hl : S.L → S.LG l) : GIx S x (addLog l c) :=
  { h with log := fun hL => S.lg_append _ _ (h.log hL) (hl hL),
           outs := fun hO x hx => (h.outs hO x hx).mono (fun _ he => List.mem_append_left _ he) }

theorem GIx.iface {S : NS} {x : Option NAddr} {c : Ctx} (h : GIx S x c) (d : Bytes) (t : Table) (ht : S.T → TP (c.node.peers.map (·.1)) t) :
    GIx S x { c with outs := c.outs ++ [.iface d], node := { c.node with table := t } } := by
  refine { h with table := ht, outs := fun hO x hx => ?_ }
  rcases List.mem_append.1 hx with hx | hx
  · exact h.outs hO x hx
  · rw [List.mem_singleton.1 hx]; trivial

theorem GIx.countInvalid {S : NS} {x : Option NAddr} {c : Ctx} (h : GIx S x c) : GIx S x (countInvalid c) := { h with }

theorem GIx.insertPend {S : NS} {x : Option NAddr} {c : Ctx} (h : GIx S x c) (a : NAddr) (pc : PeerCrypto) (hq : some a ≠ x → S.Q a pc) :
    GIx S x { c with node := { c.node with pending := insertA c.node.pending a pc } } := by
  refine { h with pend := fun b q hm hne => ?_, keysQ := fun hN => nodup_insertA _ _ _ (h.keysQ hN) }
  rcases mem_insertA hm with heq | hm
  · cases heq; exact hq hne
  · exact h.pend b q hm hne

/-- the exemption ends where the exempt handshake is erased -/
theorem GIx.erasePend {S : NS} {a : NAddr} {c : Ctx} (h : GIx S (some a) c) :
    GI S { c with node := { c.node with pending := eraseA c.node.pending a } } := by
  refine { h with pend := fun b q hm _ => ?_, keysQ := fun hN => nodup_eraseA _ _ (h.keysQ hN) }
  have := mem_eraseA hm
  exact h.pend b q this.1 (fun e => this.2 (Option.some.inj e))

/-- dialling keeps the invariant: a dial stores the session `q_new` speaks of, under an address that is not an own address, and sends
    a handshake datagram; an adoption lets the own addresses grow -/
theorem dialling_GI {S : NS} {env : CryptoEnv} {c c' : Ctx} {as : List NAddr} (hd : Dialling env c as c') (h : GI S c) : GI S c' := by
  induction hd with
  | refl => exact h
  | @dial _ c1 a hash rnd _ _ hn ih =>
    exact (ih.insertPend a _ fun _ => S.q_new env c1.node hash rnd _ a ih.static (not_mem_of_contains_false hn.1) rfl).send _ _
      (fun _ => Or.inr (Or.inl ⟨_, rfl⟩))
  | adopt l _ ih => exact { ih with static := S.c_mono _ _ _ _ _ (fun a ha => (mem_foldl_adopt _ _ _).2 (Or.inl ha)) ih.static }

theorem connectSock_GI (S : NS) (env : CryptoEnv) (o : Oracle) (c : Ctx) (a : NAddr) (h : GI S c) :
    GI S (connectSock env o c a) :=
  (connectSock_dialling env o c a).elim fun _ hd => dialling_GI hd.1 h

theorem connect_GI (S : NS) (env : CryptoEnv) (o : Oracle) (c : Ctx) (l : List NAddr) (h : GI S c) :
    GI S (connect env o c l) :=
  (connect_dialling env o c l).elim fun _ hd => dialling_GI hd.1 h

theorem connectToPeers_GI (S : NS) (env : CryptoEnv) (o : Oracle) (c : Ctx) (l : List PeerInfo) (h : GI S c) :
    GI S (connectToPeers env o c l) :=
  (connectToPeers_dialling env o l c).elim fun _ hd => dialling_GI hd.1 h

theorem GIx.insertPeer {S : NS} {x : Option NAddr} {c : Ctx} (h : GIx S x c) {a : NAddr} {p q : Peer} (hp : lookupA c.node.peers a = some p)
    (hq : S.R a p.crypto → S.R a q.crypto) (t : Table) (ht : S.T → TP (c.node.peers.map (·.1)) t) :
    GIx S x { c with node := { c.node with peers := insertA c.node.peers a q, table := t } } := by
  refine { h with peers := ?_, table := ?_, keysP := fun hN => nodup_insertA _ _ _ (h.keysP hN) }
  · intro b r hb
    rcases mem_insertA hb with heq | hb
    · cases heq
      exact hq (h.peers a p (lookupA_some_mem hp))
    · exact h.peers b r hb
  · intro hT
    show TP ((insertA c.node.peers a q).map (·.1)) t
    rw [insertA_keys_of_some _ _ _ _ hp]
    exact ht hT

theorem updatePeerInfo_GI (S : NS) (env : CryptoEnv) (o : Oracle) (c : Ctx) (now : Int) (a : NAddr) (info : Option NodeInfo)
    (h : GI S c) : GI S (updatePeerInfo env o c now a info) := by
  cases hp : lookupA c.node.peers a with
  | none => rw [C15MoreLemmas.updatePeerInfo_absent hp]; exact h
  | some p =>
    rw [C15MoreLemmas.updatePeerInfo_eq hp]
    have ha : a ∈ c.node.peers.map (·.1) := mem_key (lookupA_some_mem hp)
    cases info with
    | none =>
      refine h.insertPeer hp ?_ _ h.table
      exact fun hr => hr
    | some i =>
      apply connectToPeers_GI
      refine h.insertPeer hp ?_ _ (fun hT => (h.table hT).setClaims now a ha i.claims)
      exact fun hr => hr

theorem GIx.full {S : NS} {x : NAddr} {c : Ctx} (h : GIx S (some x) c) (hx : ∀ pc, (x, pc) ∈ c.node.pending → S.Q x pc) : GI S c := by
  refine { h with pend := fun a pc hm _ => ?_ }
  by_cases ha : a = x
  · subst ha; exact hx pc hm
  · exact h.pend a pc hm (by simpa using ha)

/-- `add_new_peer` moves the pending handshake of `a`, the one that was exempt, to the peers -/
theorem addNewPeer_GI (S : NS) (env : CryptoEnv) (o : Oracle) (c : Ctx) (now : Int) (a : NAddr) (info : NodeInfo)
    (h : GIx S (some a) c) (hR : ∀ pc, lookupA c.node.pending a = some pc → S.R a pc) : GI S (addNewPeer env o c now a info) := by
  cases hpc : lookupA c.node.pending a with
  | none =>
    rw [C15MoreLemmas.addNewPeer_none env o c now a info hpc]
    exact h.full fun pc hm => absurd (mem_key hm) ((lookupA_none_iff _ _).1 hpc)
  | some pc =>
    rw [C15MoreLemmas.addNewPeer_eq hpc]
    refine { updatePeerInfo_GI S env o _ now a (some info) ?_ with }
    refine { h.erasePend with peers := ?_, table := ?_, keysP := fun hN => nodup_insertA _ _ _ (h.keysP hN) }
    · intro b r hb
      rcases mem_insertA hb with heq | hb
      · cases heq
        exact hR pc hpc
      · exact h.peers b r hb
    · intro hT
      exact (h.table hT).mono (fun b hb => key_mem_insertA_of_mem _ _ _ _ hb)

theorem GIx.erasePeer {S : NS} {x : Option NAddr} {c : Ctx} (h : GIx S x c) (now : Int) (hnow : S.T → 0 < now) (a : NAddr) :
    GIx S x { c with node := { c.node with peers := eraseA c.node.peers a, table := c.node.table.removeClaims now (addrId a) } } := by
  refine { h with peers := fun b r hb => h.peers b r (mem_eraseA hb).1, table := ?_, keysP := fun hN => nodup_eraseA _ _ (h.keysP hN) }
  intro hT
  show TP ((eraseA c.node.peers a).map (·.1)) _
  rw [keys_eraseA]
  exact (h.table hT).removeClaims now (hnow hT) a

theorem removePeer_GI (S : NS) (c : Ctx) (now : Int) (hnow : S.T → 0 < now) (a : NAddr) (h : GI S c) :
    GI S (removePeer c now a) := by
  unfold removePeer
  simp only []
  split
  · exact h
  · exact h.erasePeer now hnow a

theorem sendMsg_GI (S : NS) (o : Oracle) (c : Ctx) (a : NAddr) (ty : Nat) (body : Bytes)
    (hty : ty ≠ Generated.MESSAGE_TYPE_ROTATION) (h : GI S c) : GI S ((sendMsg o c a ty body).getD c) := by
  rw [sendMsg_eq]
  cases hs : sendTo o c ty body a with
  | none => exact h
  | some s =>
    obtain ⟨p', bytes, lg⟩ := s
    obtain ⟨p, pc', hp, hm, rfl⟩ := sendTo_some hs
    have hx : S.R a pc' := by
      have := S.r_seal a p.crypto ty body (rndFor o c a).2.1.ct (h.peers a p (lookupA_some_mem hp))
      rwa [hm] at this
    exact ((h.insertPeer (q := { p with crypto := pc' }) hp (fun _ => hx) c.node.table h.table).addLog lg
        (fun _ => S.lg_send _ _ _ _ _ _ hty (congrArg Prod.snd hm))).send _ _
      (fun _ => Or.inr (Or.inr ⟨p.crypto, pc', ty :: body, _, lg, hm, by simp, fun e he => List.mem_append_right _ he, S.w_r _ _ hx⟩))

theorem broadcastMsg_GI (S : NS) (o : Oracle) (c : Ctx) (ty : Nat) (body : Bytes)
    (hty : ty ≠ Generated.MESSAGE_TYPE_ROTATION) (h : GI S c) : GI S (broadcastMsg o c ty body) := by
  unfold broadcastMsg
  exact foldl_inv (GI S) _ (fun c a hc => sendMsg_GI S o c a ty body hty hc) _ _ h

theorem reconnectToPeers_GI (S : NS) (env : CryptoEnv) (o : Oracle) (c : Ctx) (now : Int) (h : GI S c) :
    GI S (reconnectToPeers env o c now) := by
  have h1 : GI S (rcDial env o c now) := by
    refine foldl_inv (GI S) _ (fun c e hc => ?_) _ _ h
    unfold dialStep
    split
    · exact hc
    · exact connect_GI S env o c _ hc
  unfold reconnectToPeers
  exact { h1 with }

theorem handleResult_GI (S : NS) (env : CryptoEnv) (o : Oracle) (c : Ctx) (now : Int) (src : NAddr) (res : MsgResult) (out : Bytes)
    (h : GIx S (some src) c)
    (hsrc : (∀ pc, (src, pc) ∈ c.node.pending → S.Q src pc) ∨
      (∃ p, (res = .initialized p ∨ res = .initializedWithReply p) ∧ payloadOk p = true))
    (hR : IsInitRes res → ∀ pc, lookupA c.node.pending src = some pc → S.R src pc)
    (hT : S.T → ∀ ty d, res = .message ty d → src ∈ c.node.peers.map (·.1))
    (hnow : S.T → 0 < now) (hout : S.O → WOut S.W c.log (.dgram src out)) : GI S (handleResult env o c now src res out).1 := by
  -- unless a handshake has completed, the pending handshake of `src` satisfies `Q` as well
  have hc : (∀ p, res ≠ .initialized p ∧ res ≠ .initializedWithReply p) → GI S c := by
    intro hn
    rcases hsrc with hl | ⟨p, hp, _⟩
    · exact h.full hl
    · exact (hp.elim (hn p).1 (hn p).2).elim
  have hmsg : ∀ ty d, res = .message ty d → GI S c := fun ty d hr => hc (fun p => by rw [hr]; exact ⟨nofun, nofun⟩)
  apply handleResult_leaves (M := fun r => GI S r.1)
  · intro _ hdec
    rcases hsrc with hl | ⟨p, hp, hok⟩
    · exact h.full hl
    · simp only [payloadOk, hdec p hp] at hok
      cases hok
  · rintro ty d t hr (rfl | ⟨_, sa, rfl⟩)
    · exact (hmsg ty d hr).iface d _ (hmsg ty d hr).table
    · exact (hmsg ty d hr).iface d _ (fun ht => ((hmsg ty d hr).table ht).learn now sa src (hT ht ty d hr))
  · exact fun ty d hr => (hmsg ty d hr).countInvalid
  · exact fun ty d info hr => updatePeerInfo_GI S env o c now src info (hmsg ty d hr)
  · exact fun d hr => removePeer_GI S c now hnow src (hmsg _ d hr)
  · exact fun p info hr _ => addNewPeer_GI S env o c now src info h (hR ⟨p, Or.inl hr⟩)
  · exact fun p info hr _ => (addNewPeer_GI S env o c now src info h (hR ⟨p, Or.inr hr⟩)).send _ _
      (fun hO => (addNewPeer_log env o c now src info).symm ▸ hout hO)
  · exact fun hr => (hc (fun p => by rw [hr]; exact ⟨nofun, nofun⟩)).send _ _ hout

/-- what the generic invariant needs from an outcome of the session layer, for a session stored in `peers` (`inPeers`) or in `pending` -/
structure MsgOK (S : NS) (a : NAddr) (inPeers : Bool) (r : POutcome MsgResult) : Prop where
  no_panic : S.P → r ≠ .panic
  err_peers : inPeers = true → ∀ pc' e, r = .err pc' e → S.R a pc'
  err_pend : inPeers = false → ∀ pc' e, r = .err pc' e → e = .cryptoInitFatal ∨ S.Q a pc'
  ok_peers : inPeers = true → ∀ pc' out res log, r = .ok pc' out res log → S.R a pc'
  ok_pend : inPeers = false → ∀ pc' out res log, r = .ok pc' out res log →
    (¬ IsInitRes res ∧ S.Q a pc') ∨ (∃ p, (res = .initialized p ∨ res = .initializedWithReply p) ∧ S.R a pc' ∧ (S.Q a pc' ∨ payloadOk p = true))
  msg : S.T → ∀ pc' out ty d log, r = .ok pc' out (.message ty d) log → inPeers = true
  log_ok : S.L → ∀ pc' out res log, r = .ok pc' out res log → S.LG log

theorem MsgOK.of_leaves {S : NS} {a : NAddr} {inPeers : Bool} {r : POutcome MsgResult} {X : PeerCrypto → Prop} (hl : Leaves X r)
    (hx : ∀ pc', X pc' → S.R a pc' ∧ (inPeers = false → S.Q a pc')) (hT : ¬ S.T) (hP : ¬ S.P)
    (hL : S.L → ∀ pc' out res log, r = .ok pc' out res log → S.LG log) : MsgOK S a inPeers r where
  no_panic := fun h => absurd h hP
  err_peers := fun _ pc' _ hr => (hx pc' (by subst hr; exact hl)).1
  err_pend := fun hi pc' _ hr => Or.inr ((hx pc' (by subst hr; exact hl)).2 hi)
  ok_peers := fun _ pc' _ _ _ hr => (hx pc' (by subst hr; exact hl)).1
  ok_pend := fun hi pc' _ res _ hr => by
    have h := hx pc' (by subst hr; exact hl)
    by_cases hres : IsInitRes res
    · obtain ⟨p, hp⟩ := hres
      exact Or.inr ⟨p, hp, h.1, Or.inl (h.2 hi)⟩
    · exact Or.inl ⟨hres, h.2 hi⟩
  msg := fun h => absurd h hT
  log_ok := hL

/-- the state after `handle_net_message`, before the error handling of `handle_socket_event` -/
def PostD (S : NS) (src : NAddr) (r : Ctx × Option InitErr) : Prop :=
  GIx S (some src) r.1 ∧ (r.2 ≠ some .cryptoInitFatal → ∀ pc, (src, pc) ∈ r.1.node.pending → S.Q src pc)

theorem PostD.of_GI {S : NS} {src : NAddr} {r : Ctx × Option InitErr} (h : GI S r.1) : PostD S src r :=
  ⟨GIx.weaken h, fun _ pc hm => h.pend src pc hm (by simp)⟩

theorem finish_GI (S : NS) (src : NAddr) (r : Ctx × Option InitErr) (h : PostD S src r) : GI S (finish src r).1 := by
  rcases r with ⟨c, e⟩
  by_cases he : e = some .cryptoInitFatal
  · subst he
    exact GIx.erasePend h.1
  · rw [finish_of_not_fatal _ _ _ he]
    exact h.1.full (h.2 he)

theorem storePc_peers_GI {S : NS} {c : Ctx} (h : GI S c) (src : NAddr) (pc : PeerCrypto) (hpc : S.R src pc) : GI S (storePc c src true pc) := by
  unfold storePc
  simp only [if_true]
  split
  · rename_i p hp
    exact h.insertPeer hp (fun _ => hpc) c.node.table h.table
  · exact h

theorem storePc_pend_GIx {S : NS} {c : Ctx} (h : GI S c) (src : NAddr) (pc : PeerCrypto) : GIx S (some src) (storePc c src false pc) :=
  (GIx.weaken h).insertPend src pc (absurd rfl)

theorem storePc_pend_mem {S : NS} {c : Ctx} (h : GI S c) (src : NAddr) (pc : PeerCrypto) (hq : S.Q src pc) :
    ∀ q, (src, q) ∈ (storePc c src false pc).node.pending → S.Q src q :=
  fun q hm => (h.insertPend src pc fun _ => hq).pend src q hm nofun

theorem applyOutcome_PostD (S : NS) (env : CryptoEnv) (o : Oracle) (c : Ctx) (now : Int) (src : NAddr) (inPeers : Bool) (r : POutcome MsgResult)
    (h : GI S c) (hin : inPeers = true → src ∈ c.node.peers.map (·.1)) (hr : MsgOK S src inPeers r)
    (hpn : inPeers = true → ∀ pc' out res log, r = .ok pc' out res log → IsInitRes res → lookupA c.node.pending src = none)
    (hnow : S.T → 0 < now) (hw : OutWire r) : PostD S src (applyOutcome env o c now src inPeers r) := by
  rw [applyOutcome_eq]
  cases r with
  | panic =>
    apply PostD.of_GI
    exact { h with calm := fun hP => absurd rfl (hr.no_panic hP) }
  | err pc e =>
    cases inPeers with
    | true =>
      apply PostD.of_GI
      exact (storePc_peers_GI h src pc (hr.err_peers rfl pc e rfl)).countInvalid
    | false =>
      refine ⟨(storePc_pend_GIx h src pc).countInvalid, fun hne q hm => ?_⟩
      simp only [ne_eq, Option.some.injEq] at hne
      rcases hr.err_pend rfl pc e rfl with he | hq
      · exact absurd he hne
      · exact storePc_pend_mem h src pc hq q hm
  | ok pc out res log =>
    apply PostD.of_GI
    cases inPeers with
    | true =>
      have hg := storePc_peers_GI h src pc (hr.ok_peers rfl pc out res log rfl)
      apply handleResult_GI S env o _ now src res out (GIx.weaken (hg.addLog log (fun hl => hr.log_ok hl pc out res log rfl)))
      · exact Or.inl (fun q hm => hg.pend src q hm (by simp))
      · intro hi q hq
        have hq' : lookupA (storePc c src true pc).node.pending src = some q := hq
        rw [storePc_peers_pending, hpn rfl pc out res log rfl hi] at hq'
        cases hq'
      · intro _ ty d _
        show src ∈ (storePc c src true pc).node.peers.map (·.1)
        rw [storePc_peers_keys]
        exact hin rfl
      · exact hnow
      · intro _
        show WOut S.W ((storePc c src true pc).log ++ log) _
        rw [frame_proj (storePc_frame c src true pc) (·.log)]
        exact outWire_wout hw c.log src (S.w_r _ _ (hr.ok_peers rfl pc out res log rfl))
    | false =>
      have hok := hr.ok_pend rfl pc out res log rfl
      have hlk : lookupA (storePc c src false pc).node.pending src = some pc := lookupA_insertA_self _ _ _
      apply handleResult_GI S env o _ now src res out ((storePc_pend_GIx h src pc).addLog log (fun hl => hr.log_ok hl pc out res log rfl))
      · rcases hok with ⟨_, hq⟩ | ⟨p, hp, _, hq | hq⟩
        · exact Or.inl (storePc_pend_mem h src pc hq)
        · exact Or.inl (storePc_pend_mem h src pc hq)
        · exact Or.inr ⟨p, hp, hq⟩
      · intro hi q hq
        have hq' : lookupA (storePc c src false pc).node.pending src = some q := hq
        rw [hlk] at hq'
        cases hq'
        rcases hok with ⟨hn, _⟩ | ⟨p, _, hr, _⟩
        · exact absurd hi hn
        · exact hr
      · intro ht ty d hres
        subst hres
        exact absurd (hr.msg ht pc out ty d log rfl) (by simp)
      · exact hnow
      · exact fun _ => outWire_wout hw c.log src (hok.elim (fun h => S.w_q _ _ h.2) (fun ⟨_, _, hr, _⟩ => S.w_r _ _ hr))

/-- `handle_net_message` keeps the generic invariant up to the pending handshake of the sender (`PostD`), which `handle_socket_event`
    closes after a fatal error (`finish_GI`) -/
theorem handleNet_GI (S : NS) (env : CryptoEnv) (bodyOf : Init.BodyOf) (o : Oracle) (n : Node) (now : Int) (src0 : NAddr) (data tail : Bytes)
    (h : GI S { node := n })
    (hm : ∀ (pc : PeerCrypto) (inPeers : Bool) (rnd : Rand) (rr : RotRand), (if inPeers then S.R (mappedAddr src0) pc else S.Q (mappedAddr src0) pc) →
      MsgOK S (mappedAddr src0) inPeers (PeerCrypto.handleMessage env bodyOf payloadOk pc data tail rnd rr))
    (hatt : ∀ hash, S.Q (mappedAddr src0) (newAttempt n hash))
    (hnow : S.T → 0 < now) : GI S (handleNet env bodyOf o n now src0 data tail).1 := by
  rw [handleNet_eq]
  generalize mappedAddr src0 = src at hm hatt ⊢
  refine finish_GI S _ _ ?_
  apply dispatch_cases (M := PostD S src)
  · intro p hp hbr
    have hpm : (src, p) ∈ n.peers := lookupA_some_mem hp
    apply applyOutcome_PostD S env o _ now src true _ h (fun _ => mem_key hpm) (hm _ true _ _ (h.peers src p hpm)) _ hnow (handleMessage_wire ..)
    -- a handshake completes in the session of a peer only on a handshake datagram, and then nothing is pending for `src`
    intro _ pc' out res log hres hi
    rcases hbr with hinit | ⟨hq, _⟩
    · exact absurd hi (plainRes_not_init (handleMessage_plain env bodyOf payloadOk _ data tail _ _ hinit pc' out res log hres))
    · exact hq
  · intro pc hq _
    exact applyOutcome_PostD S env o _ now src false _ h (fun hf => by cases hf) (hm _ false _ _ (h.pend src pc (lookupA_some_mem hq) (by simp)))
      (fun hf => by cases hf) hnow (handleMessage_wire ..)
  · rintro _ rfl _ _ _ _
    exact applyOutcome_PostD S env o _ now src false _ h (fun hf => by cases hf) (hm _ false _ _ (hatt _)) (fun hf => by cases hf) hnow
      (handleMessage_wire ..)
  · exact fun _ _ _ _ _ _ => PostD.of_GI h.countInvalid
  · exact fun _ _ _ => PostD.of_GI h.countInvalid

theorem handleIface_GI (S : NS) (o : Oracle) (n : Node) (now : Int) (data : Bytes) (h : GI S { node := n }) :
    GI S (handleIface o n now data) := by
  have h1 : ∀ dst, GI S { node := { n with table := (n.table.lookup now dst).1 } } :=
    fun dst => { h with table := fun ht => (h.table ht).lookup now dst }
  exact handleIface_cases o n now data h (fun _ _ => sendMsg_GI S o _ _ _ _ (by decide) (h1 _)) h1
    (fun _ => broadcastMsg_GI S o _ _ _ (by decide) (h1 _)) (fun dst => { h1 dst with })

structure TickOK (S : NS) (X : PeerCrypto → Prop) (r : POutcome MsgResult) : Prop where
  no_panic : S.P → r ≠ .panic
  ok : ∀ pc' out res log, r = .ok pc' out res log → X pc'
  log_ok : S.L → ∀ pc' out res log, r = .ok pc' out res log → S.LG log

theorem TickOK.of_ok {S : NS} {X : PeerCrypto → Prop} {r : POutcome MsgResult} (hP : ¬ S.P) (hL : ¬ S.L)
    (h : ∀ pc' out res log, r = .ok pc' out res log → X pc') : TickOK S X r :=
  ⟨fun hp => absurd hp hP, h, fun hl => absurd hl hL⟩

theorem tick_GI {S : NS} {c : Ctx} (a : NAddr) {pc pc' : PeerCrypto} {rr : RotRand} {out : Bytes} {res : MsgResult} {log : Init.SealLog}
    {X : PeerCrypto → Prop} (hk : TickOK S X (PeerCrypto.everySecond pc rr)) (hX : ∀ pc, X pc → S.W a pc)
    (hok : PeerCrypto.everySecond pc rr = .ok pc' out res log) (n' : Node) (hn : X pc' → GI S { c with node := n' }) :
    GI S (if res = .reply then (Node.addLog log { c with node := n' }).send a out else Node.addLog log { c with node := n' }) := by
  have hx' := hk.ok pc' out res log hok
  have hw := everySecond_outWire pc rr
  rw [hok] at hw
  have hl := (hn hx').addLog log (fun hl => hk.log_ok hl pc' out res log hok)
  exact iteInduction (fun hr => hl.send _ _ (fun _ => outWire_wout (hw hr) c.log a (hX _ hx'))) (fun _ => hl)

theorem cryptoHousekeep_GI (S : NS) (env : CryptoEnv) (o : Oracle) (c : Ctx) (now : Int) (h : GI S c)
    (ht : ∀ a pc rr, (S.Q a pc → TickOK S (S.Q a) (PeerCrypto.everySecond pc rr)) ∧ (S.R a pc → TickOK S (S.R a) (PeerCrypto.everySecond pc rr)))
    (hnow : S.T → 0 < now) : GI S (cryptoHousekeep env o c now) := by
  rw [cryptoHousekeep_eq]
  refine foldl_inv (GI S) _ (fun c a hc => ?_) _ _ (foldl_inv (GI S) _ (fun c a hc => ?_) _ _ h)
  · refine peerStep_cases (M := GI S) env o now c a (fun _ => hc) (fun _ _ _ _ _ _ => connectSock_GI _ _ _ _ _ (hc.erasePeer now hnow a))
      (fun p rr hp hpanic => ?_) (fun p rr pc' out res log hp hok => ?_)
    · exact { hc with calm := fun hP => absurd hpanic (((ht a p.crypto rr).2 (hc.peers a p (lookupA_some_mem hp))).no_panic hP) }
    · exact tick_GI a ((ht a p.crypto rr).2 (hc.peers a p (lookupA_some_mem hp))) (S.w_r a) hok _
        (fun hx => hc.insertPeer hp (fun _ => hx) c.node.table hc.table)
  · refine pendStep_cases (M := GI S) o c a (fun _ => hc) (fun _ _ _ _ _ _ => ?_) (fun pc rr hp hpanic => ?_) (fun pc rr pc' out res log hp hok => ?_)
    · exact (GIx.weaken hc : GIx S (some a) c).erasePend
    · have hk := (ht a pc rr).1 (hc.pend a pc (lookupA_some_mem hp) (Option.some_ne_none _))
      exact { hc with calm := fun hP => absurd hpanic (hk.no_panic hP) }
    · exact tick_GI a ((ht a pc rr).1 (hc.pend a pc (lookupA_some_mem hp) (Option.some_ne_none _))) (S.w_q a) hok _
        (fun hx => hc.insertPend a pc' fun _ => hx)

theorem hkDead_GI (S : NS) (env : CryptoEnv) (o : Oracle) (n : Node) (now : Int) (h : GI S { node := n }) (hnow : S.T → 0 < now) :
    GI S (hkDead env o n now) := by
  unfold hkDead
  apply foldl_inv (GI S) _ _ _ _ h
  intro c a hc
  apply connectSock_GI
  exact hc.erasePeer now hnow a

theorem hkSweep_GI (S : NS) (c : Ctx) (now : Int) (h : GI S c) : GI S (hkSweep c now) :=
  { h with table := fun ht => (h.table ht).housekeep now }

theorem hkAnnounce_GI (S : NS) (o : Oracle) (c : Ctx) (now : Int) (h : GI S c) : GI S (hkAnnounce o c now) :=
  hkAnnounce_cases (M := GI S) o c now (fun _ => h)
    (fun _ _ => { broadcastMsg_GI S o c Generated.MESSAGE_TYPE_NODE_INFO (Codec.encodeNodeInfo (createNodeInfo c.node)) (by decide) h with })
    (fun _ ⟨f, m, hnone⟩ => absurd hnone (C15More.announceInterval_ne_none f m))

/-- the reset of the own addresses is the one place where they do not grow -/
theorem hkOwn_GI (S : NS) (c : Ctx) (now : Int) (h : GI S c)
    (hown : ∀ i k a own, S.C i k a own → S.C i k a (k.advertise ++ [a])) : GI S (hkOwn c now) := by
  unfold hkOwn
  split
  · exact { h with static := hown _ _ _ _ h.static }
  · exact h

theorem hkCore_GI (S : NS) (env : CryptoEnv) (o : Oracle) (n : Node) (now : Int) (h : GI S { node := n })
    (ht : ∀ a pc rr, (S.Q a pc → TickOK S (S.Q a) (PeerCrypto.everySecond pc rr)) ∧ (S.R a pc → TickOK S (S.R a) (PeerCrypto.everySecond pc rr)))
    (hnow : S.T → 0 < now) :
    GI S (reconnectToPeers env o (hkAnnounce o (cryptoHousekeep env o (hkSweep (hkDead env o n now) now) now) now) now) := by
  apply reconnectToPeers_GI
  apply hkAnnounce_GI
  apply cryptoHousekeep_GI S env o _ now _ ht hnow
  apply hkSweep_GI
  exact hkDead_GI S env o n now h hnow

theorem housekeep_GI (S : NS) (env : CryptoEnv) (o : Oracle) (n : Node) (now : Int) (h : GI S { node := n })
    (ht : ∀ a pc rr, (S.Q a pc → TickOK S (S.Q a) (PeerCrypto.everySecond pc rr)) ∧ (S.R a pc → TickOK S (S.R a) (PeerCrypto.everySecond pc rr)))
    (hnow : S.T → 0 < now) (hown : ∀ i k a own, S.C i k a own → S.C i k a (k.advertise ++ [a]) := by exact fun _ _ _ _ h => h) :
    GI S (housekeep env o n now) := by
  rw [housekeep_eq]
  exact hkOwn_GI S _ now (hkCore_GI S env o n now h ht hnow) hown

/-! ## instances that do not look at addresses, node identity, outputs or keys

  `SI`, `SOK`, `TOK` are `NS`, `MsgOK`, `TickOK` without those components (`SI.ns`, `SOK.ns`, `TOK.ns` carry them over); the
  statements of `C08Node` and `C12Node` are stated with them. -/

structure SI where
  Q : PeerCrypto → Prop
  R : PeerCrypto → Prop
  T : Prop
  P : Prop
  L : Prop
  q_new : ∀ (env : CryptoEnv) (n : Node) (hash : Bytes) (rnd : Rand) (ist : InitSt),
    (newAttempt n hash).init = some ist → Q { newAttempt n hash with init := some (Init.sendPing env ist rnd).1 }
  /-- the throw-away responder -/
  q_att : ∀ (n : Node) (hash : Bytes), Q (newAttempt n hash)
  r_seal : ∀ (pc : PeerCrypto) (ty : Nat) (body ct : Bytes), R pc → R (PeerCrypto.sendMessage pc ty body ct).1
  LG : Init.SealLog → Prop := LogNE
  lg_nil : LG [] := by exact logNE_nil
  lg_append : ∀ l1 l2 : Init.SealLog, LG l1 → LG l2 → LG (l1 ++ l2) := by exact fun _ _ h1 h2 => LogNE.append h1 h2
  lg_send : ∀ (pc : PeerCrypto) (ty : Nat) (body ct bytes : Bytes) (log : Init.SealLog), ty ≠ Generated.MESSAGE_TYPE_ROTATION →
    (PeerCrypto.sendMessage pc ty body ct).2 = .ok (bytes, log) → LG log := by
      exact fun pc ty body ct bytes log _ h => sendMessage_pay pc ty body ct bytes log h

def SI.ns (S : SI) : NS where
  Q := fun _ => S.Q
  R := fun _ => S.R
  T := S.T
  P := S.P
  L := S.L
  q_new := fun env n hash rnd ist _ _ _ h => S.q_new env n hash rnd ist h
  r_seal := fun _ => S.r_seal
  LG := S.LG
  lg_nil := S.lg_nil
  lg_append := S.lg_append
  lg_send := S.lg_send

structure SOK (S : SI) (inPeers : Bool) (r : POutcome MsgResult) : Prop where
  no_panic : S.P → r ≠ .panic
  err_peers : inPeers = true → ∀ pc' e, r = .err pc' e → S.R pc'
  err_pend : inPeers = false → ∀ pc' e, r = .err pc' e → e = .cryptoInitFatal ∨ S.Q pc'
  ok_peers : inPeers = true → ∀ pc' out res log, r = .ok pc' out res log → S.R pc'
  ok_pend : inPeers = false → ∀ pc' out res log, r = .ok pc' out res log →
    (¬ IsInitRes res ∧ S.Q pc') ∨ (∃ p, (res = .initialized p ∨ res = .initializedWithReply p) ∧ S.R pc' ∧ (S.Q pc' ∨ payloadOk p = true))
  msg : S.T → ∀ pc' out ty d log, r = .ok pc' out (.message ty d) log → inPeers = true
  log_ok : S.L → ∀ pc' out res log, r = .ok pc' out res log → S.LG log

theorem SOK.of_peers {S : SI} {r : POutcome MsgResult} (h : Leaves S.R r) (hP : S.P → r ≠ .panic) (hL : ¬ S.L) : SOK S true r where
  no_panic := hP
  err_peers := fun _ _ _ hr => by subst hr; exact h
  err_pend := nofun
  ok_peers := fun _ _ _ _ _ hr => by subst hr; exact h
  ok_pend := nofun
  msg := fun _ _ _ _ _ _ _ => rfl
  log_ok := fun hl => absurd hl hL

theorem SOK.of_hands {S : SI} {r : POutcome MsgResult} (h : Hands S.Q S.R payloadOk r)
    (hT : S.T → ∀ pc' out ty d log, r ≠ .ok pc' out (.message ty d) log) (hP : S.P → r ≠ .panic) (hL : ¬ S.L) : SOK S false r where
  no_panic := hP
  err_peers := nofun
  err_pend := fun _ _ _ hr => by subst hr; exact h
  ok_peers := nofun
  ok_pend := fun _ _ _ _ _ hr => by
    subst hr
    exact h.imp id (fun ⟨p, hp, hR, hok⟩ => ⟨p, hp, hR, Or.inr hok⟩)
  msg := fun ht pc' out ty d log hr => absurd hr (hT ht pc' out ty d log)
  log_ok := fun hl => absurd hl hL

theorem SOK.ns {S : SI} {inPeers : Bool} {r : POutcome MsgResult} (h : SOK S inPeers r) (a : NAddr) : MsgOK S.ns a inPeers r :=
  ⟨h.no_panic, h.err_peers, h.err_pend, h.ok_peers, h.ok_pend, h.msg, h.log_ok⟩

structure TOK (S : SI) (X : PeerCrypto → Prop) (r : POutcome MsgResult) : Prop where
  no_panic : S.P → r ≠ .panic
  ok : ∀ pc' out res log, r = .ok pc' out res log → X pc'
  log_ok : S.L → ∀ pc' out res log, r = .ok pc' out res log → S.LG log

theorem TOK.ns {S : SI} {X : PeerCrypto → Prop} {r : POutcome MsgResult} (h : TOK S X r) : TickOK S.ns X r :=
  ⟨h.no_panic, h.ok, h.log_ok⟩

theorem SI.tok {S : SI} (ht : ∀ pc rr, (S.Q pc → TOK S S.Q (PeerCrypto.everySecond pc rr)) ∧ (S.R pc → TOK S S.R (PeerCrypto.everySecond pc rr)))
    (a : NAddr) (pc : PeerCrypto) (rr : RotRand) :
    (S.ns.Q a pc → TickOK S.ns (S.ns.Q a) (PeerCrypto.everySecond pc rr)) ∧ (S.ns.R a pc → TickOK S.ns (S.ns.R a) (PeerCrypto.everySecond pc rr)) :=
  ⟨fun h => ((ht pc rr).1 h).ns, fun h => ((ht pc rr).2 h).ns⟩

theorem SI.gi_iff (S : SI) (c : Ctx) :
    GI S.ns c ↔ (∀ a pc, (a, pc) ∈ c.node.pending → S.Q pc) ∧ (∀ a p, (a, p) ∈ c.node.peers → S.R p.crypto) ∧
      (S.T → TP (c.node.peers.map (·.1)) c.node.table) ∧ (S.P → c.panicked = false) ∧ (S.L → S.LG c.log) :=
  ⟨fun h => ⟨fun a pc hm => h.pend a pc hm nofun, h.peers, h.table, h.calm, h.log⟩,
   fun h => ⟨fun a pc hm _ => h.1 a pc hm, h.2.1, h.2.2.1, h.2.2.2.1, h.2.2.2.2, trivial, nofun, nofun, nofun⟩⟩

end VpnCloud.Proofs.NodeInvLemmas
