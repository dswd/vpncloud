import VpnCloud.Proofs.Lemmas.Node.HousekeepStages
/-
  Peer lists whose records keep their expiry (`Kept`), under dialling and sending; through a tick: `TickLemmas`.
-/
namespace VpnCloud.Proofs.NodeLemmas2

open VpnCloud.Node
open VpnCloud.Proofs.AssocLemmas VpnCloud.Proofs.NodeLemmas

/-- every entry of `l` stems from an entry of `l0` under the same address with the same expiry -/
def Kept (l0 l : List (NAddr × Peer)) : Prop := ∀ a p, (a, p) ∈ l → ∃ p0, (a, p0) ∈ l0 ∧ p.timeout = p0.timeout

theorem Kept.refl (l : List (NAddr × Peer)) : Kept l l := fun _ p h => ⟨p, h, rfl⟩

theorem Kept.trans {l0 l1 l2 : List (NAddr × Peer)} (h1 : Kept l0 l1) (h2 : Kept l1 l2) : Kept l0 l2 := fun a p h =>
  (h2 a p h).elim fun p1 hp1 => (h1 a p1 hp1.1).elim fun p0 hp0 => ⟨p0, hp0.1, hp1.2.trans hp0.2⟩

theorem Kept.eraseA {l0 l : List (NAddr × Peer)} (h : Kept l0 l) (a : NAddr) : Kept l0 (eraseA l a) :=
  fun b p hb => h b p (mem_eraseA hb).1

theorem Kept.insertA {l0 l : List (NAddr × Peer)} (h : Kept l0 l) {a : NAddr} {p v : Peer} (hp : lookupA l a = some p)
    (hv : v.timeout = p.timeout) : Kept l0 (insertA l a v) := by
  intro b q hq
  rcases mem_insertA hq with heq | hq
  · cases heq
    obtain ⟨p0, h0, ht⟩ := h a p (lookupA_some_mem hp)
    exact ⟨p0, h0, hv.trans ht⟩
  · exact h b q hq

def KeptC (l0 : List (NAddr × Peer)) (c : Ctx) : Prop := Kept l0 c.node.peers

theorem connect_keptC (env : CryptoEnv) (o : Oracle) (l0 : List (NAddr × Peer)) (c : Ctx) (l : List NAddr) (h : KeptC l0 c) :
    KeptC l0 (connect env o c l) := by
  unfold KeptC; rw [connect_peers]; exact h

theorem sendMsg_keptC (o : Oracle) (l0 : List (NAddr × Peer)) (c : Ctx) (a : NAddr) (ty : Nat) (body : Bytes) (h : KeptC l0 c) :
    KeptC l0 ((sendMsg o c a ty body).getD c) := by
  rw [sendMsg_eq]
  cases hs : sendTo o c ty body a with
  | none => exact h
  | some s =>
    obtain ⟨p, _, hp, _, h3⟩ := sendTo_some hs
    exact Kept.insertA h hp (by rw [h3])

theorem broadcastMsg_keptC (o : Oracle) (l0 : List (NAddr × Peer)) (c : Ctx) (ty : Nat) (body : Bytes) (h : KeptC l0 c) :
    KeptC l0 (broadcastMsg o c ty body) := by
  unfold broadcastMsg
  exact foldl_inv (KeptC l0) _ (fun c a hc => sendMsg_keptC o l0 c a ty body hc) _ _ h

end VpnCloud.Proofs.NodeLemmas2
