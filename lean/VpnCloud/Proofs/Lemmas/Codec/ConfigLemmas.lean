import VpnCloud.Spec.C20
/-
  Helper lemmas about the configuration overlay interpreter (`Model/Config.lean`) used by the
  property theorems of C20.  Nothing here depends on the concrete (regenerated) rule table.
-/
namespace VpnCloud.Proofs.ConfigLemmas
open VpnCloud.Config VpnCloud.Spec.C20

@[simp] theorem get_nil (k : String) : Source.get [] k = none := rfl

@[simp] theorem strOf_nil (k : String) : strOf [] k = none := rfl
@[simp] theorem listOf_nil (k : String) : listOf [] k = [] := rfl
@[simp] theorem flagOf_nil (k : String) : flagOf [] k = none := rfl
@[simp] theorem mapOf_nil (k : String) : mapOf [] k = [] := rfl

theorem applyFile_congr (r : FieldRule) (cur : DVal) (f1 f2 : Source)
    (h : f1.get r.fileKey = f2.get r.fileKey) : applyFile r cur f1 = applyFile r cur f2 := by
  unfold applyFile
  rw [h]

/-! ### the interpreter and the documentation as functions of the two looked-up values -/

def fileStep (fr : FileRule) (cur : DVal) (o : Option SVal) : DVal :=
  match fr, o with
  | .override, some (.str s) => setScalar cur s
  | .override, some (.flag b) => .flag b
  | .overrideSome, some (.str s) => .opt (some s)
  | .append, some (.list l) => (match cur with | .list c => .list (c ++ l) | x => x)
  | .appendAlways, some (.list l) => (match cur with | .list c => .list (c ++ l) | x => x)
  | .replaceNonEmpty, some (.list l) => if l.isEmpty then cur else .list l
  | .mapInsert, some (.map m) => (match cur with | .map c => .map (m.foldl (fun acc p => mapInsert acc p.1 p.2) c) | x => x)
  | _, _ => cur

theorem applyFile_eq (r : FieldRule) (cur : DVal) (file : Source) :
    applyFile r cur file = fileStep r.file cur (file.get r.fileKey) := rfl

def argStep (ar : ArgRule) (cur : DVal) (o : Option SVal) : DVal :=
  match ar, o with
  | .override, some (.str s) => setScalar cur s
  | .overrideSome, some (.str s) => .opt (some s)
  | .appendAlways, some (.list l) => (match cur with | .list c => .list (c ++ l) | x => x)
  | .replaceNonEmpty, some (.list l) => if l.isEmpty then cur else .list l
  | .setTrue, some (.flag true) => .flag true
  | .setFalse, some (.flag true) => .flag false
  | .hookSplit, some (.list l) =>
    (match cur with
     | .map c => .map (l.foldl (fun acc s => match splitHook s with | some (n, h) => mapInsert acc n h | none => acc) c)
     | x => x)
  | .hookPlain, some (.list l) =>
    (match (l.filter (fun s => (splitHook s).isNone)).getLast? with
     | some s => .opt (some s)
     | none => cur)
  | _, _ => cur

theorem applyArg_eq (r : FieldRule) (cur : DVal) (args : Source) :
    applyArg r cur args = argStep r.arg cur (args.get r.argKey) := rfl

theorem applyArg_nil (r : FieldRule) (cur : DVal) : applyArg r cur [] = cur := by
  rw [applyArg_eq, get_nil]
  cases r.arg <;> rfl

def strV : Option SVal → Option String | some (.str x) => some x | _ => none
def listV : Option SVal → List String | some (.list l) => l | _ => []
def flagV : Option SVal → Option Bool
  | some (.flag b) => some b | some (.str x) => some (x = "true") | _ => none
def mapV : Option SVal → List (String × String) | some (.map m) => m | _ => []

theorem strOf_eq (s : Source) (k : String) : strOf s k = strV (s.get k) := rfl
theorem listOf_eq (s : Source) (k : String) : listOf s k = listV (s.get k) := rfl
theorem flagOf_eq (s : Source) (k : String) : flagOf s k = flagV (s.get k) := rfl
theorem mapOf_eq (s : Source) (k : String) : mapOf s k = mapV (s.get k) := rfl

def specStep (k : Kind) (d : DVal) (fo ao : Option SVal) : DVal :=
  match k with
  | .scalar =>
    (match strV ao, strV fo with
     | some a, _ => .scalar a
     | none, some f => .scalar f
     | none, none => d)
  | .optional =>
    (match strV ao, strV fo with
     | some a, _ => .opt (some a)
     | none, some f => .opt (some f)
     | none, none => d)
  | .accumulate =>
    (match d with
     | .list d => .list (d ++ listV fo ++ listV ao)
     | x => x)
  | .replaceList =>
    if !(listV ao).isEmpty then .list (listV ao)
    else if !(listV fo).isEmpty then .list (listV fo)
    else d
  | .switchOn =>
    if flagV ao = some true then .flag true
    else (match flagV fo with | some b => .flag b | none => d)
  | .switchOff =>
    if flagV ao = some true then .flag false
    else (match flagV fo with | some b => .flag b | none => d)
  | .hookScript =>
    (match ((listV ao).filter (fun s => (splitHook s).isNone)).getLast? with
     | some s => .opt (some s)
     | none => match strV fo with | some f => .opt (some f) | none => d)
  | .hookMap =>
    (match d with
     | .map d =>
       let afterFile := (mapV fo).foldl (fun acc p => mapInsert acc p.1 p.2) d
       .map ((listV ao).foldl (fun acc s => match splitHook s with | some (n, h) => mapInsert acc n h | none => acc) afterFile)
     | x => x)

theorem specField_eq (e : DocEntry) (file args : Source) :
    specField e file args =
      specStep e.kind e.default (if e.inFile then file.get e.fileKey else none) (args.get e.argKey) := by
  obtain ⟨en, efk, eak, ek, ed, eif⟩ := e
  cases eif <;> cases ek <;> rfl

def kindMatches (k : Kind) (inFile : Bool) (fr : FileRule) (ar : ArgRule) (d : DVal) : Bool :=
  match k with
  | .scalar => fr = .override && ar = .override && (match d with | .scalar _ => true | _ => false)
  | .optional => fr = .overrideSome && ar = .overrideSome
  | .accumulate => (fr = .append || fr = .appendAlways) && ar = .appendAlways && (match d with | .list _ => true | _ => false)
  | .replaceList => fr = .replaceNonEmpty && ar = .replaceNonEmpty
  | .switchOn => (fr = .override || (fr = .none && !inFile)) && ar = .setTrue && (match d with | .flag _ => true | _ => false)
  | .switchOff => fr = .override && ar = .setFalse && (match d with | .flag _ => true | _ => false)
  | .hookScript => fr = .overrideSome && ar = .hookPlain
  | .hookMap => fr = .mapInsert && ar = .hookSplit && (match d with | .map _ => true | _ => false)

theorem ruleMatches_eq (r : FieldRule) (e : DocEntry) :
    ruleMatches r e =
      (decide (r.name = e.name) && decide (r.default = e.default) && decide (r.argKey = e.argKey) &&
        (decide (r.fileKey = e.fileKey) || !e.inFile) &&
        kindMatches e.kind e.inFile r.file r.arg r.default) := rfl

theorem ruleMatches_inv {r : FieldRule} {e : DocEntry} (h : ruleMatches r e = true) :
    r.name = e.name ∧ r.default = e.default ∧ r.argKey = e.argKey ∧ (e.inFile = true → r.fileKey = e.fileKey) ∧
      kindMatches e.kind e.inFile r.file r.arg r.default = true := by
  rw [ruleMatches_eq] at h
  simp only [Bool.and_eq_true, Bool.or_eq_true, decide_eq_true_eq, Bool.not_eq_true'] at h
  obtain ⟨⟨⟨⟨hn, hd⟩, hak⟩, hfk⟩, hk⟩ := h
  exact ⟨hn, hd, hak, fun hi => by simpa [hi] using hfk, hk⟩

theorem rulesMatch_inv {rules : List FieldRule} {doc : List DocEntry} (h : rulesMatch rules doc = true) :
    rules.length = doc.length ∧ ∀ p ∈ rules.zip doc, ruleMatches p.1 p.2 = true := by
  unfold rulesMatch at h
  simpa only [Bool.and_eq_true, decide_eq_true_eq, List.all_eq_true] using h

def okFile (k : Kind) (o : Option SVal) : Bool :=
  match k, o with
  | _, none => true
  | .scalar, some (.str _) => true
  | .optional, some (.str _) => true
  | .hookScript, some (.str _) => true
  | .accumulate, some (.list _) => true
  | .replaceList, some (.list _) => true
  | .switchOn, some (.flag _) => true
  | .switchOff, some (.flag _) => true
  | .hookMap, some (.map _) => true
  | _, _ => false

def okArg (k : Kind) (o : Option SVal) : Bool :=
  match k, o with
  | _, none => true
  | .scalar, some (.str _) => true
  | .optional, some (.str _) => true
  | .hookScript, some (.list _) => true
  | .hookMap, some (.list _) => true
  | .accumulate, some (.list _) => true
  | .replaceList, some (.list _) => true
  | .switchOn, some (.flag _) => true
  | .switchOff, some (.flag _) => true
  | _, _ => false

theorem sourceOK_single (e : DocEntry) (file args : Source) :
    sourceOK [e] file args = (okFile e.kind (file.get e.fileKey) && okArg e.kind (args.get e.argKey)) := by
  simp only [sourceOK, List.all_cons, List.all_nil, Bool.and_true]
  rfl

theorem okFile_cases {k : Kind} {o : Option SVal} (h : okFile k o = true) :
    o = none ∨
    ((k = .scalar ∨ k = .optional ∨ k = .hookScript) ∧ ∃ s, o = some (.str s)) ∨
    ((k = .accumulate ∨ k = .replaceList) ∧ ∃ l, o = some (.list l)) ∨
    ((k = .switchOn ∨ k = .switchOff) ∧ ∃ b, o = some (.flag b)) ∨
    (k = .hookMap ∧ ∃ m, o = some (.map m)) := by
  rcases o with _ | (s | l | m | b)
  · exact Or.inl rfl
  all_goals cases k <;> simp [okFile] at h ⊢

theorem okArg_cases {k : Kind} {o : Option SVal} (h : okArg k o = true) :
    o = none ∨
    ((k = .scalar ∨ k = .optional) ∧ ∃ s, o = some (.str s)) ∨
    ((k = .accumulate ∨ k = .replaceList ∨ k = .hookScript ∨ k = .hookMap) ∧ ∃ l, o = some (.list l)) ∨
    ((k = .switchOn ∨ k = .switchOff) ∧ ∃ b, o = some (.flag b)) := by
  rcases o with _ | (s | l | m | b)
  · exact Or.inl rfl
  all_goals cases k <;> simp [okArg] at h ⊢

theorem fileStep_none (d : DVal) (fo : Option SVal) : fileStep .none d fo = d := by
  rcases fo with _ | (_ | _ | _ | _) <;> rfl

/-- the rule shapes that `kindMatches` accepts for an option of the file format -/
inductive RuleShape : Kind → FileRule → ArgRule → DVal → Prop
  | scalar (s) : RuleShape .scalar .override .override (.scalar s)
  | optional (d) : RuleShape .optional .overrideSome .overrideSome d
  | accumulate (l) : RuleShape .accumulate .append .appendAlways (.list l)
  | accumulate' (l) : RuleShape .accumulate .appendAlways .appendAlways (.list l)
  | replaceList (d) : RuleShape .replaceList .replaceNonEmpty .replaceNonEmpty d
  | switchOn (b) : RuleShape .switchOn .override .setTrue (.flag b)
  | switchOff (b) : RuleShape .switchOff .override .setFalse (.flag b)
  | hookScript (d) : RuleShape .hookScript .overrideSome .hookPlain d
  | hookMap (m) : RuleShape .hookMap .mapInsert .hookSplit (.map m)

theorem kindMatches_shape {k : Kind} {fr : FileRule} {ar : ArgRule} {d : DVal}
    (hm : kindMatches k true fr ar d = true) : RuleShape k fr ar d := by
  cases k <;> simp [kindMatches] at hm
  case optional | replaceList | hookScript =>
    obtain ⟨rfl, rfl⟩ := hm
    constructor
  case accumulate =>
    obtain ⟨⟨rfl | rfl, rfl⟩, hd⟩ := hm <;> cases d <;> simp at hd <;> constructor
  all_goals
    obtain ⟨⟨rfl, rfl⟩, hd⟩ := hm
    cases d <;> simp at hd
    constructor

/-- For an option of the file format (`inFile = true`) the two interpreter steps of a rule compute
    the documented value of its kind.  In each case the typing hypotheses leave an absent value or one of
    the expected shape, and both sides then evaluate to the same term. -/
theorem step_eq_true (k : Kind) (fr : FileRule) (ar : ArgRule) (d : DVal) (fo ao : Option SVal)
    (hm : kindMatches k true fr ar d = true)
    (hf : okFile k fo = true) (ha : okArg k ao = true) :
    argStep ar (fileStep fr d fo) ao = specStep k d fo ao := by
  cases kindMatches_shape hm
  all_goals
    rcases fo with _ | (s | l | m | b) <;> cases hf <;>
      rcases ao with _ | (s' | l' | m' | (_ | _)) <;> cases ha <;>
      first | rfl | simp [fileStep, argStep, specStep, listV]

/-- an option outside the file format (`switchOn` with file rule `.none`): the file is not looked at -/
theorem step_eq_false (k : Kind) (ar : ArgRule) (d : DVal) (fo ao : Option SVal)
    (hm : kindMatches k false .none ar d = true) (ha : okArg k ao = true) :
    argStep ar (fileStep .none d fo) ao = specStep k d none ao := by
  rw [fileStep_none]
  cases k <;> simp [kindMatches] at hm
  obtain ⟨rfl, hd⟩ := hm
  cases d <;> simp at hd
  rcases ao with _ | (s' | l' | m' | (_ | _)) <;> cases ha <;> rfl

theorem sourceOK_of_mem {doc : List DocEntry} {file args : Source}
    (hs : sourceOK doc file args = true) {e : DocEntry} (he : e ∈ doc) :
    sourceOK [e] file args = true := by
  unfold sourceOK at hs ⊢
  rw [List.all_eq_true] at hs
  simp only [List.all_cons, List.all_nil, Bool.and_true]
  exact hs e he

/-- an option that the file cannot express must not be read from the file -/
def scopeOK (rules : List FieldRule) (doc : List DocEntry) : Bool :=
  (rules.zip doc).all (fun p => p.2.inFile || p.1.file = .none)

theorem exists_zip_of_mem {α β} (as : List α) (bs : List β) (h : as.length = bs.length)
    (b : β) (hb : b ∈ bs) : ∃ a, (a, b) ∈ as.zip bs := by
  rw [← List.map_snd_zip (Nat.le_of_eq h.symm), List.mem_map] at hb
  obtain ⟨⟨a, _⟩, hp, rfl⟩ := hb
  exact ⟨a, hp⟩

theorem map_eq_map_of_zip {α β γ} (f : α → γ) (g : β → γ) (as : List α) (bs : List β)
    (h : as.length = bs.length) (hp : ∀ p ∈ as.zip bs, f p.1 = g p.2) : as.map f = bs.map g :=
  calc as.map f = ((as.zip bs).map Prod.fst).map f := by rw [List.map_fst_zip (Nat.le_of_eq h)]
    _ = ((as.zip bs).map Prod.snd).map g := by
      rw [List.map_map, List.map_map]
      exact List.map_congr_left hp
    _ = bs.map g := by rw [List.map_snd_zip (Nat.le_of_eq h.symm)]

/-- no event name occurs twice -/
def KeysNodup (m : List (String × String)) : Prop := m.Pairwise (fun a b => a.1 ≠ b.1)

theorem keysNodup_mapInsert {m : List (String × String)} (h : KeysNodup m) (k v : String) :
    KeysNodup (mapInsert m k v) := by
  unfold mapInsert KeysNodup
  rw [List.pairwise_append]
  refine ⟨h.filter _, List.pairwise_singleton _ _, ?_⟩
  intro a ha b hb
  rw [List.mem_filter] at ha
  rw [List.mem_singleton] at hb
  subst hb
  simpa using ha.2

theorem keysNodup_foldl {α} (f : List (String × String) → α → List (String × String))
    (hf : ∀ acc x, KeysNodup acc → KeysNodup (f acc x)) :
    ∀ (l : List α) (acc : List (String × String)), KeysNodup acc → KeysNodup (l.foldl f acc)
  | [], _, h => h
  | x :: l, acc, h => keysNodup_foldl f hf l (f acc x) (hf acc x h)

theorem mapInsert_fresh (acc : List (String × String)) (k v : String)
    (h : ∀ a ∈ acc, a.1 ≠ k) : mapInsert acc k v = acc ++ [(k, v)] := by
  unfold mapInsert
  congr 1
  rw [List.filter_eq_self]
  intro a ha
  simpa using h a ha

theorem foldl_mapInsert_eq (m : List (String × String)) :
    ∀ (acc : List (String × String)), KeysNodup (acc ++ m) →
      m.foldl (fun acc p => mapInsert acc p.1 p.2) acc = acc ++ m := by
  induction m with
  | nil => intro acc _; simp
  | cons p m ih =>
    intro acc h
    simp only [List.foldl_cons]
    have hfresh : ∀ a ∈ acc, a.1 ≠ p.1 := by
      intro a ha
      unfold KeysNodup at h
      rw [List.pairwise_append] at h
      exact h.2.2 a ha p (List.mem_cons_self ..)
    rw [mapInsert_fresh acc p.1 p.2 hfresh]
    have h' : KeysNodup ((acc ++ [(p.1, p.2)]) ++ m) := by
      simpa [List.append_assoc] using h
    rw [ih _ h']
    simp [List.append_assoc]

theorem find?_of_key {α} (key : α → String) {p : α → Bool} : ∀ (l : List α), (l.map key).Nodup → ∀ a ∈ l,
    (∀ x, p x = true → key x = key a) → l.find? p = if p a then some a else none
  | x :: xs, hn, a, ha, hp => by
    rw [List.map_cons, List.nodup_cons, List.mem_map] at hn
    rw [List.find?_cons]
    rcases List.mem_cons.1 ha with rfl | ha
    · cases hpa : p a
      · exact List.find?_eq_none.2 fun y hy hpy => hn.1 ⟨y, hy, hp y hpy⟩
      · rfl
    · have : p x = false := Bool.eq_false_iff.2 fun hpx => hn.1 ⟨a, ha, (hp x hpx).symm⟩
      rw [this]
      exact find?_of_key key xs hn.2 a ha hp

theorem lookup_eq_find? {β} (k : String) : ∀ (l : List (String × β)),
    l.lookup k = (l.find? (fun p => p.1 = k)).map (·.2)
  | [] => rfl
  | (k', v) :: l => by
    rw [List.lookup_cons, List.find?_cons]
    by_cases h : k' = k
    · simp [h]
    · have : (k == k') = false := by simpa using fun e => h e.symm
      simp [h, this, lookup_eq_find? k l]

theorem find_map_key {α β} (key : α → String) (g : α → β) (l : List α) (hn : (l.map key).Nodup) (a : α) (ha : a ∈ l) :
    (l.map (fun a => (key a, g a))).find? (fun p => p.1 = key a) = some (key a, g a) := by
  rw [List.find?_map, find?_of_key key l hn a ha]
  · simp
  · exact fun x h => of_decide_eq_true h

theorem lookup_map_key {α β} (key : α → String) (g : α → β) (l : List α) (hn : (l.map key).Nodup) (a : α) (ha : a ∈ l) :
    (l.map (fun a => (key a, g a))).lookup (key a) = some (g a) := by
  rw [lookup_eq_find?, find_map_key key g l hn a ha]
  rfl

theorem get_filterMap_key {α} (key : α → String) (f : α → Option SVal) (l : List α) (hn : (l.map key).Nodup)
    (a : α) (ha : a ∈ l) :
    Source.get (l.filterMap (fun a => match f a with
      | some v => some (key a, v) | none => none)) (key a) = f a := by
  unfold Source.get
  rw [List.find?_filterMap, find?_of_key key l hn a ha]
  · cases h : f a <;> simp [h]
  · intro x
    cases f x <;> simp

def toFileV (tf : ToFile) (v : DVal) : Option SVal :=
  match tf, v with
  | .absent, _ => none
  | _, .scalar s => some (.str s)
  | _, .opt (some s) => some (.str s)
  | _, .opt none => none
  | _, .list l => some (.list l)
  | _, .flag b => some (.flag b)
  | _, .map m => some (.map m)

theorem toFileVal_eq (r : FieldRule) (v : DVal) : toFileVal r v = toFileV r.toFile v := rfl

/-- what the round trip needs from the default of each kind -/
def rtKind (k : Kind) (d : DVal) : Bool :=
  match k with
  | .optional | .hookScript => (match d with | .opt _ => true | _ => false)
  | .accumulate => d = .list []
  | .replaceList => (match d with | .list _ => true | _ => false)
  | .hookMap => d = .map []
  | _ => true

theorem toFileV_of_ne {tf : ToFile} (h : tf ≠ .absent) (v : DVal) : toFileV tf v = toFileV .direct v := by
  cases tf
  case absent => exact absurd rfl h
  all_goals rcases v with _ | (_ | _) | _ | _ | _ <;> rfl

/-- Writing the documented value into the file form and reading it back over the default gives the value
    again.  Only the shape of the value matters (a string for a plain setting, a non-empty list or the
    default for `replaceList`, a map without repeated names for hooks), not where it came from. -/
theorem rt_step (k : Kind) (fr : FileRule) (ar : ArgRule) (d : DVal) (tf : ToFile) (fo ao : Option SVal)
    (hm : kindMatches k true fr ar d = true) (hrt : rtKind k d = true) (htf : tf ≠ .absent) :
    fileStep fr d (toFileV tf (specStep k d fo ao)) = specStep k d fo ao := by
  rw [toFileV_of_ne htf]
  cases kindMatches_shape hm
  case scalar | switchOn | switchOff =>
    simp only [specStep]
    repeat' split
    all_goals rfl
  case optional | hookScript =>
    cases d <;> simp [rtKind] at hrt
    rename_i o
    simp only [specStep]
    repeat' split
    all_goals first | rfl | (cases o <;> rfl)
  case accumulate | accumulate' =>
    cases of_decide_eq_true hrt
    rfl
  case replaceList =>
    cases d <;> simp [rtKind] at hrt
    rename_i d
    simp only [specStep]
    split
    · simp_all [fileStep, toFileV]
    split
    · simp_all [fileStep, toFileV]
    · cases d <;> rfl
  case hookMap =>
    cases of_decide_eq_true hrt
    -- both folds insert with `mapInsert`, starting from the empty default
    refine congrArg DVal.map (foldl_mapInsert_eq _ [] (keysNodup_foldl _ (fun acc s h => ?_) _ _
      (keysNodup_foldl _ (fun _ _ h => keysNodup_mapInsert h _ _) _ _ List.Pairwise.nil)))
    split
    · exact keysNodup_mapInsert h _ _
    · exact h

/-- the file form can carry every option the file format has, and the defaults are neutral for accumulation -/
def rtOK (rules : List FieldRule) (doc : List DocEntry) : Bool :=
  (rules.zip doc).all (fun p => !p.2.inFile || (p.1.toFile ≠ .absent && rtKind p.2.kind p.2.default))

theorem rule_eq_spec' (r : FieldRule) (e : DocEntry) (file args : Source) (h : ruleMatches r e = true)
    (hscope : e.inFile = false → r.file = .none)
    (hs : sourceOK [e] file args = true) :
    applyArg r (applyFile r r.default file) args = specField e file args := by
  obtain ⟨-, hd, hak, hfk, hk⟩ := ruleMatches_inv h
  rw [sourceOK_single, Bool.and_eq_true] at hs
  rw [applyArg_eq, applyFile_eq, specField_eq, hak, ← hd]
  cases hi : e.inFile
  · rw [hi] at hk
    rw [hscope hi] at hk ⊢
    simpa using step_eq_false e.kind r.arg r.default _ _ hk hs.2
  · rw [hi] at hk
    rw [hfk hi]
    simpa using step_eq_true e.kind r.file r.arg r.default _ _ hk hs.1 hs.2

theorem rule_roundtrip (r : FieldRule) (e : DocEntry) (file args file' : Source)
    (h : ruleMatches r e = true) (hin : e.inFile = true)
    (htf : r.toFile ≠ .absent) (hrt : rtKind e.kind e.default = true)
    (hs : sourceOK [e] file args = true)
    (hget : file'.get r.fileKey = toFileVal r (applyArg r (applyFile r r.default file) args)) :
    applyArg r (applyFile r r.default file') [] = applyArg r (applyFile r r.default file) args := by
  rw [applyArg_nil, applyFile_eq r r.default file', hget, toFileVal_eq,
    rule_eq_spec' r e file args h (by simp [hin]) hs, specField_eq]
  obtain ⟨-, hd, -, -, hk⟩ := ruleMatches_inv h
  rw [hin] at hk
  simp only [hin, if_true]
  rw [hd] at hk ⊢
  exact rt_step e.kind r.file r.arg e.default r.toFile _ _ hk hrt htf

theorem filterMap_congr' {α β} {f g : α → Option β} :
    ∀ (l : List α), (∀ a ∈ l, f a = g a) → l.filterMap f = l.filterMap g
  | [], _ => rfl
  | x :: xs, h => by
    rw [List.filterMap_cons, List.filterMap_cons, h x (List.mem_cons_self ..),
      filterMap_congr' xs (fun a ha => h a (List.mem_cons_of_mem _ ha))]

theorem intoFile_merge (rules : List FieldRule) (hn : (rules.map (·.name)).Nodup)
    (val : FieldRule → DVal) :
    intoFile rules (rules.map (fun r => (r.name, val r))) =
      rules.filterMap (fun r => match toFileVal r (val r) with
        | some v => some (r.fileKey, v) | none => none) := by
  unfold intoFile
  apply filterMap_congr'
  intro r hr
  rw [find_map_key (·.name) val rules hn r hr]
  rfl

/-- everything the theorems about a whole table need of it, as one check (so that a concrete table is evaluated once): it implements
    the documented kind of every option, reads no option from the file that the file format lacks, writes every option of the file
    format back, and neither names nor file keys repeat -/
def tableOK (rules : List FieldRule) (doc : List DocEntry) : Bool :=
  rulesMatch rules doc && scopeOK rules doc && rtOK rules doc && decide (rules.map (·.name)).Nodup &&
    decide (rules.map (·.fileKey)).Nodup

theorem tableOK_inv {rules : List FieldRule} {doc : List DocEntry} (h : tableOK rules doc = true) :
    rulesMatch rules doc = true ∧ scopeOK rules doc = true ∧ rtOK rules doc = true ∧ (rules.map (·.name)).Nodup ∧
      (rules.map (·.fileKey)).Nodup := by
  simpa only [tableOK, Bool.and_eq_true, decide_eq_true_eq, and_assoc] using h

theorem roundtrip_generic (rules : List FieldRule) (doc : List DocEntry)
    (hm : rulesMatch rules doc = true) (hrt : rtOK rules doc = true)
    (hn : (rules.map (·.name)).Nodup) (hk : (rules.map (·.fileKey)).Nodup)
    (file args : Source) (hs : sourceOK doc file args = true)
    (e : DocEntry) (he : e ∈ doc) (hf : e.inFile = true) :
    (merge rules (intoFile rules (merge rules file args)) []).lookup e.name =
      (merge rules file args).lookup e.name := by
  replace hm := rulesMatch_inv hm
  obtain ⟨r, hre⟩ := exists_zip_of_mem rules doc hm.1 e he
  have hr : r ∈ rules := (List.of_mem_zip hre).1
  have hmatch : ruleMatches r e = true := hm.2 (r, e) hre
  have hrt' := (List.all_eq_true.1 hrt) (r, e) hre
  simp only [hf, Bool.not_true, Bool.false_or, Bool.and_eq_true, decide_eq_true_eq] at hrt'
  have hs' := sourceOK_of_mem hs he
  rw [← (ruleMatches_inv hmatch).1]
  unfold merge
  rw [intoFile_merge rules hn]
  rw [lookup_map_key (·.name) _ rules hn r hr, lookup_map_key (·.name) _ rules hn r hr]
  congr 1
  apply rule_roundtrip r e file args _ hmatch hf hrt'.1 hrt'.2 hs'
  exact get_filterMap_key (·.fileKey) (fun r => toFileVal r (applyArg r (applyFile r r.default file) args))
    rules hk r hr

end VpnCloud.Proofs.ConfigLemmas
