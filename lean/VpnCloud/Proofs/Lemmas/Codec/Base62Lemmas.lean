import VpnCloud.Spec.C18
/-
  Helper lemmas for C18 (base-62 key codec).

  Both schoolbook loops of src/util.rs (`base62_add_mult_16`: base 62, multiplier 16, and the inner
  loop of `from_base62`: base 256, multiplier 62) are instances of one generic "multiply a
  little-endian digit list by `M` and add a carry" loop `gloop B M`.  The facts about it (length,
  value, digit bound, carry bound, canonical form) are proved once.
-/
namespace VpnCloud.Proofs.Base62Lemmas
open VpnCloud.Base62 VpnCloud.Spec.C18

def gloop (B M : Nat) : List Nat → Nat → List Nat × Nat
  | [], d => ([], d)
  | item :: rest, d =>
    let d' := d + item * M
    let r := gloop B M rest (d' / B)
    (d' % B :: r.1, r.2)

theorem addMult16Loop_eq (ds : List Nat) (d : Nat) : addMult16Loop ds d = gloop 62 16 ds d := by
  induction ds generalizing d with
  | nil => rfl
  | cons x r ih => simp only [addMult16Loop, gloop, ih]

theorem mulAddLoop_eq (ds : List Nat) (d : Nat) : mulAddLoop ds d = gloop 256 62 ds d := by
  induction ds generalizing d with
  | nil => rfl
  | cons x r ih => simp only [mulAddLoop, gloop, ih]

def leVal (B : Nat) : List Nat → Nat
  | [] => 0
  | d :: r => d + B * leVal B r

@[simp] theorem leVal_nil (B : Nat) : leVal B [] = 0 := rfl
@[simp] theorem leVal_cons (B d : Nat) (r : List Nat) : leVal B (d :: r) = d + B * leVal B r := rfl

theorem leVal_append_single (B : Nat) (l : List Nat) (c : Nat) :
    leVal B (l ++ [c]) = leVal B l + B ^ l.length * c := by
  induction l with
  | nil => simp
  | cons x r ih =>
    simp only [List.cons_append, leVal_cons, ih, List.length_cons, Nat.pow_succ]
    rw [Nat.mul_add, Nat.add_assoc, Nat.mul_comm (B ^ r.length) B, Nat.mul_assoc]

@[simp] theorem gloop_nil (B M d : Nat) : gloop B M [] d = ([], d) := rfl

theorem gloop_cons (B M x : Nat) (r : List Nat) (d : Nat) :
    gloop B M (x :: r) d =
      ((d + x * M) % B :: (gloop B M r ((d + x * M) / B)).1, (gloop B M r ((d + x * M) / B)).2) := rfl

theorem gloop_length (B M : Nat) (ds : List Nat) (d : Nat) :
    (gloop B M ds d).1.length = ds.length := by
  induction ds generalizing d with
  | nil => rfl
  | cons x r ih => simp [gloop_cons, ih]

theorem gloop_digits (B M : Nat) (hB : 0 < B) (ds : List Nat) (d : Nat) :
    ∀ x ∈ (gloop B M ds d).1, x < B := by
  induction ds generalizing d with
  | nil => simp
  | cons y r ih =>
    intro x hx
    rw [gloop_cons] at hx
    simp only [List.mem_cons] at hx
    rcases hx with rfl | hx
    · exact Nat.mod_lt _ hB
    · exact ih _ x hx

theorem step_arith (B M d x v s : Nat) (h : s = M * v + (d + x * M) / B) :
    (d + x * M) % B + B * s = M * (x + B * v) + d := by
  have h1 := Nat.mod_add_div (d + x * M) B
  subst h
  rw [Nat.mul_add B, ← Nat.add_assoc, Nat.add_comm ((d + x * M) % B), Nat.add_assoc,
    h1, Nat.mul_add M, Nat.mul_comm x M, ← Nat.mul_assoc B M v, ← Nat.mul_assoc M B v,
    Nat.mul_comm B M]
  omega

theorem gloop_val (B M : Nat) (ds : List Nat) (d : Nat) :
    leVal B (gloop B M ds d).1 + B ^ ds.length * (gloop B M ds d).2 = M * leVal B ds + d := by
  induction ds generalizing d with
  | nil => simp
  | cons x r ih =>
    have := ih ((d + x * M) / B)
    rw [gloop_cons]
    simp only [leVal_cons, List.length_cons, Nat.pow_succ]
    rw [Nat.mul_comm (B ^ r.length) B, Nat.mul_assoc, Nat.add_assoc, ← Nat.mul_add]
    exact step_arith B M d x _ _ this

theorem gloop_carry (B M : Nat) (hB : 0 < B) (ds : List Nat) (hd : ∀ x ∈ ds, x < B) (d : Nat) (h : d ≤ M) :
    (gloop B M ds d).2 ≤ M := by
  induction ds generalizing d with
  | nil => simpa
  | cons x r ih =>
    rw [gloop_cons]
    apply ih (fun y hy => hd y (List.mem_cons_of_mem _ hy))
    have hx : x < B := hd x List.mem_cons_self
    apply Nat.div_le_of_le_mul
    have : x * M ≤ (B - 1) * M := Nat.mul_le_mul_right M (by omega)
    have e : B * M = (B - 1) * M + M := by
      conv => lhs; rw [show B = (B - 1) + 1 by omega]
      rw [Nat.add_mul, Nat.one_mul]
    omega

theorem gloop_last (B M : Nat) (hB : 0 < B) (hM : 0 < M) (ds : List Nat) (hl : ds.getLast? ≠ some 0) (d : Nat)
    (h0 : (gloop B M ds d).2 = 0) : (gloop B M ds d).1.getLast? ≠ some 0 := by
  induction ds generalizing d with
  | nil => simp
  | cons x r ih =>
    cases r with
    | nil =>
      simp only [gloop_cons, gloop_nil] at h0 ⊢
      simp only [List.getLast?_singleton, ne_eq, Option.some.injEq] at hl ⊢
      have hlt : d + x * M < B := by
        rcases Nat.lt_or_ge (d + x * M) B with h | h
        · exact h
        · have := Nat.div_pos h hB; omega
      rw [Nat.mod_eq_of_lt hlt]
      have : 0 < x * M := Nat.mul_pos (Nat.pos_of_ne_zero hl) hM
      omega
    | cons y r' =>
      rw [gloop_cons] at h0 ⊢
      rw [List.getLast?_cons_cons] at hl
      have := ih hl _ h0
      rw [gloop_cons] at this ⊢
      simp only [List.getLast?_cons_cons] at this ⊢
      exact this

def Canon (B : Nat) (ds : List Nat) : Prop := (∀ x ∈ ds, x < B) ∧ ds.getLast? ≠ some 0

theorem canon_nil (B : Nat) : Canon B [] := by simp [Canon]

theorem canon_tail {B x : Nat} {r : List Nat} (h : Canon B (x :: r)) : Canon B r := by
  refine ⟨fun y hy => h.1 y (List.mem_cons_of_mem _ hy), ?_⟩
  cases r with
  | nil => simp
  | cons y r' => have := h.2; rwa [List.getLast?_cons_cons] at this

theorem digit_split (B : Nat) (x y v w : Nat) (hx : x < B) (hy : y < B) (h : x + B * v = y + B * w) :
    x = y ∧ v = w := by
  have hB : 0 < B := by omega
  have h1 : (x + B * v) % B = x := by rw [Nat.add_mul_mod_self_left, Nat.mod_eq_of_lt hx]
  have h2 : (y + B * w) % B = y := by rw [Nat.add_mul_mod_self_left, Nat.mod_eq_of_lt hy]
  have hxy : x = y := by rw [← h1, ← h2, h]
  subst hxy
  refine ⟨rfl, ?_⟩
  have : B * v = B * w := by omega
  exact Nat.eq_of_mul_eq_mul_left hB this

theorem canon_val_zero (B : Nat) (ds : List Nat) (hc : Canon B ds) (h : leVal B ds = 0) : ds = [] := by
  induction ds with
  | nil => rfl
  | cons x r ih =>
    exfalso
    simp only [leVal_cons] at h
    have hx : x = 0 := by omega
    have hB : 0 < B := by have := hc.1 x List.mem_cons_self; omega
    have hr : leVal B r = 0 := by
      have : B * leVal B r = 0 := by omega
      rcases Nat.mul_eq_zero.mp this with h | h
      · omega
      · exact h
    have := ih (canon_tail hc) hr
    subst this; subst hx
    exact hc.2 (by simp)

theorem canon_unique (B : Nat) (a b : List Nat) (ha : Canon B a) (hb : Canon B b)
    (h : leVal B a = leVal B b) : a = b := by
  induction a generalizing b with
  | nil => exact (canon_val_zero B b hb (by simpa using h.symm)).symm
  | cons x r ih =>
    cases b with
    | nil => exact canon_val_zero B _ ha (by simpa using h)
    | cons y s =>
      simp only [leVal_cons] at h
      have := digit_split B x y _ _ (ha.1 x List.mem_cons_self) (hb.1 y List.mem_cons_self) h
      rw [this.1, ih s (canon_tail ha) (canon_tail hb) this.2]

theorem gstep_canon (B M : Nat) (hM : 0 < M) (hMB : M < B) (ds : List Nat) (hc : Canon B ds) (d : Nat) (hd : d ≤ M) :
    let r := gloop B M ds d
    let out := if r.2 > 0 then r.1 ++ [r.2] else r.1
    r.2 ≤ M ∧ Canon B out ∧ leVal B out = M * leVal B ds + d ∧ out.length ≤ ds.length + 1 := by
  intro r out
  have hB : 0 < B := by omega
  have hcar : r.2 ≤ M := gloop_carry B M hB ds hc.1 d hd
  have hdig : ∀ x ∈ r.1, x < B := gloop_digits B M hB ds d
  have hval : leVal B r.1 + B ^ ds.length * r.2 = M * leVal B ds + d := gloop_val B M ds d
  have hlen : r.1.length = ds.length := gloop_length B M ds d
  refine ⟨hcar, ?_⟩
  by_cases h0 : r.2 > 0
  · have e : out = r.1 ++ [r.2] := if_pos h0
    rw [e]
    refine ⟨⟨?_, ?_⟩, ?_, ?_⟩
    · intro x hx
      rcases List.mem_append.mp hx with hx | hx
      · exact hdig x hx
      · simp only [List.mem_singleton] at hx; subst hx; omega
    · rw [List.getLast?_concat]; simp only [ne_eq, Option.some.injEq]; omega
    · rw [leVal_append_single, hlen]; exact hval
    · simp [hlen]
  · have e : out = r.1 := if_neg h0
    have hz : r.2 = 0 := by omega
    rw [e]
    refine ⟨⟨hdig, gloop_last B M hB hM ds hc.2 d hz⟩, ?_, ?_⟩
    · have := hval; rw [hz] at this; simpa using this
    · omega

/-- the little-endian digits of `n` in base `B` by repeated division; `fuel = n` is always enough -/
def digitsLE (B : Nat) : Nat → Nat → List Nat
  | 0, _ => []
  | fuel + 1, n => if n = 0 then [] else n % B :: digitsLE B fuel (n / B)

theorem digitsLE_spec (B : Nat) (hB : 2 ≤ B) :
    ∀ fuel n, n ≤ fuel → Canon B (digitsLE B fuel n) ∧ leVal B (digitsLE B fuel n) = n := by
  intro fuel
  induction fuel with
  | zero => intro n hn; rw [Nat.le_zero.mp hn]; exact ⟨canon_nil B, rfl⟩
  | succ f ih =>
    intro n hn
    rw [digitsLE]
    by_cases h0 : n = 0
    · rw [if_pos h0, h0]; exact ⟨canon_nil B, rfl⟩
    · rw [if_neg h0]
      obtain ⟨⟨hd, hl⟩, hv⟩ := ih (n / B) (by have := Nat.div_lt_self (Nat.pos_of_ne_zero h0) hB; omega)
      have hn := Nat.mod_add_div n B
      refine ⟨⟨?_, ?_⟩, by rw [leVal_cons, hv, hn]⟩
      · intro x hx
        rcases List.mem_cons.mp hx with rfl | hx
        · exact Nat.mod_lt _ (by omega)
        · exact hd x hx
      · cases hr : digitsLE B f (n / B) with
        | nil =>
          -- no higher digit: `n < B`, so the only digit is `n ≠ 0`
          rw [hr, leVal_nil] at hv
          rw [← hv, Nat.mul_zero, Nat.add_zero] at hn
          rw [List.getLast?_singleton, hn]
          exact fun h => h0 (Option.some.inj h)
        | cons y r => rw [List.getLast?_cons_cons, ← hr]; exact hl

def digitChar (d : Nat) : Char := Char.ofNat (if d < 10 then d + 48 else if d < 36 then d + 55 else d + 61)

/-- `String.toList` of a literal is quadratic in the kernel; `String.toList_ofList` turns the literal into the list of
    its characters without evaluating anything -/
theorem alphabet_getD : ∀ d < 62, alphabet.getD d '?' = digitChar d := by
  unfold alphabet
  rewrite [String.toList_ofList]
  decide +kernel

theorem digitChar_charVal : ∀ d < 62, charVal (digitChar d) = some d := by decide +kernel

theorem digitChar_zero : ∀ d < 62, digitChar d = '0' → d = 0 := by decide +kernel

/-- the base-62 text of a number, most significant digit first -/
def natText (n : Nat) : List Char := (digitsLE 62 n n).reverse.map digitChar

def tstep (acc : Option Nat) (c : Char) : Option Nat :=
  match acc, charVal c with
  | some a, some v => some (a * 62 + v)
  | _, _ => none

theorem textVal_eq (cs : List Char) : textVal cs = cs.foldl tstep (some 0) := by
  cases cs with
  | nil => rfl
  | cons c r => rfl

theorem textVal_snoc (cs : List Char) (c : Char) : textVal (cs ++ [c]) = tstep (textVal cs) c := by
  rw [textVal_eq, textVal_eq, List.foldl_append]; rfl

theorem textVal_digits (ds : List Nat) (h : ∀ x ∈ ds, x < 62) :
    textVal (ds.reverse.map digitChar) = some (leVal 62 ds) := by
  induction ds with
  | nil => rfl
  | cons x r ih =>
    have hx := h x List.mem_cons_self
    have hr := ih (fun y hy => h y (List.mem_cons_of_mem _ hy))
    rw [List.reverse_cons, List.map_append, List.map_singleton, textVal_snoc, hr]
    simp only [tstep, digitChar_charVal x hx, leVal_cons]
    congr 1; omega

theorem digits_chars_valid (ds : List Nat) (h : ∀ x ∈ ds, x < 62) :
    ∀ c ∈ ds.reverse.map digitChar, (charVal c).isSome := by
  intro c hc
  rcases List.mem_map.mp hc with ⟨d, hd, rfl⟩
  rw [digitChar_charVal d (h d (List.mem_reverse.mp hd))]; rfl

theorem beVal_reverse (l : List Nat) : Bytes.beVal l.reverse = leVal 256 l := by
  induction l with
  | nil => rfl
  | cons x r ih => rw [List.reverse_cons, Bytes.beVal_snoc, ih, leVal_cons]; omega

theorem be_unique (a b : Bytes) (ha : Bytes.WF a) (hb : Bytes.WF b) (ha0 : a.head? ≠ some 0) (hb0 : b.head? ≠ some 0)
    (h : Bytes.beVal a = Bytes.beVal b) : a = b := by
  have : a.reverse = b.reverse := by
    apply canon_unique 256
    · exact ⟨fun x hx => ha x (List.mem_reverse.mp hx), by rwa [List.getLast?_reverse]⟩
    · exact ⟨fun x hx => hb x (List.mem_reverse.mp hx), by rwa [List.getLast?_reverse]⟩
    · rw [← beVal_reverse, ← beVal_reverse, List.reverse_reverse, List.reverse_reverse, h]
  simpa using congrArg List.reverse this

theorem dlz_id (b : Bytes) (h : b.head? ≠ some 0) : dropLeadingZeros b = b := by
  cases b with
  | nil => rfl
  | cons x r =>
    unfold dropLeadingZeros
    split
    · rename_i heq
      simp only [List.cons.injEq] at heq
      simp [heq.1] at h
    · rfl

theorem dlz_spec (b : Bytes) :
    ∃ z, b = List.replicate z 0 ++ dropLeadingZeros b ∧ (dropLeadingZeros b).head? ≠ some 0 := by
  induction b with
  | nil => exact ⟨0, by simp [dropLeadingZeros]⟩
  | cons x r ih =>
    by_cases hx : x = 0
    · subst hx
      obtain ⟨z, h1, h2⟩ := ih
      refine ⟨z + 1, ?_, ?_⟩
      · simp only [dropLeadingZeros, List.replicate_succ, List.cons_append]; rw [← h1]
      · simpa only [dropLeadingZeros] using h2
    · have e := dlz_id (x :: r) (by simpa using hx)
      exact ⟨0, by simp [e], by simp [e, hx]⟩

theorem beVal_zeros (z : Nat) (l : Bytes) : Bytes.beVal (List.replicate z 0 ++ l) = Bytes.beVal l := by
  induction z with
  | zero => simp
  | succ n ih => simp [List.replicate_succ, Bytes.beVal, ih]

theorem dlz_val (b : Bytes) : Bytes.beVal (dropLeadingZeros b) = Bytes.beVal b := by
  obtain ⟨z, h1, _⟩ := dlz_spec b
  conv => rhs; rw [h1]
  rw [beVal_zeros]

theorem dlz_wf (b : Bytes) (hb : Bytes.WF b) : Bytes.WF (dropLeadingZeros b) := by
  obtain ⟨z, h1, _⟩ := dlz_spec b
  rw [h1] at hb
  exact (Bytes.wf_append.mp hb).2

theorem addMult16_step (cap : Nat) (ds : List Nat) (hc : Canon 62 ds) (m : Nat) (hm : m < 16) (hl : ds.length < cap) :
    ∃ ds', addMult16 cap ds m = some ds' ∧ Canon 62 ds' ∧ leVal 62 ds' = 16 * leVal 62 ds + m ∧
      ds'.length ≤ ds.length + 1 := by
  have h := gstep_canon 62 16 (by omega) (by omega) ds hc m (by omega)
  simp only at h
  obtain ⟨hcar, hcan, hval, hlen⟩ := h
  unfold addMult16
  simp only [addMult16Loop_eq]
  have h1 : ¬ (gloop 62 16 ds m).2 ≥ 62 := by omega
  rw [if_neg h1]
  by_cases h0 : (gloop 62 16 ds m).2 > 0
  · rw [if_pos h0, if_pos hl]
    rw [if_pos h0] at hcan hval hlen
    exact ⟨_, rfl, hcan, hval, hlen⟩
  · rw [if_neg h0]
    rw [if_neg h0] at hcan hval hlen
    exact ⟨_, rfl, hcan, hval, hlen⟩

theorem toDigits_spec (cap : Nat) (bs : Bytes) (hb : Bytes.WF bs) (ds : List Nat) (hc : Canon 62 ds)
    (hl : ds.length + 2 * bs.length ≤ cap) :
    ∃ ds', toDigits cap bs ds = some ds' ∧ Canon 62 ds' ∧
      leVal 62 ds' = leVal 62 ds * 256 ^ bs.length + Bytes.beVal bs := by
  induction bs generalizing ds with
  | nil => exact ⟨ds, rfl, hc, by simp [Bytes.beVal]⟩
  | cons b rest ih =>
    rw [Bytes.wf_cons] at hb
    simp only [List.length_cons] at hl
    obtain ⟨ds1, e1, c1, v1, l1⟩ := addMult16_step cap ds hc (b / 16) (by omega) (by omega)
    obtain ⟨ds2, e2, c2, v2, l2⟩ := addMult16_step cap ds1 c1 (b % 16) (by omega) (by omega)
    obtain ⟨ds', e3, c3, v3⟩ := ih hb.2 ds2 c2 (by omega)
    refine ⟨ds', ?_, c3, ?_⟩
    · simp only [toDigits, e1, e2, e3]
    · rw [v3, v2, v1]
      simp only [List.length_cons, Nat.pow_succ, Bytes.beVal]
      have : 16 * (16 * leVal 62 ds + b / 16) + b % 16 = leVal 62 ds * 256 + b := by omega
      rw [this, Nat.add_mul, Nat.mul_assoc, Nat.mul_comm 256, Nat.add_assoc]

theorem mulAdd_step (buf : List Nat) (hc : Canon 256 buf) (v : Nat) (hv : v < 62) :
    let r := mulAddLoop buf v
    let out := if r.2 > 0 then r.1 ++ [r.2 % 256] else r.1
    Canon 256 out ∧ leVal 256 out = leVal 256 buf * 62 + v := by
  intro r out
  have h := gstep_canon 256 62 (by omega) (by omega) buf hc v (by omega)
  simp only at h
  obtain ⟨hcar, hcan, hval, _⟩ := h
  have e : out = if (gloop 256 62 buf v).2 > 0 then (gloop 256 62 buf v).1 ++ [(gloop 256 62 buf v).2]
      else (gloop 256 62 buf v).1 := by
    show (if (mulAddLoop buf v).2 > 0 then (mulAddLoop buf v).1 ++ [(mulAddLoop buf v).2 % 256]
      else (mulAddLoop buf v).1) = _
    rw [mulAddLoop_eq, Nat.mod_eq_of_lt (by omega)]
  rw [e]
  exact ⟨hcan, by rw [hval, Nat.mul_comm]⟩

theorem charVal_lt {c : Char} {v : Nat} (hv : charVal c = some v) : v < 62 := by
  unfold charVal at hv
  split at hv
  · simp only [Option.some.injEq] at hv; omega
  · split at hv
    · simp only [Option.some.injEq] at hv
      rename_i h1 h2
      have : c.toNat ≤ 90 := h2.2
      have : 65 ≤ c.toNat := h2.1
      omega
    · split at hv
      · simp only [Option.some.injEq] at hv
        rename_i h1 h2 h3
        have : c.toNat ≤ 122 := h3.2
        have : 97 ≤ c.toNat := h3.1
        omega
      · cases hv

theorem fromChars_spec (cs : List Char) (h : ∀ c ∈ cs, (charVal c).isSome) (buf : List Nat) (hc : Canon 256 buf) :
    ∃ out, fromChars cs buf = .ok out ∧ Canon 256 out ∧
      cs.foldl tstep (some (leVal 256 buf)) = some (leVal 256 out) := by
  induction cs generalizing buf with
  | nil => exact ⟨buf, rfl, hc, rfl⟩
  | cons c rest ih =>
    have hcv := h c List.mem_cons_self
    obtain ⟨v, hv⟩ := Option.isSome_iff_exists.mp hcv
    have hs := mulAdd_step buf hc v (charVal_lt hv)
    simp only at hs
    obtain ⟨out, e, c2, v2⟩ := ih (fun c hc => h c (List.mem_cons_of_mem _ hc)) _ hs.1
    refine ⟨out, ?_, c2, ?_⟩
    · simp only [fromChars, hv]; exact e
    · rw [List.foldl_cons]
      have : tstep (some (leVal 256 buf)) c = some (leVal 256 buf * 62 + v) := by simp only [tstep, hv]
      rw [this, ← hs.2]; exact v2

theorem fromChars_error (cs : List Char) (h : ¬ ∀ c ∈ cs, (charVal c).isSome) (buf : List Nat) :
    ∃ c, fromChars cs buf = .error c ∧ (charVal c).isNone := by
  induction cs generalizing buf with
  | nil => exact absurd (by simp) h
  | cons c rest ih =>
    cases hv : charVal c with
    | none => exact ⟨c, by simp only [fromChars, hv], by simp [hv]⟩
    | some v =>
      have : ¬ ∀ c ∈ rest, (charVal c).isSome := by
        intro h'
        apply h
        intro x hx
        rcases List.mem_cons.mp hx with rfl | hx
        · simp [hv]
        · exact h' x hx
      obtain ⟨c', e, hn⟩ := ih this (if (mulAddLoop buf v).2 > 0 then (mulAddLoop buf v).1 ++ [(mulAddLoop buf v).2 % 256]
        else (mulAddLoop buf v).1)
      exact ⟨c', by simp only [fromChars, hv]; exact e, hn⟩

end VpnCloud.Proofs.Base62Lemmas
