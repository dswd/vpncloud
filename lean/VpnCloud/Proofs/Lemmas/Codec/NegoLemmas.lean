import VpnCloud.Model.Init
import VpnCloud.Spec.C06
import VpnCloud.Proofs.Lemmas.Codec.InitMsgLemmas
/-
  Helper lemmas for C06 (cipher negotiation): the lexicographic order on (cipher, speed) pairs,
  a generic "fold computes a maximum" lemma, membership characterisations of the candidate lists; `Functional` (equal ciphers
  carry equal speeds: weaker than `NoDup`, true of every advertised list, and all that model = reference needs); `Chosen`: what a
  negotiation over a candidate list yields — model and reference both yield it (`selectAlgorithm_chosen`, `selectRef_chosen`), and it
  is determined by the members of the list (`Chosen.unique`).
-/
-- `Functional` is declared here, under the namespace in which the statements of `C06Config` name it, because `select_spec_fn` below needs it
namespace VpnCloud.Proofs.C06ConfigLemmas
open VpnCloud.Init VpnCloud.Spec.C06

theorem nodup_fst_unique {l : List (Cipher × Nat)} (hn : (l.map (·.1)).Nodup) {c : Cipher} {x y : Nat}
    (hx : (c, x) ∈ l) (hy : (c, y) ∈ l) : x = y := by
  induction l with
  | nil => simp at hx
  | cons p l ih =>
    simp only [List.map_cons, List.nodup_cons, List.mem_map, not_exists, not_and] at hn
    simp only [List.mem_cons] at hx hy
    rcases hx with hx | hx <;> rcases hy with hy | hy
    · rw [← hx] at hy; simpa using hy.symm
    · exact absurd (by rw [← hx]) (hn.1 _ hy)
    · exact absurd (by rw [← hy]) (hn.1 _ hx)
    · exact ih hn.2 hx hy

/-- equal ciphers carry equal speeds (weaker than `NoDup`) -/
def Functional (a : Algos) : Prop := ∀ c x y, (c, x) ∈ a.speeds → (c, y) ∈ a.speeds → x = y

theorem functional_of_noDup {a : Algos} (h : NoDup a) : Functional a :=
  fun _ _ _ hx hy => nodup_fst_unique h hx hy

end VpnCloud.Proofs.C06ConfigLemmas

namespace VpnCloud.Proofs.NegoLemmas
open VpnCloud.Init VpnCloud.Spec.C06
open VpnCloud.Proofs.C06ConfigLemmas (Functional functional_of_noDup)

/-! ### the order: speed first, then wire id -/

def lexle (x y : Cipher × Nat) : Prop := x.2 < y.2 ∨ (x.2 = y.2 ∧ x.1.wireId ≤ y.1.wireId)

theorem lexle_refl (x : Cipher × Nat) : lexle x x := by unfold lexle; omega

theorem lexle_trans {x y z : Cipher × Nat} (h1 : lexle x y) (h2 : lexle y z) : lexle x z := by
  unfold lexle at *; omega

theorem lexle_total (x y : Cipher × Nat) : lexle x y ∨ lexle y x := by unfold lexle; omega

theorem lexle_antisymm {x y : Cipher × Nat} (h1 : lexle x y) (h2 : lexle y x) : x = y := by
  unfold lexle at *
  have h2' : x.2 = y.2 := by omega
  have h1' : x.1.wireId = y.1.wireId := by omega
  exact Prod.ext (InitMsgLemmas.wireId_inj h1') h2'

theorem lexle_snd {x y : Cipher × Nat} (h : lexle x y) : x.2 ≤ y.2 := by unfold lexle at h; omega

/-! ### folds that keep one of their two arguments, the larger one -/

def IsMax (l : List (Cipher × Nat)) (b : Cipher × Nat) : Prop := b ∈ l ∧ ∀ z ∈ l, lexle z b

theorem foldl_isMax (step : Cipher × Nat → Cipher × Nat → Cipher × Nat)
    (hs : ∀ x y, step x y = x ∨ step x y = y) (hg : ∀ x y, lexle x (step x y) ∧ lexle y (step x y))
    (l : List (Cipher × Nat)) (init : Cipher × Nat) : IsMax (init :: l) (l.foldl step init) := by
  induction l generalizing init with
  | nil => exact ⟨List.mem_singleton.2 rfl, fun z hz => List.mem_singleton.1 hz ▸ lexle_refl _⟩
  | cons a l ih =>
    obtain ⟨hm, hge⟩ := ih (step init a)
    have top := hge _ (List.mem_cons_self ..)
    rw [List.foldl_cons]
    refine ⟨?_, fun z hz => ?_⟩
    · rcases hs init a with h | h <;> rw [h] at hm ⊢
      · exact List.mem_cons.2 ((List.mem_cons.1 hm).imp_right (List.mem_cons_of_mem _))
      · exact List.mem_cons_of_mem _ hm
    · rcases List.mem_cons.1 hz with rfl | hz
      · exact lexle_trans (hg _ _).1 top
      rcases List.mem_cons.1 hz with rfl | hz
      · exact lexle_trans (hg _ _).2 top
      · exact hge _ (List.mem_cons_of_mem _ hz)

/-- step function of the reference -/
def refStep (x y : Cipher × Nat) : Cipher × Nat :=
  if y.2 > x.2 ∨ (y.2 = x.2 ∧ y.1.wireId > x.1.wireId) then y else x

/-- step function of the model (`Iterator::max_by`) -/
def modStep (x y : Cipher × Nat) : Cipher × Nat :=
  if x.2 < y.2 then y else if y.2 < x.2 then x else if rank x.1 > rank y.1 then x else y

theorem refStep_sel (x y) : refStep x y = x ∨ refStep x y = y := by unfold refStep; split <;> simp
theorem modStep_sel (x y) : modStep x y = x ∨ modStep x y = y := by
  unfold modStep; split <;> (try split) <;> (try split) <;> simp

theorem refStep_ge (x y) : lexle x (refStep x y) ∧ lexle y (refStep x y) := by
  unfold refStep lexle; split <;> omega

theorem modStep_ge (x y) : lexle x (modStep x y) ∧ lexle y (modStep x y) := by
  unfold modStep lexle rank; split <;> (try split) <;> (try split) <;> omega

theorem isMax_unique {l l' : List (Cipher × Nat)} {b b'} (hm : ∀ z, z ∈ l ↔ z ∈ l')
    (h : IsMax l b) (h' : IsMax l' b') : b = b' :=
  lexle_antisymm (h'.2 _ ((hm _).1 h.1)) (h.2 _ ((hm _).2 h'.1))

theorem ref_fold_isMax (a : Cipher × Nat) (l : List (Cipher × Nat)) : IsMax (a :: l) ((a :: l).foldl refStep a) := by
  have := foldl_isMax refStep refStep_sel refStep_ge (a :: l) a
  exact ⟨by simpa using this.1, fun z hz => this.2 z (List.mem_cons_of_mem _ hz)⟩

theorem mem_allCiphers (c : Cipher) : c ∈ allCiphers := by cases c <;> simp [allCiphers]

theorem mem_common {a b : Algos} {z : Cipher × Nat} :
    z ∈ common a b ↔ ∃ x y, speedOf a z.1 = some x ∧ speedOf b z.1 = some y ∧ z.2 = min x y := by
  unfold common
  simp only [List.mem_filterMap]
  constructor
  · rintro ⟨c, -, h⟩
    split at h
    · rename_i x y hx hy
      simp only [Option.some.injEq] at h
      subst h
      exact ⟨x, y, hx, hy, rfl⟩
    · simp at h
  · rintro ⟨x, y, hx, hy, hz⟩
    refine ⟨z.1, mem_allCiphers _, ?_⟩
    rw [hx, hy]
    simp only [Option.some.injEq]
    exact Prod.ext rfl hz.symm

theorem common_eq_nil {a b : Algos} : common a b = [] ↔ ∀ c, speedOf a c = none ∨ speedOf b c = none := by
  rw [List.eq_nil_iff_forall_not_mem]
  constructor
  · intro h c
    cases hx : speedOf a c with
    | none => exact .inl rfl
    | some x =>
      cases hy : speedOf b c with
      | none => exact .inr rfl
      | some y => exact absurd (mem_common.2 ⟨x, y, hx, hy, rfl⟩) (h (c, min x y))
  · intro h z hz
    obtain ⟨x, y, hx, hy, -⟩ := mem_common.1 hz
    rcases h z.1 with h | h <;> simp [h] at hx hy

theorem common_symm (a b : Algos) : common a b = common b a := by
  unfold common
  congr 1
  funext c
  cases speedOf a c <;> cases speedOf b c <;> simp [Nat.min_comm]

theorem speedOf_some_mem {a : Algos} {c : Cipher} {x : Nat} (h : speedOf a c = some x) : (c, x) ∈ a.speeds := by
  obtain ⟨p, hf, rfl⟩ := Option.map_eq_some_iff.1 h
  have h1 := List.find?_some hf
  rw [decide_eq_true_eq] at h1
  exact h1 ▸ List.mem_of_find?_eq_some hf

theorem speedOf_of_mem {a : Algos} (hf : Functional a)
    {c : Cipher} {x : Nat} (h : (c, x) ∈ a.speeds) : speedOf a c = some x := by
  cases hs : speedOf a c with
  | none =>
    unfold speedOf at hs
    simp only [Option.map_eq_none_iff, List.find?_eq_none, decide_eq_true_eq] at hs
    exact absurd rfl (hs _ h)
  | some y => rw [hf c x y h (speedOf_some_mem hs)]

theorem speedOf_perm {a a' : Algos} (h : a.speeds.Perm a'.speeds) (ha : NoDup a) (c : Cipher) :
    speedOf a c = speedOf a' c := by
  have ha' : NoDup a' := (h.map _).nodup_iff.1 ha
  exact Option.ext fun _ =>
    ⟨fun e => speedOf_of_mem (functional_of_noDup ha') (h.mem_iff.1 (speedOf_some_mem e)),
     fun e => speedOf_of_mem (functional_of_noDup ha) (h.mem_iff.2 (speedOf_some_mem e))⟩

/-! ### what a negotiation yields; model and reference both yield it -/

/-- the outcome of a negotiation over the candidates `l`: plain if both ends allow it (`both`), otherwise the failure for an empty list
    and else the cipher of a maximum of `l` -/
inductive Chosen (both : Prop) (l : List (Cipher × Nat)) : Choice → Prop
  | plain : both → Chosen both l .plain
  | fail : ¬ both → l = [] → Chosen both l .fail
  | cipher (best : Cipher × Nat) : ¬ both → IsMax l best → Chosen both l (.cipher best.1)

/-- the outcome is determined by `both` and the members of `l` (the maximum of the total order `lexle` is unique) -/
theorem Chosen.unique {both : Prop} {l l' : List (Cipher × Nat)} {x y : Choice} (hm : ∀ z, z ∈ l ↔ z ∈ l')
    (h : Chosen both l x) (h' : Chosen both l' y) : x = y := by
  cases h with
  | plain hb =>
    cases h' with
    | plain => rfl
    | fail hn => exact absurd hb hn
    | cipher _ hn => exact absurd hb hn
  | fail hn hl =>
    cases h' with
    | plain hb => exact absurd hb hn
    | fail => rfl
    | cipher b _ hmax => exact absurd ((hm b).2 hmax.1) (hl ▸ List.not_mem_nil)
  | cipher b hn hmax =>
    cases h' with
    | plain hb => exact absurd hb hn
    | fail _ hl => exact absurd ((hm b).1 hmax.1) (hl ▸ List.not_mem_nil)
    | cipher b' _ hmax' => rw [isMax_unique hm hmax hmax']

theorem selectRef_chosen (a b : Algos) :
    Chosen (a.allowUnencrypted = true ∧ b.allowUnencrypted = true) (common a b) (selectRef a b) := by
  unfold selectRef
  by_cases hb : a.allowUnencrypted = true ∧ b.allowUnencrypted = true
  · rw [show (a.allowUnencrypted && b.allowUnencrypted) = true by simp [hb.1, hb.2]]
    exact .plain hb
  · rw [show (a.allowUnencrypted && b.allowUnencrypted) = false by simpa using hb]
    cases hc : common a b with
    | nil => exact .fail hb rfl
    | cons p l => exact .cipher _ hb (ref_fold_isMax p l)

theorem selectRef_eq_iff {a b : Algos} {x : Choice} : selectRef a b = x ↔
    Chosen (a.allowUnencrypted = true ∧ b.allowUnencrypted = true) (common a b) x :=
  ⟨fun h => h ▸ selectRef_chosen a b, (selectRef_chosen a b).unique fun _ => Iff.rfl⟩

theorem selectRef_cipher_iff {a b : Algos} {c : Cipher} : selectRef a b = .cipher c ↔
    ¬ (a.allowUnencrypted = true ∧ b.allowUnencrypted = true) ∧ ∃ s, IsMax (common a b) (c, s) :=
  selectRef_eq_iff.trans ⟨fun h => by cases h with | cipher best hb hmax => exact ⟨hb, best.2, hmax⟩,
    fun ⟨hb, s, hmax⟩ => .cipher (c, s) hb hmax⟩

/-- the candidate list of the model -/
def cands (own peer : Algos) : List (Cipher × Nat) :=
  own.speeds.filterMap (fun (a1, s1) =>
    (peer.speeds.find? (fun (a2, _) => a2 = a1)).map (fun (_, s2) => (a1, if s1 < s2 then s1 else s2)))

theorem cands_entry (peer : Algos) (a1 : Cipher) (s1 : Nat) :
    (peer.speeds.find? (fun (a2, _) => a2 = a1)).map (fun (_, s2) => (a1, if s1 < s2 then s1 else s2)) =
    (speedOf peer a1).map (fun y => (a1, min s1 y)) := by
  unfold speedOf
  have e : (fun (x : Cipher × Nat) => match x with | (a2, _) => decide (a2 = a1)) = (fun p => decide (p.1 = a1)) := by
    funext ⟨_, _⟩; rfl
  rw [e]
  cases peer.speeds.find? (fun p => decide (p.1 = a1)) with
  | none => rfl
  | some p =>
    obtain ⟨p1, p2⟩ := p
    simp only [Option.map_some, Option.some.injEq, Prod.mk.injEq, true_and]
    rw [Nat.min_def]; split <;> split <;> omega

theorem mem_cands {own peer : Algos} (ho : Functional own)
    {z : Cipher × Nat} :
    z ∈ cands own peer ↔ z ∈ common own peer := by
  rw [mem_common]
  unfold cands
  simp only [List.mem_filterMap]
  constructor
  · rintro ⟨⟨a1, s1⟩, hm, h⟩
    simp only at h
    rw [cands_entry] at h
    cases hy : speedOf peer a1 with
    | none => rw [hy] at h; simp at h
    | some y =>
      rw [hy] at h
      simp only [Option.map_some, Option.some.injEq] at h
      subst h
      exact ⟨s1, y, speedOf_of_mem ho hm, hy, rfl⟩
  · rintro ⟨x, y, hx, hy, hz⟩
    refine ⟨(z.1, x), speedOf_some_mem hx, ?_⟩
    simp only
    rw [cands_entry, hy]
    simp only [Option.map_some, Option.some.injEq]
    exact Prod.ext rfl hz.symm

theorem selectAlgorithm_plain (own peer : Algos) (h : own.allowUnencrypted = true ∧ peer.allowUnencrypted = true) :
    selectAlgorithm own peer = .ok none := by
  unfold selectAlgorithm; simp [h.1, h.2]

/-- the result type of `selectAlgorithm` for a reference choice -/
def choiceResult : Choice → Except InitErr (Option Cipher)
  | .plain => .ok none
  | .cipher c => .ok (some c)
  | .fail => .error .cryptoInitFatal

theorem choiceResult_inj {x y : Choice} (h : choiceResult x = choiceResult y) : x = y := by
  cases x <;> cases y <;> simp [choiceResult] at h <;> simp [h]

theorem selectAlgorithm_chosen (own peer : Algos) :
    ∃ ch, selectAlgorithm own peer = choiceResult ch ∧
      Chosen (own.allowUnencrypted = true ∧ peer.allowUnencrypted = true) (cands own peer) ch := by
  by_cases hb : own.allowUnencrypted = true ∧ peer.allowUnencrypted = true
  · exact ⟨.plain, selectAlgorithm_plain own peer hb, .plain hb⟩
  · have e : selectAlgorithm own peer = (match cands own peer with
        | [] => .error .cryptoInitFatal
        | first :: rest => .ok (some (rest.foldl modStep first).1)) := by
      unfold selectAlgorithm
      rw [show (own.allowUnencrypted && peer.allowUnencrypted) = false by simpa using hb]
      rfl
    rw [e]
    cases hc : cands own peer with
    | nil => exact ⟨_, rfl, .fail hb rfl⟩
    | cons p l => exact ⟨_, rfl, .cipher _ hb (foldl_isMax modStep modStep_sel modStep_ge l p)⟩

/-- The model of `select_algorithm` computes the reference as soon as equal ciphers carry equal speeds in the own list
    (the peer's list is looked up with `find`, exactly as `speedOf` does): both yield the outcome of a negotiation over the same
    candidates, and that is unique. -/
theorem select_spec_fn (own peer : Algos) (ho : Functional own) :
    selectAlgorithm own peer = choiceResult (selectRef own peer) := by
  obtain ⟨ch, e, h⟩ := selectAlgorithm_chosen own peer
  rw [e, h.unique (fun _ => mem_cands ho) (selectRef_chosen own peer)]

theorem selectRef_ext (a a' b b' : Algos) (ha : ∀ c, speedOf a c = speedOf a' c) (hua : a.allowUnencrypted = a'.allowUnencrypted)
    (hb : ∀ c, speedOf b c = speedOf b' c) (hub : b.allowUnencrypted = b'.allowUnencrypted) : selectRef a b = selectRef a' b' := by
  have hc : common a b = common a' b' := by
    unfold common
    congr 1
    funext c
    rw [ha c, hb c]
  unfold selectRef
  rw [hc, hua, hub]

end VpnCloud.Proofs.NegoLemmas
