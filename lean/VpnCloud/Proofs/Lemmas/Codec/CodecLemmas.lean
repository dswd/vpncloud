import VpnCloud.Spec.C16
/-
  Helper lemmas for C16 (wire codecs): primitive readers on `encoding ++ rest`; the two kinds of fuel-driven loops of the decoders,
  each described once by a predicate on the model's own loop function (`IsEntries`: entries read through a `Take` until it is
  used up; `IsTlv`: parts `tag, length, body` up to an END marker) with round trip, length monotonicity and fuel independence
  proved from the predicate; the entry readers and part handlers of `NodeInfo` as instances.
-/
namespace VpnCloud.Proofs.CodecLemmas
open VpnCloud.Codec VpnCloud.Spec.C16

theorem take?_append (n : Nat) (a rest : Bytes) (h : a.length = n) :
    take? n (a ++ rest) = some (a, rest) := by
  subst h; simp [take?]

theorem takeLim_append (n k : Nat) (a rest : Bytes) (h : a.length = n) :
    takeLim n (n + k) (a ++ rest) = some (a, k, rest) := by
  subst h; simp [takeLim]

theorem takeLim_cons (b k : Nat) (rest : Bytes) : takeLim 1 (1 + k) (b :: rest) = some ([b], k, rest) :=
  takeLim_append 1 k [b] rest rfl

theorem takeLim_some {n lim : Nat} {r a r' : Bytes} {lim' : Nat}
    (h : takeLim n lim r = some (a, lim', r')) :
    a = r.take n ∧ lim' = lim - n ∧ r' = r.drop n ∧ n ≤ lim ∧ n ≤ r.length := by
  unfold takeLim at h
  split at h
  · rename_i hc
    simp only [Option.some.injEq, Prod.mk.injEq] at h
    obtain ⟨h1, h2, h3⟩ := h
    exact ⟨h1.symm, h2.symm, h3.symm, hc.1, hc.2⟩
  · simp at h

theorem ofU16_length (v : Nat) : (Bytes.ofU16 v).length = 2 := rfl

theorem readU16_ofU16 (v : Nat) (h : v < 65536) (rest : Bytes) :
    readU16 (Bytes.ofU16 v ++ rest) = some (v, rest) := by
  simp [readU16, Bytes.ofU16]; omega

theorem take?_some {n : Nat} {r a r' : Bytes} (h : take? n r = some (a, r')) : r = a ++ r' ∧ a.length = n := by
  unfold take? at h
  split at h
  · cases h
    exact ⟨(List.take_append_drop n r).symm, by rw [List.length_take]; omega⟩
  · cases h

theorem readU8_some {r : Bytes} {b : Nat} {r' : Bytes} (h : readU8 r = some (b, r')) : r = b :: r' := by
  cases r with
  | nil => cases h
  | cons x xs => cases h; rfl

theorem readU16_some {r : Bytes} {v : Nat} {r' : Bytes} (h : readU16 r = some (v, r')) :
    ∃ a b, r = a :: b :: r' := by
  match r, h with
  | a :: b :: rest, h => cases h; exact ⟨a, b, rfl⟩

theorem take?_eq (n : Nat) (r : Bytes) : take? n r = if n ≤ r.length then some (r.take n, r.drop n) else none := rfl

theorem readU8_drop (r : Bytes) (k : Nat) : readU8 (r.drop k) = r[k]?.map (fun b => (b, r.drop (k + 1))) := by
  by_cases h : k < r.length
  · rw [List.drop_eq_getElem_cons h, List.getElem?_eq_getElem h]; rfl
  · rw [List.drop_eq_nil_of_le (by omega), List.getElem?_eq_none (by omega)]; rfl

theorem readRotMsg_eq_some_iff (r : Bytes) (m : RotMsg) :
    readRotMsg r = some m ↔ ∃ idb t, idb.length = 8 ∧ m.id = Bytes.beVal idb ∧ (∀ c, m.confirm = some c → 0 < c.length) ∧
      r = idb ++ m.propose.length :: (m.propose ++
        match m.confirm with
        | some c => c.length :: (c ++ t)
        | none => 0 :: t) := by
  constructor
  · intro h
    simp only [readRotMsg, Option.bind_eq_bind, Option.bind_eq_some_iff] at h
    obtain ⟨⟨idb, r1⟩, h1, ⟨kl, r2⟩, h2, ⟨pr, r3⟩, h3, ⟨cl, r4⟩, h4, h⟩ := h
    dsimp only at h2 h3 h4 h
    obtain ⟨rfl, l1⟩ := take?_some h1
    obtain ⟨rfl, rfl⟩ := take?_some h3
    cases readU8_some h2
    cases readU8_some h4
    by_cases hcl : cl > 0
    · rw [if_pos hcl] at h
      obtain ⟨⟨c, r5⟩, h5, hm⟩ := Option.bind_eq_some_iff.1 h
      obtain ⟨rfl, rfl⟩ := take?_some h5
      cases hm
      exact ⟨idb, r5, l1, rfl, fun c' hc' => by cases hc'; exact hcl, rfl⟩
    · rw [if_neg hcl] at h
      cases h
      cases Nat.eq_zero_of_not_pos hcl
      exact ⟨idb, r4, l1, rfl, nofun, rfl⟩
  · rintro ⟨idb, t, l1, hid, hc, rfl⟩
    obtain ⟨id, pr, cf⟩ := m
    subst hid
    simp only [readRotMsg, take?_append 8 idb _ l1, readU8, take?_append pr.length pr _ rfl, Option.bind_eq_bind, Option.bind_some]
    cases cf with
    | none => rfl
    | some c =>
      simp only [Option.bind_some, if_pos (hc c rfl), take?_append c.length c t rfl, Option.pure_def]

theorem readU8_lt (r : Bytes) (h : Bytes.WF r) (v : Nat) (rest : Bytes) (hr : readU8 r = some (v, rest)) : v < 256 := by
  cases r with
  | nil => cases hr
  | cons b r' =>
    simp only [readU8, Option.some.injEq, Prod.mk.injEq] at hr
    simp only [Bytes.wf_cons] at h
    omega

theorem ite_elim {α : Type} (P : α → Prop) {c : Prop} [Decidable c] {a b : α} (ha : P a) (hb : P b) :
    P (if c then a else b) := by
  split <;> assumption

theorem ite_bind {m : Type → Type} [Bind m] {α β : Type} (c : Prop) [Decidable c] (a b : m α) (k : α → m β) :
    (if c then a else b) >>= k = if c then a >>= k else b >>= k := by
  split <;> rfl

theorem readSock_sockBytes (a : SockAddr) (h : sockWF a = true) (k : Nat) (rest : Bytes) :
    readSock (!isV4 a) ((sockBytes a).length + k) (sockBytes a ++ rest) = some (a, k, rest) := by
  have key : ∀ (v6 : Bool) (ip : Bytes) (port : Nat), ip.length = (if v6 then 16 else 4) → port < 65536 →
      readSock v6 ((ip ++ Bytes.ofU16 port).length + k) (ip ++ Bytes.ofU16 port ++ rest)
        = some (if v6 then .v6 ip port else .v4 ip port, k, rest) := by
    intro v6 ip port hip hp
    have hv : port / 256 % 256 * 256 + port % 256 = port := by omega
    rw [List.length_append, ofU16_length, Nat.add_assoc, List.append_assoc, readSock, ← hip, takeLim_append _ _ ip _ rfl]
    simp only [Option.bind_eq_bind, Option.bind_some, takeLim_append 2 k _ rest (ofU16_length port), Option.pure_def]
    simp [Bytes.ofU16, hv]
  cases a with
  | v4 ip port => simp [sockWF] at h; exact key false ip port h.1.1 h.2
  | v6 ip port => simp [sockWF] at h; exact key true ip port h.1.1 h.2

theorem readSocks_flatMap (v6 : Bool) (l : List SockAddr)
    (h : ∀ a ∈ l, sockWF a = true ∧ (!isV4 a) = v6) (k : Nat) (rest : Bytes) :
    readSocks v6 l.length ((l.flatMap sockBytes).length + k) (l.flatMap sockBytes ++ rest)
      = some (l, k, rest) := by
  induction l with
  | nil => simp [readSocks]
  | cons a l ih =>
    have ha := h a List.mem_cons_self
    have e1 := readSock_sockBytes a ha.1 ((l.flatMap sockBytes).length + k) (l.flatMap sockBytes ++ rest)
    rw [ha.2] at e1
    rw [List.flatMap_cons, List.length_append, Nat.add_assoc, List.append_assoc, List.length_cons]
    simp only [readSocks, e1, ih fun b hb => h b (List.mem_cons_of_mem _ hb), Option.bind_eq_bind, Option.bind_some,
      Option.pure_def]

theorem readAddrListInner_lists (v6 v4 : List SockAddr) (nf : Nat) (hnf : nf = 0 ∨ nf = 128)
    (h6 : ∀ a ∈ v6, sockWF a = true ∧ (!isV4 a) = true) (h4 : ∀ a ∈ v4, sockWF a = true ∧ (!isV4 a) = false)
    (l6 : v6.length ≤ 7) (l4 : v4.length ≤ 7) (k : Nat) (rest : Bytes) :
    readAddrListInner (v6.length * 8 + v4.length + nf)
      ((v6.flatMap sockBytes ++ v4.flatMap sockBytes).length + k)
      ((v6.flatMap sockBytes ++ v4.flatMap sockBytes) ++ rest) = some (v6 ++ v4, k, rest) := by
  have f4 : (v6.length * 8 + v4.length + nf) % 8 = v4.length := by omega
  have f6 : (v6.length * 8 + v4.length + nf) / 8 % 8 = v6.length := by omega
  rw [List.length_append, Nat.add_assoc (v6.flatMap sockBytes).length, List.append_assoc]
  simp only [readAddrListInner, f4, f6, readSocks_flatMap true v6 h6, readSocks_flatMap false v4 h4, Option.bind_eq_bind,
    Option.bind_some, Option.pure_def]

theorem splitAddrs_fst_mem (l : List SockAddr) (h : ∀ a ∈ l, sockWF a = true) :
    ∀ a ∈ (splitAddrs l).1, sockWF a = true ∧ (!isV4 a) = false := by
  intro a ha
  have h1 := List.mem_of_mem_take ha
  rw [List.mem_filter] at h1
  exact ⟨h a h1.1, by simp [h1.2]⟩

theorem splitAddrs_snd_mem (l : List SockAddr) (h : ∀ a ∈ l, sockWF a = true) :
    ∀ a ∈ (splitAddrs l).2, sockWF a = true ∧ (!isV4 a) = true := by
  intro a ha
  have h1 := List.mem_of_mem_take ha
  rw [List.mem_filter] at h1
  exact ⟨h a h1.1, h1.2⟩

theorem splitAddrs_len (l : List SockAddr) : (splitAddrs l).1.length ≤ 7 ∧ (splitAddrs l).2.length ≤ 7 := by
  simp [splitAddrs]; omega

theorem encodeAddrList_eq (l : List SockAddr) (nf : Nat) :
    encodeAddrList l nf = ((splitAddrs l).2.length * 8 + (splitAddrs l).1.length + nf,
      (splitAddrs l).2.flatMap sockBytes ++ (splitAddrs l).1.flatMap sockBytes) := rfl

theorem normAddrs_eq (l : List SockAddr) : normAddrs l = (splitAddrs l).2 ++ (splitAddrs l).1 := rfl

theorem readAddrListInner_encode (l : List SockAddr) (h : ∀ a ∈ l, sockWF a = true)
    (nf : Nat) (hnf : nf = 0 ∨ nf = 128) (k : Nat) (rest : Bytes) :
    readAddrListInner (encodeAddrList l nf).1 ((encodeAddrList l nf).2.length + k)
      ((encodeAddrList l nf).2 ++ rest) = some (normAddrs l, k, rest) := by
  rw [encodeAddrList_eq, normAddrs_eq]
  exact readAddrListInner_lists _ _ nf hnf (splitAddrs_snd_mem l h) (splitAddrs_fst_mem l h)
    (splitAddrs_len l).2 (splitAddrs_len l).1 k rest

theorem encodeAddrList_flags_lt (l : List SockAddr) (nf : Nat) :
    (encodeAddrList l nf).1 < nf + 64 := by
  rw [encodeAddrList_eq]
  have := splitAddrs_len l
  simp only; omega

theorem flatMap_sockBytes_len (l : List SockAddr) (h : ∀ a ∈ l, sockWF a = true) :
    (l.flatMap sockBytes).length ≤ 18 * l.length := by
  induction l with
  | nil => simp
  | cons a l ih =>
    have ha := h a List.mem_cons_self
    have := ih (fun b hb => h b (List.mem_cons_of_mem _ hb))
    have hs : (sockBytes a).length ≤ 18 := by
      cases a <;> simp [sockWF] at ha <;> simp [sockBytes, ha, ofU16_length]
    rw [List.flatMap_cons, List.length_append, List.length_cons]; omega

theorem encodeAddrList_body_len (l : List SockAddr) (h : ∀ a ∈ l, sockWF a = true) (nf : Nat) :
    (encodeAddrList l nf).2.length ≤ 252 := by
  rw [encodeAddrList_eq]
  have a1 := flatMap_sockBytes_len _ (fun a ha => (splitAddrs_snd_mem l h a ha).1)
  have a2 := flatMap_sockBytes_len _ (fun a ha => (splitAddrs_fst_mem l h a ha).1)
  have := splitAddrs_len l
  simp only [List.length_append]; omega

/-! ### readers never grow the input or the limit -/

theorem takeLim_le {n lim : Nat} {r a r' : Bytes} {lim' : Nat} (h : takeLim n lim r = some (a, lim', r')) :
    lim' + n = lim ∧ r'.length + n = r.length := by
  obtain ⟨_, h2, h3, h4, h5⟩ := takeLim_some h
  subst h2 h3; rw [List.length_drop]; omega

theorem readSock_le {v6 : Bool} {lim : Nat} {r : Bytes} {a : SockAddr} {lim' : Nat} {r' : Bytes}
    (h : readSock v6 lim r = some (a, lim', r')) : lim' ≤ lim ∧ r'.length ≤ r.length := by
  simp only [readSock, Option.bind_eq_bind, Option.pure_def, Option.bind_eq_some_iff] at h
  obtain ⟨⟨ip, l1, r1⟩, h1, ⟨pb, l2, r2⟩, h2, h3⟩ := h
  simp only [Option.some.injEq, Prod.mk.injEq] at h3
  obtain ⟨_, rfl, rfl⟩ := h3
  dsimp only at h2
  have := takeLim_le h1
  have := takeLim_le h2
  omega

theorem readSocks_le {v6 : Bool} {n lim : Nat} {r : Bytes} {l : List SockAddr} {lim' : Nat} {r' : Bytes}
    (h : readSocks v6 n lim r = some (l, lim', r')) : lim' ≤ lim ∧ r'.length ≤ r.length := by
  induction n generalizing lim r l with
  | zero =>
    simp only [readSocks, Option.some.injEq, Prod.mk.injEq] at h
    obtain ⟨_, rfl, rfl⟩ := h
    omega
  | succ n ih =>
    simp only [readSocks, Option.bind_eq_bind, Option.pure_def, Option.bind_eq_some_iff] at h
    obtain ⟨⟨a, l1, r1⟩, h1, ⟨as, l2, r2⟩, h2, h3⟩ := h
    simp only [Option.some.injEq, Prod.mk.injEq] at h3
    obtain ⟨_, rfl, rfl⟩ := h3
    dsimp only at h2
    have := readSock_le h1
    have := ih h2
    omega

theorem readAddrListInner_le {flags lim : Nat} {r : Bytes} {l : List SockAddr} {lim' : Nat} {r' : Bytes}
    (h : readAddrListInner flags lim r = some (l, lim', r')) : lim' ≤ lim ∧ r'.length ≤ r.length := by
  simp only [readAddrListInner, Option.bind_eq_bind, Option.pure_def, Option.bind_eq_some_iff] at h
  obtain ⟨⟨a, l1, r1⟩, h1, ⟨as, l2, r2⟩, h2, h3⟩ := h
  simp only [Option.some.injEq, Prod.mk.injEq] at h3
  obtain ⟨_, rfl, rfl⟩ := h3
  dsimp only at h2
  have := readSocks_le h1
  have := readSocks_le h2
  omega

/-! ### lists of entries read through a `Take` until it is used up -/

section Entries
variable {β γ : Type}

/-- `F fuel lim r` (`decodePeers`, `decodeClaims`) reads entries until the limit `lim` of the `Take` is 0 and returns them with the
    rest of the input.  `rd lim r` is the reader of one entry: it returns the entry, the limit left and the rest of the input.
    A predicate on the model's own function: its two clauses are the function's defining equations with the entry reader named,
    so an instance is proved by unfolding once and nothing has to be carried across an equation between two loops. -/
def IsEntries (rd : Nat → Bytes → Option (β × Nat × Bytes)) (F : Nat → Nat → Bytes → Option (List β × Bytes)) : Prop :=
  (∀ lim r, F 0 lim r = none) ∧
  ∀ f lim r, F (f + 1) lim r = if lim = 0 then some ([], r) else
    (rd lim r).bind fun x => (F f x.2.1 x.2.2).bind fun w => some (x.1 :: w.1, w.2)

variable {rd : Nat → Bytes → Option (β × Nat × Bytes)} {F : Nat → Nat → Bytes → Option (List β × Bytes)}

theorem IsEntries.le (H : IsEntries rd F) (hrd : ∀ {lim r x}, rd lim r = some x → x.2.2.length ≤ r.length)
    {f lim : Nat} {r r' : Bytes} {l : List β} (h : F f lim r = some (l, r')) : r'.length ≤ r.length := by
  induction f generalizing lim r l with
  | zero => rw [H.1] at h; cases h
  | succ f ih =>
    rw [H.2] at h
    by_cases h0 : lim = 0
    · rw [if_pos h0] at h; cases h; exact Nat.le_refl _
    · rw [if_neg h0] at h
      obtain ⟨x, hx, h⟩ := Option.bind_eq_some_iff.1 h
      obtain ⟨w, hw, h⟩ := Option.bind_eq_some_iff.1 h
      cases h
      exact Nat.le_trans (ih hw) (hrd hx)

theorem IsEntries.fuel (H : IsEntries rd F) (hrd : ∀ {lim r x}, rd lim r = some x → x.2.1 < lim)
    (f1 f2 lim : Nat) (r : Bytes) (h1 : lim + 1 ≤ f1) (h2 : lim + 1 ≤ f2) : F f1 lim r = F f2 lim r := by
  induction f1 generalizing f2 lim r with
  | zero => omega
  | succ f1 ih =>
    obtain ⟨g, rfl⟩ : ∃ g, f2 = g + 1 := ⟨f2 - 1, by omega⟩
    rw [H.2, H.2]
    by_cases h0 : lim = 0
    · rw [if_pos h0, if_pos h0]
    · rw [if_neg h0, if_neg h0]
      apply Option.bind_congr; intro x hx
      have := hrd hx
      rw [ih g _ _ (by omega) (by omega)]

theorem IsEntries.flatMap (H : IsEntries rd F) (enc : γ → Bytes) (dec : γ → β) (l : List γ)
    (hrt : ∀ x ∈ l, 1 ≤ (enc x).length ∧ ∀ k rest, rd ((enc x).length + k) (enc x ++ rest) = some (dec x, k, rest))
    (f : Nat) (hf : (l.flatMap enc).length < f) (rest : Bytes) :
    F f (l.flatMap enc).length (l.flatMap enc ++ rest) = some (l.map dec, rest) := by
  obtain ⟨g, rfl⟩ : ∃ g, f = g + 1 := ⟨f - 1, by omega⟩
  induction l generalizing g with
  | nil => rw [H.2]; rfl
  | cons x l ih =>
    obtain ⟨hp, hx⟩ := hrt x List.mem_cons_self
    rw [List.flatMap_cons, List.length_append] at hf
    obtain ⟨g', rfl⟩ : ∃ g', g = g' + 1 := ⟨g - 1, by omega⟩
    rw [List.flatMap_cons, List.length_append, List.append_assoc, H.2, if_neg (by omega), hx,
      Option.bind_some, ih (fun y hy => hrt y (List.mem_cons_of_mem _ hy)) g' (by omega)]
    rfl

end Entries

def normPeer (p : PeerInfo) : PeerInfo := { p with addrs := normAddrs p.addrs }

def peerWF (p : PeerInfo) : Prop :=
  (∀ i, p.nodeId = some i → i.length = 16) ∧ ∀ a ∈ p.addrs, sockWF a = true

theorem encodePeer_eq (p : PeerInfo) :
    encodePeer p = (encodeAddrList p.addrs (if p.nodeId.isSome then 0x80 else 0)).1 ::
      (p.nodeId.getD [] ++ (encodeAddrList p.addrs (if p.nodeId.isSome then 0x80 else 0)).2) := rfl

/-- one entry of the peer list: flags byte, node id if flagged, addresses -/
def peerEntry (lim : Nat) (r : Bytes) : Option (PeerInfo × Nat × Bytes) :=
  (takeLim 1 lim r).bind fun x =>
    (if x.1.getD 0 0 ≥ 128 then
        (takeLim Generated.NODE_ID_BYTES x.2.1 x.2.2).map (fun (y : Bytes × Nat × Bytes) => (some y.1, y.2.1, y.2.2))
      else some (none, x.2.1, x.2.2)).bind fun y =>
      (readAddrListInner (x.1.getD 0 0) y.2.1 y.2.2).bind fun z => some ({ nodeId := y.1, addrs := z.1 }, z.2.1, z.2.2)

theorem decodePeers_entries : IsEntries peerEntry decodePeers := by
  refine ⟨fun _ _ => rfl, fun f lim r => ?_⟩
  rw [decodePeers]
  split
  · rfl
  · simp only [peerEntry, Option.bind_eq_bind, Option.pure_def, Option.bind_assoc, Option.bind_some]
    congr; funext x
    split <;> rfl

theorem peerEntry_le {lim : Nat} {r : Bytes} {x : PeerInfo × Nat × Bytes} (h : peerEntry lim r = some x) :
    x.2.1 < lim ∧ x.2.2.length ≤ r.length := by
  simp only [peerEntry, Option.bind_eq_some_iff] at h
  obtain ⟨⟨fl, l1, r1⟩, h1, ⟨nid, l2, r2⟩, h2, ⟨ad, l3, r3⟩, h3, h⟩ := h
  dsimp only at h2 h3 h
  cases h
  have := takeLim_le h1
  have := readAddrListInner_le h3
  -- the node id, if there is one, comes through the same `Take`
  have : l2 ≤ l1 ∧ r2.length ≤ r1.length := by
    split at h2
    · obtain ⟨⟨a, b, c⟩, hh, he⟩ := Option.map_eq_some_iff.1 h2
      simp only [Prod.mk.injEq] at he
      obtain ⟨_, rfl, rfl⟩ := he
      have := takeLim_le hh
      omega
    · cases h2; omega
  dsimp only
  omega

theorem peerEntry_encode (p : PeerInfo) (h : peerWF p) (k : Nat) (rest : Bytes) :
    peerEntry ((encodePeer p).length + k) (encodePeer p ++ rest) = some (normPeer p, k, rest) := by
  obtain ⟨nid, addrs⟩ := p
  obtain ⟨hi, ha⟩ := h
  rw [encodePeer_eq, List.cons_append, List.append_assoc, List.length_cons, List.length_append,
    show ∀ a b : Nat, a + b + 1 + k = 1 + (a + (b + k)) by omega, peerEntry, takeLim_cons]
  simp only [Option.bind_some, List.getD_cons_zero]
  cases nid with
  | none =>
    have := encodeAddrList_flags_lt addrs 0
    simp only [Option.isSome_none, Bool.false_eq_true, if_false] at this ⊢
    rw [if_neg (by omega)]
    simp only [Option.getD_none, List.length_nil, Nat.zero_add, List.nil_append, Option.bind_some,
      readAddrListInner_encode addrs ha 0 (.inl rfl)]
    rfl
  | some i =>
    have : (encodeAddrList addrs 128).1 ≥ 128 := by rw [encodeAddrList_eq]; simp only; omega
    simp only [Option.isSome_some, if_true, Option.getD_some]
    rw [if_pos this, hi i rfl, Generated.NODE_ID_BYTES, takeLim_append 16 _ i _ (hi i rfl)]
    simp only [Option.map_some, Option.bind_some, readAddrListInner_encode addrs ha 128 (.inr rfl)]
    rfl

theorem encodePeer_length_pos (p : PeerInfo) : 1 ≤ (encodePeer p).length := by
  rw [encodePeer_eq, List.length_cons]; omega

theorem decodePeers_flatMap (ps : List PeerInfo) (h : ∀ p ∈ ps, peerWF p) (f : Nat) (hf : (ps.flatMap encodePeer).length < f)
    (rest : Bytes) :
    decodePeers f (ps.flatMap encodePeer).length (ps.flatMap encodePeer ++ rest) = some (ps.map normPeer, rest) :=
  decodePeers_entries.flatMap encodePeer normPeer ps (fun p hp => ⟨encodePeer_length_pos p, peerEntry_encode p (h p hp)⟩) f hf rest

theorem decodePeers_le {f lim : Nat} {r : Bytes} {x : List PeerInfo} {r' : Bytes}
    (h : decodePeers f lim r = some (x, r')) : r'.length ≤ r.length :=
  decodePeers_entries.le (fun h => (peerEntry_le h).2) h

/-- `decodePeers` with fuel above the limit never runs out of fuel -/
theorem decodePeers_fuel (f1 f2 lim : Nat) (r : Bytes) (h1 : lim + 1 ≤ f1) (h2 : lim + 1 ≤ f2) :
    decodePeers f1 lim r = decodePeers f2 lim r :=
  decodePeers_entries.fuel (fun h => (peerEntry_le h).1) f1 f2 lim r h1 h2

theorem writeRange_append (r : Range) (h : rangeWF r = true) (rest : Bytes) :
    r.base.length ≤ 16 ∧ writeRange r ++ rest = r.base.length :: (r.base ++ (r.prefixLen :: rest)) := by
  simp [rangeWF] at h
  obtain ⟨⟨hlen, _⟩, hp⟩ := h
  exact ⟨hlen, by simp [writeRange, writeAddress, Nat.mod_eq_of_lt (show r.base.length < 256 by omega), Nat.mod_eq_of_lt hp]⟩

/-- one claim: `Range::read_from` through the `Take` -/
def claimEntry (lim : Nat) (r : Bytes) : Option (Range × Nat × Bytes) :=
  (takeLim 1 lim r).bind fun x =>
    if x.1.getD 0 0 > 16 then none else
      (takeLim (x.1.getD 0 0) x.2.1 x.2.2).bind fun y =>
        (takeLim 1 y.2.1 y.2.2).bind fun z => some ({ base := y.1, prefixLen := z.1.getD 0 0 }, z.2.1, z.2.2)

theorem decodeClaims_entries : IsEntries claimEntry decodeClaims := by
  refine ⟨fun _ _ => rfl, fun f lim r => ?_⟩
  rw [decodeClaims]
  split
  · rfl
  · simp only [claimEntry, Option.bind_eq_bind, Option.pure_def, Option.bind_assoc]
    congr; funext x
    split <;> simp only [Option.bind_none, Option.bind_assoc, Option.bind_some]

theorem claimEntry_le {lim : Nat} {r : Bytes} {x : Range × Nat × Bytes} (h : claimEntry lim r = some x) :
    x.2.1 < lim ∧ x.2.2.length ≤ r.length := by
  simp only [claimEntry, Option.bind_eq_some_iff] at h
  obtain ⟨⟨fl, l1, r1⟩, h1, h⟩ := h
  dsimp only at h
  split at h
  · cases h
  · simp only [Option.bind_eq_some_iff] at h
    obtain ⟨⟨b, l2, r2⟩, h2, ⟨pb, l3, r3⟩, h3, h⟩ := h
    dsimp only at h3 h
    cases h
    have := takeLim_le h1
    have := takeLim_le h2
    have := takeLim_le h3
    dsimp only
    omega

theorem claimEntry_encode (c : Range) (h : rangeWF c = true) (k : Nat) (rest : Bytes) :
    claimEntry ((writeRange c).length + k) (writeRange c ++ rest) = some (c, k, rest) := by
  obtain ⟨hlen, e1⟩ := writeRange_append c h rest
  have e0 : (writeRange c).length + k = 1 + (c.base.length + (1 + k)) := by
    simp [writeRange, writeAddress]; omega
  rw [e0, e1, claimEntry, takeLim_cons]
  simp only [Option.bind_some, List.getD_cons_zero, if_neg (show ¬ c.base.length > 16 by omega),
    takeLim_append _ _ c.base _ rfl, takeLim_cons]

theorem writeRange_length_pos (r : Range) : 1 ≤ (writeRange r).length := by
  simp [writeRange, writeAddress]

theorem decodeClaims_flatMap (cs : List Range) (h : ∀ c ∈ cs, rangeWF c = true) (f : Nat)
    (hf : (cs.flatMap writeRange).length < f) (rest : Bytes) :
    decodeClaims f (cs.flatMap writeRange).length (cs.flatMap writeRange ++ rest) = some (cs, rest) := by
  have := decodeClaims_entries.flatMap writeRange id cs
    (fun c hc => ⟨writeRange_length_pos c, claimEntry_encode c (h c hc)⟩) f hf rest
  rwa [List.map_id] at this

theorem decodeClaims_le {f lim : Nat} {r : Bytes} {x : List Range} {r' : Bytes}
    (h : decodeClaims f lim r = some (x, r')) : r'.length ≤ r.length :=
  decodeClaims_entries.le (fun h => (claimEntry_le h).2) h

/-- `decodeClaims` with fuel above the limit never runs out of fuel -/
theorem decodeClaims_fuel (f1 f2 lim : Nat) (r : Bytes) (h1 : lim + 1 ≤ f1) (h2 : lim + 1 ≤ f2) :
    decodeClaims f1 lim r = decodeClaims f2 lim r :=
  decodeClaims_entries.fuel (fun h => (claimEntry_le h).1) f1 f2 lim r h1 h2

/-! ### tag–length–value loops: one part = one step -/

section Loop
variable {α ρ ε : Type}

/-- one iteration of a loop over parts `tag, 16-bit length, body` that ends at the tag `e`: the handler `h` of a part gets tag,
    length field, the input behind the header and the accumulator and returns the rest of the input and the new accumulator, with
    which the loop `k` goes on; `stop` is the result at the end marker, `bad x` the result when the handler fails with `x`, and
    `bad eof` when the header is incomplete -/
def tlvIter (e : Nat) (h : Nat → Nat → Bytes → α → Except ε (Bytes × α)) (stop : α → Bytes → ρ) (bad : ε → ρ) (eof : ε)
    (k : Bytes → α → ρ) (r : Bytes) (a : α) : ρ :=
  match readU8 r with
  | none => bad eof
  | some (t, r1) =>
    if t = e then stop a r1 else
    match readU16 r1 with
    | none => bad eof
    | some (n, r2) =>
      match h t n r2 a with
      | .error x => bad x
      | .ok (r3, b) => k r3 b

/-- `F fuel r a` (`decodeParts`, `InitMsg.readFields`) is the loop whose iteration is `tlvIter`.  A predicate on the model's own
    function — the function's defining equation with the handlers gathered in `h` — so an instance is proved by unfolding once,
    no second loop function and no equation between two loops is needed, and what is proved below (`iter`, `fuel`, `atEnd`, `step`,
    `run`) speaks of the model's function directly.  The result type `ρ` is free: `decodeParts` returns the accumulator or nothing,
    `readFields` the accumulator with the rest of the input or one of several errors (`ε`; `Unit` for `decodeParts`). -/
def IsTlv (e : Nat) (h : Nat → Nat → Bytes → α → Except ε (Bytes × α)) (stop : α → Bytes → ρ) (bad : ε → ρ) (eof : ε)
    (F : Nat → Bytes → α → ρ) : Prop :=
  ∀ f r a, F (f + 1) r a = tlvIter e h stop bad eof (F f) r a

/-- the fuel-driven loop `F`, given enough fuel for one iteration, consumes exactly `p` and continues with `b` -/
def Step (F : Nat → Bytes → α → ρ) (p : Bytes) (a b : α) : Prop :=
  ∀ f rest, F (f + 1) (p ++ rest) a = F f rest b

variable {e : Nat} {h : Nat → Nat → Bytes → α → Except ε (Bytes × α)} {stop : α → Bytes → ρ} {bad : ε → ρ} {eof : ε}
  {F : Nat → Bytes → α → ρ}

theorem IsTlv.iter (H : IsTlv e h stop bad eof F) (r : Bytes) (a : α) :
    (∃ x, (x = eof ∨ ∃ t n r2, h t n r2 a = .error x) ∧ ∀ f, F (f + 1) r a = bad x) ∨
    (∃ r1, r = e :: r1 ∧ ∀ f, F (f + 1) r a = stop a r1) ∨
    ∃ t n1 n2 r2 r3 b, r = t :: n1 :: n2 :: r2 ∧ h t (n1 * 256 + n2) r2 a = .ok (r3, b) ∧ ∀ f, F (f + 1) r a = F f r3 b := by
  simp only [H _ r a, tlvIter]
  match r with
  | [] => exact .inl ⟨_, .inl rfl, fun _ => rfl⟩
  | t :: r1 =>
    by_cases h0 : t = e
    · exact .inr (.inl ⟨r1, h0 ▸ rfl, fun _ => if_pos h0⟩)
    simp only [readU8, if_neg h0]
    match r1 with
    | [] | [_] => exact .inl ⟨_, .inl rfl, fun _ => rfl⟩
    | n1 :: n2 :: r2 =>
      simp only [readU16]
      cases hh : h t (n1 * 256 + n2) r2 a with
      | error x => exact .inl ⟨x, .inr ⟨_, _, _, hh⟩, fun _ => rfl⟩
      | ok z => exact .inr (.inr ⟨t, n1, n2, r2, z.1, z.2, rfl, hh, fun _ => rfl⟩)

/-- with handlers that hand back no more than they got, every iteration consumes at least the header: fuel above the input length
    never runs out -/
theorem IsTlv.fuel (H : IsTlv e h stop bad eof F) (hs : ∀ t n r a r' b, h t n r a = .ok (r', b) → r'.length ≤ r.length)
    (f1 f2 : Nat) (r : Bytes) (a : α) (h1 : r.length + 1 ≤ f1) (h2 : r.length + 1 ≤ f2) : F f1 r a = F f2 r a := by
  induction f1 generalizing f2 r a with
  | zero => omega
  | succ f1 ih =>
    obtain ⟨g, rfl⟩ : ∃ g, f2 = g + 1 := ⟨f2 - 1, by omega⟩
    rcases H.iter r a with ⟨_, _, hx⟩ | ⟨_, _, hx⟩ | ⟨t, n1, n2, r2, r3, b, rfl, hh, hx⟩ <;> rw [hx, hx]
    have := hs _ _ _ _ _ _ hh
    simp only [List.length_cons] at h1 h2
    exact ih g r3 b (by omega) (by omega)

theorem IsTlv.atEnd (H : IsTlv e h stop bad eof F) (f : Nat) (rest : Bytes) (a : α) : F (f + 1) (e :: rest) a = stop a rest := by
  rw [H, tlvIter, readU8]; exact if_pos rfl

theorem IsTlv.step (H : IsTlv e h stop bad eof F) {t : Nat} {body : Bytes} {a b : α} (ht : t ≠ e) (hb : body.length < 65536)
    (hh : ∀ rest, h t body.length (body ++ rest) a = .ok (rest, b)) :
    Step F (t :: (Bytes.ofU16 body.length ++ body)) a b := by
  intro f rest
  rw [H, List.cons_append, List.append_assoc, tlvIter]
  simp only [readU8, if_neg ht, readU16_ofU16 _ hb, hh rest]

variable (F)

/-- `Chain F ps a c`: reading the parts `ps` one after the other takes the accumulator from `a` to `c` -/
inductive Chain : List Bytes → α → α → Prop
  | nil (a : α) : Chain [] a a
  | cons {p : Bytes} {ps : List Bytes} {a b c : α} : Step F p a b → Chain ps b c → Chain (p :: ps) a c

variable {F}

theorem Chain.run {ps : List Bytes} {a c : α} (h : Chain F ps a c) (f : Nat) (rest : Bytes) :
    F (f + ps.length) (ps.flatten ++ rest) a = F f rest c := by
  induction h generalizing f with
  | nil a => simp
  | cons hs _ ih =>
    rw [List.flatten_cons, List.append_assoc, List.length_cons, ← Nat.add_assoc, hs]
    exact ih f

theorem IsTlv.run (H : IsTlv e h stop bad eof F) (hs : ∀ t n r a r' b, h t n r a = .ok (r', b) → r'.length ≤ r.length)
    {ps : List Bytes} {a c : α} (hc : Chain F ps a c) (rest : Bytes) (fuel : Nat)
    (hf : (ps.flatten ++ e :: rest).length + 1 ≤ fuel) : F fuel (ps.flatten ++ e :: rest) a = stop c rest := by
  rw [H.fuel hs fuel (fuel + 1 + ps.length) _ _ hf (by omega), hc.run, H.atEnd]

theorem Chain.insert {ps : List Bytes} {a c : α} (h : Chain F ps a c) (u : Bytes) (hu : ∀ x, Step F u x x)
    (k : Nat) (hk : k ≤ ps.length) : Chain F (ps.take k ++ [u] ++ ps.drop k) a c := by
  induction h generalizing k with
  | nil a =>
    have : k = 0 := by simpa using hk
    subst this
    exact Chain.cons (hu a) (Chain.nil a)
  | cons hs hc ih =>
    cases k with
    | zero => exact Chain.cons (hu _) (Chain.cons hs hc)
    | succ k =>
      have := ih k (by simpa using hk)
      simpa using Chain.cons hs this

end Loop

/-- what the part loop does behind a part header with tag `tag` (not END) and length field `n`: the handler of the part returns
    the rest of the input and the new accumulator -/
def partStep (tag n : Nat) (r : Bytes) (acc : Partial) : Option (Bytes × Partial) :=
  if tag = Generated.NI_PART_PEERS then
    (decodePeers (n + 1) n r).map fun x => (x.2, { acc with peers := x.1 })
  else if tag = Generated.NI_PART_CLAIMS then
    (decodeClaims (n + 1) n r).map fun x => (x.2, { acc with claims := x.1 })
  else if tag = Generated.NI_PART_PEER_TIMEOUT then
    (takeLim 2 n r).map fun x => (x.2.2, { acc with peerTimeout := some (x.1.getD 0 0 * 256 + x.1.getD 1 0) })
  else if tag = Generated.NI_PART_NODEID then
    (takeLim Generated.NODE_ID_BYTES n r).map fun x => (x.2.2, { acc with nodeId := some x.1 })
  else if tag = Generated.NI_PART_ADDRS then
    (takeLim 1 n r).bind fun x =>
      (readAddrListInner (x.1.getD 0 0) x.2.1 x.2.2).map fun y => (y.2.2, { acc with addrs := y.1 })
  else (takeLim n n r).map fun x => (x.2.2, acc)

theorem partStep_peers (n : Nat) (r : Bytes) (acc : Partial) : partStep Generated.NI_PART_PEERS n r acc =
    (decodePeers (n + 1) n r).map fun x => (x.2, { acc with peers := x.1 }) := rfl

theorem partStep_claims (n : Nat) (r : Bytes) (acc : Partial) : partStep Generated.NI_PART_CLAIMS n r acc =
    (decodeClaims (n + 1) n r).map fun x => (x.2, { acc with claims := x.1 }) := rfl

theorem partStep_timeout (n : Nat) (r : Bytes) (acc : Partial) : partStep Generated.NI_PART_PEER_TIMEOUT n r acc =
    (takeLim 2 n r).map fun x => (x.2.2, { acc with peerTimeout := some (x.1.getD 0 0 * 256 + x.1.getD 1 0) }) := rfl

theorem partStep_nodeid (n : Nat) (r : Bytes) (acc : Partial) : partStep Generated.NI_PART_NODEID n r acc =
    (takeLim 16 n r).map fun x => (x.2.2, { acc with nodeId := some x.1 }) := rfl

theorem partStep_addrs (n : Nat) (r : Bytes) (acc : Partial) : partStep Generated.NI_PART_ADDRS n r acc =
    (takeLim 1 n r).bind fun x =>
      (readAddrListInner (x.1.getD 0 0) x.2.1 x.2.2).map fun y => (y.2.2, { acc with addrs := y.1 }) := rfl

theorem partStep_unknown {tag : Nat} (ht : 6 ≤ tag) (n : Nat) (r : Bytes) (acc : Partial) :
    partStep tag n r acc = (takeLim n n r).map fun x => (x.2.2, acc) := by
  have h1 : ¬ tag = Generated.NI_PART_PEERS := by simp only [Generated.NI_PART_PEERS]; omega
  have h2 : ¬ tag = Generated.NI_PART_CLAIMS := by simp only [Generated.NI_PART_CLAIMS]; omega
  have h3 : ¬ tag = Generated.NI_PART_PEER_TIMEOUT := by simp only [Generated.NI_PART_PEER_TIMEOUT]; omega
  have h4 : ¬ tag = Generated.NI_PART_NODEID := by simp only [Generated.NI_PART_NODEID]; omega
  have h5 : ¬ tag = Generated.NI_PART_ADDRS := by simp only [Generated.NI_PART_ADDRS]; omega
  rw [partStep, if_neg h1, if_neg h2, if_neg h3, if_neg h4, if_neg h5]

/-- the handlers of the part loop are `Option`-valued: `none` is the one error of `Except Unit` -/
def orFail {β : Type} : Option β → Except Unit β
  | none => .error ()
  | some x => .ok x

theorem orFail_ok {β : Type} {o : Option β} {x : β} (h : orFail o = .ok x) : o = some x := by
  cases o <;> cases h
  rfl

theorem decodeParts_tlv : IsTlv Generated.NI_PART_END (fun t n r a => orFail (partStep t n r a)) (fun a _ => some a)
    (fun _ => none) () decodeParts := by
  intro f r acc
  rw [decodeParts, tlvIter]
  rcases readU8 r with _ | ⟨t, r1⟩
  · rfl
  dsimp only [Option.bind_eq_bind, Option.bind_some, Option.pure_def]
  by_cases h0 : t = Generated.NI_PART_END
  · rw [if_pos h0, if_pos h0]
  rw [if_neg h0, if_neg h0]
  rcases readU16 r1 with _ | ⟨n, r2⟩
  · rfl
  -- both sides are the handler's result bound to the rest of the loop
  refine (?_ : _ = partStep t n r2 acc >>= fun z => decodeParts f z.1 z.2).trans ?_
  · simp only [partStep, ite_bind, Option.bind_eq_bind, Option.bind_some, Option.bind_map, Option.bind_assoc]
    rfl
  · cases hp : partStep t n r2 acc <;> simp only [hp, orFail] <;> rfl

def Shrinks {β : Type} (r : Bytes) (o : Option (Bytes × β)) : Prop :=
  ∀ y, o = some y → y.1.length ≤ r.length

theorem Shrinks.map {α β : Type} {r : Bytes} {o : Option α} {g : α → Bytes} {u : α → β}
    (h : ∀ x, o = some x → (g x).length ≤ r.length) : Shrinks r (o.map fun x => (g x, u x)) := by
  intro y hy
  obtain ⟨x, hx, rfl⟩ := Option.map_eq_some_iff.1 hy
  exact h x hx

theorem partStep_le (tag n : Nat) (r : Bytes) (acc : Partial) (r' : Bytes) (acc' : Partial)
    (h : orFail (partStep tag n r acc) = .ok (r', acc')) : r'.length ≤ r.length := by
  have tl : ∀ {k : Nat} {x : Bytes × Nat × Bytes}, takeLim k n r = some x → x.2.2.length ≤ r.length :=
    fun hx => (takeLim_le hx).2 ▸ Nat.le_add_right _ _
  -- one case per tag, in the order of `partStep`; only the address part reads twice
  refine ite_elim (Shrinks r) ?peers (ite_elim _ ?claims (ite_elim _ ?timeout (ite_elim _ ?nodeid
    (ite_elim _ ?addrs ?unknown)))) _ (orFail_ok h)
  case peers => exact .map fun _ => decodePeers_le
  case claims => exact .map fun _ => decodeClaims_le
  case timeout | nodeid | unknown => exact .map fun _ => tl
  intro y hy
  obtain ⟨x, hx, hy⟩ := Option.bind_eq_some_iff.1 hy
  exact Nat.le_trans (Shrinks.map (fun z hz => (readAddrListInner_le hz).2) y hy) (tl hx)

theorem step_of_partStep {tag : Nat} {body : Bytes} {a b : Partial} (ht : tag ≠ Generated.NI_PART_END)
    (hb : body.length < 65536) (h : ∀ rest, partStep tag body.length (body ++ rest) a = some (rest, b)) :
    Step decodeParts (encodePart tag body) a b :=
  decodeParts_tlv.step ht hb fun rest => congrArg orFail (h rest)

theorem step_nodeid (id : Bytes) (h : id.length = 16) (a : Partial) :
    Step decodeParts (encodePart Generated.NI_PART_NODEID id) a { a with nodeId := some id } :=
  step_of_partStep (by decide) (by omega) fun rest => by
    rw [partStep_nodeid, h, takeLim_append 16 0 id rest h]; rfl

theorem step_peers (ps : List PeerInfo) (h : ∀ p ∈ ps, peerWF p) (hl : (ps.flatMap encodePeer).length < 65536)
    (a : Partial) :
    Step decodeParts (encodePart Generated.NI_PART_PEERS (ps.flatMap encodePeer)) a { a with peers := ps.map normPeer } :=
  step_of_partStep (by decide) hl fun rest => by
    rw [partStep_peers, decodePeers_flatMap ps h _ (Nat.lt_succ_self _) rest]; rfl

theorem step_claims (cs : List Range) (h : ∀ c ∈ cs, rangeWF c = true) (hl : (cs.flatMap writeRange).length < 65536)
    (a : Partial) :
    Step decodeParts (encodePart Generated.NI_PART_CLAIMS (cs.flatMap writeRange)) a { a with claims := cs } :=
  step_of_partStep (by decide) hl fun rest => by
    rw [partStep_claims, decodeClaims_flatMap cs h _ (Nat.lt_succ_self _) rest]; rfl

theorem step_timeout (t : Nat) (h : t < 65536) (a : Partial) :
    Step decodeParts (encodePart Generated.NI_PART_PEER_TIMEOUT (Bytes.ofU16 t)) a { a with peerTimeout := some t } :=
  step_of_partStep (by decide) (by rw [ofU16_length]; decide) fun rest => by
    have hv : t / 256 % 256 * 256 + t % 256 = t := by omega
    rw [partStep_timeout, ofU16_length, takeLim_append 2 0 _ rest (ofU16_length t)]
    simp [Bytes.ofU16, hv]

theorem step_addrs (l : List SockAddr) (h : ∀ x ∈ l, sockWF x = true) (a : Partial) :
    Step decodeParts (encodePart Generated.NI_PART_ADDRS (let (f, b) := encodeAddrList l 0; f :: b)) a
      { a with addrs := normAddrs l } := by
  have hb := encodeAddrList_body_len l h 0
  refine step_of_partStep (body := (encodeAddrList l 0).1 :: (encodeAddrList l 0).2) (by decide)
    (by rw [List.length_cons]; omega) fun rest => ?_
  rw [partStep_addrs, List.length_cons, List.cons_append, Nat.add_comm, takeLim_cons]
  simp only [Option.bind_some, List.getD_cons_zero]
  rw [← Nat.add_zero (List.length _), readAddrListInner_encode l h 0 (Or.inl rfl) 0 rest]
  rfl

theorem step_unknown (tag : Nat) (body : Bytes) (ht : 6 ≤ tag) (hb : body.length < 65536) (a : Partial) :
    Step decodeParts (tag :: (Bytes.ofU16 body.length ++ body)) a a :=
  step_of_partStep (tag := tag) (by simp only [Generated.NI_PART_END]; omega) hb fun rest => by
    rw [partStep_unknown ht, show takeLim body.length body.length (body ++ rest) = some (body, 0, rest) from
      takeLim_append _ 0 body rest rfl]
    rfl

/-- all parts before the END marker -/
def bodyParts (n : NodeInfo) : List Bytes :=
  [encodePart Generated.NI_PART_NODEID n.nodeId,
   encodePart Generated.NI_PART_PEERS (n.peers.flatMap encodePeer),
   encodePart Generated.NI_PART_CLAIMS (n.claims.flatMap writeRange)] ++
  (match n.peerTimeout with
   | some t => [encodePart Generated.NI_PART_PEER_TIMEOUT (Bytes.ofU16 t)]
   | none => []) ++
  [encodePart Generated.NI_PART_ADDRS (let (f, b) := encodeAddrList n.addrs 0; f :: b)]

theorem partsOf_eq (n : NodeInfo) : partsOf n = bodyParts n ++ [[Generated.NI_PART_END]] := by
  cases h : n.peerTimeout <;> simp [partsOf, bodyParts, h]

theorem bodyParts_length (n : NodeInfo) : (bodyParts n).length + 1 = (partsOf n).length := by
  rw [partsOf_eq, List.length_append]; rfl

/-- the accumulator after all parts of `encodeNodeInfo n` -/
def finalAcc (n : NodeInfo) : Partial :=
  { peers := n.peers.map normPeer, claims := n.claims, peerTimeout := n.peerTimeout,
    nodeId := some n.nodeId, addrs := normAddrs n.addrs }

theorem WF_unpack {n : NodeInfo} (h : WF n = true) :
    n.nodeId.length = 16 ∧ (∀ p ∈ n.peers, peerWF p) ∧ (∀ c ∈ n.claims, rangeWF c = true) ∧
    (∀ a ∈ n.addrs, sockWF a = true) ∧ (∀ t, n.peerTimeout = some t → t < 65536) ∧
    (n.peers.flatMap encodePeer).length < 65536 ∧ (n.claims.flatMap writeRange).length < 65536 := by
  simp only [WF, Bool.and_eq_true, decide_eq_true_eq, List.all_eq_true] at h
  obtain ⟨⟨⟨⟨⟨⟨⟨h1, _⟩, h3⟩, h4⟩, h5⟩, h6⟩, h7⟩, h8⟩ := h
  refine ⟨h1, ?_, h4, h5, ?_, h7, h8⟩
  · intro p hp
    have := h3 p hp
    refine ⟨?_, this.2⟩
    intro i hi
    have h' := this.1
    rw [hi] at h'
    simp only [Bool.and_eq_true, decide_eq_true_eq] at h'
    exact h'.1
  · intro t ht
    rw [ht] at h6
    simpa using h6

theorem chain_body (n : NodeInfo) (h : WF n = true) : Chain decodeParts (bodyParts n) {} (finalAcc n) := by
  obtain ⟨h1, h2, h3, h4, h5, h6, h7⟩ := WF_unpack h
  unfold bodyParts finalAcc
  cases ht : n.peerTimeout with
  | none =>
    exact Chain.cons (step_nodeid _ h1 _) (Chain.cons (step_peers _ h2 h6 _)
      (Chain.cons (step_claims _ h3 h7 _) (Chain.cons (step_addrs _ h4 _) (Chain.nil _))))
  | some t =>
    exact Chain.cons (step_nodeid _ h1 _) (Chain.cons (step_peers _ h2 h6 _)
      (Chain.cons (step_claims _ h3 h7 _) (Chain.cons (step_timeout t (h5 t ht) _)
        (Chain.cons (step_addrs _ h4 _) (Chain.nil _)))))

theorem decode_of_chain (n : NodeInfo) (ps : List Bytes) (h : Chain decodeParts ps {} (finalAcc n)) (tail : Bytes) :
    decodeNodeInfo ((ps ++ [[Generated.NI_PART_END]]).flatten ++ tail) = some (normalise n) := by
  have e : (ps ++ [[Generated.NI_PART_END]]).flatten ++ tail = ps.flatten ++ Generated.NI_PART_END :: tail := by simp
  unfold decodeNodeInfo
  rw [e, decodeParts_tlv.run partStep_le h tail _ (Nat.le_refl _)]
  rfl

end VpnCloud.Proofs.CodecLemmas
