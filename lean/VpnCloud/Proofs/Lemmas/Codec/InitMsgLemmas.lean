import VpnCloud.Model.InitMsg
import VpnCloud.Proofs.Lemmas.Codec.CodecLemmas
/-
  Helper lemmas for the handshake-message part of C16: the field loop of `InitMsg::read_from` as a tag–length–value loop
  (`readFields_tlv`), its per-part steps on what `write_to` produces, the algorithm-list body, the frame around any chain of parts
  (`readFrom_chain`), and what follows for signed regions (`signedRegion_inj`, `readFrom_signed_inv`).
-/
-- `algosWF`, `msgWF` and `partList` are declared here, in the namespaces under which the statements of `C16Init` and `C16More` name them
namespace VpnCloud.Proofs.C16Init

def algosWF (a : Algos) : Prop := (∀ p ∈ a.speeds, p.2 < 2 ^ 32) ∧ 5 * a.speeds.length + 5 < 65536

/-- fields have the widths the wire format allows -/
def msgWF : InitMsg → Prop
  | .ping h e a => h.length = 20 ∧ e.length < 65536 ∧ algosWF a
  | .pong h e a p => h.length = 20 ∧ e.length < 65536 ∧ algosWF a ∧ p.length < 65536
  | .peng h p => h.length = 20 ∧ p.length < 65536

end VpnCloud.Proofs.C16Init

namespace VpnCloud.Proofs.C16More
open VpnCloud.InitMsg

/-- the parts of a written handshake message, one list element per part (without the END marker) -/
def partList : InitMsg → List Bytes
  | .ping h e a => [part Generated.PART_STAGE [Generated.STAGE_PING], part Generated.PART_SALTED_NODE_ID_HASH h,
      part Generated.PART_ECDH_PUBLIC_KEY e, part Generated.PART_ALGORITHMS (algosBody a)]
  | .pong h e a p => [part Generated.PART_STAGE [Generated.STAGE_PONG], part Generated.PART_SALTED_NODE_ID_HASH h,
      part Generated.PART_ECDH_PUBLIC_KEY e, part Generated.PART_ALGORITHMS (algosBody a), part Generated.PART_PAYLOAD p]
  | .peng h p => [part Generated.PART_STAGE [Generated.STAGE_PENG], part Generated.PART_SALTED_NODE_ID_HASH h,
      part Generated.PART_PAYLOAD p]

end VpnCloud.Proofs.C16More

namespace VpnCloud.Proofs.InitMsgLemmas
open VpnCloud.Codec VpnCloud.InitMsg VpnCloud.Proofs.CodecLemmas
open VpnCloud.Proofs.C16Init (msgWF)
open VpnCloud.Proofs.C16More (partList)

def encAlgo (p : Cipher × Nat) : Bytes := p.1.wireId :: Bytes.ofBE 4 p.2

theorem algosBody_eq (a : Algos) :
    algosBody a = (if a.allowUnencrypted then 0 :: F32_INFINITY else []) ++ a.speeds.flatMap encAlgo := by
  unfold algosBody
  congr 1

theorem flatMap_encAlgo_length (l : List (Cipher × Nat)) : (l.flatMap encAlgo).length = 5 * l.length := by
  induction l with
  | nil => rfl
  | cons p l ih =>
    simp only [List.flatMap_cons, List.length_append, ih, encAlgo, List.length_cons, Bytes.ofBE_length]
    omega

theorem algosBody_length (a : Algos) :
    (algosBody a).length = (if a.allowUnencrypted then 5 else 0) + 5 * a.speeds.length := by
  rw [algosBody_eq, List.length_append, flatMap_encAlgo_length]
  cases a.allowUnencrypted <;> simp [F32_INFINITY]

theorem wireId_ne_zero (c : Cipher) : c.wireId ≠ 0 := by cases c <;> simp [Cipher.wireId]
theorem ofWireId_wireId (c : Cipher) : Cipher.ofWireId c.wireId = some c := by cases c <;> rfl

theorem wireId_inj {c d : Cipher} (h : c.wireId = d.wireId) : c = d :=
  Option.some.inj (by rw [← ofWireId_wireId c, h, ofWireId_wireId])

theorem readAlgos_entry (n : Nat) (p : Cipher × Nat) (hp : p.2 < 2 ^ 32) (rest : Bytes) (acc : Algos) :
    readAlgos (n + 1) (encAlgo p ++ rest) acc = readAlgos n rest { acc with speeds := acc.speeds ++ [p] } := by
  obtain ⟨c, s⟩ := p
  simp only at hp
  have h4 : take? 4 (Bytes.ofBE 4 s ++ rest) = some (Bytes.ofBE 4 s, rest) := take?_append 4 _ _ (Bytes.ofBE_length 4 s)
  have hv : Bytes.beVal (Bytes.ofBE 4 s) = s := by
    rw [Bytes.beVal_ofBE]; exact Nat.mod_eq_of_lt (by omega)
  simp only [readAlgos, encAlgo, List.cons_append, readU8, Option.bind_eq_bind, Option.bind_some, h4,
    wireId_ne_zero, if_false, ofWireId_wireId, hv]

theorem readAlgos_list (l : List (Cipher × Nat)) (hl : ∀ p ∈ l, p.2 < 2 ^ 32) (rest : Bytes) (acc : Algos) :
    readAlgos l.length (l.flatMap encAlgo ++ rest) acc = some ({ acc with speeds := acc.speeds ++ l }, rest) := by
  induction l generalizing acc with
  | nil => simp [readAlgos]
  | cons p l ih =>
    simp only [List.flatMap_cons, List.length_cons, List.append_assoc]
    rw [readAlgos_entry _ p (hl p (List.mem_cons_self)), ih (fun q hq => hl q (List.mem_cons_of_mem _ hq))]
    simp

theorem readAlgos_flag (n : Nat) (rest : Bytes) (acc : Algos) :
    readAlgos (n + 1) (0 :: F32_INFINITY ++ rest) acc = readAlgos n rest { acc with allowUnencrypted := true } := by
  have h4 : take? 4 (F32_INFINITY ++ rest) = some (F32_INFINITY, rest) := take?_append 4 _ _ rfl
  simp only [readAlgos, List.cons_append, readU8, Option.bind_eq_bind, Option.bind_some, h4, if_true]

theorem readAlgos_body (a : Algos) (hs : ∀ p ∈ a.speeds, p.2 < 2 ^ 32) (rest : Bytes) :
    readAlgos ((algosBody a).length / 5) (algosBody a ++ rest) { speeds := [], allowUnencrypted := false } = some (a, rest) := by
  rw [algosBody_length, algosBody_eq]
  obtain ⟨sp, u⟩ := a
  cases u
  · have e : (0 + 5 * sp.length) / 5 = sp.length := by omega
    simp only [Bool.false_eq_true, if_false, List.nil_append, e]
    rw [readAlgos_list sp hs]
    simp
  · have e : (5 + 5 * sp.length) / 5 = sp.length + 1 := by omega
    simp only [if_true, e, List.append_assoc]
    rw [readAlgos_flag, readAlgos_list sp hs]
    simp

theorem readAlgos_suffix : ∀ (n : Nat) (r : Bytes) (acc a : Algos) (r' : Bytes),
    readAlgos n r acc = some (a, r') → ∃ pre, r = pre ++ r' := by
  intro n
  induction n with
  | zero =>
    intro r acc a r' h
    cases h
    exact ⟨[], rfl⟩
  | succ n ih =>
    intro r acc a r' h
    simp only [readAlgos, Option.bind_eq_bind, Option.bind_eq_some_iff] at h
    obtain ⟨⟨id, r1⟩, h1, ⟨sp, r2⟩, h2, h⟩ := h
    dsimp only at h2 h
    obtain ⟨pre, hp⟩ := ih _ _ _ _ h
    exact ⟨id :: (sp ++ pre), by rw [readU8_some h1, (take?_some h2).1, hp, List.cons_append, List.append_assoc]⟩

/-- a reader's result stored by `g`; a failed read is a parse error -/
def parseWith {α : Type} (o : Option (α × Bytes)) (g : α → Fields) : Except InitErr (Bytes × Fields) :=
  match o with
  | none => .error .parse
  | some (x, r) => .ok (r, g x)

/-- what the field loop does behind a part header with tag `field` (not END) and length field `len`: the handler of the part
    returns the rest of the input and the new fields -/
def fieldStep (field len : Nat) (r : Bytes) (acc : Fields) : Except InitErr (Bytes × Fields) :=
  if field = Generated.PART_STAGE then
    if len ≠ 1 then .error .cryptoInit else parseWith (readU8 r) fun s => { acc with stage := some s }
  else if field = Generated.PART_SALTED_NODE_ID_HASH then
    if len ≠ Generated.SALTED_NODE_ID_HASH_LEN then .error .cryptoInit
    else parseWith (take? Generated.SALTED_NODE_ID_HASH_LEN r) fun h => { acc with hash := some h }
  else if field = Generated.PART_ECDH_PUBLIC_KEY then parseWith (take? len r) fun k => { acc with ecdh := some k }
  else if field = Generated.PART_PAYLOAD then parseWith (take? len r) fun p => { acc with payload := some p }
  else if field = Generated.PART_ALGORITHMS then
    parseWith (readAlgos (len / 5) r { speeds := [], allowUnencrypted := false }) fun a => { acc with algos := some a }
  else parseWith (take? len r) fun _ => acc

theorem parseWith_bind {α β : Type} (o : Option (α × Bytes)) (g : α → Fields) (k : Bytes × Fields → Except InitErr β) :
    parseWith o g >>= k = match o with
      | none => .error .parse
      | some (x, r) => k (r, g x) := by
  cases o <;> rfl

theorem error_bind {ε α β : Type} (e : ε) (k : α → Except ε β) : (Except.error e : Except ε α) >>= k = .error e := rfl

theorem readFields_tlv :
    IsTlv Generated.PART_END fieldStep (fun a r => .ok (a, r)) Except.error InitErr.parse readFields := by
  intro f r acc
  rw [readFields, tlvIter]
  rcases readU8 r with _ | ⟨field, r1⟩
  · rfl
  dsimp only
  by_cases h0 : field = Generated.PART_END
  · rw [if_pos h0, if_pos h0]
  rw [if_neg h0, if_neg h0]
  rcases readU16 r1 with _ | ⟨len, r2⟩
  · rfl
  -- both sides are the handler's result bound to the rest of the loop; on the left the continuation stands inside the handlers'
  -- `if`s and `match`es, so it is pushed inside on the right and the readers' results are split
  refine (?_ : _ = fieldStep field len r2 acc >>= fun x => readFields f x.1 x.2).trans ?_
  · simp only [fieldStep, ite_bind, parseWith_bind, error_bind]
    cases readU8 r2 <;> cases take? len r2 <;> cases take? Generated.SALTED_NODE_ID_HASH_LEN r2 <;>
      cases readAlgos (len / 5) r2 { speeds := [], allowUnencrypted := false } <;> rfl
  · cases hs : fieldStep field len r2 acc <;> simp only [hs] <;> rfl

/-- the byte-string fields collected so far are no longer than `B` -/
def Within (B : Nat) (f : Fields) : Prop :=
  (∀ x, f.hash = some x → x.length ≤ B) ∧ (∀ x, f.ecdh = some x → x.length ≤ B) ∧ (∀ x, f.payload = some x → x.length ≤ B)

/-- what every handler guarantees: it fails only with `Parse` or the recoverable `CryptoInit`; otherwise it hands back a suffix of
    its input `r`, and a byte string it stores is no longer than `r` -/
def StepOK (r : Bytes) (acc : Fields) : Except InitErr (Bytes × Fields) → Prop
  | .error e => e = .parse ∨ e = .cryptoInit
  | .ok (r', acc') => (∃ pre, r = pre ++ r') ∧ ∀ B, r.length ≤ B → Within B acc → Within B acc'

theorem parseWith_ok {α : Type} {r : Bytes} {acc : Fields} {o : Option (α × Bytes)} {g : α → Fields}
    (h : ∀ x r', o = some (x, r') → (∃ pre, r = pre ++ r') ∧ ∀ B, r.length ≤ B → Within B acc → Within B (g x)) :
    StepOK r acc (parseWith o g) := by
  cases o with
  | none => exact Or.inl rfl
  | some p => exact h p.1 p.2 rfl

theorem take?_le {n : Nat} {r x r' : Bytes} (h : take? n r = some (x, r')) : (∃ pre, r = pre ++ r') ∧ x.length ≤ r.length := by
  have e := (take?_some h).1
  exact ⟨⟨x, e⟩, by rw [e, List.length_append]; omega⟩

theorem fieldStep_ok (field len : Nat) (r : Bytes) (acc : Fields) : StepOK r acc (fieldStep field len r acc) := by
  -- a wrong length field is `CryptoInit`; then one case per tag
  refine ite_elim (StepOK r acc) (ite_elim _ (Or.inr rfl) ?stage) (ite_elim _ (ite_elim _ (Or.inr rfl) ?hash)
    (ite_elim _ ?ecdh (ite_elim _ ?payload (ite_elim _ ?algos ?unknown))))
  case stage => exact parseWith_ok fun s r' h => ⟨⟨[s], readU8_some h⟩, fun B _ ha => ha⟩
  case hash =>
    exact parseWith_ok fun x r' h => ⟨(take?_le h).1, fun B hB ha =>
      ⟨fun y hy => by cases hy; have := (take?_le h).2; omega, ha.2⟩⟩
  case ecdh =>
    exact parseWith_ok fun x r' h => ⟨(take?_le h).1, fun B hB ha =>
      ⟨ha.1, fun y hy => by cases hy; have := (take?_le h).2; omega, ha.2.2⟩⟩
  case payload =>
    exact parseWith_ok fun x r' h => ⟨(take?_le h).1, fun B hB ha =>
      ⟨ha.1, ha.2.1, fun y hy => by cases hy; have := (take?_le h).2; omega⟩⟩
  case algos => exact parseWith_ok fun a r' h => ⟨readAlgos_suffix _ _ _ _ _ h, fun B _ ha => ha⟩
  case unknown => exact parseWith_ok fun x r' h => ⟨(take?_le h).1, fun B _ ha => ha⟩

theorem readFields_spec : ∀ (fuel : Nat) (r : Bytes) (acc : Fields),
    (∀ e, readFields fuel r acc = .error e → e = .parse ∨ e = .cryptoInit) ∧
    ∀ f r', readFields fuel r acc = .ok (f, r') → (∃ pre, r = pre ++ r') ∧ ∀ B, r.length ≤ B → Within B acc → Within B f := by
  intro fuel
  induction fuel with
  | zero => intro r acc; exact ⟨fun e h => by cases h; exact .inl rfl, fun f r' h => nomatch h⟩
  | succ n ih =>
    intro r acc
    rcases readFields_tlv.iter r acc with ⟨e', he, hr⟩ | ⟨r1, e, hr⟩ | ⟨t, n1, n2, r2, r3, acc', e, hs, hr⟩ <;> rw [hr]
    · refine ⟨fun e h => ?_, fun f r' h => nomatch h⟩
      cases h
      rcases he with rfl | ⟨t, len, r2, he⟩
      · exact .inl rfl
      · have := fieldStep_ok t len r2 acc
        rwa [he] at this
    · exact ⟨fun e h => (nomatch h), fun f r' h => by cases h; exact ⟨⟨[_], e⟩, fun B _ ha => ha⟩⟩
    · refine ⟨(ih _ _).1, fun f r' h => ?_⟩
      have hk := fieldStep_ok t (n1 * 256 + n2) r2 acc
      rw [hs] at hk
      obtain ⟨⟨p, hp⟩, hw⟩ := hk
      obtain ⟨⟨q, hq⟩, hw'⟩ := (ih _ _).2 _ _ h
      have l := congrArg List.length hp
      rw [List.length_append] at l
      subst e
      simp only [List.length_cons]
      exact ⟨⟨t :: n1 :: n2 :: (p ++ q), by rw [hp, hq]; simp⟩, fun B hB ha => hw' B (by omega) (hw B (by omega) ha)⟩

theorem part_length (tag : Nat) (body : Bytes) : (part tag body).length = body.length + 3 := by
  simp [part, Bytes.ofU16]

theorem step_of_fieldStep {tag : Nat} {body : Bytes} {a b : Fields} (ht : tag ≠ Generated.PART_END)
    (hb : body.length < 65536) (h : ∀ rest, fieldStep tag body.length (body ++ rest) a = .ok (rest, b)) :
    Step readFields (part tag body) a b :=
  readFields_tlv.step ht hb h

theorem fieldStep_le (t n : Nat) (r : Bytes) (a : Fields) (r' : Bytes) (b : Fields) (h : fieldStep t n r a = .ok (r', b)) :
    r'.length ≤ r.length := by
  have hk := fieldStep_ok t n r a
  rw [h] at hk
  obtain ⟨⟨p, rfl⟩, _⟩ := hk
  rw [List.length_append]; omega

theorem step_stage (s : Nat) (acc : Fields) :
    Step readFields (part Generated.PART_STAGE [s]) acc { acc with stage := some s } :=
  step_of_fieldStep (by decide) (by show 1 < 65536; decide) fun _ => rfl

theorem step_hash (h : Bytes) (acc : Fields) (hh : h.length = 20) :
    Step readFields (part Generated.PART_SALTED_NODE_ID_HASH h) acc { acc with hash := some h } :=
  step_of_fieldStep (by decide) (by omega) fun rest => by
    rw [hh]
    show parseWith (take? 20 (h ++ rest)) _ = _
    rw [take?_append 20 h rest hh]; rfl

theorem step_ecdh (e : Bytes) (acc : Fields) (he : e.length < 65536) :
    Step readFields (part Generated.PART_ECDH_PUBLIC_KEY e) acc { acc with ecdh := some e } :=
  step_of_fieldStep (by decide) he fun rest => by
    show parseWith (take? e.length (e ++ rest)) _ = _
    rw [take?_append _ e rest rfl]; rfl

theorem step_payload (p : Bytes) (acc : Fields) (hp : p.length < 65536) :
    Step readFields (part Generated.PART_PAYLOAD p) acc { acc with payload := some p } :=
  step_of_fieldStep (by decide) hp fun rest => by
    show parseWith (take? p.length (p ++ rest)) _ = _
    rw [take?_append _ p rest rfl]; rfl

theorem step_algos (a : Algos) (acc : Fields)
    (hs : ∀ p ∈ a.speeds, p.2 < 2 ^ 32) (hl : 5 * a.speeds.length + 5 < 65536) :
    Step readFields (part Generated.PART_ALGORITHMS (algosBody a)) acc { acc with algos := some a } :=
  step_of_fieldStep (by decide) (by rw [algosBody_length]; split <;> omega) fun rest => by
    show parseWith (readAlgos _ _ _) _ = _
    rw [readAlgos_body a hs rest]; rfl

theorem step_unknown (tag : Nat) (body : Bytes) (ht : 6 ≤ tag) (hb : body.length < 65536) (a : Fields) :
    Step readFields (part tag body) a a :=
  step_of_fieldStep (by simp only [Generated.PART_END]; omega) hb fun rest => by
    have h1 : ¬ tag = Generated.PART_STAGE := by simp only [Generated.PART_STAGE]; omega
    have h2 : ¬ tag = Generated.PART_SALTED_NODE_ID_HASH := by simp only [Generated.PART_SALTED_NODE_ID_HASH]; omega
    have h3 : ¬ tag = Generated.PART_ECDH_PUBLIC_KEY := by simp only [Generated.PART_ECDH_PUBLIC_KEY]; omega
    have h4 : ¬ tag = Generated.PART_PAYLOAD := by simp only [Generated.PART_PAYLOAD]; omega
    have h5 : ¬ tag = Generated.PART_ALGORITHMS := by simp only [Generated.PART_ALGORITHMS]; omega
    rw [fieldStep, if_neg h1, if_neg h2, if_neg h3, if_neg h4, if_neg h5, take?_append _ body rest rfl]
    rfl

def fieldsOf : InitMsg → Fields
  | .ping h e a => { stage := some Generated.STAGE_PING, hash := some h, ecdh := some e, algos := some a }
  | .pong h e a p => { stage := some Generated.STAGE_PONG, hash := some h, ecdh := some e, algos := some a, payload := some p }
  | .peng h p => { stage := some Generated.STAGE_PENG, hash := some h, payload := some p }

theorem signedRegion_eq (m : InitMsg) (salt khash : Bytes) :
    signedRegion m salt khash = salt ++ (khash ++ ((partList m).flatten ++ [Generated.PART_END])) := by
  cases m <;> simp [signedRegion, partList, InitMsg.stage, InitMsg.hash]

theorem chain_parts (m : InitMsg) (hm : msgWF m) : Chain readFields (partList m) {} (fieldsOf m) := by
  cases m with
  | ping h e a =>
    obtain ⟨hh, he, ha1, ha2⟩ := hm
    exact .cons (step_stage _ _) (.cons (step_hash h _ hh) (.cons (step_ecdh e _ he) (.cons (step_algos a _ ha1 ha2) (.nil _))))
  | pong h e a p =>
    obtain ⟨hh, he, ⟨ha1, ha2⟩, hp⟩ := hm
    exact .cons (step_stage _ _) (.cons (step_hash h _ hh) (.cons (step_ecdh e _ he) (.cons (step_algos a _ ha1 ha2)
      (.cons (step_payload p _ hp) (.nil _)))))
  | peng h p =>
    obtain ⟨hh, hp⟩ := hm
    exact .cons (step_stage _ _) (.cons (step_hash h _ hh) (.cons (step_payload p _ hp) (.nil _)))

theorem readFields_parts (m : InitMsg) (hm : msgWF m) (rest : Bytes) :
    readFields (((partList m).flatten ++ Generated.PART_END :: rest).length + 1) ((partList m).flatten ++ Generated.PART_END :: rest) {}
      = .ok (fieldsOf m, rest) :=
  readFields_tlv.run fieldStep_le (chain_parts m hm) rest _ (Nat.le_refl _)

/-- the last stage of `read_from`: building the message from the collected fields -/
def assemble (f : Fields) (pk : Bytes) : Except InitErr (InitMsg × Bytes) :=
  match f.stage, f.hash with
  | none, _ => .error .cryptoInit
  | some _, none => .error .cryptoInit
  | some stage, some hsh =>
    if stage = Generated.STAGE_PING then
      match f.ecdh, f.algos with
      | some e, some a => .ok (.ping hsh e a, pk)
      | _, _ => .error .cryptoInit
    else if stage = Generated.STAGE_PONG then
      match f.ecdh, f.algos, f.payload with
      | some e, some a, some p => .ok (.pong hsh e a p, pk)
      | _, _, _ => .error .cryptoInit
    else if stage = Generated.STAGE_PENG then
      match f.payload with
      | some p => .ok (.peng hsh p, pk)
      | none => .error .cryptoInit
    else .error .cryptoInit

theorem assemble_fieldsOf (m : InitMsg) (pk : Bytes) : assemble (fieldsOf m) pk = .ok (m, pk) := by
  cases m <;> simp [assemble, fieldsOf, Generated.STAGE_PING, Generated.STAGE_PONG, Generated.STAGE_PENG]

theorem assemble_cases (f : Fields) (pk : Bytes) :
    assemble f pk = .error .cryptoInit ∨ ∃ m, assemble f pk = .ok (m, pk) := by
  unfold assemble
  -- every leaf of the case tree is the error or a message with the key `pk`
  repeat' split
  all_goals first
    | exact .inl rfl
    | exact .inr ⟨_, rfl⟩

theorem assemble_err {f : Fields} {pk : Bytes} {e : InitErr} (h : assemble f pk = .error e) : e = .cryptoInit := by
  rcases assemble_cases f pk with e' | ⟨_, e'⟩ <;> rw [e'] at h <;> cases h
  rfl

theorem assemble_key {f : Fields} {pk k : Bytes} {m : InitMsg} (h : assemble f pk = .ok (m, k)) : k = pk := by
  rcases assemble_cases f pk with e' | ⟨_, e'⟩ <;> rw [e'] at h <;> cases h
  rfl

/-- `read_from` with its last stage named -/
theorem readFrom_eq (env : CryptoEnv) (buffer : Bytes) (trusted : List Bytes) :
    readFrom env buffer trusted =
      match take? 4 buffer with
      | none => .error .parse
      | some (salt, r1) =>
      match take? 4 r1 with
      | none => .error .parse
      | some (khash, r2) =>
      match trusted.find? (fun tk => env.keyHash tk salt = khash) with
      | none => .error .crypto
      | some pk =>
      match readFields (r2.length + 1) r2 {} with
      | .error e => .error e
      | .ok (f, r3) =>
        match readU8 r3 with
        | none => .error .parse
        | some (siglen, r4) =>
        match take? siglen r4 with
        | none => .error .parse
        | some (sig, _) =>
          if !env.sigVerify pk (buffer.take (buffer.length - r3.length)) sig then .error .crypto else assemble f pk := rfl

/-- `read_from` either fails with `Parse`, `Crypto` or `CryptoInit`, or it has read salt, key hash, fields and a verifying
    signature and ends in `assemble` -/
theorem readFrom_cases (env : CryptoEnv) (w : Bytes) (T : List Bytes) :
    (∃ e, readFrom env w T = .error e ∧ (e = .parse ∨ e = .crypto ∨ e = .cryptoInit)) ∨
    ∃ salt r1 khash r2 pk f r3 siglen r4 sig rest, take? 4 w = some (salt, r1) ∧ take? 4 r1 = some (khash, r2) ∧
      T.find? (fun tk => env.keyHash tk salt = khash) = some pk ∧ readFields (r2.length + 1) r2 {} = .ok (f, r3) ∧
      readU8 r3 = some (siglen, r4) ∧ take? siglen r4 = some (sig, rest) ∧
      env.sigVerify pk (w.take (w.length - r3.length)) sig = true ∧ readFrom env w T = assemble f pk := by
  rw [readFrom_eq]
  rcases h1 : take? 4 w with _ | ⟨salt, r1⟩
  · exact .inl ⟨_, rfl, .inl rfl⟩
  dsimp only
  rcases h2 : take? 4 r1 with _ | ⟨khash, r2⟩
  · exact .inl ⟨_, rfl, .inl rfl⟩
  dsimp only
  rcases hf : T.find? (fun tk => env.keyHash tk salt = khash) with _ | pk
  · exact .inl ⟨_, rfl, .inr (.inl rfl)⟩
  dsimp only
  rcases h3 : readFields (r2.length + 1) r2 {} with e | ⟨f, r3⟩
  · exact .inl ⟨e, rfl, ((readFields_spec _ _ _).1 _ h3).imp_right .inr⟩
  dsimp only
  rcases h4 : readU8 r3 with _ | ⟨siglen, r4⟩
  · exact .inl ⟨_, rfl, .inl rfl⟩
  dsimp only
  rcases h5 : take? siglen r4 with _ | ⟨sig, rest⟩
  · exact .inl ⟨_, rfl, .inl rfl⟩
  dsimp only
  by_cases hv : env.sigVerify pk (w.take (w.length - r3.length)) sig = true
  · exact .inr ⟨salt, r1, khash, r2, pk, f, r3, siglen, r4, sig, rest, rfl, h2, hf, h3, h4, h5, hv, by simp only [hv]; rfl⟩
  · exact .inl ⟨.crypto, by simp only [hv]; rfl, .inr (.inl rfl)⟩

theorem readFrom_ok {env : CryptoEnv} {w : Bytes} {T : List Bytes} {m : InitMsg} {k : Bytes}
    (h : readFrom env w T = .ok (m, k)) :
    ∃ salt r1 khash r2 f r3 siglen r4 sig rest, take? 4 w = some (salt, r1) ∧ take? 4 r1 = some (khash, r2) ∧
      T.find? (fun tk => env.keyHash tk salt = khash) = some k ∧ readFields (r2.length + 1) r2 {} = .ok (f, r3) ∧
      readU8 r3 = some (siglen, r4) ∧ take? siglen r4 = some (sig, rest) ∧
      env.sigVerify k (w.take (w.length - r3.length)) sig = true ∧ assemble f k = .ok (m, k) := by
  rcases readFrom_cases env w T with ⟨e, he, _⟩ | ⟨salt, r1, khash, r2, pk, f, r3, siglen, r4, sig, rest, h1, h2, hf, h3, h4, h5, hv, hr⟩
  · rw [he] at h; cases h
  · rw [hr] at h
    cases assemble_key h
    exact ⟨salt, r1, khash, r2, f, r3, siglen, r4, sig, rest, h1, h2, hf, h3, h4, h5, hv, h⟩

/-- the frame of `read_from` around the field loop (salt, key hash, trusted-key lookup, signature), for any chain of parts -/
theorem readFrom_chain (env : CryptoEnv) (salt kh sig tail k : Bytes) (T : List Bytes) (ps : List Bytes) (f : Fields)
    (hsalt : salt.length = 4) (hkh : kh.length = 4) (hsig : sig.length < 256)
    (hk : T.find? (fun tk => env.keyHash tk salt = kh) = some k) (hc : Chain readFields ps {} f)
    (hv : env.sigVerify k (salt ++ (kh ++ (ps.flatten ++ [Generated.PART_END]))) sig = true) :
    readFrom env (salt ++ (kh ++ (ps.flatten ++ [Generated.PART_END])) ++ [sig.length % 256] ++ sig ++ tail) T = assemble f k := by
  have eS : ∀ X : Bytes, salt ++ (kh ++ (ps.flatten ++ [Generated.PART_END])) ++ X
      = salt ++ (kh ++ (ps.flatten ++ Generated.PART_END :: X)) := by
    simp
  rw [show salt ++ (kh ++ (ps.flatten ++ [Generated.PART_END])) ++ [sig.length % 256] ++ sig ++ tail =
      salt ++ (kh ++ (ps.flatten ++ [Generated.PART_END])) ++ sig.length :: (sig ++ tail) by simp [Nat.mod_eq_of_lt hsig],
    readFrom_eq, eS, take?_append 4 salt _ hsalt]
  simp only [take?_append 4 kh _ hkh, hk, readFields_tlv.run fieldStep_le hc _ _ (Nat.le_refl _), readU8,
    take?_append _ sig tail rfl]
  rw [← eS, List.length_append, Nat.add_sub_cancel, List.take_left' rfl, hv]
  rfl

/-- the signed region determines the message (the field loop and `assemble` read it back from the parts), the salt and the key hash -/
theorem signedRegion_inj {m m' : InitMsg} {salt kh salt' kh' : Bytes} (hm : msgWF m) (hm' : msgWF m')
    (hs : salt.length = 4) (hk : kh.length = 4) (hs' : salt'.length = 4) (hk' : kh'.length = 4)
    (h : signedRegion m salt kh = signedRegion m' salt' kh') : m = m' ∧ salt = salt' ∧ kh = kh' := by
  rw [signedRegion_eq, signedRegion_eq] at h
  obtain ⟨e1, h1⟩ := List.append_inj h (by rw [hs, hs'])
  obtain ⟨e2, h2⟩ := List.append_inj h1 (by rw [hk, hk'])
  refine ⟨?_, e1, e2⟩
  have r1 := readFields_parts m hm []
  have r2 := readFields_parts m' hm' []
  rw [h2] at r1
  rw [r1] at r2
  simp only [Except.ok.injEq, Prod.mk.injEq, and_true] at r2
  have a1 := assemble_fieldsOf m []
  have a2 := assemble_fieldsOf m' []
  rw [r2, a2] at a1
  simp only [Except.ok.injEq, Prod.mk.injEq, and_true] at a1
  exact a1.symm

/-- a window that starts with the signed region of a well-formed message `m'` is read as `m'` or not at all -/
theorem readFrom_signed_inv (env : CryptoEnv) (m' : InitMsg) (salt kh tail : Bytes) (T : List Bytes) (m : InitMsg) (k : Bytes)
    (hm : msgWF m') (hsalt : salt.length = 4) (hkh : kh.length = 4)
    (h : readFrom env (signedRegion m' salt kh ++ tail) T = .ok (m, k)) : m = m' := by
  have e0 : signedRegion m' salt kh ++ tail = salt ++ (kh ++ ((partList m').flatten ++ Generated.PART_END :: tail)) := by
    rw [signedRegion_eq]; simp
  have e1 : take? 4 (salt ++ (kh ++ ((partList m').flatten ++ Generated.PART_END :: tail))) =
      some (salt, kh ++ ((partList m').flatten ++ Generated.PART_END :: tail)) := take?_append 4 _ _ hsalt
  have e2 : take? 4 (kh ++ ((partList m').flatten ++ Generated.PART_END :: tail)) =
      some (kh, (partList m').flatten ++ Generated.PART_END :: tail) := take?_append 4 _ _ hkh
  have e3 := readFields_parts m' hm tail
  rw [e0] at h
  obtain ⟨_, _, _, _, f, r3, _, _, _, _, h1, h2, _, h3, _, _, _, ha⟩ := readFrom_ok h
  cases e1.symm.trans h1
  cases e2.symm.trans h2
  cases e3.symm.trans h3
  rw [assemble_fieldsOf] at ha
  cases ha
  rfl

end VpnCloud.Proofs.InitMsgLemmas
