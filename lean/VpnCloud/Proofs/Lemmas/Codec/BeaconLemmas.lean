import VpnCloud.Spec.C17
import VpnCloud.Proofs.C18
/-
  Helper lemmas for C17 (beacon text codec): `mask` as the pointwise xor with the key stream, the seed byte, the
  address readers, `findSub`, and the scanning loop of `decode` as a recursion on the rest of the text (`run`).
-/
namespace VpnCloud.Proofs.C17

/-- hypotheses on the hash parameter: it returns proper bytes -/
structure EnvWF (env : BeaconEnv) : Prop where
  ks_wf : ∀ t s i, Bytes.WF (env.ks t s i) ∧ (env.ks t s i).length = 64
  h0_lt : ∀ d, env.h0 d < 256

end VpnCloud.Proofs.C17

namespace VpnCloud.Proofs.BeaconLemmas
open VpnCloud.Beacon VpnCloud.Codec VpnCloud.Base62 VpnCloud.Spec.C17 VpnCloud.Proofs.C17
open VpnCloud.Proofs.Base62Lemmas (natText dlz_id)

theorem xor_cancel (a b : Nat) : (a ^^^ b) ^^^ b = a := by
  rw [Nat.xor_assoc, Nat.xor_self, Nat.xor_zero]

theorem maskFrom_nil (env : BeaconEnv) (t s i p : Nat) : maskFrom env t s [] i p = [] := by
  simp only [maskFrom]

theorem maskFrom_cons (env : BeaconEnv) (t s b : Nat) (r : Bytes) (i p : Nat) :
    maskFrom env t s (b :: r) i p =
      (b ^^^ (env.ks t s i).getD p 0) ::
        (if p + 1 = 16 then maskFrom env t s r ((i + 1) % 256) 0 else maskFrom env t s r i (p + 1)) := by
  simp only [maskFrom]

/-! ## the wrapped block counter: closed form of the key stream

  `mask_with_keystream` advances its block counter with `iter = iter.wrapping_add(1)`; the block counter of the
  model is a `u8` that wraps: the byte at index `n` of the data is masked with byte `n % 16` of key stream block
  `(n / 16) % 256`, whatever the length of the data. -/

def ksByte (env : BeaconEnv) (t s n : Nat) : Nat := (env.ks t s ((n / 16) % 256)).getD (n % 16) 0

theorem ksByte_block (env : BeaconEnv) (t s i p : Nat) (hp : p < 16) :
    ksByte env t s (16 * i + p) = (env.ks t s (i % 256)).getD p 0 := by
  unfold ksByte
  rw [show (16 * i + p) / 16 = i by omega, show (16 * i + p) % 16 = p by omega]

theorem ksByte_period_mul (env : BeaconEnv) (t s n k : Nat) : ksByte env t s (n + 4096 * k) = ksByte env t s n := by
  unfold ksByte
  rw [show (n + 4096 * k) / 16 % 256 = n / 16 % 256 by omega, show (n + 4096 * k) % 16 = n % 16 by omega]

/-- the loop of the code (block counter `iter`, position `pos` inside the block) xors the byte at index `j` with key
    stream byte `n + j`, for any `n` congruent to `16 * iter + pos` modulo 4096 -/
theorem maskFrom_eq_mapIdx (env : BeaconEnv) (t s : Nat) (d : Bytes) :
    ∀ i p n, i < 256 → p < 16 → n % 4096 = 16 * i + p →
      maskFrom env t s d i p = d.mapIdx fun j b => b ^^^ ksByte env t s (n + j) := by
  induction d with
  | nil => intro i p n _ _ _; rw [maskFrom_nil]; rfl
  | cons b r ih =>
    intro i p n hi hp hn
    rw [maskFrom_cons, List.mapIdx_cons]
    have e1 : n / 16 % 256 = i := by omega
    have e2 : n % 16 = p := by omega
    have e3 : (fun j b => b ^^^ ksByte env t s (n + (j + 1))) = fun j b => b ^^^ ksByte env t s (n + 1 + j) :=
      funext fun j => by rw [Nat.add_right_comm, Nat.add_assoc]
    rw [e3]
    congr 1
    · unfold ksByte; rw [Nat.add_zero, e1, e2]
    · split
      · exact ih _ 0 (n + 1) (Nat.mod_lt _ (by omega)) (by omega) (by omega)
      · exact ih i (p + 1) (n + 1) hi (by omega) (by omega)

/-- `mask_with_keystream` is the pointwise xor with the key stream; length, single bytes, appending and the round
    trip are the library's facts about `List.mapIdx` -/
theorem mask_eq_mapIdx (env : BeaconEnv) (d : Bytes) (t s : Nat) :
    mask env d t s = d.mapIdx fun j b => b ^^^ ksByte env t s j := by
  rw [mask, maskFrom_eq_mapIdx env t s d 0 0 0 (by omega) (by omega) rfl]
  simp only [Nat.zero_add]

theorem mask_mask (env : BeaconEnv) (d : Bytes) (t s : Nat) : mask env (mask env d t s) t s = d := by
  rw [mask_eq_mapIdx, mask_eq_mapIdx, List.mapIdx_mapIdx, List.mapIdx_eq_iff]
  intro i
  cases d[i]? with
  | none => rfl
  | some b => exact congrArg some (xor_cancel b _).symm

theorem mask_bytes (env : BeaconEnv) (h : EnvWF env) (d : Bytes) (hd : Bytes.WF d) (t s : Nat) :
    Bytes.WF (mask env d t s) := by
  rw [mask_eq_mapIdx]
  intro b hb
  obtain ⟨i, hi, rfl⟩ := List.mem_mapIdx.mp hb
  exact Nat.xor_lt_two_pow (n := 8) (hd _ (List.getElem_mem hi)) (Bytes.getD_lt (h.ks_wf _ _ _).1 _)

theorem encryptData_eq (env : BeaconEnv) (d : Bytes) :
    encryptData env d = mask env d TYPE_DATA (env.h0 d) ++ [env.h0 d ^^^ (env.ks TYPE_SEED 0 0).getD 0 0] := rfl

theorem encryptData_length (env : BeaconEnv) (d : Bytes) : (encryptData env d).length = d.length + 1 := by
  rw [encryptData_eq, List.length_append, mask_eq_mapIdx, List.length_mapIdx]; rfl

theorem encryptData_wf (env : BeaconEnv) (h : EnvWF env) (d : Bytes) (hd : Bytes.WF d) :
    Bytes.WF (encryptData env d) := by
  rw [encryptData_eq, Bytes.wf_append]
  refine ⟨mask_bytes env h d hd _ _, ?_⟩
  rw [Bytes.wf_cons]
  exact ⟨Nat.xor_lt_two_pow (n := 8) (h.h0_lt d) (Bytes.getD_lt (h.ks_wf _ _ _).1 0), Bytes.wf_nil⟩

theorem decrypt_encrypt (env : BeaconEnv) (d : Bytes) : decryptData env (encryptData env d) = some d := by
  rw [encryptData_eq]
  unfold decryptData
  simp only [List.getLast?_append, List.getLast?_singleton, Option.some_or, List.dropLast_concat, xor_cancel]
  simp only [mask_mask, if_true]

theorem tooOld_false_iff (now thn ttl : Nat) :
    tooOld now thn ttl = false ↔ (now + 65536 - thn) % 65536 ≤ ttl ∨ (thn + 65536 - now) % 65536 ≤ ttl := by
  unfold tooOld
  by_cases h1 : (now + 65536 - thn) % 65536 ≤ ttl <;> by_cases h2 : (thn + 65536 - now) % 65536 ≤ ttl <;>
    simp [h1, h2] <;> omega

theorem tooOld_eq (now thn ttl : Nat) (ht : thn < 65536) :
    tooOld now thn ttl = !ageOk now thn (some ttl) := by
  have h := tooOld_false_iff now thn ttl
  rw [ageOk, Nat.mod_eq_of_lt ht]
  cases hc : tooOld now thn ttl <;> rw [hc] at h <;> simp at h ⊢ <;> omega

theorem ofU16_wf (v : Nat) : Bytes.WF (Bytes.ofU16 v) := by
  simp only [Bytes.ofU16, Bytes.wf_cons, Bytes.wf_nil, and_true]
  omega

theorem sockBytes_wf (a : SockAddr) (h : sockWF a = true) : Bytes.WF (sockBytes a) := by
  cases a with
  | v4 ip port =>
    simp only [sockWF, Bool.and_eq_true, decide_eq_true_eq] at h
    simp only [sockBytes, Bytes.wf_append]; exact ⟨h.1.2, ofU16_wf _⟩
  | v6 ip port =>
    simp only [sockWF, Bool.and_eq_true, decide_eq_true_eq] at h
    simp only [sockBytes, Bytes.wf_append]; exact ⟨h.1.2, ofU16_wf _⟩

theorem flatMap_sockBytes_wf (l : List SockAddr) (h : ∀ a ∈ l, sockWF a = true) :
    Bytes.WF (l.flatMap sockBytes) := by
  intro b hb
  rw [List.mem_flatMap] at hb
  obtain ⟨a, ha, hb⟩ := hb
  exact sockBytes_wf a (h a ha) b hb

theorem plainBody_eq (peers : List SockAddr) (hour : Nat) :
    plainBody peers hour = (hour / 256) % 256 :: hour % 256 :: (peers.filter isV4).length % 256 ::
      ((peers.filter isV4).flatMap sockBytes ++ (peers.filter (fun a => !isV4 a)).flatMap sockBytes) := by
  simp only [plainBody, Bytes.ofU16, List.cons_append, List.nil_append]

theorem plainBody_wf (peers : List SockAddr) (hour : Nat) (hp : ∀ a ∈ peers, sockWF a = true) :
    Bytes.WF (plainBody peers hour) := by
  rw [plainBody_eq]
  simp only [Bytes.wf_cons, Bytes.wf_append]
  refine ⟨by omega, by omega, by omega, ?_, ?_⟩
  · exact flatMap_sockBytes_wf _ (fun a ha => hp a (List.mem_filter.mp ha).1)
  · exact flatMap_sockBytes_wf _ (fun a ha => hp a (List.mem_filter.mp ha).1)

theorem u16_read (v : Nat) (h : v < 65536) : (v / 256) % 256 * 256 + v % 256 = v := by omega

theorem read_addr (ip : Bytes) (port : Nat) (hport : port < 65536) (tail : Bytes) :
    (ip ++ Bytes.ofU16 port ++ tail).take ip.length = ip ∧
    (ip ++ Bytes.ofU16 port ++ tail).getD ip.length 0 * 256 +
      (ip ++ Bytes.ofU16 port ++ tail).getD (ip.length + 1) 0 = port ∧
    (ip ++ Bytes.ofU16 port ++ tail).drop (ip.length + 2) = tail := by
  rw [List.append_assoc]
  refine ⟨List.take_left, ?_, by rw [← List.drop_drop, List.drop_left]; rfl⟩
  rw [List.getD_eq_getElem?_getD, List.getD_eq_getElem?_getD, List.getElem?_append_right (Nat.le_refl _),
    List.getElem?_append_right (Nat.le_add_right _ _), Nat.sub_self, Nat.add_sub_cancel_left]
  exact u16_read port hport

theorem readV4s_flatMap (l : List SockAddr) (h : ∀ a ∈ l, sockWF a = true ∧ isV4 a = true) (tail : Bytes) :
    readV4s l.length (l.flatMap sockBytes ++ tail) = l := by
  induction l with
  | nil => rfl
  | cons a r ih =>
    have ha := h a List.mem_cons_self
    cases a with
    | v6 ip port => cases ha.2
    | v4 ip port =>
      obtain ⟨⟨⟨hl, _⟩, hport⟩, _⟩ := by simpa only [sockWF, Bool.and_eq_true, decide_eq_true_eq] using ha
      have hr := read_addr ip port hport (r.flatMap sockBytes ++ tail)
      rw [hl] at hr
      rw [List.length_cons, readV4s, List.flatMap_cons, List.append_assoc, sockBytes, hr.1, hr.2.1, hr.2.2,
        ih fun b hb => h b (List.mem_cons_of_mem _ hb)]

theorem readV6s_flatMap (l : List SockAddr) (h : ∀ a ∈ l, sockWF a = true ∧ isV4 a = false) (tail : Bytes) :
    readV6s l.length (l.flatMap sockBytes ++ tail) = l := by
  induction l with
  | nil => rfl
  | cons a r ih =>
    have ha := h a List.mem_cons_self
    cases a with
    | v4 ip port => cases ha.2
    | v6 ip port =>
      obtain ⟨⟨⟨hl, _⟩, hport⟩, _⟩ := by simpa only [sockWF, Bool.and_eq_true, decide_eq_true_eq] using ha
      have hr := read_addr ip port hport (r.flatMap sockBytes ++ tail)
      rw [hl] at hr
      rw [List.length_cons, readV6s, List.flatMap_cons, List.append_assoc, sockBytes, hr.1, hr.2.1, hr.2.2,
        ih fun b hb => h b (List.mem_cons_of_mem _ hb)]

theorem sockBytes_length (a : SockAddr) (h : sockWF a = true) : (sockBytes a).length = if isV4 a then 6 else 18 := by
  cases a <;> simp only [sockWF, Bool.and_eq_true, decide_eq_true_eq] at h <;>
    simp [sockBytes, Bytes.ofU16, h.1.1, isV4]

theorem flatMap_length_const {α : Type} (f : α → Bytes) (k : Nat) (l : List α) (h : ∀ a ∈ l, (f a).length = k) :
    (l.flatMap f).length = l.length * k := by
  induction l with
  | nil => rw [List.flatMap_nil, List.length_nil, List.length_nil, Nat.zero_mul]
  | cons a r ih =>
    rw [List.flatMap_cons, List.length_append, h a List.mem_cons_self, ih fun b hb => h b (List.mem_cons_of_mem _ hb),
      List.length_cons, Nat.succ_mul, Nat.add_comm]

theorem go_succ (needle h : List Char) (i fuel : Nat) :
    findSub.go needle h i (fuel + 1) =
      if needle.isPrefixOf h then some i
      else match h with
        | [] => none
        | _ :: t => findSub.go needle t (i + 1) fuel := by
  rw [findSub.go.eq_def]; rfl

/-- with fuel above the length of `h` the search returns the first position of `h` at which `needle` occurs (counted from `i`),
    or nothing if there is none -/
theorem go_spec (needle : List Char) (fuel : Nat) : ∀ (h : List Char) (i : Nat), h.length + 1 ≤ fuel →
    match findSub.go needle h i fuel with
    | some k => ∃ j, k = i + j ∧ j ≤ h.length ∧ needle.isPrefixOf (h.drop j) = true ∧
        ∀ j', j' < j → needle.isPrefixOf (h.drop j') = false
    | none => ∀ j, j ≤ h.length → needle.isPrefixOf (h.drop j) = false := by
  induction fuel with
  | zero => intro h i hf; omega
  | succ fuel ih =>
    intro h i hf
    rw [go_succ]
    by_cases hp : needle.isPrefixOf h = true
    · rw [if_pos hp]
      exact ⟨0, rfl, Nat.zero_le _, hp, fun j' hj => absurd hj (Nat.not_lt_zero _)⟩
    · rw [if_neg hp]
      have h0 : needle.isPrefixOf (h.drop 0) = false := by simpa only [List.drop_zero, Bool.not_eq_true] using hp
      cases h with
      | nil =>
        intro j hj
        rwa [Nat.le_zero.1 hj]
      | cons x t =>
        have := ih t (i + 1) (by simpa only [List.length_cons, Nat.add_le_add_iff_right] using hf)
        dsimp only
        cases e : findSub.go needle t (i + 1) fuel with
        | some k =>
          rw [e] at this
          obtain ⟨j, hk, hj, hpre, hmin⟩ := this
          refine ⟨j + 1, by omega, Nat.succ_le_succ hj, hpre, fun j' hj' => ?_⟩
          cases j' with
          | zero => exact h0
          | succ m => exact hmin m (by omega)
        | none =>
          rw [e] at this
          intro j hj
          cases j with
          | zero => exact h0
          | succ m => exact this m (Nat.le_of_succ_le_succ hj)

theorem findSub_some {hay needle : List Char} {i : Nat} (h : findSub hay needle = some i) :
    i ≤ hay.length ∧ needle.isPrefixOf (hay.drop i) = true ∧ ∀ j, j < i → needle.isPrefixOf (hay.drop j) = false := by
  have := go_spec needle _ hay 0 (Nat.le_refl _)
  rw [show findSub.go needle hay 0 (hay.length + 1) = some i from h] at this
  obtain ⟨j, hk, hj, hpre, hmin⟩ := this
  rw [Nat.zero_add] at hk
  subst hk
  exact ⟨hj, hpre, hmin⟩

theorem findSub_none' {hay needle : List Char} (h : findSub hay needle = none) :
    ∀ j, j ≤ hay.length → needle.isPrefixOf (hay.drop j) = false := by
  have := go_spec needle _ hay 0 (Nat.le_refl _)
  rwa [show findSub.go needle hay 0 (hay.length + 1) = none from h] at this

theorem findSub_le_of_occ (hay needle : List Char) (i : Nat) (hi : i ≤ hay.length)
    (h : needle.isPrefixOf (hay.drop i) = true) : ∃ k, k ≤ i ∧ findSub hay needle = some k := by
  cases e : findSub hay needle with
  | none => have := findSub_none' e i hi; rw [h] at this; cases this
  | some k =>
    refine ⟨k, Nat.le_of_not_lt fun hlt => ?_, rfl⟩
    have := (findSub_some e).2.2 i hlt; rw [h] at this; cases this

theorem findSub_first (hay needle : List Char) (i : Nat) (hi : i ≤ hay.length)
    (hpre : needle.isPrefixOf (hay.drop i) = true) (hmin : ∀ j, j < i → needle.isPrefixOf (hay.drop j) = false) :
    findSub hay needle = some i := by
  obtain ⟨k, hk, e⟩ := findSub_le_of_occ hay needle i hi hpre
  rcases Nat.lt_or_eq_of_le hk with hlt | rfl
  · have := hmin k hlt; rw [(findSub_some e).2.1] at this; cases this
  · exact e

theorem findSub_absent (hay needle : List Char)
    (h : ∀ j, j ≤ hay.length → needle.isPrefixOf (hay.drop j) = false) : findSub hay needle = none := by
  cases e : findSub hay needle with
  | none => rfl
  | some k =>
    obtain ⟨hk, hpre, _⟩ := findSub_some e
    have := h k hk; rw [hpre] at this; cases this

theorem isPrefixOf_append_self (a b : List Char) : a.isPrefixOf (a ++ b) = true := by
  rw [List.isPrefixOf_iff_prefix]; exact List.prefix_append a b

theorem isPrefixOf_eq_take (n l : List Char) : n.isPrefixOf l = decide (l.take n.length = n) := by
  rw [Bool.eq_iff_iff, List.isPrefixOf_iff_prefix, decide_eq_true_eq, List.prefix_iff_eq_take]
  exact eq_comm

theorem isPrefixOf_drop_append (n l r : List Char) (j : Nat) (h : j + n.length ≤ l.length) :
    n.isPrefixOf ((l ++ r).drop j) = n.isPrefixOf (l.drop j) := by
  rw [isPrefixOf_eq_take, isPrefixOf_eq_take, List.drop_append_of_le_length (by omega),
    List.take_append_of_le_length (by rw [List.length_drop]; omega)]

theorem findSub_end (T E Y : List Char) (hE : ∀ j, j < T.length → E.isPrefixOf ((T ++ E).drop j) = false) :
    findSub (T ++ (E ++ Y)) E = some T.length := by
  apply findSub_first _ _ T.length (by simp only [List.length_append]; omega)
  · rw [List.drop_left]; exact isPrefixOf_append_self _ _
  · intro j hj
    rw [← List.append_assoc, isPrefixOf_drop_append _ _ _ _ (by simp only [List.length_append]; omega)]
    exact hE j hj

/-- the part of `peerlist_decode` behind the seed check -/
def bodyParse (d : Bytes) (ttl : Option Nat) (now : Nat) : List SockAddr :=
  let thn := d.getD 0 0 * 256 + d.getD 1 0
  if (match ttl with | some t => tooOld now thn t | none => false) then [] else
  let v4count := d.getD 2 0
  let rest := d.length - 3
  if v4count * 6 > rest ∨ (rest - v4count * 6) % 18 > 0 then [] else
  readV4s v4count (d.drop 3) ++ readV6s ((rest - v4count * 6) / 18) (d.drop (3 + v4count * 6))

theorem peerlistDecode_eq (env : BeaconEnv) (text : List Char) (ttl : Option Nat) (now : Nat) :
    peerlistDecode env text ttl now =
      match fromBase62 text with
      | .error _ => []
      | .ok data =>
        if data.length < 4 then [] else
        match decryptData env data with
        | none => []
        | some d => bodyParse d ttl now := rfl

theorem bodyParse_plain (peers : List SockAddr) (hour now : Nat) (ttl : Option Nat)
    (hp : ∀ a ∈ peers, sockWF a = true) (h4 : (peers.filter isV4).length ≤ 255) (hh : hour < 65536) :
    bodyParse (plainBody peers hour) ttl now = if ageOk now hour ttl then normPeers peers else [] := by
  have hr : (match ttl with | some t => tooOld now hour t | none => false) = !ageOk now hour ttl := by
    cases ttl with
    | none => rfl
    | some t => exact tooOld_eq now hour t hh
  have hV4 : ∀ a ∈ peers.filter isV4, sockWF a = true ∧ isV4 a = true :=
    fun a ha => ⟨hp a (List.mem_filter.mp ha).1, (List.mem_filter.mp ha).2⟩
  have hV6 : ∀ a ∈ peers.filter (fun a => !isV4 a), sockWF a = true ∧ isV4 a = false :=
    fun a ha => ⟨hp a (List.mem_filter.mp ha).1, by simpa using (List.mem_filter.mp ha).2⟩
  have l4 := flatMap_length_const sockBytes 6 _ fun a ha => by
    rw [sockBytes_length a (hV4 a ha).1, (hV4 a ha).2]; rfl
  have l6 := flatMap_length_const sockBytes 18 _ fun a ha => by
    rw [sockBytes_length a (hV6 a ha).1, (hV6 a ha).2]; rfl
  have r4 := readV4s_flatMap _ hV4 ((peers.filter (fun a => !isV4 a)).flatMap sockBytes)
  have r6 := readV6s_flatMap _ hV6 []
  rw [List.append_nil] at r6
  have c : (peers.filter isV4).length % 256 = (peers.filter isV4).length := Nat.mod_eq_of_lt (by omega)
  rw [plainBody_eq, c]
  unfold normPeers
  generalize peers.filter isV4 = V4 at *
  generalize peers.filter (fun a => !isV4 a) = V6 at *
  generalize V4.flatMap sockBytes = A at *
  generalize V6.flatMap sockBytes = B at *
  unfold bodyParse
  simp only [List.getD_cons_zero, List.getD_cons_succ, u16_read hour hh, List.length_cons, List.length_append,
    List.drop_succ_cons, List.drop_zero, l4, l6]
  have e1 : V4.length * 6 + V6.length * 18 + 1 + 1 + 1 - 3 = V4.length * 6 + V6.length * 18 := by omega
  have e2 : V4.length * 6 + V6.length * 18 - V4.length * 6 = V6.length * 18 := by omega
  have e3 : ¬ (V4.length * 6 > V4.length * 6 + V6.length * 18 ∨ V6.length * 18 % 18 > 0) := by omega
  have e4 : V6.length * 18 / 18 = V6.length := by omega
  have e5 : (hour / 256 % 256 :: hour % 256 :: V4.length :: (A ++ B)).drop (3 + V4.length * 6) = B := by
    rw [show 3 + V4.length * 6 = V4.length * 6 + 1 + 1 + 1 by omega]
    simp only [List.drop_succ_cons]
    rw [← l4]; exact List.drop_left
  simp only [e1, e2, e3, e4, if_false, r4, hr]
  rw [e5, r6]
  cases ageOk now hour ttl <;> rfl

/-- the text of an encoded body, read by a node with any key `env'`: `hz` brings the masked body back from base 62, then that
    node's seed check decides -/
theorem encoded_read (env env' : BeaconEnv) (h : EnvWF env) (peers : List SockAddr) (hour : Nat)
    (hp : ∀ a ∈ peers, sockWF a = true) (hz : (encryptData env (plainBody peers hour)).head? ≠ some 0) :
    ∃ text, peerlistEncode env peers hour = some text ∧ ∀ ttl now, peerlistDecode env' text ttl now =
      match decryptData env' (encryptData env (plainBody peers hour)) with
      | none => []
      | some d => bodyParse d ttl now := by
  obtain ⟨cs, e1, e2⟩ := VpnCloud.Proofs.C18.from_to _ (encryptData_wf env h _ (plainBody_wf peers hour hp))
  rw [dlz_id _ hz] at e2
  refine ⟨cs, e1, fun ttl now => ?_⟩
  have hlen : ¬ (encryptData env (plainBody peers hour)).length < 4 := by
    rw [encryptData_length, plainBody_eq]; simp only [List.length_cons]; omega
  rw [peerlistDecode_eq, e2]
  simp only [hlen, if_false]

theorem encoded_decodes (env : BeaconEnv) (h : EnvWF env) (peers : List SockAddr) (hour now : Nat) (ttl : Option Nat)
    (hp : ∀ a ∈ peers, sockWF a = true) (h4 : (peers.filter isV4).length ≤ 255) (hh : hour < 65536)
    (hz : (encryptData env (plainBody peers hour)).head? ≠ some 0) :
    ∃ text, peerlistEncode env peers hour = some text ∧
      peerlistDecode env text ttl now = if ageOk now hour ttl then normPeers peers else [] := by
  obtain ⟨text, e1, e2⟩ := encoded_read env env h peers hour hp hz
  exact ⟨text, e1, by rw [e2, decrypt_encrypt]; exact bodyParse_plain peers hour now ttl hp h4 hh⟩

/-- the candidate decoder with the text of a known body looked up: a text that contains this body is evaluated
    without decoding the body again -/
theorem pd_lookup (env : BeaconEnv) (h : EnvWF env) (peers : List SockAddr) (hour : Nat)
    (hp : ∀ a ∈ peers, sockWF a = true) (h4 : (peers.filter isV4).length ≤ 255) (hh : hour < 65536)
    (hz : (encryptData env (plainBody peers hour)).head? ≠ some 0) (text : List Char)
    (e : peerlistEncode env peers hour = some text) (ttl : Option Nat) (now : Nat) :
    (peerlistDecode env · ttl now) = fun t =>
      if t = text then (if ageOk now hour ttl then normPeers peers else []) else peerlistDecode env t ttl now := by
  funext t
  by_cases ht : t = text
  · obtain ⟨text', e1, e2⟩ := encoded_decodes env h peers hour now ttl hp h4 hh hz
    rw [e, Option.some.injEq] at e1
    rw [if_pos ht, ht, e1]; exact e2
  · rw [if_neg ht]

/-- the text of an encoded body is the masked body read as one number in base 62 (`toBase62_eq`): on concrete
    peers it is obtained without running `to_base62` -/
theorem peerlistEncode_eq (env : BeaconEnv) (h : EnvWF env) (peers : List SockAddr) (hour : Nat)
    (hp : ∀ a ∈ peers, sockWF a = true) :
    peerlistEncode env peers hour = some (natText (Bytes.beVal (encryptData env (plainBody peers hour)))) :=
  VpnCloud.Proofs.C18.toBase62_eq _ (encryptData_wf env h _ (plainBody_wf peers hour hp))

theorem marker_eq (env : BeaconEnv) (h : EnvWF env) (t : Nat) :
    marker env t = (natText (Bytes.beVal (env.ks t 0 0))).take 5 := by
  rw [marker, VpnCloud.Proofs.C18.toBase62_eq _ (h.ks_wf t 0 0).1]; rfl

theorem encode_eq (env : BeaconEnv) (peers : List SockAddr) (hour : Nat) (body : List Char)
    (e : peerlistEncode env peers hour = some body) :
    encode env peers hour = some (beginMarker env ++ body ++ endMarker env) := by
  unfold encode; rw [e]; rfl

theorem decodeLoop_zero (env : BeaconEnv) (data : List Char) (ttl : Option Nat) (now pos : Nat) :
    decodeLoop env data ttl now 0 pos = [] := rfl

theorem decodeLoop_succ (env : BeaconEnv) (data : List Char) (ttl : Option Nat) (now fuel pos : Nat) :
    decodeLoop env data ttl now (fuel + 1) pos =
      match findSub (data.drop pos) (beginMarker env) with
      | none => []
      | some f =>
        match findSub (data.drop (pos + f + (beginMarker env).length)) (endMarker env) with
        | none => []
        | some g =>
          peerlistDecode env ((data.drop (pos + f + (beginMarker env).length)).take g) ttl now ++
            decodeLoop env data ttl now fuel (pos + f + (beginMarker env).length) := by
  rw [decodeLoop]
  cases findSub (data.drop pos) (beginMarker env) with
  | none => rfl
  | some f =>
    simp only []
    cases findSub (data.drop (pos + f + (beginMarker env).length)) (endMarker env) with
    | none => rfl
    | some g => simp only [Nat.add_sub_cancel_left]

/-- the scanning loop with the two markers and the candidate decoder as parameters.  `decode` on a concrete text is
    evaluated through it, with the markers computed once (by `marker_eq`) and not inside every evaluation. -/
def scan (B E : List Char) (pd : List Char → List SockAddr) (data : List Char) : Nat → Nat → List SockAddr
  | 0, _ => []
  | fuel + 1, pos =>
    match findSub (data.drop pos) B with
    | none => []
    | some f =>
      match findSub (data.drop (pos + f + B.length)) E with
      | none => []
      | some g => pd ((data.drop (pos + f + B.length)).take g) ++ scan B E pd data fuel (pos + f + B.length)

theorem decodeLoop_eq_scan (env : BeaconEnv) (data : List Char) (ttl : Option Nat) (now : Nat) :
    ∀ fuel pos, decodeLoop env data ttl now fuel pos =
      scan (beginMarker env) (endMarker env) (peerlistDecode env · ttl now) data fuel pos := by
  intro fuel
  induction fuel with
  | zero => intro pos; rfl
  | succ n ih =>
    intro pos
    simp only [decodeLoop_succ, scan, ih]

/-- `data` is the sanitised text, evaluated on its own: the kernel shares no work between the many places where the
    loop looks at its text, so a text given as `sanitize …` would be filtered again at each of them -/
theorem decode_eq_scan (env : BeaconEnv) {B E text data : List Char} (hB : beginMarker env = B)
    (hE : endMarker env = E) (hs : sanitize text = data) (ttl : Option Nat) (now : Nat) :
    decode env text ttl now = scan B E (peerlistDecode env · ttl now) data (data.length + 1) 0 := by
  rw [decode, decodeLoop_eq_scan, hB, hE, hs]

/-- the index condition of the slice `data[start_pos..]` -/
theorem begin_in_bounds (data B : List Char) (pos f : Nat) (hpos : pos ≤ data.length)
    (h : findSub (data.drop pos) B = some f) : pos + f + B.length ≤ data.length := by
  obtain ⟨h1, h2, _⟩ := findSub_some h
  have := (List.isPrefixOf_iff_prefix.mp h2).length_le
  rw [List.length_drop, List.length_drop] at this
  rw [List.length_drop] at h1
  omega

def run (env : BeaconEnv) (ttl : Option Nat) (now : Nat) (data : List Char) : List SockAddr :=
  decodeLoop env data ttl now (data.length + 1) 0

theorem decode_eq_run (env : BeaconEnv) (text : List Char) (ttl : Option Nat) (now : Nat) :
    decode env text ttl now = run env ttl now (sanitize text) := rfl

/-- the `while` loop of `decode` ends and looks only at the text behind its position: with a non-empty begin marker
    the position grows in every round, so the fuel of the model (`data.length + 1` rounds) is never used up, and
    the loop at `pos` is the loop started on the rest of the text -/
theorem decodeLoop_eq_run (env : BeaconEnv) (ttl : Option Nat) (now : Nat) (hB : beginMarker env ≠ []) :
    ∀ fuel (data : List Char) pos, pos ≤ data.length → data.length + 1 ≤ fuel + pos →
      decodeLoop env data ttl now fuel pos = run env ttl now (data.drop pos) := by
  have hB1 : 1 ≤ (beginMarker env).length := List.length_pos_iff.mpr hB
  intro fuel
  induction fuel using Nat.strongRecOn with
  | _ fuel ih =>
    intro data pos h1 h2
    cases fuel with
    | zero => omega
    | succ n =>
      unfold run
      rw [decodeLoop_succ, decodeLoop_succ]
      simp only [List.drop_drop, Nat.zero_add, Nat.add_assoc]
      cases hf : findSub (data.drop pos) (beginMarker env) with
      | none => rfl
      | some f =>
        simp only []
        have hb := begin_in_bounds data _ pos f h1 hf
        cases findSub (data.drop (pos + (f + (beginMarker env).length))) (endMarker env) with
        | none => rfl
        | some g =>
          simp only []
          rw [ih n (Nat.lt_succ_self n) data _ (by omega) (by omega),
            ih (data.drop pos).length (by rw [List.length_drop]; omega) (data.drop pos) _
              (by rw [List.length_drop]; omega) (by omega), List.drop_drop]

/-- one round of the loop, with neither fuel nor position -/
theorem run_eq (env : BeaconEnv) (ttl : Option Nat) (now : Nat) (hB : beginMarker env ≠ []) (data : List Char) :
    run env ttl now data =
      match findSub data (beginMarker env) with
      | none => []
      | some f =>
        match findSub (data.drop (f + (beginMarker env).length)) (endMarker env) with
        | none => []
        | some g => peerlistDecode env ((data.drop (f + (beginMarker env).length)).take g) ttl now ++
            run env ttl now (data.drop (f + (beginMarker env).length)) := by
  show decodeLoop env data ttl now (data.length + 1) 0 = _
  rw [decodeLoop_succ, List.drop_zero]
  cases hf : findSub data (beginMarker env) with
  | none => rfl
  | some f =>
    simp only [Nat.zero_add]
    have hb := begin_in_bounds data _ 0 f (Nat.zero_le _) (by rwa [List.drop_zero])
    have hB1 : 1 ≤ (beginMarker env).length := List.length_pos_iff.mpr hB
    rw [decodeLoop_eq_run env ttl now hB _ data _ (by omega) (by omega)]

theorem run_absent (env : BeaconEnv) (ttl : Option Nat) (now : Nat) (data : List Char)
    (h : ∀ j, j ≤ data.length → (beginMarker env).isPrefixOf (data.drop j) = false) : run env ttl now data = [] := by
  unfold run
  rw [decodeLoop_succ, List.drop_zero, findSub_absent _ _ h]

theorem run_first (env : BeaconEnv) (ttl : Option Nat) (now : Nat) (hB : beginMarker env ≠ []) (X T Y : List Char)
    (hE : ∀ j, j < T.length → (endMarker env).isPrefixOf ((T ++ endMarker env).drop j) = false)
    (hf : findSub (X ++ (beginMarker env ++ (T ++ (endMarker env ++ Y)))) (beginMarker env) = some X.length) :
    run env ttl now (X ++ (beginMarker env ++ (T ++ (endMarker env ++ Y)))) =
      peerlistDecode env T ttl now ++ run env ttl now (T ++ (endMarker env ++ Y)) := by
  rw [run_eq env ttl now hB, hf]
  simp only [← List.drop_drop, List.drop_left, findSub_end T _ Y hE, List.take_left]

theorem decode_single (env : BeaconEnv) (body : List Char) (ttl : Option Nat) (now : Nat)
    (hal : ∀ c ∈ beginMarker env ++ body ++ endMarker env, c.isAlphanum = true)
    (hE : ∀ j, j < body.length → (endMarker env).isPrefixOf ((body ++ endMarker env).drop j) = false)
    (hB : ∀ j, j ≤ (body ++ endMarker env).length →
      (beginMarker env).isPrefixOf ((body ++ endMarker env).drop j) = false) :
    decode env (beginMarker env ++ body ++ endMarker env) ttl now = peerlistDecode env body ttl now := by
  have hs : sanitize (beginMarker env ++ body ++ endMarker env) = [] ++ (beginMarker env ++ (body ++ (endMarker env ++ []))) := by
    rw [List.nil_append, List.append_nil, ← List.append_assoc]; exact List.filter_eq_self.mpr hal
  have hB0 : beginMarker env ≠ [] := fun e => by have := hB 0 (Nat.zero_le _); rw [e] at this; cases this
  rw [decode_eq_run, hs, run_first env ttl now hB0 [] body [] hE
    (findSub_first _ _ 0 (Nat.zero_le _) (isPrefixOf_append_self _ _) fun j hj => absurd hj (Nat.not_lt_zero _)),
    List.append_nil, run_absent env ttl now _ hB, List.append_nil]

end VpnCloud.Proofs.BeaconLemmas
