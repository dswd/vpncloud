import VpnCloud.Proofs.Lemmas.Codec.BeaconLemmas
/-
  Helper lemmas for `Proofs/C17More.lean`: characters (alphanumeric = base-62 digit), `sanitize` on
  interleaved text, transfer of `isPrefixOf` between a text and its extensions, the scanning loop of
  `decode` reaching every embedded beacon (`run_reaches`, `all_found`), byte length of `from_base62`;
  the instrumented copy of the decoder (`C17More.Checked`, and `C17More.Old` for the code before the counter
  fix) with its agreement with the model, and when the marker texts have 5 characters.
-/
namespace VpnCloud.Proofs.C17More
open VpnCloud.Beacon VpnCloud.Base62

/-!
  A copy of the model of `decode` / `peerlist_decode` / `decrypt_data` / `mask_with_keystream` in which every
  Rust expression that can panic (slice, index, `expect`, `unwrap`, `assert!`) returns `none` when its
  condition fails.  It is used only to STATE `decode_never_panics`: the instrumented copy never returns `none`
  and agrees with the model.

  The copy mirrors the code at /repo HEAD, i.e. with commit "fix: do not overflow the keystream block counter …":
  the block counter of `mask_with_keystream` is advanced with `iter = iter.wrapping_add(1)`; that expression
  cannot panic in any build profile, so the mask loop has no overflow panic site and the copy needs no
  build-profile parameter.  The code as it was before that commit is modelled in `namespace Old` below (regression).
-/
namespace Checked

/-- `&l[a..b]` : `none` = slice index panic -/
def slice (l : List Char) (a b : Nat) : Option (List Char) :=
  if a ≤ b ∧ b ≤ l.length then some ((l.drop a).take (b - a)) else none

/-- `to_base62(&self.get_keystream(type, 0, 0))[0..5]` -/
def markerChk (env : BeaconEnv) (type : Nat) : Option (List Char) :=
  match toBase62 (env.ks type 0 0) with
  | none => none                                   -- panic inside `to_base62`
  | some s => if s.length < 5 then none else some (s.take 5)   -- `[0..5]`

/-- `mask_with_keystream`: the only panic site is the index `mask[pos]`; `iter = iter.wrapping_add(1)` wraps
    modulo 256 and cannot panic -/
def maskFromChk (env : BeaconEnv) (type seed : Nat) : Bytes → Nat → Nat → Option Bytes
  | [], _, _ => some []
  | b :: rest, iter, pos =>
    match (env.ks type seed iter)[pos]? with
    | none => none                                 -- `mask[pos]`
    | some m =>
      if pos + 1 = 16 then
        -- `iter = iter.wrapping_add(1)`
        (maskFromChk env type seed rest ((iter + 1) % 256) 0).map (fun r => (b ^^^ m) :: r)
      else (maskFromChk env type seed rest iter (pos + 1)).map (fun r => (b ^^^ m) :: r)

/-- `decrypt_data`: outer `none` = panic, inner `none` = `false` -/
def decryptDataChk (env : BeaconEnv) (data : Bytes) : Option (Option Bytes) :=
  if data.isEmpty then some none else
  match data.getLast? with
  | none => none                                   -- `data.pop().unwrap()`
  | some last =>
    match (env.ks TYPE_SEED 0 0)[0]? with
    | none => none                                 -- `get_keystream(TYPE_SEED, 0, 0)[0]`
    | some s0 =>
      let seed := last ^^^ s0
      match maskFromChk env TYPE_DATA seed data.dropLast 0 0 with
      | none => none
      | some body => some (if seed = env.h0 body then some body else none)

/-- the IPv4 loop; the argument is `data[pos..]` -/
def readV4sChk : Nat → Bytes → Option (List SockAddr)
  | 0, _ => some []
  | n + 1, d =>
    if d.length < 6 then none                      -- `assert!(data.len() >= pos + 6)`, `&data[pos..pos + 6]`
    else (readV4sChk n (d.drop 6)).map (fun r => .v4 (d.take 4) ((d.getD 4 0) * 256 + d.getD 5 0) :: r)

def readV6sChk : Nat → Bytes → Option (List SockAddr)
  | 0, _ => some []
  | n + 1, d =>
    if d.length < 18 then none                     -- `assert!(data.len() >= pos + 18)`, `&data[pos..pos + 18]`
    else (readV6sChk n (d.drop 18)).map (fun r => .v6 (d.take 16) ((d.getD 16 0) * 256 + d.getD 17 0) :: r)

/-- the part of `peerlist_decode` behind `decrypt_data` (`d` = the decrypted data) -/
def bodyParseChk (d : Bytes) (ttl : Option Nat) (now : Nat) : Option (List SockAddr) :=
  if d.length < 2 then none else                   -- `&data[pos..=pos + 1]`, pos = 0
  let thn := d.getD 0 0 * 256 + d.getD 1 0
  if (match ttl with | some t => tooOld now thn t | none => false) then some [] else
  if d.length < 3 then none else                   -- `data[pos]`, pos = 2; `data.len() - pos`, pos = 3
  let v4count := d.getD 2 0
  let rest := d.length - 3
  -- `(data.len() - pos - v4count * 6)` is evaluated only if `v4count * 6 <= data.len() - pos`
  if v4count * 6 > rest ∨ (rest - v4count * 6) % 18 > 0 then some [] else
  match readV4sChk v4count (d.drop 3), readV6sChk ((rest - v4count * 6) / 18) (d.drop (3 + v4count * 6)) with
  | some a, some b => some (a ++ b)
  | _, _ => none

/-- `peerlist_decode` -/
def peerlistDecodeChk (env : BeaconEnv) (text : List Char) (ttl : Option Nat) (now : Nat) :
    Option (List SockAddr) :=
  match fromBase62 text with
  | .error _ => none                               -- `.expect("Invalid input")`
  | .ok data =>
    if data.length < 4 then some [] else
    match decryptDataChk env data with
    | none => none
    | some none => some []
    | some (some d) => bodyParseChk d ttl now

/-- the `while` loop of `decode`; `none` also when the loop has not ended after `fuel` rounds -/
def decodeLoopChk (env : BeaconEnv) (B E data : List Char) (ttl : Option Nat) (now : Nat) :
    Nat → Nat → Option (List SockAddr)
  | 0, _ => none
  | fuel + 1, pos =>
    if pos > data.length then none else            -- `data[pos..]`
    match findSub (data.drop pos) B with
    | none => some []
    | some f =>
      let startPos := pos + f + B.length
      if startPos > data.length then none else     -- `data[start_pos..]`
      match findSub (data.drop startPos) E with
      | none => some []
      | some g =>
        match slice data startPos (startPos + g) with      -- `&data[start_pos..end_pos]`
        | none => none
        | some cand =>
          match peerlistDecodeChk env cand ttl now, decodeLoopChk env B E data ttl now fuel startPos with
          | some a, some b => some (a ++ b)
          | _, _ => none

/-- `decode` -/
def decodeChk (env : BeaconEnv) (text : List Char) (ttl : Option Nat) (now : Nat) :
    Option (List SockAddr) :=
  match markerChk env TYPE_BEGIN, markerChk env TYPE_END with
  | some B, some E => decodeLoopChk env B E (sanitize text) ttl now ((sanitize text).length + 1) 0
  | _, _ => none

end Checked

/-!
  REGRESSION — the defect that was fixed in /repo commit "fix: do not overflow the keystream block counter …".
  Before the fix `mask_with_keystream` declared `let mut iter = 0` (a `u8` by inference) and advanced it with
  `iter += 1`: in a build with overflow checks (debug / test profile) this panics ("attempt to add with
  overflow") when the 256th block ends, i.e. as soon as 4096 bytes have been masked.  The definitions below are
  the instrumented copy of the OLD code in such a build; they are used only by the regression theorems
  `old_counter_overflows` … `overflow_text_exists_old` of `Proofs/C17More.lean`, which keep the history of the
  finding machine-checked.
-/
namespace Old
open Checked

/-- the OLD `mask_with_keystream` (before the fix) in a build with overflow checks: `iter += 1` on a `u8` -/
def maskFromOld (env : BeaconEnv) (type seed : Nat) : Bytes → Nat → Nat → Option Bytes
  | [], _, _ => some []
  | b :: rest, iter, pos =>
    match (env.ks type seed iter)[pos]? with
    | none => none                                 -- `mask[pos]`
    | some m =>
      if pos + 1 = 16 then
        if iter + 1 ≥ 256 then none                -- `iter += 1`: "attempt to add with overflow"
        else (maskFromOld env type seed rest (iter + 1) 0).map (fun r => (b ^^^ m) :: r)
      else (maskFromOld env type seed rest iter (pos + 1)).map (fun r => (b ^^^ m) :: r)

/-- `decrypt_data` over the old mask loop -/
def decryptDataOld (env : BeaconEnv) (data : Bytes) : Option (Option Bytes) :=
  if data.isEmpty then some none else
  match data.getLast? with
  | none => none
  | some last =>
    match (env.ks TYPE_SEED 0 0)[0]? with
    | none => none
    | some s0 =>
      let seed := last ^^^ s0
      match maskFromOld env TYPE_DATA seed data.dropLast 0 0 with
      | none => none
      | some body => some (if seed = env.h0 body then some body else none)

/-- `peerlist_decode` over the old mask loop -/
def peerlistDecodeOld (env : BeaconEnv) (text : List Char) (ttl : Option Nat) (now : Nat) :
    Option (List SockAddr) :=
  match fromBase62 text with
  | .error _ => none
  | .ok data =>
    if data.length < 4 then some [] else
    match decryptDataOld env data with
    | none => none
    | some none => some []
    | some (some d) => bodyParseChk d ttl now

end Old

/-- `begin()` and `end()` do not panic: the base-62 text of the two marker hashes has at least 5 characters
    (it has 85 or 86 unless the hash starts with a zero byte) -/
def MarkersOK (env : BeaconEnv) : Prop :=
  (∃ s, toBase62 (env.ks TYPE_BEGIN 0 0) = some s ∧ 5 ≤ s.length) ∧
  (∃ s, toBase62 (env.ks TYPE_END 0 0) = some s ∧ 5 ≤ s.length)

end VpnCloud.Proofs.C17More

namespace VpnCloud.Proofs.C17MoreLemmas
open VpnCloud.Beacon VpnCloud.Base62 VpnCloud.Spec.C17 VpnCloud.Proofs.C17
open VpnCloud.Proofs.BeaconLemmas VpnCloud.Proofs.Base62Lemmas
open VpnCloud.Proofs.C17More.Checked VpnCloud.Proofs.C17More.Old

/-- what `base_62_sanitize` keeps (`is_ascii_alphanumeric`) is accepted by `from_base62` -/
theorem charVal_isSome_of_alnum (c : Char) (h : c.isAlphanum = true) : (charVal c).isSome = true := by
  simp only [Char.isAlphanum, Char.isAlpha, Char.isUpper, Char.isLower, Char.isDigit, Bool.or_eq_true,
    Bool.and_eq_true, decide_eq_true_eq] at h
  unfold charVal
  simp only [Char.le_def, UInt32.le_iff_toNat_le] at *
  have e0 : ('0' : Char).val.toNat = 48 := rfl
  have e9 : ('9' : Char).val.toNat = 57 := rfl
  have eA : ('A' : Char).val.toNat = 65 := rfl
  have eZ : ('Z' : Char).val.toNat = 90 := rfl
  have ea : ('a' : Char).val.toNat = 97 := rfl
  have ez : ('z' : Char).val.toNat = 122 := rfl
  simp only [e0, e9, eA, eZ, ea, ez]
  generalize c.val.toNat = n at *
  split
  · rfl
  · split
    · rfl
    · split
      · rfl
      · exfalso; simp at h; omega

theorem digitChar_alnum : ∀ d < 62, (digitChar d).isAlphanum = true := by decide +kernel

theorem toBase62_alnum (b : Bytes) (hb : Bytes.WF b) (cs : List Char) (h : toBase62 b = some cs) :
    ∀ c ∈ cs, c.isAlphanum = true := by
  obtain ⟨ds, e, c, _⟩ := VpnCloud.Proofs.C18.toBase62_spec b hb
  rw [e] at h
  cases h
  intro x hx
  rw [List.mem_map] at hx
  obtain ⟨d, hd, rfl⟩ := hx
  exact digitChar_alnum d (c.1 d (List.mem_reverse.mp hd))

theorem marker_alnum (env : BeaconEnv) (h : EnvWF env) (t : Nat) : ∀ c ∈ marker env t, c.isAlphanum = true := by
  intro c hc
  unfold marker at hc
  cases e : toBase62 (env.ks t 0 0) with
  | none => rw [e] at hc; simp at hc
  | some cs =>
    rw [e] at hc
    exact toBase62_alnum _ (h.ks_wf t 0 0).1 cs e c (List.mem_of_mem_take hc)

theorem peerlistEncode_alnum (env : BeaconEnv) (h : EnvWF env) (peers : List SockAddr) (hour : Nat)
    (hp : ∀ a ∈ peers, sockWF a = true) (body : List Char) (hb : peerlistEncode env peers hour = some body) :
    ∀ c ∈ body, c.isAlphanum = true :=
  toBase62_alnum _ (encryptData_wf env h _ (plainBody_wf peers hour hp)) body hb

theorem sanitize_append (a b : List Char) : sanitize (a ++ b) = sanitize a ++ sanitize b := List.filter_append ..

theorem sanitize_alnum (s : List Char) : ∀ c ∈ sanitize s, c.isAlphanum = true :=
  fun _ hc => (List.mem_filter.mp hc).2

theorem sanitize_id (s : List Char) (h : ∀ c ∈ s, c.isAlphanum = true) : sanitize s = s :=
  List.filter_eq_self.mpr h

theorem sanitize_junk (s : List Char) (h : ∀ c ∈ s, c.isAlphanum = false) : sanitize s = [] := by
  apply List.filter_eq_nil_iff.mpr
  intro c hc; simp [h c hc]

theorem sanitize_idem (s : List Char) : sanitize (sanitize s) = sanitize s := sanitize_id _ (sanitize_alnum s)

/-- `interleave text junk`: the text with the `i`-th junk string put in front of its `i`-th character; the junk
    strings that are left over follow behind the last character -/
def interleave : List Char → List (List Char) → List Char
  | [], js => js.flatten
  | c :: cs, [] => c :: cs
  | c :: cs, j :: js => j ++ c :: interleave cs js

/-- `sanitize` drops exactly the junk: interleaving non-alphanumeric characters is invisible to the decoder -/
theorem sanitize_interleave (text : List Char) (js : List (List Char))
    (hj : ∀ j ∈ js, ∀ c ∈ j, c.isAlphanum = false) : sanitize (interleave text js) = sanitize text := by
  induction text generalizing js with
  | nil =>
    simp only [interleave]
    apply sanitize_junk
    intro c hc
    rw [List.mem_flatten] at hc
    obtain ⟨j, hj1, hj2⟩ := hc
    exact hj j hj1 c hj2
  | cons c cs ih =>
    cases js with
    | nil => rfl
    | cons j js =>
      simp only [interleave]
      rw [sanitize_append, sanitize_junk j (hj j List.mem_cons_self), List.nil_append]
      show sanitize ([c] ++ interleave cs js) = sanitize ([c] ++ cs)
      rw [sanitize_append, sanitize_append, ih js (fun j' hj' => hj j' (List.mem_cons_of_mem _ hj'))]

theorem occ_after (x n r : List Char) : n.isPrefixOf ((x ++ n ++ r).drop x.length) = true := by
  rw [List.append_assoc, List.drop_left]; exact isPrefixOf_append_self n r

/-- no occurrence of `B` in `X ++ B` overlaps the final `B` properly (an occurrence that starts inside `X` ends
    inside `X`) -/
def NoOverlap (X B : List Char) : Prop :=
  ∀ j, j < X.length → X.length < j + B.length → B.isPrefixOf ((X ++ B).drop j) = false

/-- `B` has no border: no proper non-empty prefix of `B` is also a suffix of `B` -/
def Unbordered (B : List Char) : Prop :=
  ∀ k, 0 < k → k < B.length → B.take k ≠ B.drop (B.length - k)

instance (B : List Char) : Decidable (Unbordered B) := by
  unfold Unbordered
  exact decidable_of_iff (∀ k, k < B.length → 0 < k → B.take k ≠ B.drop (B.length - k))
    ⟨fun h k h1 h2 => h k h2 h1, fun h k h1 h2 => h k h2 h1⟩

theorem noOverlap_of_unbordered (X B : List Char) (h : Unbordered B) : NoOverlap X B := by
  intro j hj1 hj2
  rw [Bool.eq_false_iff]
  intro hp
  rw [isPrefixOf_eq_take, decide_eq_true_eq, List.drop_append_of_le_length (by omega)] at hp
  -- B = X.drop j ++ B.take k
  have hl : (X.drop j).length = X.length - j := List.length_drop
  rw [List.take_append, hl] at hp
  have hk : B.length - (X.length - j) < B.length := by omega
  have hk0 : 0 < B.length - (X.length - j) := by omega
  apply h _ hk0 hk
  have hd := congrArg (List.drop (B.length - (B.length - (X.length - j)))) hp
  rw [← hd]
  rw [List.take_of_length_le (by omega : (X.drop j).length ≤ B.length)]
  rw [show B.length - (B.length - (X.length - j)) = (X.drop j).length by omega, List.drop_left]

theorem noOverlap_drop (X B : List Char) (m : Nat) (h : NoOverlap X B) : NoOverlap (X.drop m) B := by
  intro j h1 h2
  rw [List.length_drop] at h1 h2
  have := h (m + j) (by omega) (by omega)
  rwa [← List.drop_drop, List.drop_append_of_le_length (by omega)] at this

theorem run_reaches (env : BeaconEnv) (ttl : Option Nat) (now : Nat) (T Y : List Char) (hB : beginMarker env ≠ [])
    (hE : ∀ j, j < T.length → (endMarker env).isPrefixOf ((T ++ endMarker env).drop j) = false) :
    ∀ n (X : List Char), X.length < n → NoOverlap X (beginMarker env) →
      ∃ before, run env ttl now (X ++ (beginMarker env ++ (T ++ (endMarker env ++ Y)))) =
        before ++ peerlistDecode env T ttl now ++ run env ttl now (T ++ (endMarker env ++ Y)) := by
  intro n
  induction n with
  | zero => intro X h; exact absurd h (Nat.not_lt_zero _)
  | succ n ih =>
    intro X hn hov
    have first := run_first env ttl now hB X T Y hE
    have step := run_eq env ttl now hB (X ++ (beginMarker env ++ (T ++ (endMarker env ++ Y))))
    generalize beginMarker env = B at *
    generalize endMarker env = E at *
    have hB1 : 1 ≤ B.length := List.length_pos_iff.mpr hB
    -- the first begin marker stands at or before `X.length`
    obtain ⟨k, hk, hfind⟩ := findSub_le_of_occ (X ++ (B ++ (T ++ (E ++ Y)))) B X.length
      (by simp only [List.length_append]; omega) (by rw [List.drop_left]; exact isPrefixOf_append_self _ _)
    by_cases hp : k = X.length
    · exact ⟨[], first (hp ▸ hfind)⟩
    · -- an earlier occurrence: it ends inside `X`, and the loop goes on inside `X`
      have hocc := (findSub_some hfind).2.1
      rw [← List.append_assoc, isPrefixOf_drop_append _ _ _ _ (by simp only [List.length_append]; omega)] at hocc
      have hin : k + B.length ≤ X.length := Nat.le_of_not_lt fun hlt => by
        rw [hov k (by omega) hlt] at hocc; cases hocc
      obtain ⟨g, _, hg⟩ := findSub_le_of_occ (X.drop (k + B.length) ++ (B ++ (T ++ (E ++ Y)))) E
        ((X.drop (k + B.length)).length + B.length + T.length) (by simp only [List.length_append]; omega)
        (by simp only [← List.append_assoc, ← List.length_append]; rw [List.append_assoc _ E Y, List.drop_left]
            exact isPrefixOf_append_self _ _)
      obtain ⟨before, e⟩ := ih (X.drop (k + B.length)) (by rw [List.length_drop]; omega) (noOverlap_drop X B _ hov)
      rw [step]
      simp only [hfind, List.drop_append_of_le_length hin, hg, e]
      exact ⟨peerlistDecode env ((X.drop (k + B.length) ++ (B ++ (T ++ (E ++ Y)))).take g) ttl now ++ before,
        by simp only [List.append_assoc]⟩

/-- `l` contains the blocks `as` one behind the other, in this order -/
def Blocks : List (List SockAddr) → List SockAddr → Prop
  | [], _ => True
  | a :: as, l => ∃ before rest, l = before ++ a ++ rest ∧ Blocks as rest

/-- the sanitised text of several beacons: each of `segs` is the text in front of a beacon and the beacon's body -/
def beaconsText (B E : List Char) (segs : List (List Char × List Char)) (Y : List Char) : List Char :=
  segs.foldr (fun s acc => s.1 ++ (B ++ (s.2 ++ (E ++ acc)))) Y

/-- the hypotheses of `run_reaches` for each of `segs`; `P` is what the loop has in front of the first of them
    (behind a beacon it goes on at that beacon's body) -/
def Reachable (B E : List Char) : List Char → List (List Char × List Char) → Prop
  | _, [] => True
  | P, s :: rest => NoOverlap (P ++ s.1) B ∧
      (∀ j, j < s.2.length → E.isPrefixOf ((s.2 ++ E).drop j) = false) ∧ Reachable B E (s.2 ++ E) rest

theorem all_found (env : BeaconEnv) (ttl : Option Nat) (now : Nat) (hB : beginMarker env ≠ []) (Y : List Char) :
    ∀ (segs : List (List Char × List Char)) (P : List Char), Reachable (beginMarker env) (endMarker env) P segs →
      Blocks (segs.map fun s => peerlistDecode env s.2 ttl now)
        (run env ttl now (P ++ beaconsText (beginMarker env) (endMarker env) segs Y)) := by
  intro segs
  induction segs with
  | nil => intro P _; trivial
  | cons s rest ih =>
    intro P ⟨hov, hE, hr⟩
    obtain ⟨before, e⟩ := run_reaches env ttl now s.2 (beaconsText (beginMarker env) (endMarker env) rest Y) hB hE _
      (P ++ s.1) (Nat.lt_succ_self _) hov
    rw [List.append_assoc] at e
    refine ⟨before, _, e, ?_⟩
    rw [← List.append_assoc]
    exact ih (s.2 ++ endMarker env) hr

theorem ks_idx (env : BeaconEnv) (h : EnvWF env) (t s i p : Nat) (hp : p < 64) :
    (env.ks t s i)[p]? = some ((env.ks t s i).getD p 0) := by
  have hl := (h.ks_wf t s i).2
  rw [List.getD_eq_getElem?_getD, List.getElem?_eq_getElem (by omega)]; rfl

/-- the mask loop never panics, for data of every length: the index `mask[pos]` stays below 16 and the block
    counter wraps -/
theorem maskFromChk_eq (env : BeaconEnv) (h : EnvWF env) (t s : Nat) (d : Bytes) :
    ∀ iter pos, pos < 16 → maskFromChk env t s d iter pos = some (maskFrom env t s d iter pos) := by
  induction d with
  | nil => intro iter pos _; simp only [maskFromChk, maskFrom_nil]
  | cons b r ih =>
    intro iter pos hp
    rw [maskFromChk, maskFrom_cons, ks_idx env h _ _ _ _ (by omega)]
    by_cases h16 : pos + 1 = 16
    · simp only [h16, if_true]
      rw [ih ((iter + 1) % 256) 0 (by omega)]; rfl
    · simp only [h16, if_false]
      rw [ih iter (pos + 1) (by omega)]; rfl

theorem map_ite_none {α β : Type} (c c' : Prop) [Decidable c] [Decidable c'] (hc : c ↔ c') (x : α) (f : α → β) :
    (if c then none else some x).map f = if c' then none else some (f x) := by
  by_cases h : c
  · rw [if_pos h, if_pos (hc.mp h)]; rfl
  · rw [if_neg h, if_neg (mt hc.mpr h)]; rfl

/-- REGRESSION (old code, build with overflow checks): `iter += 1` panics exactly when the 4096th byte has been
    masked; below that the old loop computes what the model computes -/
theorem maskFromOld_eq (env : BeaconEnv) (h : EnvWF env) (t s : Nat) (d : Bytes) :
    ∀ iter pos, pos < 16 → iter < 256 →
      maskFromOld env t s d iter pos =
        if 4096 ≤ 16 * iter + pos + d.length then none else some (maskFrom env t s d iter pos) := by
  induction d with
  | nil =>
    intro iter pos hp hi
    simp only [maskFromOld, maskFrom_nil, List.length_nil]
    rw [if_neg (by omega)]
  | cons b r ih =>
    intro iter pos hp hi
    rw [maskFromOld, maskFrom_cons, ks_idx env h _ _ _ _ (by omega)]
    simp only [List.length_cons]
    by_cases h16 : pos + 1 = 16
    · simp only [h16, if_true]
      by_cases hov : iter + 1 ≥ 256
      · rw [if_pos hov, if_pos (by omega)]
      · rw [if_neg hov, Nat.mod_eq_of_lt (by omega), ih (iter + 1) 0 (by omega) (by omega)]
        exact map_ite_none _ _ (by omega) _ _
    · simp only [h16, if_false]
      rw [ih iter (pos + 1) (by omega) hi]
      exact map_ite_none _ _ (by omega) _ _

theorem decryptDataChk_eq (env : BeaconEnv) (h : EnvWF env) (data : Bytes) :
    decryptDataChk env data = some (decryptData env data) := by
  unfold decryptDataChk decryptData
  cases hl : data.getLast? with
  | none =>
    have : data = [] := by simpa using hl
    subst this; rfl
  | some last =>
    have hne : data.isEmpty = false := by
      cases data with
      | nil => simp at hl
      | cons _ _ => rfl
    simp only [hne, Bool.false_eq_true, if_false]
    rw [ks_idx env h _ _ _ _ (by omega)]
    simp only []
    rw [maskFromChk_eq env h _ _ data.dropLast 0 0 (by omega)]
    rfl

theorem readV4sChk_eq : ∀ (n : Nat) (d : Bytes), n * 6 ≤ d.length → readV4sChk n d = some (readV4s n d)
  | 0, _, _ => rfl
  | n + 1, d, h => by
    rw [readV4sChk, readV4s, if_neg (by omega), readV4sChk_eq n (d.drop 6) (by rw [List.length_drop]; omega)]; rfl

theorem readV6sChk_eq : ∀ (n : Nat) (d : Bytes), n * 18 ≤ d.length → readV6sChk n d = some (readV6s n d)
  | 0, _, _ => rfl
  | n + 1, d, h => by
    rw [readV6sChk, readV6s, if_neg (by omega), readV6sChk_eq n (d.drop 18) (by rw [List.length_drop]; omega)]; rfl

theorem fromChars_length (cs : List Char) : ∀ (buf out : List Nat), fromChars cs buf = .ok out →
    out.length ≤ buf.length + cs.length := by
  induction cs with
  | nil => intro buf out e; simp only [fromChars] at e; cases e; simp
  | cons c rest ih =>
    intro buf out e
    unfold fromChars at e
    cases hv : charVal c with
    | none => rw [hv] at e; cases e
    | some v =>
      rw [hv] at e
      have := ih _ _ e
      have hl : (mulAddLoop buf v).1.length = buf.length := by rw [mulAddLoop_eq, gloop_length]
      split at this
      · simp only [List.length_append, List.length_cons, List.length_nil, hl] at this
        simp only [List.length_cons]; omega
      · rw [hl] at this; simp only [List.length_cons]; omega

theorem fromBase62_length (cs : List Char) (data : Bytes) (h : fromBase62 cs = .ok data) : data.length ≤ cs.length := by
  unfold fromBase62 at h
  cases e : fromChars cs [] with
  | error c => rw [e] at h; cases h
  | ok buf =>
    rw [e] at h
    cases h
    have := fromChars_length cs [] buf e
    simpa using this

theorem decryptData_length (env : BeaconEnv) (data d : Bytes) (h : decryptData env data = some d) :
    d.length + 1 = data.length := by
  unfold decryptData at h
  cases hl : data.getLast? with
  | none => rw [hl] at h; cases h
  | some last =>
    rw [hl] at h
    simp only at h
    split at h
    · cases h
      rw [mask_eq_mapIdx, List.length_mapIdx, List.length_dropLast]
      cases data with
      | nil => simp at hl
      | cons _ _ => simp
    · cases h

theorem bodyParseChk_eq (d : Bytes) (ttl : Option Nat) (now : Nat) (hd : 3 ≤ d.length) :
    bodyParseChk d ttl now = some (bodyParse d ttl now) := by
  unfold bodyParseChk bodyParse
  rw [if_neg (by omega)]
  have tail : (if d.length < 3 then none else
      if d.getD 2 0 * 6 > d.length - 3 ∨ (d.length - 3 - d.getD 2 0 * 6) % 18 > 0 then some [] else
      match readV4sChk (d.getD 2 0) (d.drop 3),
        readV6sChk ((d.length - 3 - d.getD 2 0 * 6) / 18) (d.drop (3 + d.getD 2 0 * 6)) with
      | some a, some b => some (a ++ b)
      | _, _ => none) =
      some (if d.getD 2 0 * 6 > d.length - 3 ∨ (d.length - 3 - d.getD 2 0 * 6) % 18 > 0 then [] else
        readV4s (d.getD 2 0) (d.drop 3) ++
          readV6s ((d.length - 3 - d.getD 2 0 * 6) / 18) (d.drop (3 + d.getD 2 0 * 6))) := by
    rw [if_neg (by omega)]
    by_cases hc : d.getD 2 0 * 6 > d.length - 3 ∨ (d.length - 3 - d.getD 2 0 * 6) % 18 > 0
    · rw [if_pos hc, if_pos hc]
    · rw [if_neg hc, if_neg hc, readV4sChk_eq _ _ (by rw [List.length_drop]; omega),
        readV6sChk_eq _ _ (by rw [List.length_drop]; omega)]
  cases ttl with
  | none => simp only [Bool.false_eq_true, if_false]; exact tail
  | some t =>
    simp only []
    by_cases hto : tooOld now (d.getD 0 0 * 256 + d.getD 1 0) t = true
    · rw [if_pos hto, if_pos hto]
    · rw [if_neg hto, if_neg hto]; exact tail

theorem peerlistDecodeChk_eq (env : BeaconEnv) (h : EnvWF env) (text : List Char) (ttl : Option Nat)
    (now : Nat) (hal : ∀ c ∈ text, c.isAlphanum = true) :
    peerlistDecodeChk env text ttl now = some (peerlistDecode env text ttl now) := by
  obtain ⟨data, e, _, _, _⟩ := VpnCloud.Proofs.C18.fromBase62_value text (fun c hc => charVal_isSome_of_alnum c (hal c hc))
  rw [peerlistDecode_eq]
  unfold peerlistDecodeChk
  rw [e]
  simp only []
  by_cases h4 : data.length < 4
  · simp only [h4, if_true]
  · simp only [h4, if_false]
    rw [decryptDataChk_eq env h data]
    cases hd : decryptData env data with
    | none => rfl
    | some d =>
      simp only []
      have hdl := decryptData_length env data d hd
      exact bodyParseChk_eq d ttl now (by omega)

theorem slice_eq (l : List Char) (a g : Nat) (h : a + g ≤ l.length) :
    slice l a (a + g) = some ((l.drop a).take g) := by
  unfold slice; rw [if_pos ⟨by omega, h⟩, Nat.add_sub_cancel_left]

theorem decodeLoopChk_eq (env : BeaconEnv) (h : EnvWF env) (data : List Char) (ttl : Option Nat)
    (now : Nat) (hal : ∀ c ∈ data, c.isAlphanum = true)
    (hB : 1 ≤ (beginMarker env).length) :
    ∀ fuel pos, pos ≤ data.length → data.length + 1 ≤ fuel + pos →
      decodeLoopChk env (beginMarker env) (endMarker env) data ttl now fuel pos =
        some (decodeLoop env data ttl now fuel pos) := by
  intro fuel
  induction fuel with
  | zero => intro pos h1 h2; omega
  | succ n ih =>
    intro pos h1 h2
    rw [decodeLoopChk, decodeLoop_succ, if_neg (by omega)]
    cases hf : findSub (data.drop pos) (beginMarker env) with
    | none => rfl
    | some f =>
      simp only []
      have hb := begin_in_bounds data _ pos f h1 hf
      rw [if_neg (by omega)]
      cases hg : findSub (data.drop (pos + f + (beginMarker env).length)) (endMarker env) with
      | none => rfl
      | some g =>
        simp only []
        obtain ⟨hg1, _, _⟩ := findSub_some hg
        rw [List.length_drop] at hg1
        rw [slice_eq _ _ _ (by omega)]
        simp only []
        have hcand : ∀ c ∈ (data.drop (pos + f + (beginMarker env).length)).take g, c.isAlphanum = true :=
          fun c hc => hal c (List.mem_of_mem_drop (List.mem_of_mem_take hc))
        rw [peerlistDecodeChk_eq env h _ ttl now hcand, ih _ (by omega) (by omega)]

theorem markerChk_some (env : BeaconEnv) (t : Nat) (s : List Char) (h1 : toBase62 (env.ks t 0 0) = some s)
    (h2 : 5 ≤ s.length) : markerChk env t = some (marker env t) ∧ (marker env t).length = 5 := by
  unfold markerChk marker
  rw [h1]
  simp only [Option.getD_some, List.length_take]
  rw [if_neg (by omega)]
  exact ⟨rfl, by omega⟩

/-! ## when `begin()` / `end()` do not panic: at least 5 base-62 digits -/

theorem leVal_lt_pow (B : Nat) (ds : List Nat) (hd : ∀ x ∈ ds, x < B) : leVal B ds < B ^ ds.length := by
  induction ds with
  | nil => exact Nat.one_pos
  | cons d r ih =>
    have h1 := hd d List.mem_cons_self
    have h2 : B * (leVal B r + 1) ≤ B * B ^ r.length :=
      Nat.mul_le_mul_left B (ih fun x hx => hd x (List.mem_cons_of_mem _ hx))
    rw [Nat.mul_add_one] at h2
    rw [leVal_cons, List.length_cons, Nat.pow_succ, Nat.mul_comm (B ^ r.length)]
    omega

theorem pow_le_leVal (B : Nat) (ds : List Nat) (hc : Canon B ds) (hne : ds ≠ []) :
    B ^ (ds.length - 1) ≤ leVal B ds := by
  induction ds with
  | nil => exact absurd rfl hne
  | cons d r ih =>
    cases r with
    | nil =>
      have : leVal B [d] ≠ 0 := fun h0 => hne (canon_val_zero B _ hc h0)
      rw [List.length_singleton, Nat.sub_self, Nat.pow_zero]; omega
    | cons e r' =>
      have h := Nat.mul_le_mul_left B (ih (canon_tail hc) (List.cons_ne_nil _ _))
      rw [List.length_cons, Nat.add_sub_cancel] at h ⊢
      rw [leVal_cons, List.length_cons, Nat.pow_succ, Nat.mul_comm (B ^ r'.length)]
      omega

theorem toBase62_len5_iff (b : Bytes) (hb : Bytes.WF b) :
    (∃ s, toBase62 b = some s ∧ 5 ≤ s.length) ↔ 14776336 ≤ Bytes.beVal b := by
  obtain ⟨ds, e, c, v⟩ := VpnCloud.Proofs.C18.toBase62_spec b hb
  rw [e, ← v]
  have h4 : (62 : Nat) ^ 4 = 14776336 := by decide
  constructor
  · rintro ⟨s, hs, hl⟩
    cases hs
    simp only [List.length_map, List.length_reverse] at hl
    have h1 := pow_le_leVal 62 ds c (fun h => by rw [h] at hl; cases hl)
    have h2 : 62 ^ 4 ≤ 62 ^ (ds.length - 1) := Nat.pow_le_pow_right (by decide) (by omega)
    omega
  · intro hv
    refine ⟨_, rfl, ?_⟩
    simp only [List.length_map, List.length_reverse]
    apply Nat.le_of_not_lt
    intro hlt
    have h1 := leVal_lt_pow 62 ds c.1
    have h2 : 62 ^ ds.length ≤ 62 ^ 4 := Nat.pow_le_pow_right (by decide) (by omega)
    omega

theorem beVal_ge_of_nonzero (b : Bytes) : ∀ (i x : Nat), b[i]? = some x → x ≠ 0 →
    256 ^ (b.length - 1 - i) ≤ Bytes.beVal b := by
  induction b with
  | nil => intro i x h; simp at h
  | cons y r ih =>
    intro i x h hx
    cases i with
    | zero =>
      simp only [List.getElem?_cons_zero, Option.some.injEq] at h
      subst h
      simp only [Bytes.beVal, List.length_cons, Nat.add_sub_cancel, Nat.sub_zero]
      have : 1 * 256 ^ r.length ≤ y * 256 ^ r.length := Nat.mul_le_mul_right _ (by omega)
      omega
    | succ j =>
      simp only [List.getElem?_cons_succ] at h
      have := ih j x h hx
      simp only [Bytes.beVal, List.length_cons]
      rw [show r.length + 1 - 1 - (j + 1) = r.length - 1 - j by omega]
      omega

theorem len5_of_nonzero (b : Bytes) (hb : Bytes.WF b) (hl : b.length = 64) (i : Nat) (hi : i ≤ 60)
    (hx : b.getD i 0 ≠ 0) : ∃ s, toBase62 b = some s ∧ 5 ≤ s.length := by
  rw [toBase62_len5_iff b hb]
  have hget : b[i]? = some (b.getD i 0) := by
    rw [List.getD_eq_getElem?_getD, List.getElem?_eq_getElem (by omega)]; rfl
  have h1 := beVal_ge_of_nonzero b i _ hget hx
  have h2 : 256 ^ 3 ≤ 256 ^ (b.length - 1 - i) := Nat.pow_le_pow_right (by omega) (by omega)
  have h3 : (256 : Nat) ^ 3 = 16777216 := by decide
  omega

end VpnCloud.Proofs.C17MoreLemmas
