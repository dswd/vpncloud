import VpnCloud.Model.Range
import VpnCloud.Spec.C11
/-
  Helper lemmas: the byte-wise xor / leading-zeros loop of `Range::matches` computes the length of
  the common bit prefix.
-/
namespace VpnCloud.Proofs.RangeBits
open VpnCloud.Range VpnCloud.Spec.C11

/-- length of the common prefix of two bit lists -/
def cpl : List Bool → List Bool → Nat
  | a :: as, b :: bs => if a = b then 1 + cpl as bs else 0
  | _, _ => 0

def leadingFalse : List Bool → Nat
  | false :: r => 1 + leadingFalse r
  | _ => 0

theorem lz8_bits : ∀ m < 256, lz8 m = leadingFalse (bits8 m) ∧ (m = 0 ↔ leadingFalse (bits8 m) = 8) := by
  decide +kernel

theorem bits8_xor (a b : Nat) : bits8 (a ^^^ b) = List.zipWith Bool.xor (bits8 a) (bits8 b) := by
  simp only [bits8, Nat.testBit_xor, List.zipWith_cons_cons, List.zipWith_nil_left]

theorem cpl_eq (x y : List Bool) : cpl x y = leadingFalse (List.zipWith Bool.xor x y) := by
  induction x generalizing y with
  | nil => simp [cpl, leadingFalse]
  | cons a as ih =>
    cases y with
    | nil => simp [cpl, leadingFalse]
    | cons b bs =>
      cases a <;> cases b <;> simp [cpl, leadingFalse, ih]

theorem xor_eq_zero {a b : Nat} (h : a ^^^ b = 0) : a = b := by
  have : a ^^^ (a ^^^ b) = b := by rw [← Nat.xor_assoc, Nat.xor_self, Nat.zero_xor]
  rw [h, Nat.xor_zero] at this; exact this

/-- per byte: leading zeros of the xor = common bit prefix of the two bytes -/
theorem lz8_xor (a b : Nat) (ha : a < 256) (hb : b < 256) :
    lz8 (a ^^^ b) = cpl (bits8 a) (bits8 b) := by
  rw [cpl_eq, ← bits8_xor]; exact (lz8_bits _ (Nat.xor_lt_two_pow (n := 8) ha hb)).1

theorem bits8_length (a : Nat) : (bits8 a).length = 8 := rfl

theorem cpl_self (x : List Bool) : cpl x x = x.length := by
  induction x with
  | nil => rfl
  | cons a as ih => simp [cpl, ih]; omega

theorem cpl_append_self (x x' y' : List Bool) : cpl (x ++ x') (x ++ y') = x.length + cpl x' y' := by
  induction x with
  | nil => simp
  | cons a as ih => simp [cpl, ih]; omega

theorem cpl_append_ne (x y x' y' : List Bool) (h : x.length = y.length) (hne : x ≠ y) :
    cpl (x ++ x') (y ++ y') = cpl x y := by
  induction x generalizing y with
  | nil => cases y <;> simp_all
  | cons a as ih =>
    cases y with
    | nil => simp at h
    | cons b bs =>
      simp only [List.cons_append, cpl]
      split
      · rename_i hab
        rw [ih bs (by simpa using h) (fun e => hne (by rw [hab, e]))]
      · rfl

theorem bits8_inj {a b : Nat} (ha : a < 256) (hb : b < 256) (h : bits8 a = bits8 b) : a = b := by
  apply xor_eq_zero
  have hx := (lz8_bits _ (Nat.xor_lt_two_pow (n := 8) ha hb)).2
  rw [hx, bits8_xor, ← cpl_eq, h, cpl_self]; rfl

theorem matchLen_eq_cpl (a b : Bytes) (ha : Bytes.WF a) (hb : Bytes.WF b) (hl : a.length = b.length) :
    matchLen a b = cpl (bitsOf a) (bitsOf b) := by
  induction a generalizing b with
  | nil => cases b <;> simp [matchLen, bitsOf, cpl]
  | cons x xs ih =>
    cases b with
    | nil => simp at hl
    | cons y ys =>
      simp only [List.length_cons, Nat.add_right_cancel_iff] at hl
      rw [Bytes.wf_cons] at ha hb
      simp only [matchLen, bitsOf, List.flatMap_cons]
      have hih := ih ys ha.2 hb.2 hl
      simp only [bitsOf] at hih
      by_cases hm : x ^^^ y = 0
      · have : x = y := xor_eq_zero hm
        subst this
        simp only [hm, ne_eq, not_true_eq_false, if_false, cpl_append_self, hih, bits8_length]
        rfl
      · have hne : bits8 x ≠ bits8 y := fun h => hm (by rw [bits8_inj ha.1 hb.1 h, Nat.xor_self])
        simp only [hm, ne_eq, not_false_eq_true, if_true, cpl_append_ne (bits8 x) (bits8 y) _ _ rfl hne,
          lz8_xor x y ha.1 hb.1]

theorem bitsOf_length (a : Bytes) : (bitsOf a).length = 8 * a.length := by
  induction a with
  | nil => rfl
  | cons x xs ih => simp only [bitsOf, List.flatMap_cons, List.length_append, bits8_length] at *; simp [ih]; omega

theorem cpl_ge_iff (x y : List Bool) (p : Nat) (h : x.length = y.length) :
    cpl x y ≥ p ↔ (p ≤ x.length ∧ x.take p = y.take p) := by
  induction x generalizing y p with
  | nil => cases y <;> cases p <;> simp_all [cpl]
  | cons a as ih =>
    cases y with
    | nil => simp at h
    | cons b bs =>
      simp only [List.length_cons, Nat.add_right_cancel_iff] at h
      cases p with
      | zero => simp
      | succ p =>
        simp only [cpl, List.length_cons, List.take_succ_cons, List.cons.injEq]
        by_cases hab : a = b
        · simp only [hab, if_true, true_and]
          have := ih bs p h
          constructor
          · intro hp
            have := this.1 (by omega)
            exact ⟨by omega, this.2⟩
          · intro hp
            have := this.2 ⟨by omega, hp.2⟩
            omega
        · simp [hab]

end VpnCloud.Proofs.RangeBits
