import VpnCloud.Proofs.Lemmas.Table.TableRefresh
/-
  The model of `ClaimTable` against the abstract routing state: `CEq`, `refresh` under `CEq`, what `best` selects, one step
  of the model against one abstract step (`step_refines`; the abstract lookup is the model's own, `abs_lookup`), and what one
  abstract step and a run do.  `Proofs/TableRefine.lean` builds the histories on it; C11 reads `best_some` / `best_none`.
-/
namespace VpnCloud.Proofs.TableRefine
open VpnCloud.Table VpnCloud.Proofs.TableLemmas VpnCloud.Proofs.TableRefresh

theorem CEq.refl : ∀ l, CEq l l
  | [] => .nil
  | x :: l => .cons x (CEq.refl l)

theorem CEq.symm {a b} (h : CEq a b) : CEq b a := by
  induction h with
  | nil => exact .nil
  | cons x _ ih => exact .cons x ih
  | swap x y l hp ht => exact .swap y x l hp.symm ht.symm
  | trans _ _ ih1 ih2 => exact .trans ih2 ih1

theorem CEq.perm {a b} (h : CEq a b) : a.Perm b := by
  induction h with
  | nil => exact .nil
  | cons x _ ih => exact .cons x ih
  | swap x y l _ _ => exact .swap x y l
  | trans _ _ ih1 ih2 => exact ih1.trans ih2

theorem CEq.mem_iff {a b} (h : CEq a b) (x : ClaimEntry) : x ∈ a ↔ x ∈ b := h.perm.mem_iff

theorem CEq.filter (f : ClaimEntry → Bool) {a b} (h : CEq a b) : CEq (a.filter f) (b.filter f) := by
  induction h with
  | nil => exact .nil
  | cons x _ ih =>
    simp only [List.filter_cons]
    split
    · exact .cons x ih
    · exact ih
  | swap x y l hp ht =>
    simp only [List.filter_cons]
    by_cases hx : f x = true <;> by_cases hy : f y = true <;> simp only [hx, hy, if_true]
    · exact .swap x y _ hp ht
    all_goals exact CEq.refl _
  | trans _ _ ih1 ih2 => exact ih1.trans ih2

theorem CEq.map (g : ClaimEntry → ClaimEntry)
    (hg : ∀ x y : ClaimEntry, x.peer = y.peer → x.timeout = y.timeout →
      (g x).peer = (g y).peer ∧ (g x).timeout = (g y).timeout)
    {a b} (h : CEq a b) : CEq (a.map g) (b.map g) := by
  induction h with
  | nil => exact .nil
  | cons x _ ih => exact .cons (g x) ih
  | swap x y l hp ht => exact .swap (g x) (g y) _ (hg x y hp ht).1 (hg x y hp ht).2
  | trans _ _ ih1 ih2 => exact ih1.trans ih2

theorem CEq.append_right {a b} (h : CEq a b) (m : List ClaimEntry) : CEq (a ++ m) (b ++ m) := by
  induction h with
  | nil => exact CEq.refl _
  | cons x _ ih => exact .cons x ih
  | swap x y l hp ht => exact .swap x y _ hp ht
  | trans _ _ ih1 ih2 => exact ih1.trans ih2

theorem CEq.append_left (l : List ClaimEntry) {a b} (h : CEq a b) : CEq (l ++ a) (l ++ b) := by
  induction l with
  | nil => exact h
  | cons x _ ih => exact .cons x ih

theorem CEq.append {a b c d} (h1 : CEq a b) (h2 : CEq c d) : CEq (a ++ c) (b ++ d) :=
  (h1.append_right c).trans (CEq.append_left b h2)

theorem CEq.of_perm (p : PeerId) (fresh : Int) {l l' : List Range} (h : l.Perm l') :
    CEq (l.map (fun c => ({ peer := p, claim := c, timeout := fresh } : ClaimEntry)))
      (l'.map (fun c => ({ peer := p, claim := c, timeout := fresh } : ClaimEntry))) := by
  induction h with
  | nil => exact .nil
  | cons x _ ih => exact .cons _ ih
  | swap x y l => exact .swap _ _ _ rfl rfl
  | trans _ _ ih1 ih2 => exact ih1.trans ih2

theorem refresh_ceq (p : PeerId) (fresh : Int) {es es' : List ClaimEntry} (he : CEq es es') (cs : List Range) :
    CEq (refresh p fresh es cs).1 (refresh p fresh es' cs).1 ∧
    ((refresh p fresh es cs).2.1).Perm (refresh p fresh es' cs).2.1 ∧
    (refresh p fresh es cs).2.2 = (refresh p fresh es' cs).2.2 := by
  induction he generalizing cs with
  | nil => exact ⟨.nil, .refl _, rfl⟩
  | cons e _ ih =>
    by_cases hp : e.peer = p
    · by_cases hm : e.claim ∈ cs
      · rw [refresh_keep p fresh hp hm, refresh_keep p fresh hp hm]
        exact ⟨.cons _ (ih _).1, (ih _).2⟩
      · rw [refresh_drop p fresh hp hm, refresh_drop p fresh hp hm]
        exact ⟨(ih _).1, (ih _).2.1, rfl⟩
    · rw [refresh_other p fresh hp, refresh_other p fresh hp]
      exact ⟨.cons _ (ih _).1, (ih _).2⟩
  | swap x y l hxy hto =>
    by_cases hp : x.peer = p
    · have hp' : y.peer = p := hxy ▸ hp
      by_cases hc : x.claim = y.claim
      · have : x = y := by
          cases x; cases y; simp_all
        subst this
        exact ⟨CEq.refl _, .refl _, rfl⟩
      · -- the two entries take different ranges out of the announcement, in either order
        have hc' : ¬ y.claim = x.claim := fun e => hc e.symm
        by_cases hx : x.claim ∈ cs <;> by_cases hy : y.claim ∈ cs <;>
          simp only [refresh, hp, hp', hx, hy, List.mem_erase_of_ne hc, List.mem_erase_of_ne hc', ne_eq,
            not_true_eq_false, if_true, if_false, List.erase_comm y.claim x.claim (l := cs), and_true]
        · exact ⟨.swap _ _ _ rfl rfl, .refl _⟩
        all_goals exact ⟨CEq.refl _, .refl _⟩
    · have hp' : ¬ y.peer = p := hxy ▸ hp
      rw [refresh_other p fresh hp', refresh_other p fresh hp, refresh_other p fresh hp,
        refresh_other p fresh hp']
      exact ⟨.swap x y _ hxy hto, .refl _, rfl⟩
  | trans _ _ ih1 ih2 =>
    exact ⟨(ih1 cs).1.trans (ih2 cs).1, (ih1 cs).2.1.trans (ih2 cs).2.1, (ih1 cs).2.2.trans (ih2 cs).2.2⟩

/-- what `best` selects: a claim containing the address, at least as long as every claim containing it, and
    strictly longer than every claim containing the address that stands before it in the table -/
theorem best_some {a : Addr} {cl : List ClaimEntry} {e : ClaimEntry} (h : best a cl = some e) :
    e ∈ cl ∧ e.claim.matches a = true ∧
    (∀ e' ∈ cl, e'.claim.matches a = true → e'.claim.prefixLen ≤ e.claim.prefixLen) ∧
    ∃ before after, cl.filter (fun e => e.claim.matches a) = before ++ e :: after ∧
      ∀ e' ∈ before, e'.claim.prefixLen < e.claim.prefixLen := by
  have hm := best_mem h
  unfold best at h
  rcases List.find?_eq_some_iff_append.1 h with ⟨hP, as, bs, hsplit, has⟩
  simp only [List.all_eq_true, decide_eq_true_eq, List.mem_filter, and_imp] at hP
  refine ⟨hm.1, hm.2, hP, as, bs, hsplit, ?_⟩
  intro e' he'
  have hn := has e' he'
  simp only [Bool.not_eq_eq_eq_not, Bool.not_true, List.all_eq_false, decide_eq_true_eq,
    List.mem_filter] at hn
  rcases hn with ⟨x, ⟨hx1, hx2⟩, hx3⟩
  have := hP x hx1 hx2
  omega

theorem best_none {a : Addr} {cl : List ClaimEntry} :
    best a cl = none ↔ ∀ e ∈ cl, e.claim.matches a = false :=
  ⟨fun h => (scan_none a cl none ((scan_eq_best a cl).trans h)).2, best_eq_none⟩

theorem CEq.find? (f : ClaimEntry → Bool) {l l' : List ClaimEntry} (h : CEq l l') :
    (l.find? f).map (fun e => (e.peer, e.timeout)) = (l'.find? f).map (fun e => (e.peer, e.timeout)) := by
  induction h with
  | nil => rfl
  | cons x _ ih =>
    simp only [List.find?_cons]
    split
    · rfl
    · exact ih
  | swap x y l hp ht =>
    simp only [List.find?_cons]
    cases f x <;> cases f y <;> simp only [Option.map_some, hp, ht]
  | trans _ _ ih1 ih2 => exact ih1.trans ih2

/-- equivalent claim lists give the same routing decision (peer and expiry) -/
theorem best_ceq (a : Addr) {l l' : List ClaimEntry} (h : CEq l l') :
    (best a l).map (fun e => (e.peer, e.timeout)) = (best a l').map (fun e => (e.peer, e.timeout)) := by
  have hf := h.filter (fun e => e.claim.matches a)
  unfold best
  simp only [hf.perm.all_eq]
  exact hf.find? _

theorem Rel.abs (t : Table) : Rel t (abs t) := ⟨rfl, CEq.refl _, rfl, rfl⟩

theorem Rel.entries {t : Table} {s : Abs} (h : Rel t s) {Pc : ClaimEntry → Prop} {Pv : CacheEntry → Prop}
    (hs : (∀ e ∈ s.claims, Pc e) ∧ (∀ v ∈ s.learned, Pv v)) :
    (∀ e ∈ t.claims, Pc e) ∧ (∀ v ∈ t.cache, Pv v) :=
  ⟨fun e he => hs.1 e ((h.claims.mem_iff e).1 he), fun v hv => hs.2 v (h.learned ▸ hv)⟩

theorem step_announce {t : Table} {s : Abs} (h : Rel t s) (now : Int) (hnow : 0 < now) (p : PeerId)
    (cs : List Range) : Rel (t.setClaims now p cs) (s.step now (.announce p cs)).1 := by
  obtain ⟨⟨rest, hperm, hcl⟩, hca⟩ := setClaims_refresh t now hnow p cs
  have hr := refresh_ceq p (now + t.claimTimeout) h.claims cs
  refine ⟨?_, ?_, h.cacheTimeout, h.claimTimeout⟩
  · simp only [Abs.step, Abs.sweep]
    rw [hca, hr.2.2, h.claimTimeout, h.learned]
  · simp only [Abs.step, Abs.sweep]
    rw [hcl, h.claimTimeout]
    exact (CEq.append hr.1 (CEq.of_perm p _ (hperm.trans hr.2.1))).filter _

theorem step_disconnect {t : Table} {s : Abs} (h : Rel t s) (now : Int) (hnow : 0 < now) (p : PeerId) :
    Rel (t.removeClaims now p) (s.step now (.disconnect p)).1 := by
  refine ⟨?_, ?_, h.cacheTimeout, h.claimTimeout⟩
  · simp only [Abs.step, Abs.sweep]
    rw [removeClaims_cache t now p hnow, filter_filter_and, h.learned]
  · simp only [Abs.step, Abs.sweep]
    rw [removeClaims_claims t now p hnow, filter_filter_and]
    exact h.claims.filter _

theorem step_learn {t : Table} {s : Abs} (h : Rel t s) (now : Int) (a : Addr) (p : PeerId) :
    Rel (t.learn now a p) (s.step now (.learn a p)).1 := by
  refine ⟨?_, h.claims, h.cacheTimeout, h.claimTimeout⟩
  simp only [Abs.step, h.learned, h.cacheTimeout]
  rfl

theorem step_sweep {t : Table} {s : Abs} (h : Rel t s) (now : Int) :
    Rel (t.housekeep now) (s.step now .sweep).1 := by
  refine ⟨?_, h.claims.filter _, h.cacheTimeout, h.claimTimeout⟩
  simp only [Abs.step, Abs.sweep, h.learned, housekeep, Generated.cacheLive]

/-- the table that holds the lists of an abstract state (`abs (conc s)` is `s`) -/
def conc (s : Abs) : Table :=
  { cache := s.learned, claims := s.claims, cacheTimeout := s.cacheTimeout, claimTimeout := s.claimTimeout }

/-- the abstract lookup is the lookup of the model: what `lookup_hit`, `lookup_none`, `lookup_some`, `lookup_cases` say of the one
    they say of the other -/
theorem abs_lookup (s : Abs) (now : Int) (a : Addr) :
    s.step now (.lookup a) = (abs ((conc s).lookup now a).1, ((conc s).lookup now a).2) := by
  rcases lookup_cases (conc s) now a with ⟨v, hc, hl⟩ | ⟨hc, ⟨hb, hl⟩ | ⟨e, hb, hl⟩⟩ <;> rw [hl] <;>
    replace hc : s.learned.find? (fun v => v.addr = a) = _ := hc
  · simp only [Abs.step, hc]; rfl
  · simp only [Abs.step, hc, show best a s.claims = none from hb]; rfl
  · simp only [Abs.step, hc, show best a s.claims = some e from hb]; rfl

theorem abs_step_answer (s : Abs) (now : Int) (op : TOp) (q : PeerId) (h : (s.step now op).2 = some q) :
    (∃ v ∈ s.learned, v.peer = q) ∨ ∃ e ∈ s.claims, e.peer = q := by
  cases op with
  | lookup a =>
    rw [abs_lookup] at h
    exact lookup_answer (conc s) now a q h
  | _ => cases h

theorem step_lookup {t : Table} {s : Abs} (h : Rel t s) (now : Int) (a : Addr) :
    (t.lookup now a).2 = (s.step now (.lookup a)).2 ∧ Rel (t.lookup now a).1 (s.step now (.lookup a)).1 := by
  rw [abs_lookup]
  have hb := best_ceq a h.claims
  have hl : (conc s).cache = t.cache := h.learned
  cases hc : t.cache.find? (fun v => v.addr = a) with
  | some v =>
    rw [lookup_hit t now a v hc, lookup_hit (conc s) now a v (hl ▸ hc)]
    exact ⟨rfl, h⟩
  | none =>
    have hc' : (conc s).cache.find? (fun v => v.addr = a) = none := hl ▸ hc
    cases h1 : best a t.claims with
    | none =>
      cases h2 : best a s.claims with
      | none =>
        rw [lookup_none t now a hc h1, lookup_none (conc s) now a hc' h2]
        exact ⟨rfl, h⟩
      | some e' => simp [h1, h2] at hb
    | some e =>
      cases h2 : best a s.claims with
      | none => simp [h1, h2] at hb
      | some e' =>
        simp only [h1, h2, Option.map_some, Option.some.injEq, Prod.mk.injEq] at hb
        rw [lookup_some t now a e hc h1, lookup_some (conc s) now a e' hc' h2]
        refine ⟨by simp [hb.1], ?_, h.claims, h.cacheTimeout, h.claimTimeout⟩
        show _ :: s.learned = _ :: t.cache
        rw [h.learned, ← h.cacheTimeout, hb.1, hb.2]
        rfl

theorem step_refines {t : Table} {s : Abs} (h : Rel t s) (now : Int) (hnow : 0 < now) (op : TOp) :
    (stepT t now op).2 = (s.step now op).2 ∧ Rel (stepT t now op).1 (s.step now op).1 := by
  cases op with
  | announce p cs => exact ⟨rfl, step_announce h now hnow p cs⟩
  | disconnect p => exact ⟨rfl, step_disconnect h now hnow p⟩
  | learn a p => exact ⟨rfl, step_learn h now a p⟩
  | lookup a => exact step_lookup h now a
  | sweep => exact ⟨rfl, step_sweep h now⟩

theorem abs_lookup_frame (s : Abs) (now : Int) (a : Addr) :
    (s.step now (.lookup a)).1 = { s with learned := (s.step now (.lookup a)).1.learned } := by
  rw [abs_lookup, lookup_frame]
  rfl

theorem abs_step_params (s : Abs) (now : Int) (op : TOp) :
    (s.step now op).1.cacheTimeout = s.cacheTimeout ∧ (s.step now op).1.claimTimeout = s.claimTimeout := by
  cases op with
  | lookup a =>
    rw [abs_lookup_frame]
    exact ⟨rfl, rfl⟩
  | _ => exact ⟨rfl, rfl⟩

theorem abs_run_inv {I : Abs → Prop} {A : Option PeerId → Prop} (ops : List (Int × TOp))
    (hstep : ∀ o ∈ ops, ∀ s, I s → I (s.step o.1 o.2).1 ∧ A (s.step o.1 o.2).2) {s : Abs} (h : I s) :
    I (s.run ops).1 ∧ ∀ r ∈ (s.run ops).2, A r := by
  induction ops generalizing s with
  | nil => exact ⟨h, fun _ hr => nomatch hr⟩
  | cons o ops ih =>
    rcases o with ⟨now, op⟩
    have h1 := hstep _ List.mem_cons_self s h
    have h2 := ih (fun o ho => hstep o (List.mem_cons_of_mem _ ho)) h1.1
    exact ⟨h2.1, List.forall_mem_cons.2 ⟨h1.2, h2.2⟩⟩

theorem abs_run_params (s : Abs) (ops : List (Int × TOp)) :
    (s.run ops).1.cacheTimeout = s.cacheTimeout ∧ (s.run ops).1.claimTimeout = s.claimTimeout :=
  (abs_run_inv (I := fun s' => s'.cacheTimeout = s.cacheTimeout ∧ s'.claimTimeout = s.claimTimeout)
    (A := fun _ => True) ops
    (fun o _ s' h => ⟨⟨(abs_step_params s' o.1 o.2).1.trans h.1, (abs_step_params s' o.1 o.2).2.trans h.2⟩, trivial⟩)
    ⟨rfl, rfl⟩).1

theorem runT_append (t : Table) (a b : List (Int × TOp)) :
    runT t (a ++ b) = ((runT (runT t a).1 b).1, (runT t a).2 ++ (runT (runT t a).1 b).2) := by
  induction a generalizing t with
  | nil => rfl
  | cons o a ih =>
    rcases o with ⟨now, op⟩
    simp only [List.cons_append, runT, ih, List.cons_append]

theorem runT_length (t : Table) (l : List (Int × TOp)) : (runT t l).2.length = l.length := by
  induction l generalizing t with
  | nil => rfl
  | cons o l ih => simp [runT, ih]

end VpnCloud.Proofs.TableRefine
