import VpnCloud.Proofs.Lemmas.Table.TableLemmas
/-
  `set_claims` at a positive time is `refresh` (`Lemmas/Table/TableRefineSpec.lean`) followed by the sweep, up to the
  order of the block of new ranges (`setClaims_refresh`); what an announcement does to the claims is then read off
  `refresh`, which has no marks, no positions and no accumulator.
-/
namespace VpnCloud.Proofs.TableRefresh
open VpnCloud.Table VpnCloud.Proofs.TableLemmas VpnCloud.Proofs.TableRefine

theorem swapRemove_perm_erase {cs cs' : List Range} {pos : Nat} {x : Range} (h : cs[pos]? = some x)
    (hp : cs.Perm cs') : (swapRemove cs pos).Perm (cs'.erase x) := by
  have h1 := swapRemove_perm h
  have hx : x ∈ cs' := hp.mem_iff.1 (List.mem_of_getElem? h)
  have h2 := List.perm_cons_erase hx
  exact List.Perm.cons_inv (h1.trans (hp.trans h2))

section Refresh
variable (p : PeerId) (fresh : Int)

theorem refresh_other {e : ClaimEntry} (h : e.peer ≠ p) (es : List ClaimEntry) (cs : List Range) :
    refresh p fresh (e :: es) cs =
      (e :: (refresh p fresh es cs).1, (refresh p fresh es cs).2.1, (refresh p fresh es cs).2.2) := by
  simp only [refresh, h, ne_eq, not_false_eq_true, if_true]

theorem refresh_keep {e : ClaimEntry} (h : e.peer = p) {cs : List Range} (hm : e.claim ∈ cs)
    (es : List ClaimEntry) :
    refresh p fresh (e :: es) cs =
      ({ e with timeout := fresh } :: (refresh p fresh es (cs.erase e.claim)).1,
        (refresh p fresh es (cs.erase e.claim)).2.1, (refresh p fresh es (cs.erase e.claim)).2.2) := by
  simp only [refresh, h, ne_eq, not_true_eq_false, if_false, hm, if_true]

theorem refresh_drop {e : ClaimEntry} (h : e.peer = p) {cs : List Range} (hm : e.claim ∉ cs)
    (es : List ClaimEntry) :
    refresh p fresh (e :: es) cs = ((refresh p fresh es cs).1, (refresh p fresh es cs).2.1, true) := by
  simp only [refresh, h, ne_eq, not_true_eq_false, if_false, hm]

theorem refresh_spec (es : List ClaimEntry) (cs : List Range) :
    (∀ x ∈ (refresh p fresh es cs).1, x.peer = p → x.timeout = fresh ∧ x.claim ∈ cs) ∧
    (∀ x ∈ (refresh p fresh es cs).2.1, x ∈ cs) ∧
    ∀ x ∈ cs, x ∈ (refresh p fresh es cs).2.1 ∨ ⟨p, x, fresh⟩ ∈ (refresh p fresh es cs).1 := by
  fun_induction refresh p fresh es cs with
  | case1 cs => exact ⟨fun _ hx => (nomatch hx), fun _ hx => hx, fun _ hx => Or.inl hx⟩
  | case2 e es cs hp r ih =>
    refine ⟨fun x hx hxp => ?_, ih.2.1, fun x hx => (ih.2.2 x hx).imp_right (List.mem_cons_of_mem _)⟩
    rcases List.mem_cons.1 hx with rfl | hx
    · exact absurd hxp hp
    · exact ih.1 x hx hxp
  | case3 e es cs hp hm r ih =>
    refine ⟨fun x hx hxp => ?_, fun x hx => List.mem_of_mem_erase (ih.2.1 x hx), fun x hx => ?_⟩
    · rcases List.mem_cons.1 hx with rfl | hx
      · exact ⟨rfl, hm⟩
      · exact (ih.1 x hx hxp).imp_right List.mem_of_mem_erase
    · by_cases hxe : x = e.claim
      · rw [hxe, ← Decidable.not_not.1 hp]
        exact Or.inr List.mem_cons_self
      · exact (ih.2.2 x ((List.mem_erase_of_ne hxe).2 hx)).imp_right (List.mem_cons_of_mem _)
  | case4 e es cs hp hm r ih => exact ih

theorem refresh_filter_ne (es : List ClaimEntry) (cs : List Range) :
    (refresh p fresh es cs).1.filter (fun e => e.peer ≠ p) = es.filter (fun e => e.peer ≠ p) := by
  fun_induction refresh p fresh es cs with
  | case1 => rfl
  | case2 e es cs hp r ih => simpa [hp] using ih
  | case3 e es cs hp hm r ih => simpa [hp] using ih
  | case4 e es cs hp hm r ih => simpa [hp] using ih

theorem refresh_mem_other {x : ClaimEntry} (hx : x.peer ≠ p) (es : List ClaimEntry) (cs : List Range) :
    x ∈ (refresh p fresh es cs).1 ↔ x ∈ es := by
  have := congrArg (x ∈ ·) (refresh_filter_ne p fresh es cs)
  simpa [hx] using this

theorem refresh_keeps (es : List ClaimEntry) (cs : List Range) :
    ∀ e ∈ es, e.peer = p → { e with timeout := fresh } ∈ (refresh p fresh es cs).1 ∨ (refresh p fresh es cs).2.2 = true := by
  fun_induction refresh p fresh es cs with
  | case1 cs => exact fun _ he => nomatch he
  | case2 e0 es cs hp r ih =>
    intro e he hep
    rcases List.mem_cons.1 he with rfl | he
    · exact absurd hep hp
    · exact (ih e he hep).imp_left (List.mem_cons_of_mem _)
  | case3 e0 es cs hp hm r ih =>
    intro e he hep
    rcases List.mem_cons.1 he with rfl | he
    · exact Or.inl List.mem_cons_self
    · exact (ih e he hep).imp_left (List.mem_cons_of_mem _)
  | case4 e0 es cs hp hm r ih => exact fun _ _ _ => Or.inr rfl

theorem refresh_flag (es : List ClaimEntry) (cs : List Range) (h : ∃ e ∈ es, e.peer = p ∧ e.claim ∉ cs) :
    (refresh p fresh es cs).2.2 = true := by
  obtain ⟨e, he, hp, hc⟩ := h
  exact (refresh_keeps p fresh es cs e he hp).resolve_left fun hk => hc ((refresh_spec p fresh es cs).1 _ hk hp).2

/-- "something of `p` was dropped" means: some range occurs more often among the entries of `p` than in the
    announcement -/
theorem refresh_flag_count (es : List ClaimEntry) (cs : List Range)
    (h : (refresh p fresh es cs).2.2 = true) :
    ∃ r, ((es.filter (fun e => e.peer = p)).map (fun e => e.claim)).count r > cs.count r := by
  fun_induction refresh p fresh es cs with
  | case1 cs => cases h
  | case2 e es cs hp r ih =>
    rcases ih h with ⟨r, hr⟩
    exact ⟨r, by simpa only [List.filter_cons, hp, decide_false, Bool.false_eq_true, if_false] using hr⟩
  | case3 e es cs hp hm r ih =>
    have hp : e.peer = p := Decidable.not_not.1 hp
    rcases ih h with ⟨r, hr⟩
    refine ⟨r, ?_⟩
    simp only [List.filter_cons, hp, decide_true, if_true, List.map_cons, List.count_cons]
    rw [List.count_erase] at hr
    have hpos : 0 < cs.count e.claim := List.count_pos_iff.2 hm
    by_cases hre : r = e.claim
    · subst hre
      simp only [BEq.rfl, if_true] at hr ⊢
      omega
    · have h1 : (e.claim == r) = false := by simpa using fun h => hre h.symm
      simp only [h1, Bool.false_eq_true, if_false] at hr ⊢
      omega
  | case4 e es cs hp hm r ih =>
    have hp : e.peer = p := Decidable.not_not.1 hp
    refine ⟨e.claim, ?_⟩
    simp only [List.filter_cons, hp, decide_true, if_true, List.map_cons, List.count_cons, BEq.rfl]
    have : cs.count e.claim = 0 := List.count_eq_zero.2 hm
    omega

/-- the first loop of `set_claims` (mark with 0) followed by a sweep at a positive time is `refresh`
    followed by the same sweep -/
theorem loop_refresh (now : Int) (hnow : 0 < now) (es : List ClaimEntry) (cs : List Range) (rm : Bool) :
    ∀ cs' : List Range, cs.Perm cs' →
    (setClaimsLoop p fresh es cs rm).1.filter (fun e => e.timeout ≥ now) =
      (refresh p fresh es cs').1.filter (fun e => e.timeout ≥ now) ∧
    ((setClaimsLoop p fresh es cs rm).2.1).Perm (refresh p fresh es cs').2.1 ∧
    (setClaimsLoop p fresh es cs rm).2.2 = (rm || (refresh p fresh es cs').2.2) := by
  have h0 : ¬ (now ≤ 0) := by omega
  fun_induction setClaimsLoop p fresh es cs rm with
  | case1 cs rm => exact fun cs' h => ⟨rfl, h, by simp [refresh]⟩
  | case2 e es cs rm hp pos hpos r ih =>
    intro cs' h
    have hm : e.claim ∈ cs' := h.mem_iff.1 (List.mem_of_getElem? (position_some hpos))
    have := ih _ (swapRemove_perm_erase (position_some hpos) h)
    rw [refresh_keep p fresh hp hm]
    simp only [r, List.filter_cons, this.1]
    exact ⟨trivial, this.2.1, this.2.2⟩
  | case3 e es cs rm hp hpos r ih =>
    intro cs' h
    have hm : e.claim ∉ cs' := fun x => position_none hpos (h.mem_iff.2 x)
    have := ih _ h
    rw [refresh_drop p fresh hp hm]
    simp only [List.filter_cons, ge_iff_le, h0, decide_false, Bool.false_eq_true, if_false]
    exact ⟨this.1, this.2.1, by simp [r, this.2.2]⟩
  | case4 e es cs rm hp r ih =>
    intro cs' h
    have := ih _ h
    rw [refresh_other p fresh hp]
    simp only [r, List.filter_cons, this.1]
    exact ⟨trivial, this.2.1, this.2.2⟩

end Refresh

/-- the exact result of `set_claims` at a positive time: the claims of `refresh`, the new ranges in some order, swept;
    the learned entries of `p` dropped iff `refresh` dropped a claim, swept -/
theorem setClaims_refresh (t : Table) (now : Int) (hnow : 0 < now) (p : PeerId) (cs : List Range) :
    (∃ rest : List Range, rest.Perm (refresh p (now + t.claimTimeout) t.claims cs).2.1 ∧
      (t.setClaims now p cs).claims =
        ((refresh p (now + t.claimTimeout) t.claims cs).1 ++
          rest.map (fun c => ({ peer := p, claim := c, timeout := now + t.claimTimeout } : ClaimEntry))).filter
          (fun e => e.timeout ≥ now)) ∧
    (t.setClaims now p cs).cache =
      (if (refresh p (now + t.claimTimeout) t.claims cs).2.2 then t.cache.filter (fun v => v.peer ≠ p)
        else t.cache).filter (fun v => v.timeout ≥ now) := by
  have hl := loop_refresh p (now + t.claimTimeout) now hnow t.claims cs false cs (.refl _)
  refine ⟨⟨_, hl.2.1, ?_⟩, ?_⟩
  · rw [setClaims_claims, List.filter_append, hl.1, ← List.filter_append]
  · rw [setClaims_cache, hl.2.2, Bool.false_or]
    cases (refresh p (now + t.claimTimeout) t.claims cs).2.2
    · rfl
    · exact (zero_filter_cache _ _ _ hnow).trans (filter_filter_and _ _ _).symm

theorem setClaims_cache_sub (t : Table) (now : Int) (hnow : 0 < now) (p : PeerId) (cs : List Range) :
    (t.setClaims now p cs).cache.Sublist (t.cache.filter (fun v => v.timeout ≥ now)) := by
  rw [(setClaims_refresh t now hnow p cs).2]
  refine List.Sublist.filter _ ?_
  by_cases hf : (refresh p (now + t.claimTimeout) t.claims cs).2.2 = true
  · rw [if_pos hf]
    exact List.filter_sublist
  · rw [if_neg hf]
    exact List.Sublist.refl _

theorem setClaims_keeps (t : Table) (now : Int) (hnow : 0 < now) (p : PeerId) (cs : List Range) (e : ClaimEntry)
    (he : e ∈ t.claims) (hp : e.peer = p) :
    { e with timeout := now + t.claimTimeout } ∈ (t.setClaims now p cs).claims ∨
      ∀ v ∈ (t.setClaims now p cs).cache, v.peer ≠ p := by
  obtain ⟨⟨rest, _, hcl⟩, hca⟩ := setClaims_refresh t now hnow p cs
  rcases refresh_keeps p (now + t.claimTimeout) t.claims cs e he hp with h | hf
  · refine Or.inl (hcl ▸ List.mem_filter.2 ⟨List.mem_append_left _ h, decide_eq_true ?_⟩)
    show now + (t.claimTimeout : Int) ≥ now
    omega
  · refine Or.inr fun v hv => ?_
    rw [hca, hf, if_pos rfl] at hv
    exact of_decide_eq_true (List.mem_filter.1 (List.mem_filter.1 hv).1).2

end VpnCloud.Proofs.TableRefresh
