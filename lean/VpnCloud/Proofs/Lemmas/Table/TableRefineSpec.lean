import VpnCloud.Model.Table
/-
  C11 / C12 / C13 over whole histories — the ABSTRACT routing state and its step function.
  (Definitions only; the refinement theorem and its corollaries are in `Proofs/TableRefine.lean`.)

  The abstract state is two lists of records: the claims (peer, range, expiry) in announcement order, and
  the learned / cached next hops (address, peer, expiry).  The operations are written directly, with
  `filter`, `erase`, `find?`: no "mark with timeout 0, then sweep" trick, no `swap_remove`, no scan with
  an accumulator.

  What is deliberately mirrored from the code (see the witnesses in `Proofs/TableRefine.lean`):
  * `lookup` never compares an expiry with the clock: an entry is "live" as long as no sweep has removed
    it.  Sweeps happen in `sweep` (housekeep) and at the end of `announce` and `disconnect`.
  * ranges are counted with multiplicity (announcing `[A, A]` gives two entries).
-/
namespace VpnCloud.Proofs.TableRefine

/-- the operations of the claim table; each is applied at a time `now : Int` -/
inductive TOp
  | announce (p : PeerId) (cs : List Range)
  | disconnect (p : PeerId)
  | learn (a : Addr) (p : PeerId)
  | lookup (a : Addr)
  | sweep
  deriving DecidableEq, Repr

/-- abstract routing state -/
structure Abs where
  /-- claims not yet swept, oldest first (the order only matters for ties between equally long prefixes) -/
  claims : List ClaimEntry
  /-- learned addresses and cached decisions, newest first -/
  learned : List CacheEntry
  cacheTimeout : Nat
  claimTimeout : Nat
  deriving Repr

/-- announcement of `p`, first half.  Walk over the claims, oldest first; `cs` is what is left of the
    announcement.  An entry of `p` whose range is still in `cs` is refreshed (and takes one occurrence
    out of `cs`); an entry of `p` whose range is not in `cs` is dropped.  Result: the remaining claims,
    the part of the announcement that is new, and whether something of `p` was dropped. -/
def refresh (p : PeerId) (fresh : Int) : List ClaimEntry → List Range → List ClaimEntry × List Range × Bool
  | [], cs => ([], cs, false)
  | e :: es, cs =>
    if e.peer ≠ p then
      let r := refresh p fresh es cs
      (e :: r.1, r.2.1, r.2.2)
    else if e.claim ∈ cs then
      let r := refresh p fresh es (cs.erase e.claim)
      ({ e with timeout := fresh } :: r.1, r.2.1, r.2.2)
    else
      let r := refresh p fresh es cs
      (r.1, r.2.1, true)

/-- the most specific claim containing `a`: among the claims containing `a`, the first one whose prefix
    is at least as long as that of every claim containing `a` -/
def best (a : Addr) (claims : List ClaimEntry) : Option ClaimEntry :=
  let ms := claims.filter (fun e => e.claim.matches a)
  ms.find? (fun e => ms.all (fun e' => e'.claim.prefixLen ≤ e.claim.prefixLen))

namespace Abs

/-- drop every entry whose expiry is in the past -/
def sweep (s : Abs) (now : Int) : Abs :=
  { s with claims := s.claims.filter (fun e => e.timeout ≥ now),
           learned := s.learned.filter (fun v => v.timeout ≥ now) }

/-- one operation at time `now`; the second component is the answer of a `lookup` (`none` otherwise) -/
def step (s : Abs) (now : Int) : TOp → Abs × Option PeerId
  | .announce p cs =>
    -- `p`'s claims become `cs`, all expiring at `now + claimTimeout`; if a claim of `p` was dropped,
    -- everything learned / cached for `p` is dropped as well; then a sweep
    let fresh := now + s.claimTimeout
    let r := refresh p fresh s.claims cs
    let claims' := r.1 ++ r.2.1.map (fun c => ({ peer := p, claim := c, timeout := fresh } : ClaimEntry))
    let learned' := if r.2.2 then s.learned.filter (fun v => v.peer ≠ p) else s.learned
    (({ s with claims := claims', learned := learned' }).sweep now, none)
  | .disconnect p =>
    -- everything of `p` disappears; then a sweep
    (({ s with claims := s.claims.filter (fun e => e.peer ≠ p),
               learned := s.learned.filter (fun v => v.peer ≠ p) }).sweep now, none)
  | .learn a p =>
    -- overwrite
    ({ s with learned := { addr := a, peer := p, timeout := now + s.cacheTimeout } ::
                s.learned.filter (fun v => v.addr ≠ a) }, none)
  | .sweep => (s.sweep now, none)
  | .lookup a =>
    match s.learned.find? (fun v => v.addr = a) with
    | some v => (s, some v.peer)
    | none =>
      match best a s.claims with
      | some e =>
        ({ s with learned := { addr := a, peer := e.peer, timeout := min (now + s.cacheTimeout) e.timeout } ::
                    s.learned }, some e.peer)
      | none => (s, none)

/-- a history: operations with their times; returns the final state and all answers -/
def run (s : Abs) : List (Int × TOp) → Abs × List (Option PeerId)
  | [] => (s, [])
  | (now, op) :: ops =>
    let r := s.step now op
    let rs := run r.1 ops
    (rs.1, r.2 :: rs.2)

end Abs

/-- the same operation on the model of `ClaimTable` -/
def stepT (t : Table) (now : Int) : TOp → Table × Option PeerId
  | .announce p cs => (t.setClaims now p cs, none)
  | .disconnect p => (t.removeClaims now p, none)
  | .learn a p => (t.learn now a p, none)
  | .sweep => (t.housekeep now, none)
  | .lookup a => t.lookup now a

/-- a history on the model -/
def runT (t : Table) : List (Int × TOp) → Table × List (Option PeerId)
  | [] => (t, [])
  | (now, op) :: ops =>
    let r := stepT t now op
    let rs := runT r.1 ops
    (rs.1, r.2 :: rs.2)

/-- the abstraction function: forget nothing but the representation -/
def abs (t : Table) : Abs :=
  { claims := t.claims, learned := t.cache, cacheTimeout := t.cacheTimeout, claimTimeout := t.claimTimeout }

/-- claim lists are compared up to exchanging neighbours that have the same peer and the same expiry
    (`set_claims` appends the new ranges of an announcement in an order that depends on `swap_remove`;
    such neighbours can never be told apart by a lookup) -/
inductive CEq : List ClaimEntry → List ClaimEntry → Prop
  | nil : CEq [] []
  | cons (x : ClaimEntry) {l l' : List ClaimEntry} : CEq l l' → CEq (x :: l) (x :: l')
  | swap (x y : ClaimEntry) (l : List ClaimEntry) : x.peer = y.peer → x.timeout = y.timeout →
      CEq (y :: x :: l) (x :: y :: l)
  | trans {a b c : List ClaimEntry} : CEq a b → CEq b c → CEq a c

/-- the refinement relation between a table and an abstract state -/
structure Rel (t : Table) (s : Abs) : Prop where
  learned : s.learned = t.cache
  claims : CEq t.claims s.claims
  cacheTimeout : s.cacheTimeout = t.cacheTimeout
  claimTimeout : s.claimTimeout = t.claimTimeout

end VpnCloud.Proofs.TableRefine
