import VpnCloud.Spec.TableSpec
import VpnCloud.Proofs.Lemmas.Table.TableRefineSpec
/-
  Helper lemmas about the claim-table model (`Model/Table.lean`) used by the property theorems
  of C11, C12 and C13.  The scan of `lookup` is `best` of `Lemmas/Table/TableRefineSpec.lean` (`scan_eq_best`); `lookup` is
  described once, through `best` (`lookup_hit`, `lookup_none`, `lookup_some`, `lookup_cases`); the sweep and `remove_claims` are
  `pruned` for no and for one peer id (`housekeep_eq_pruned`, `removeClaims_eq_pruned`).
-/
namespace VpnCloud.Proofs.TableLemmas
open VpnCloud.Table VpnCloud.Spec.TableSpec
open VpnCloud.Proofs.TableRefine (best)

theorem sameSet_iff {α} [DecidableEq α] (a b : List α) :
    sameSet a b = true ↔ ∀ x, x ∈ a ↔ x ∈ b := by
  simp only [sameSet, Bool.and_eq_true, List.all_eq_true, List.contains_iff_mem]
  constructor
  · rintro ⟨h1, h2⟩ x
    exact ⟨h1 x, h2 x⟩
  · intro h
    exact ⟨fun x hx => (h x).1 hx, fun x hx => (h x).2 hx⟩

theorem sameSet_refl {α} [DecidableEq α] (a : List α) : sameSet a a = true :=
  (sameSet_iff a a).2 (fun _ => Iff.rfl)

theorem filter_comm {α} (f g : α → Bool) (l : List α) :
    (l.filter f).filter g = (l.filter g).filter f := by
  rw [List.filter_filter, List.filter_filter]
  congr 1
  funext x
  exact Bool.and_comm _ _

theorem filter_filter_and {α} (f g : α → Bool) (l : List α) :
    (l.filter f).filter g = l.filter (fun x => f x && g x) := by
  rw [List.filter_filter]
  congr 1
  funext x
  exact Bool.and_comm _ _

theorem find?_filter_keep {α} {f g : α → Bool} {l : List α} {v : α} (h : l.find? f = some v)
    (hv : g v = true) : (l.filter g).find? f = some v := by
  obtain ⟨hf, as, bs, rfl, has⟩ := List.find?_eq_some_iff_append.1 h
  rw [List.find?_filter]
  exact List.find?_eq_some_iff_append.2 ⟨by simp [hv, hf], as, bs, rfl, fun a ha => by simp [has a ha]⟩

theorem perm_set {α} {d : List α} {pos : Nat} {x : α} (y : α) (h : d[pos]? = some x) :
    (x :: d.set pos y).Perm (y :: d) := by
  induction d generalizing pos with
  | nil => simp at h
  | cons a d ih =>
    cases pos with
    | zero =>
      cases h
      exact .swap _ _ _
    | succ n => exact (List.Perm.swap _ _ _).trans (((ih h).cons a).trans (.swap _ _ _))

/-- `swapRemove` removes exactly one occurrence of the element at position `pos` (which must be in bounds, as for
    `swap_remove` in Rust, which panics otherwise) -/
theorem swapRemove_perm {α} {l : List α} {pos : Nat} {x : α} (h : l[pos]? = some x) :
    (x :: swapRemove l pos).Perm l := by
  rcases List.eq_nil_or_concat l with rfl | ⟨d, last, rfl⟩
  · simp at h
  · rw [List.concat_eq_append] at h ⊢
    simp only [swapRemove, List.getLast?_concat, List.length_append, List.length_cons,
      List.length_nil, Nat.zero_add, Nat.add_right_cancel_iff]
    split
    · rename_i hp
      subst hp
      simp only [List.dropLast_concat]
      have : x = last := by simpa using h.symm
      subst this
      exact (List.perm_append_singleton x d).symm
    · rename_i hp
      have hlt : pos < d.length := by
        have := (List.getElem?_eq_some_iff.1 h).1
        simp at this
        omega
      rw [List.getElem?_append_left hlt] at h
      simp only [List.set_append, hlt, if_true, List.dropLast_concat]
      exact (perm_set last h).trans (List.perm_append_singleton last d).symm

/-- the bound is needed: an out-of-range `pos` still drops the last element -/
example : (3 : Nat) ∈ [1, 2, 3] ∧ 3 ∉ swapRemove [1, 2, 3] 5 ∧ [1, 2, 3][5]? ≠ some 3 := by decide

theorem position_eq (cs : List Range) (x : Range) : position cs x = cs.findIdx? (fun r => r = x) := by
  unfold position
  split <;> simp [*]

theorem position_some {cs : List Range} {x : Range} {pos : Nat} (h : position cs x = some pos) :
    cs[pos]? = some x := by
  rw [position_eq] at h
  obtain ⟨hlt, hp, _⟩ := List.findIdx?_eq_some_iff_getElem.1 h
  rw [List.getElem?_eq_getElem hlt, of_decide_eq_true hp]

theorem position_none {cs : List Range} {x : Range} (h : position cs x = none) : x ∉ cs := by
  rw [position_eq] at h
  exact fun hx => by simpa using List.findIdx?_eq_none_iff.1 h x hx

section Loop
variable (p : PeerId) (fresh : Int)

theorem loop_cons (e : ClaimEntry) (es : List ClaimEntry) (cs : List Range) (rm : Bool) :
    setClaimsLoop p fresh (e :: es) cs rm =
      if e.peer = p then
        match position cs e.claim with
        | some pos =>
          ({ e with timeout := fresh } :: (setClaimsLoop p fresh es (swapRemove cs pos) rm).1,
            (setClaimsLoop p fresh es (swapRemove cs pos) rm).2.1,
            (setClaimsLoop p fresh es (swapRemove cs pos) rm).2.2)
        | none =>
          ({ e with timeout := 0 } :: (setClaimsLoop p fresh es cs true).1,
            (setClaimsLoop p fresh es cs true).2.1, (setClaimsLoop p fresh es cs true).2.2)
      else
        (e :: (setClaimsLoop p fresh es cs rm).1, (setClaimsLoop p fresh es cs rm).2.1,
          (setClaimsLoop p fresh es cs rm).2.2) := by
  rfl

/-- the loop rewrites nothing but expiries of entries of `p`: a filter that rejects the entries of `p` sees what it saw before -/
theorem loop_filter (f : ClaimEntry → Bool) (hf : ∀ e : ClaimEntry, e.peer = p → f e = false) (es : List ClaimEntry)
    (cs : List Range) (rm : Bool) : (setClaimsLoop p fresh es cs rm).1.filter f = es.filter f := by
  fun_induction setClaimsLoop p fresh es cs rm with
  | case1 => rfl
  | case2 e es cs rm hp pos hpos r ih =>
    have h1 := hf { e with timeout := fresh } hp
    exact (List.filter_cons_of_neg (by simp [h1])).trans (ih.trans (List.filter_cons_of_neg (by simp [hf e hp])).symm)
  | case3 e es cs rm hp hpos r ih =>
    have h1 := hf { e with timeout := 0 } hp
    exact (List.filter_cons_of_neg (by simp [h1])).trans (ih.trans (List.filter_cons_of_neg (by simp [hf e hp])).symm)
  | case4 e es cs rm hp r ih => simp only [r, List.filter_cons, ih]

end Loop

/-! ### marking entries of a peer as expired, then sweeping -/

theorem mark_filter {α} (c : α → Prop) [DecidablePred c] (z : α → α) (live : α → Bool)
    (hz : ∀ x, c x → live (z x) = false) (l : List α) :
    (l.map (fun x => if c x then z x else x)).filter live =
      l.filter (fun x => decide (¬ c x) && live x) := by
  induction l with
  | nil => rfl
  | cons x xs ih =>
    rw [List.map_cons, List.filter_cons, List.filter_cons, ih]
    by_cases hc : c x <;> simp [hc, hz x]

theorem zero_filter_cache (l : List CacheEntry) (p : PeerId) (now : Int) (hnow : 0 < now) :
    (l.map (fun v => if v.peer = p then { v with timeout := 0 } else v)).filter
        (fun v => v.timeout ≥ now) =
      l.filter (fun v => v.peer ≠ p && v.timeout ≥ now) := by
  apply mark_filter
  exact fun _ _ => decide_eq_false (Int.not_le.2 hnow)

theorem zero_addrs (l : List CacheEntry) (p : PeerId) :
    (l.map (fun v => if v.peer = p then { v with timeout := 0 } else v)).map (fun v => v.addr) =
      l.map (fun v => v.addr) := by
  rw [List.map_map]
  apply List.map_congr_left
  intro v _
  simp only [Function.comp]
  split <;> rfl

-- `rfl` here and the filters `· ≥ now` below rest on the regenerated guards `Generated.claimLive` / `cacheLive` unfolding to `≥`
theorem setClaims_claims (t : Table) (now : Int) (p : PeerId) (cs : List Range) :
    (t.setClaims now p cs).claims =
      ((setClaimsLoop p (now + t.claimTimeout) t.claims cs false).1 ++
        (setClaimsLoop p (now + t.claimTimeout) t.claims cs false).2.1.map
          (fun c => ({ peer := p, claim := c, timeout := now + t.claimTimeout } : ClaimEntry))).filter
        (fun e => e.timeout ≥ now) := rfl

theorem setClaims_cache (t : Table) (now : Int) (p : PeerId) (cs : List Range) :
    (t.setClaims now p cs).cache =
      (if (setClaimsLoop p (now + t.claimTimeout) t.claims cs false).2.2 then
          t.cache.map (fun v => if v.peer = p then { v with timeout := 0 } else v)
        else t.cache).filter (fun v => v.timeout ≥ now) := rfl

theorem removeClaims_claims (t : Table) (now : Int) (p : PeerId) (hnow : 0 < now) :
    (t.removeClaims now p).claims = t.claims.filter (fun e => e.peer ≠ p && e.timeout ≥ now) :=
  mark_filter (fun e : ClaimEntry => e.peer = p) _ _ (fun _ _ => decide_eq_false (Int.not_le.2 hnow)) _

theorem removeClaims_cache (t : Table) (now : Int) (p : PeerId) (hnow : 0 < now) :
    (t.removeClaims now p).cache = t.cache.filter (fun v => v.peer ≠ p && v.timeout ≥ now) :=
  zero_filter_cache t.cache p now hnow

/-- `t` swept at `now`, without the entries of the peer ids in `G` (a housekeeping tick of the node: all peers that left) -/
def pruned (t : Table) (now : Int) (G : List PeerId) : Table :=
  { t with cache := t.cache.filter (fun v => decide (v.peer ∉ G) && decide (v.timeout ≥ now)),
           claims := t.claims.filter (fun e => decide (e.peer ∉ G) && decide (e.timeout ≥ now)) }

theorem table_ext {t t' : Table} (h1 : t.cache = t'.cache) (h2 : t.claims = t'.claims) (h3 : t.cacheTimeout = t'.cacheTimeout)
    (h4 : t.claimTimeout = t'.claimTimeout) : t = t' := by
  cases t; cases t'; cases h1; cases h2; cases h3; cases h4; rfl

theorem housekeep_eq_pruned (t : Table) (now : Int) : t.housekeep now = pruned t now [] := by
  refine table_ext (List.filter_congr fun v _ => ?_) (List.filter_congr fun e _ => ?_) rfl rfl <;> simp

/-- `0 < now`: `remove_claims` marks the entries of the peer with the expiry 0 and sweeps, which drops them only at a time after 0 -/
theorem removeClaims_eq_pruned (t : Table) (now : Int) (hnow : 0 < now) (p : PeerId) : t.removeClaims now p = pruned t now [p] := by
  refine table_ext ?_ ?_ rfl rfl
  · rw [removeClaims_cache t now p hnow]
    exact List.filter_congr fun v _ => by simp
  · rw [removeClaims_claims t now p hnow]
    exact List.filter_congr fun e _ => by simp

theorem and_twice (a b c : Bool) : (a && c && (b && c)) = (a && b && c) := by cases a <;> cases b <;> cases c <;> rfl

theorem removeClaims_pruned (t : Table) (now : Int) (hnow : 0 < now) (G : List PeerId) (p : PeerId) :
    (pruned t now G).removeClaims now p = pruned t now (p :: G) := by
  refine table_ext ?_ ?_ rfl rfl
  · rw [removeClaims_cache _ now p hnow]
    exact List.filter_filter.trans (List.filter_congr fun v _ => by simp; exact and_twice _ _ _)
  · rw [removeClaims_claims _ now p hnow]
    exact List.filter_filter.trans (List.filter_congr fun e _ => by simp; exact and_twice _ _ _)

theorem mem_pruned_claims {t : Table} {now : Int} {G : List PeerId} {e : ClaimEntry} :
    e ∈ (pruned t now G).claims ↔ e ∈ t.claims ∧ e.peer ∉ G ∧ now ≤ e.timeout := by
  simp [pruned, List.mem_filter]

theorem mem_pruned_cache {t : Table} {now : Int} {G : List PeerId} {v : CacheEntry} :
    v ∈ (pruned t now G).cache ↔ v ∈ t.cache ∧ v.peer ∉ G ∧ now ≤ v.timeout := by
  simp [pruned, List.mem_filter]

theorem pruned_sublist (t : Table) (now : Int) (G : List PeerId) :
    (pruned t now G).cache.Sublist (t.housekeep now).cache ∧ (pruned t now G).claims.Sublist (t.housekeep now).claims := by
  constructor
  · show (t.cache.filter _).Sublist (t.cache.filter _)
    rw [← List.filter_filter]; exact List.filter_sublist
  · show (t.claims.filter _).Sublist (t.claims.filter _)
    rw [← List.filter_filter]; exact List.filter_sublist

theorem foldl_max_eq (l : List ClaimEntry) (m k : Nat) (hm : m ≤ k)
    (hall : ∀ e ∈ l, e.claim.prefixLen ≤ k) (hex : m = k ∨ ∃ e ∈ l, e.claim.prefixLen = k) :
    l.foldl (fun m e => max m e.claim.prefixLen) m = k := by
  induction l generalizing m with
  | nil =>
    rcases hex with h | ⟨e, he, _⟩
    · exact h
    · simp at he
  | cons e es ih =>
    rw [List.foldl_cons]
    have he := hall e List.mem_cons_self
    apply ih
    · omega
    · exact fun e' he' => hall e' (List.mem_cons_of_mem _ he')
    · rcases hex with h | ⟨e', he', hk⟩
      · left; omega
      · rcases List.mem_cons.1 he' with rfl | he'
        · left; omega
        · exact Or.inr ⟨e', he', hk⟩

theorem maxPrefix_eq (l : List ClaimEntry) (e : ClaimEntry) (he : e ∈ l)
    (hall : ∀ e' ∈ l, e'.claim.prefixLen ≤ e.claim.prefixLen) :
    maxPrefix l = e.claim.prefixLen :=
  foldl_max_eq l 0 _ (Nat.zero_le _) hall (Or.inr ⟨e, he, rfl⟩)

theorem scan_none (a : Addr) (l : List ClaimEntry) (acc : Option ClaimEntry)
    (h : scan a l acc = none) : acc = none ∧ ∀ e ∈ l, e.claim.matches a = false := by
  fun_induction scan a l acc with
  | case1 acc => exact ⟨h, by simp⟩
  | case2 e es acc longer hc ih => exact absurd (ih h).1 (by simp)
  | case3 e es acc longer hc ih =>
    obtain ⟨rfl, h2⟩ := ih h
    exact ⟨rfl, List.forall_mem_cons.2 ⟨by simpa [longer] using hc, h2⟩⟩

/-- what the scan returns: an entry at least as long as every matching entry, and — unless it is the accumulator itself —
    a matching entry of the list that is strictly longer than every matching entry before it and than the accumulator -/
theorem scan_spec (a : Addr) (l : List ClaimEntry) (acc : Option ClaimEntry) (r : ClaimEntry)
    (h : scan a l acc = some r) :
    (∀ e ∈ l, e.claim.matches a = true → e.claim.prefixLen ≤ r.claim.prefixLen) ∧
    (acc = some r ∨ r.claim.matches a = true ∧ ∃ l1 l2, l = l1 ++ r :: l2 ∧
      (∀ e ∈ l1, e.claim.matches a = true → e.claim.prefixLen < r.claim.prefixLen) ∧
      ∀ x, acc = some x → x.claim.prefixLen < r.claim.prefixLen) := by
  fun_induction scan a l acc with
  | case1 acc => exact ⟨by simp, Or.inl h⟩
  | case2 e es acc longer hc ih =>
    -- `e` replaces the accumulator
    obtain ⟨hmax, hd⟩ := ih h
    simp only [longer, Bool.and_eq_true] at hc
    have hacc : ∀ x, acc = some x → x.claim.prefixLen < e.claim.prefixLen := by
      rintro x rfl
      simpa using hc.1
    have her : e.claim.prefixLen ≤ r.claim.prefixLen := by
      rcases hd with hd | ⟨_, _, _, _, _, h2⟩
      · cases hd
        exact Nat.le_refl _
      · exact Nat.le_of_lt (h2 e rfl)
    refine ⟨List.forall_mem_cons.2 ⟨fun _ => her, hmax⟩, Or.inr ?_⟩
    rcases hd with hd | ⟨hr, l1, l2, rfl, h1, h2⟩
    · cases hd
      exact ⟨hc.2, [], es, rfl, by simp, hacc⟩
    · exact ⟨hr, e :: l1, l2, rfl, List.forall_mem_cons.2 ⟨fun _ => h2 e rfl, h1⟩,
        fun x hx => Nat.lt_trans (hacc x hx) (h2 e rfl)⟩
  | case3 e es acc longer hc ih =>
    -- the accumulator stays: if `e` matches, it is not longer than the accumulator
    obtain ⟨hmax, hd⟩ := ih h
    have hle : e.claim.matches a = true → ∃ x, acc = some x ∧ e.claim.prefixLen ≤ x.claim.prefixLen := by
      intro hm
      cases acc with
      | none => simp [longer, hm] at hc
      | some x => exact ⟨x, rfl, by simpa [longer, hm] using hc⟩
    constructor
    · refine List.forall_mem_cons.2 ⟨fun hm => ?_, hmax⟩
      obtain ⟨x, rfl, hx⟩ := hle hm
      rcases hd with hd | ⟨_, _, _, _, _, h2⟩
      · cases hd
        exact hx
      · exact Nat.le_trans hx (Nat.le_of_lt (h2 x rfl))
    · refine hd.imp_right fun ⟨hr, l1, l2, hl, h1, h2⟩ => ⟨hr, e :: l1, l2, by rw [hl]; rfl, ?_, h2⟩
      refine List.forall_mem_cons.2 ⟨fun hm => ?_, h1⟩
      obtain ⟨x, rfl, hx⟩ := hle hm
      exact Nat.lt_of_le_of_lt hx (h2 x rfl)

theorem scan_some_mem (a : Addr) (l : List ClaimEntry) (e : ClaimEntry)
    (hs : scan a l none = some e) : e ∈ l ∧ e.claim.matches a = true := by
  obtain ⟨_, h | ⟨hr, l1, l2, rfl, _⟩⟩ := scan_spec a l none e hs
  · cases h
  · exact ⟨by simp, hr⟩

theorem cacheInsert_fresh (c : List CacheEntry) (x : CacheEntry)
    (hc : c.find? (fun v => v.addr = x.addr) = none) : cacheInsert c x = x :: c := by
  unfold cacheInsert
  congr 1
  rw [List.filter_eq_self]
  intro v hv
  simpa using List.find?_eq_none.1 hc v hv

theorem find?_cacheInsert (c : List CacheEntry) (x : CacheEntry) (a : Addr) :
    (cacheInsert c x).find? (fun v => v.addr = a) =
      if x.addr = a then some x else c.find? (fun v => v.addr = a) := by
  unfold cacheInsert
  by_cases h : x.addr = a
  · rw [if_pos h, List.find?_cons_of_pos (by simpa using h)]
  · rw [if_neg h, List.find?_cons_of_neg (by simpa using h), List.find?_filter]
    congr 1
    funext v
    by_cases hv : v.addr = a
    · subst hv
      simpa using fun h' => h h'.symm
    · simp [hv]

theorem filter_addr_nodup {l : List CacheEntry} (h : (l.map (fun v => v.addr)).Nodup) (f : CacheEntry → Bool) :
    ((l.filter f).map (fun v => v.addr)).Nodup :=
  List.Nodup.sublist (List.Sublist.map _ List.filter_sublist) h

theorem cacheInsert_nodup {c : List CacheEntry} (h : (c.map (fun v => v.addr)).Nodup) (x : CacheEntry) :
    ((cacheInsert c x).map (fun v => v.addr)).Nodup := by
  simp only [cacheInsert, List.map_cons, List.nodup_cons]
  refine ⟨?_, filter_addr_nodup h _⟩
  simp only [List.mem_map, List.mem_filter, decide_eq_true_eq, not_exists, not_and]
  intro v hv hx
  exact hv.2 hx

theorem best_of_first {a : Addr} {l1 l2 : List ClaimEntry} {r : ClaimEntry} (hr : r.claim.matches a = true)
    (hmax : ∀ e ∈ l1 ++ r :: l2, e.claim.matches a = true → e.claim.prefixLen ≤ r.claim.prefixLen)
    (h1 : ∀ e ∈ l1, e.claim.matches a = true → e.claim.prefixLen < r.claim.prefixLen) :
    best a (l1 ++ r :: l2) = some r := by
  have hmem : r ∈ (l1 ++ r :: l2).filter (fun e => e.claim.matches a) :=
    List.mem_filter.2 ⟨by simp, hr⟩
  refine List.find?_eq_some_iff_append.2
    ⟨?_, l1.filter (fun e => e.claim.matches a), l2.filter (fun e => e.claim.matches a), by simp [hr], ?_⟩
  · exact List.all_eq_true.2 fun e he =>
      decide_eq_true (hmax e (List.mem_filter.1 he).1 (List.mem_filter.1 he).2)
  · intro e he
    rw [List.mem_filter] at he
    have := h1 e he.1 he.2
    simp only [Bool.not_eq_eq_eq_not, Bool.not_true, List.all_eq_false]
    exact ⟨r, hmem, by simpa using this⟩

theorem best_eq_none {a : Addr} {l : List ClaimEntry} (h : ∀ e ∈ l, e.claim.matches a = false) :
    best a l = none := by
  have : l.filter (fun e => e.claim.matches a) = [] :=
    List.filter_eq_nil_iff.2 fun e he => by simp [h e he]
  simp [best, this]

/-- the scan of `ClaimTable::lookup` computes `best` -/
theorem scan_eq_best (a : Addr) (l : List ClaimEntry) : scan a l none = best a l := by
  cases h : scan a l none with
  | none => exact (best_eq_none (scan_none a l none h).2).symm
  | some r =>
    obtain ⟨hmax, h0 | ⟨hr, l1, l2, rfl, h1, _⟩⟩ := scan_spec a l none r h
    · cases h0
    · exact (best_of_first hr hmax h1).symm

theorem best_mem {a : Addr} {cl : List ClaimEntry} {e : ClaimEntry} (h : best a cl = some e) :
    e ∈ cl ∧ e.claim.matches a = true := by
  have := List.mem_of_find?_eq_some h
  exact List.mem_filter.1 this

theorem lookup_hit (t : Table) (now : Int) (a : Addr) (v : CacheEntry)
    (hc : t.cache.find? (fun v => v.addr = a) = some v) : t.lookup now a = (t, some v.peer) := by
  simp only [lookup, hc]

theorem lookup_none (t : Table) (now : Int) (a : Addr)
    (hc : t.cache.find? (fun v => v.addr = a) = none) (hb : best a t.claims = none) :
    t.lookup now a = (t, none) := by
  simp only [lookup, hc, scan_eq_best, hb]

theorem lookup_some (t : Table) (now : Int) (a : Addr) (e : ClaimEntry)
    (hc : t.cache.find? (fun v => v.addr = a) = none) (hb : best a t.claims = some e) :
    t.lookup now a =
      ({ t with cache := ⟨a, e.peer, min (now + t.cacheTimeout) e.timeout⟩ :: t.cache }, some e.peer) := by
  simp only [lookup, hc, scan_eq_best, hb]
  rw [cacheInsert_fresh _ _ hc]

theorem lookup_cases (t : Table) (now : Int) (a : Addr) :
    (∃ v, t.cache.find? (fun v => v.addr = a) = some v ∧ t.lookup now a = (t, some v.peer)) ∨
    (t.cache.find? (fun v => v.addr = a) = none ∧
      ((best a t.claims = none ∧ t.lookup now a = (t, none)) ∨
       ∃ e, best a t.claims = some e ∧ t.lookup now a =
         ({ t with cache := ⟨a, e.peer, min (now + t.cacheTimeout) e.timeout⟩ :: t.cache }, some e.peer))) := by
  cases hc : t.cache.find? (fun v => v.addr = a) with
  | some v => exact Or.inl ⟨v, rfl, lookup_hit t now a v hc⟩
  | none =>
    refine Or.inr ⟨rfl, ?_⟩
    cases hb : best a t.claims with
    | none => exact Or.inl ⟨rfl, lookup_none t now a hc hb⟩
    | some e => exact Or.inr ⟨e, rfl, lookup_some t now a e hc hb⟩

/-! ### where the entries of the table after an operation come from

  (`housekeep` is a `filter` on both lists by definition: `List.mem_filter` applies as it stands.) -/

theorem mem_cacheInsert {c : List CacheEntry} {v w : CacheEntry} :
    w ∈ cacheInsert c v ↔ w = v ∨ w ∈ c ∧ w.addr ≠ v.addr := by
  simp [cacheInsert]

theorem mem_removeClaims_claims (t : Table) (now : Int) (p : PeerId) (hnow : 0 < now) (e : ClaimEntry) :
    e ∈ (t.removeClaims now p).claims ↔ e ∈ t.claims ∧ e.peer ≠ p ∧ now ≤ e.timeout := by
  rw [removeClaims_eq_pruned t now hnow p, mem_pruned_claims, List.mem_singleton]

theorem mem_removeClaims_cache (t : Table) (now : Int) (p : PeerId) (hnow : 0 < now) (v : CacheEntry) :
    v ∈ (t.removeClaims now p).cache ↔ v ∈ t.cache ∧ v.peer ≠ p ∧ now ≤ v.timeout := by
  rw [removeClaims_eq_pruned t now hnow p, mem_pruned_cache, List.mem_singleton]

/-- at any time, positive or not: `set_claims` for `p` sweeps the entries of the other peers and does nothing else to them,
    in table order (the marks `0` go to entries of `p` only); `f`: any filter that rejects the entries of `p` -/
theorem setClaims_filter (t : Table) (now : Int) (p : PeerId) (cs : List Range) (f : ClaimEntry → Bool)
    (hf : ∀ e : ClaimEntry, e.peer = p → f e = false) :
    (t.setClaims now p cs).claims.filter f = (t.claims.filter f).filter (fun e => e.timeout ≥ now) := by
  have h2 : ((setClaimsLoop p (now + t.claimTimeout) t.claims cs false).2.1.map
      (fun c => ({ peer := p, claim := c, timeout := now + t.claimTimeout } : ClaimEntry))).filter f = [] := by
    rw [List.filter_eq_nil_iff]
    intro e he
    rcases List.mem_map.1 he with ⟨c, _, rfl⟩
    simp [hf ⟨p, c, now + t.claimTimeout⟩ rfl]
  rw [setClaims_claims, filter_comm, List.filter_append, h2, List.append_nil, loop_filter p _ f hf]

theorem removeClaims_filter (t : Table) (now : Int) (p : PeerId) (f : ClaimEntry → Bool)
    (hf : ∀ e : ClaimEntry, e.peer = p → f e = false) :
    (t.removeClaims now p).claims.filter f = (t.claims.filter f).filter (fun e => e.timeout ≥ now) := by
  show ((t.claims.map _).filter _).filter f = _
  rw [filter_comm, mark_filter (fun e : ClaimEntry => e.peer = p) (fun e => { e with timeout := 0 }) f (fun e he => hf _ he)]
  congr 1
  exact List.filter_congr fun e _ => by by_cases hp : e.peer = p <;> simp [hp, hf e]

theorem mem_setClaims_other (t : Table) (now : Int) (p : PeerId) (cs : List Range) {e : ClaimEntry} (hp : e.peer ≠ p) :
    e ∈ (t.setClaims now p cs).claims ↔ e ∈ t.claims ∧ now ≤ e.timeout := by
  have := congrArg (e ∈ ·) (setClaims_filter t now p cs (fun e => e.peer ≠ p) (fun e he => by simp [he]))
  simpa [hp] using this

theorem mem_setClaims_cache_other (t : Table) (now : Int) (p : PeerId) (cs : List Range) {v : CacheEntry} (hp : v.peer ≠ p) :
    v ∈ (t.setClaims now p cs).cache ↔ v ∈ t.cache ∧ now ≤ v.timeout := by
  rw [setClaims_cache, List.mem_filter, decide_eq_true_eq]
  refine and_congr_left fun _ => ?_
  by_cases hf : (setClaimsLoop p (now + t.claimTimeout) t.claims cs false).2.2 = true
  · rw [if_pos hf, List.mem_map]
    constructor
    · rintro ⟨w, hw, rfl⟩
      by_cases hwp : w.peer = p
      · rw [if_pos hwp] at hp
        exact absurd hwp hp
      · rwa [if_neg hwp]
    · exact fun hv => ⟨v, hv, if_neg hp⟩
  · rw [if_neg hf]

/-- so, without a positive clock (entries of `p` marked `0` may then survive the sweep): what `set_claims` leaves was there
    before or belongs to `p` -/
theorem mem_setClaims_claims (t : Table) (now : Int) (p : PeerId) (cs : List Range) (e : ClaimEntry)
    (he : e ∈ (t.setClaims now p cs).claims) : (e ∈ t.claims ∨ e.peer = p) ∧ now ≤ e.timeout := by
  by_cases hp : e.peer = p
  · exact ⟨Or.inr hp, of_decide_eq_true (List.mem_filter.1 he).2⟩
  · exact ((mem_setClaims_other t now p cs hp).1 he).imp_left Or.inl

theorem mem_setClaims_cache (t : Table) (now : Int) (p : PeerId) (cs : List Range) (v : CacheEntry)
    (hv : v ∈ (t.setClaims now p cs).cache) : (v ∈ t.cache ∨ v.peer = p) ∧ now ≤ v.timeout := by
  by_cases hp : v.peer = p
  · exact ⟨Or.inr hp, of_decide_eq_true (List.mem_filter.1 hv).2⟩
  · exact ((mem_setClaims_cache_other t now p cs hp).1 hv).imp_left Or.inl

/-- a lookup can only return a peer that has a cached entry or a claim in the table -/
theorem lookup_answer (t : Table) (now : Int) (a : Addr) (q : PeerId) (h : (t.lookup now a).2 = some q) :
    (∃ v ∈ t.cache, v.peer = q) ∨ ∃ e ∈ t.claims, e.peer = q := by
  rcases lookup_cases t now a with ⟨v, hc, hl⟩ | ⟨_, ⟨_, hl⟩ | ⟨e, hb, hl⟩⟩ <;> rw [hl] at h
  · exact Or.inl ⟨v, List.mem_of_find?_eq_some hc, Option.some.inj h⟩
  · cases h
  · exact Or.inr ⟨e, (best_mem hb).1, Option.some.inj h⟩

theorem lookup_frame (t : Table) (now : Int) (a : Addr) :
    (t.lookup now a).1 = { t with cache := (t.lookup now a).1.cache } := by
  rcases lookup_cases t now a with ⟨_, _, hl⟩ | ⟨_, ⟨_, hl⟩ | ⟨_, _, hl⟩⟩ <;> rw [hl]

theorem mem_lookup_cache (t : Table) (now : Int) (a : Addr) (v : CacheEntry) (hv : v ∈ (t.lookup now a).1.cache) :
    v ∈ t.cache ∨ ∃ e ∈ t.claims, e.claim.matches a = true ∧ v = ⟨a, e.peer, min (now + t.cacheTimeout) e.timeout⟩ := by
  rcases lookup_cases t now a with ⟨_, _, hl⟩ | ⟨_, ⟨_, hl⟩ | ⟨e, hb, hl⟩⟩ <;> rw [hl] at hv
  · exact Or.inl hv
  · exact Or.inl hv
  · rcases List.mem_cons.1 hv with rfl | hv
    · exact Or.inr ⟨e, (best_mem hb).1, (best_mem hb).2, rfl⟩
    · exact Or.inl hv

/-- a concrete table: two peers, three claims (one of them expired), two cached decisions -/
def exTable : Table :=
  { cacheTimeout := 300
    claimTimeout := 1800
    claims := [⟨1, ⟨[10, 0, 0, 0], 8⟩, 2000⟩, ⟨2, ⟨[10, 1, 0, 0], 16⟩, 2000⟩, ⟨1, ⟨[10, 2, 0, 0], 16⟩, 50⟩]
    cache := [⟨[10, 2, 0, 1], 1, 400⟩, ⟨[10, 1, 0, 1], 2, 400⟩] }

end VpnCloud.Proofs.TableLemmas
