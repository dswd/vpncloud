import VpnCloud.Proofs.C07More
import VpnCloud.Proofs.C16
import VpnCloud.Proofs.Lemmas.Node.SessionInvLemmas
/-
  Helper lemmas for `Proofs/C07Session.lean` (C07 at the level of `PeerCrypto` sessions).

  * `CoreSame`: what `encrypt`, `decrypt`, `every_second` of the crypto core leave unchanged (key references, sending slot, half).
  * `SideOK` / `Cpl` / `Sess`: the coupling of the rotation state of a session with the key slots of its core.
  * `rotOf` / `absSent`: the rotation message a sealed datagram carries (through the ideal-AEAD view `bodyOf`).
  * `everySecond_eff`, `handleMessage_eff`, `sendMessage_eff`: what `PeerCrypto.everySecond`, `PeerCrypto.handleMessage` (on a datagram
    without handshake marker) and `PeerCrypto.sendMessage` do to an established session, in terms of `Rot.cycle` / `Rot.process`.
  The symbolic system these refine — one end at a time, arbitrary numbers for new key pairs (`ROp`, `StepF`, `RoundF`) — is in
  `C07.lean` and `Lemmas/Core/RotLemmas.lean`.
-/
namespace VpnCloud.Proofs.C07SessionLemmas

open VpnCloud.Rot VpnCloud.Codec
open VpnCloud.Proofs.SessionInvLemmas

def keysOf (c : Core) : List KeyRef := c.slots.map (·.key)

structure CoreSame (c c' : Core) : Prop where
  keys : keysOf c' = keysOf c
  cur : c'.cur = c.cur
  half : c'.half = c.half

theorem CoreSame.refl (c : Core) : CoreSame c c := ⟨rfl, rfl, rfl⟩

theorem CoreSame.trans {a b c : Core} (h1 : CoreSame a b) (h2 : CoreSame b c) : CoreSame a c :=
  ⟨h2.keys.trans h1.keys, h2.cur.trans h1.cur, h2.half.trans h1.half⟩

theorem step_same (c : Core) (op : C04Session.SOp) (hop : ∀ K id use start, op ≠ .rotate K id use start) :
    CoreSame c (C04Session.step c op).1 := by
  refine ⟨C04Session.step_keys c op hop, (C04Session.step_cur c op).trans ?_, C04Session.step_half c op⟩
  cases op with
  | rotate K id use start => exact absurd rfl (hop K id use start)
  | _ => rfl

/-- key material that came out of a key agreement (handshake or rotation), as opposed to the throw-away keys of unused slots -/
def NonDummy : Rot.Key → Prop
  | .dummy _ _ => False
  | _ => True

theorem nonDummy_K (a b : Nat) : NonDummy (K a b) := by
  rw [K_eq]; trivial

/-- well-formedness of a rotation state: the sending slot is one of the four and holds agreed key material; public keys are 32-byte
    numbers; a stored confirmation carries an id the end has reached -/
structure SideOK (sd : Side) : Prop where
  curlt : sd.cur < 4
  curnd : NonDummy (sd.slots sd.cur)
  pend : ∀ k e, sd.pending = some (k, e) → NonDummy k ∧ e < 2 ^ 256
  prop : ∀ p, sd.proposed = some p → p < 2 ^ 256
  conf : ∀ c i, sd.confirmed = some (c, i) → c < 2 ^ 256 ∧ i ≤ sd.id

/-- **the key slots of the core are the slots of the rotation state**: same sending slot, and every slot that holds agreed key material
    holds the reference `keyRefOf master ·` of that material (throw-away keys are private to each end and never used for sealing) -/
structure Cpl (master : KeyRef) (sd : Side) (c : Core) : Prop where
  len : c.slots.length = 4
  cur : c.cur = sd.cur
  keys : ∀ i, i < 4 → NonDummy (sd.slots i) → (keysOf c)[i]? = some (PeerCrypto.keyRefOf master (sd.slots i))

theorem Cpl.same {master : KeyRef} {sd : Side} {c c' : Core} (h : Cpl master sd c) (hs : CoreSame c c') : Cpl master sd c' := by
  refine ⟨?_, hs.cur.trans h.cur, fun i hi hn => by rw [hs.keys]; exact h.keys i hi hn⟩
  have := congrArg List.length hs.keys
  simp only [keysOf, List.length_map] at this
  rw [this]; exact h.len

theorem Cpl.frame {master : KeyRef} {sd sd' : Side} {c : Core} (h : Cpl master sd c) (hs : sd'.slots = sd.slots) (hc : sd'.cur = sd.cur) :
    Cpl master sd' c :=
  ⟨h.len, by rw [hc]; exact h.cur, fun i hi hn => by rw [hs] at hn ⊢; exact h.keys i hi hn⟩

theorem keysOf_rotateKey (c : Core) (key : KeyRef) (id : Nat) (use : Bool) (st : Nat) :
    keysOf (c.rotateKey key id use st) = (keysOf c).set (id % 4) key := by
  simp [keysOf, Core.rotateKey, Core.SLOTS, SlotKey.new, List.map_set]

/-- `rotate_key` with the reference of key `k` under id `id`: the rotation state's slots after `install` -/
theorem Cpl.rotate {master : KeyRef} {sd sd' : Side} {c : Core} (h : Cpl master sd c) (k : Rot.Key) (id : Nat) (use : Bool) (st : Nat)
    (hs : sd'.slots = install sd.slots k id) (hc : sd'.cur = if use then id % 4 else sd.cur) :
    Cpl master sd' (c.rotateKey (PeerCrypto.keyRefOf master k) id use st) := by
  refine ⟨?_, ?_, ?_⟩
  · simp [Core.rotateKey, h.len]
  · rw [hc]; simp only [Core.rotateKey, Core.SLOTS, h.cur]
  · intro i hi hn
    rw [keysOf_rotateKey, hs]
    rw [hs] at hn
    have hl : (keysOf c).length = 4 := by simp [keysOf, h.len]
    by_cases e : i = id % 4
    · subst e
      simp only [install, if_true]
      rw [List.getElem?_set_self (by omega)]
    · simp only [install, if_neg e] at hn ⊢
      rw [List.getElem?_set_ne (fun e' => e e'.symm)]
      exact h.keys i hi hn

theorem sideOK_process {sd : Side} (h : SideOK sd) (m : Msg) {f : Nat} (hf : f < 2 ^ 256) : SideOK (process sd m f) := by
  have hp : ∀ k e, some (K f m.propose, f) = some (k, e) → NonDummy k ∧ e < 2 ^ 256 := by
    intro k e hke; cases hke; exact ⟨nonDummy_K _ _, hf⟩
  rcases process_cases sd m f with ⟨_, e⟩ | ⟨_, _, e⟩ | ⟨_, c, p, _, _, e⟩ <;> rw [e]
  · exact h
  · exact ⟨h.curlt, h.curnd, hp, h.prop, h.conf⟩
  · refine ⟨Nat.mod_lt _ (by decide), ?_, hp, (fun _ hq => by cases hq), h.conf⟩
    simp only [install, if_true]; exact nonDummy_K _ _

theorem sideOK_cycle {sd : Side} (h : SideOK sd) {f : Nat} (hf : f < 2 ^ 256) : SideOK (cycle sd f).1 := by
  by_cases hw : Waiting sd
  · obtain ⟨key, e, hq, hc⟩ := cycle_waiting hw f
    obtain ⟨hk, he⟩ := h.pend key e hq
    rw [hc]
    refine ⟨h.curlt, ?_, (fun _ _ hn => by cases hn), (fun p hp' => by cases hp'; exact hf),
      (fun c i hc => by cases hc; exact ⟨he, Nat.le_refl _⟩)⟩
    simp only [install]
    split
    · exact hk
    · exact h.curnd
  · obtain ⟨b, e⟩ := cycle_fst_of_not_waiting hw f
    rw [e]
    exact ⟨h.curlt, h.curnd, h.pend, h.prop, h.conf⟩

theorem cycle_msg_small {sd : Side} (h : SideOK sd) {f : Nat} (hf : f < 2 ^ 256) (hid : sd.id + 2 < 2 ^ 64) {m : Msg}
    (hm : (cycle sd f).2 = some m) : m.id < 2 ^ 64 ∧ m.propose < 2 ^ 256 ∧ ∀ c, m.confirm = some c → c < 2 ^ 256 := by
  by_cases hw : Waiting sd
  · obtain ⟨key, e, hq, hc⟩ := cycle_waiting hw f
    rw [hc] at hm; cases hm
    exact ⟨hid, hf, fun c hc => by cases hc; exact (h.pend key e hq).2⟩
  · rcases cycle_not_waiting hw f with ⟨b, e⟩ | ⟨p, hp, e⟩ <;> rw [e] at hm <;> cases hm
    refine ⟨?_, h.prop p hp, fun c hc => ?_⟩
    · cases hci : sd.confirmed with
      | none => exact Nat.one_lt_two_pow (by decide)
      | some ci => have := (h.conf ci.1 ci.2 hci).2; show ci.2 < 2 ^ 64; omega
    · obtain ⟨ci, hci, rfl⟩ := Option.map_eq_some_iff.1 hc
      exact (h.conf ci.1 ci.2 hci).1

/-- the rotation message a datagram carries: its ciphertext (behind the 8 header bytes) opens — in the ideal-AEAD view — as a plaintext
    of type ROTATION whose body parses -/
def rotOf (bodyOf : Init.BodyOf) (d : Bytes) : Option Rot.Msg :=
  match bodyOf (d.drop 8) with
  | .sealed _ _ (ty :: body) =>
    if ty = Generated.MESSAGE_TYPE_ROTATION then (readRotMsg body).map PeerCrypto.rotMsgOfBytes else none
  | _ => none

/-- the rotation messages among the datagrams an end has emitted -/
def absSent (bodyOf : Init.BodyOf) (l : List Bytes) : List Rot.Msg := l.filterMap (rotOf bodyOf)

theorem pow256_32 : (256 : Nat) ^ 32 = 2 ^ 256 := by decide

theorem beVal_ofBE32 {v : Nat} (h : v < 2 ^ 256) : Bytes.beVal (Bytes.ofBE 32 v) = v := by
  rw [Bytes.beVal_ofBE, pow256_32]; exact Nat.mod_eq_of_lt h

theorem rotMsg_wire_roundtrip (m : Rot.Msg) (hid : m.id < 2 ^ 64) (hp : m.propose < 2 ^ 256)
    (hc : ∀ c, m.confirm = some c → c < 2 ^ 256) :
    (readRotMsg (writeRotMsg (PeerCrypto.rotMsgToBytes m))).map PeerCrypto.rotMsgOfBytes = some m := by
  have h := C16.rotmsg_roundtrip (PeerCrypto.rotMsgToBytes m) [] hid
    ⟨by simp [PeerCrypto.rotMsgToBytes, Bytes.ofBE_length], Bytes.ofBE_wf _ _⟩
    (by
      intro c hc'
      obtain ⟨id, pr, cf⟩ := m
      cases cf with
      | none => cases hc'
      | some c0 =>
        simp only [PeerCrypto.rotMsgToBytes, Option.map_some, Option.some.injEq] at hc'
        subst hc'
        simp [Bytes.ofBE_length, Bytes.ofBE_wf])
  rw [List.append_nil] at h
  rw [h]
  obtain ⟨id, pr, cf⟩ := m
  simp only [Option.map_some, PeerCrypto.rotMsgOfBytes, PeerCrypto.rotMsgToBytes, Option.some.injEq]
  simp only [] at hp hc
  rw [beVal_ofBE32 hp]
  cases cf with
  | none => rfl
  | some c0 => simp only [Option.map_some, beVal_ofBE32 (hc c0 rfl)]

theorem rotOf_sealed (bodyOf : Init.BodyOf) (d : Bytes) (key n : Nat) (plain : Bytes)
    (hb : bodyOf (d.drop 8) = .sealed key n plain) :
    rotOf bodyOf d = match plain with
      | ty :: body => if ty = Generated.MESSAGE_TYPE_ROTATION then (readRotMsg body).map PeerCrypto.rotMsgOfBytes else none
      | [] => none := by
  unfold rotOf
  cases plain <;> simp only [hb]

/-- an established, encrypted session: rotation state `sd`, crypto core `c`, coupled -/
structure Sess (pc : PeerCrypto) (sd : Side) (c : Core) : Prop where
  rot : pc.rot = some sd
  core : pc.core = some c
  enc : pc.unencrypted = false
  ok : SideOK sd
  cpl : Cpl pc.master sd c

theorem Sess.withCore {pc : PeerCrypto} {sd : Side} {c c' : Core} (h : Sess pc sd c) (hs : CoreSame c c') :
    Sess { pc with core := some c' } sd c' :=
  ⟨h.rot, rfl, h.enc, h.ok, h.cpl.same hs⟩

theorem Sess.cur_slot {pc : PeerCrypto} {sd : Side} {c : Core} (h : Sess pc sd c) : ∃ k, c.slots[c.cur]? = some k := by
  have hcur : c.cur < c.slots.length := by rw [h.cpl.len, h.cpl.cur]; exact h.ok.curlt
  exact ⟨c.slots[c.cur], List.getElem?_eq_getElem hcur⟩

theorem sealMsg_sess {pc : PeerCrypto} {sd : Side} {c : Core} (h : Sess pc sd c) (plain ct : Bytes) :
    ∃ c' hdr key n, PeerCrypto.sealMsg pc plain ct = ({ pc with core := some c' }, .ok (hdr ++ ct, [(ct, .sealed key n plain)])) ∧
      CoreSame c c' ∧ hdr.length = 8 ∧ hdr.head? = some sd.cur := by
  obtain ⟨k, hk⟩ := h.cur_slot
  have hs : CoreSame c (c.encrypt plain).1 := step_same c (.seal plain) nofun
  have he := SessionOps.sealMsg_enc h.enc h.core plain ct
  rw [CoreLemmas.encrypt_eq c plain k hk] at he hs
  exact ⟨_, _, _, _, he, hs, by simp only [List.length_cons, Bytes.ofBE_length], by rw [h.cpl.cur]; rfl⟩

theorem sess_installKey {pc : PeerCrypto} {sd sd' : Side} {c : Core} {k : Rot.Key} {id : Nat} {use : Bool}
    (hr : pc.rot = some sd') (hcore : pc.core = some c) (he : pc.unencrypted = false) (hok : SideOK sd')
    (hcpl : Cpl pc.master sd c) (hs : sd'.slots = install sd.slots k id) (hc : sd'.cur = if use then id % 4 else sd.cur)
    (starts : List Nat) :
    ∃ c', PeerCrypto.installKey pc (sd'.slots (id % 4)) id use starts = { pc with core := some c' } ∧
      Sess { pc with core := some c' } sd' c' ∧ c'.half = c.half := by
  have hk : sd'.slots (id % 4) = k := by rw [hs]; simp only [install, if_true]
  refine ⟨c.rotateKey (PeerCrypto.keyRefOf pc.master k) id use (starts.getD (id % 4) 0), ?_,
    ⟨hr, rfl, he, hok, hcpl.rotate k id use _ hs hc⟩, rfl⟩
  simp only [PeerCrypto.installKey, hcore, hk]

theorem waiting_iff (sd : Side) : (sd.proposed.isNone && sd.pending.isSome) = true ↔ Waiting sd := by
  unfold Waiting
  cases sd.proposed <;> cases sd.pending <;> simp

theorem cycle_shape (sd : Side) (f : Nat) :
    (cycle sd f).1.cur = sd.cur ∧
    (((sd.proposed.isNone && sd.pending.isSome) = false ∧ (cycle sd f).1.slots = sd.slots) ∨
     ((sd.proposed.isNone && sd.pending.isSome) = true ∧ ∃ k, (cycle sd f).1.slots = install sd.slots k (cycle sd f).1.id)) := by
  by_cases hw : Waiting sd
  · obtain ⟨key, e, _, hc⟩ := cycle_waiting hw f
    rw [hc]
    exact ⟨rfl, Or.inr ⟨(waiting_iff sd).2 hw, key, rfl⟩⟩
  · obtain ⟨b, e⟩ := cycle_fst_of_not_waiting hw f
    rw [e]
    exact ⟨rfl, Or.inl ⟨Bool.eq_false_iff.2 (mt (waiting_iff sd).1 hw), rfl⟩⟩

theorem process_shape (sd : Side) (m : Msg) (f : Nat) :
    ((decide (m.id > sd.id) && m.confirm.isSome && sd.proposed.isSome) = false ∧
      (process sd m f).slots = sd.slots ∧ (process sd m f).cur = sd.cur) ∨
    ((decide (m.id > sd.id) && m.confirm.isSome && sd.proposed.isSome) = true ∧ ∃ p c,
      (process sd m f).slots = install sd.slots (K p c) m.id ∧ (process sd m f).cur = m.id % 4) := by
  rcases process_cases sd m f with ⟨hle, e⟩ | ⟨_, hn, e⟩ | ⟨hle, c, p, hc, hp, e⟩ <;> rw [e]
  · exact Or.inl ⟨by rw [decide_eq_false (by omega)]; rfl, rfl, rfl⟩
  · refine Or.inl ⟨?_, rfl, rfl⟩
    rcases hn with hn | hn <;> rw [hn] <;> simp
  · exact Or.inr ⟨by rw [hc, hp, decide_eq_true (by omega)]; rfl, p, c, rfl, rfl⟩

def CycOut (sd : Side) (rr : RotRand) (m : Option Msg) (out : Bytes) (log : Init.SealLog) : Prop :=
  match m with
  | none => log = [] ∧ out = []
  | some m => ∃ hdr key n, hdr.length = 8 ∧ hdr.head? = some sd.cur ∧ out = hdr ++ rr.ct ∧
      log = [(rr.ct, .sealed key n (Generated.MESSAGE_TYPE_ROTATION :: writeRotMsg (PeerCrypto.rotMsgToBytes m)))]

def RotEff (pc2 : PeerCrypto) (sd : Side) (c : Core) (rr : RotRand) (r : POutcome MsgResult) : Prop :=
  ∃ pc' out res log c', r = .ok pc' out res log ∧ pc'.init = pc2.init ∧ pc'.master = pc2.master ∧ c'.half = c.half ∧
    if pc2.rotateCounter + 1 < Generated.ROTATE_INTERVAL then
      Sess pc' sd c' ∧ log = [] ∧ out = [] ∧ pc'.rotateCounter = pc2.rotateCounter + 1
    else
      pc'.rotateCounter = 0 ∧ Sess pc' (cycle sd rr.freshProp).1 c' ∧ CycOut sd rr (cycle sd rr.freshProp).2 out log

theorem cycPc_sess {pc2 : PeerCrypto} {sd : Side} {c : Core} (h : Sess pc2 sd c) (rr : RotRand) (hf : rr.freshProp < 2 ^ 256) :
    ∃ c4, Sess (cycPc pc2 sd rr) (cycle sd rr.freshProp).1 c4 ∧ (cycPc pc2 sd rr).init = pc2.init ∧
      (cycPc pc2 sd rr).master = pc2.master ∧ c4.half = c.half ∧ (cycPc pc2 sd rr).rotateCounter = 0 := by
  have hok := sideOK_cycle h.ok hf
  unfold cycPc
  obtain ⟨hcur, ⟨hr, hs⟩ | ⟨hr, k, hs⟩⟩ := cycle_shape sd rr.freshProp
  · rw [hr]
    exact ⟨c, ⟨rfl, h.core, h.enc, hok, h.cpl.frame hs hcur⟩, rfl, rfl, rfl, rfl⟩
  · obtain ⟨c4, e, hs4, hh⟩ := sess_installKey (pc := { pc2 with rotateCounter := 0, rot := some (cycle sd rr.freshProp).1 })
      (use := false) rfl h.core h.enc hok h.cpl hs hcur rr.starts
    rw [hr, if_pos rfl, e]
    exact ⟨c4, hs4, rfl, rfl, hh, rfl⟩

theorem tickRot_eff {pc2 : PeerCrypto} {sd : Side} {c : Core} (h : Sess pc2 sd c) (rr : RotRand) (hf : rr.freshProp < 2 ^ 256) :
    RotEff pc2 sd c rr (tickRot pc2 rr) := by
  have hsd : ∀ sd', pc2.rot = some sd' → sd' = sd := fun sd' hr => Option.some.inj (hr.symm.trans h.rot)
  obtain ⟨c4, s4, i4, m4, hf4, r4⟩ := cycPc_sess h rr hf
  have hcur := (cycle_shape sd rr.freshProp).1
  refine tickRot_cases (M := RotEff pc2 sd c rr) pc2 rr (fun hn => by rw [h.rot] at hn; cases hn) (fun hc => ?_)
    (fun sd' hr hc hm => ?_) (fun sd' m pc5 bytes log hr hc hm hs => ?_) (fun sd' m pc5 e hr hc hm hs => ?_)
  · exact ⟨_, _, _, _, c, rfl, rfl, rfl, rfl, by rw [if_pos hc]; exact ⟨⟨h.rot, h.core, h.enc, h.ok, h.cpl⟩, rfl, rfl, rfl⟩⟩
  · cases hsd sd' hr
    exact ⟨_, _, _, _, c4, rfl, i4, m4, hf4, by rw [if_neg hc, hm]; exact ⟨r4, s4, rfl, rfl⟩⟩
  · cases hsd sd' hr
    obtain ⟨c', hdr, key, n, hs', hsame, hl, hh⟩ :=
      sealMsg_sess s4 (Generated.MESSAGE_TYPE_ROTATION :: writeRotMsg (PeerCrypto.rotMsgToBytes m)) rr.ct
    rw [hs'] at hs
    cases hs
    exact ⟨_, _, _, _, c', rfl, i4, m4, hsame.half.trans hf4, by
      rw [if_neg hc, hm]; exact ⟨r4, s4.withCore hsame, hdr, key, n, hl, by rw [hh, hcur], rfl, rfl⟩⟩
  · cases hsd sd' hr
    obtain ⟨c', hdr, key, n, hs', _⟩ :=
      sealMsg_sess s4 (Generated.MESSAGE_TYPE_ROTATION :: writeRotMsg (PeerCrypto.rotMsgToBytes m)) rr.ct
    rw [hs'] at hs
    cases hs

/-- the handshake object of the session is gone or only waits to be dropped: it emits nothing any more -/
def Quiet (pc : PeerCrypto) : Prop :=
  ∀ ist, pc.init = some ist → ist.stage = Generated.WAITING_TO_CLOSE ∨ ist.stage = Generated.CLOSING

theorem initEverySecond_quiet (ist : InitSt) (h : ist.stage = Generated.WAITING_TO_CLOSE ∨ ist.stage = Generated.CLOSING) :
    (Init.everySecond ist).2 = .ok [] ∧
    ((Init.everySecond ist).1.stage = Generated.WAITING_TO_CLOSE ∨ (Init.everySecond ist).1.stage = Generated.CLOSING) := by
  rcases h with h | h
  · by_cases h2 : ist.closeTime = 0
    · rw [InitLemmas.everySecond_wait_zero ist h h2]; exact ⟨rfl, Or.inr rfl⟩
    · rw [InitLemmas.everySecond_wait ist h h2]; exact ⟨rfl, Or.inl h⟩
  · rw [InitLemmas.everySecond_closing ist h]; exact ⟨rfl, Or.inr h⟩

theorem tick1_sess {pc : PeerCrypto} {sd : Side} {c : Core} (h : Sess pc sd c) :
    Sess (tick1 pc).1 sd c.everySecond ∧ (tick1 pc).1.master = pc.master ∧ (tick1 pc).1.rotateCounter = pc.rotateCounter := by
  have hs := h.cpl.same (step_same c .tick nofun)
  rw [tick1_eq]
  exact ⟨⟨h.rot, by simp [h.core], h.enc, h.ok, hs⟩, rfl, rfl⟩

theorem tick1_quiet {pc : PeerCrypto} (hq : Quiet pc) : (tick1 pc).2 = .ok [] ∧ Quiet (tick1 pc).1 := by
  unfold tick1
  cases hi : pc.init with
  | none => exact ⟨rfl, fun ist hist => by cases hist⟩
  | some ist =>
    obtain ⟨h1, h2⟩ := initEverySecond_quiet ist (hq ist hi)
    exact ⟨h1, fun ist' hist => by cases hist; exact h2⟩

theorem tick2_quiet {pc : PeerCrypto} (hq : Quiet pc) : Quiet (tick2 pc) := by
  intro ist hist
  simp only [tick2] at hist
  split at hist
  · rename_i hi
    split at hist
    · cases hist
    · cases hist; exact hq _ hi
  · cases hist

theorem tick2_sess {pc : PeerCrypto} {sd : Side} {c : Core} (h : Sess pc sd c) : Sess (tick2 pc) sd c :=
  ⟨h.rot, h.core, h.enc, h.ok, h.cpl⟩

/-- effect of `every_second` on an established session: it never panics, the rotation state either stays or makes one `cycle`
    (and then what it emits is the sealed rotation message of that cycle) -/
def TickEff (pc : PeerCrypto) (sd : Side) (c : Core) (rr : RotRand) : POutcome MsgResult → Prop
  | .panic => False
  | .err pc' _ => ∃ c', Sess pc' sd c' ∧ pc'.master = pc.master ∧ c'.half = c.half
  | .ok pc' out _ log => pc'.master = pc.master ∧ ∃ c', c'.half = c.half ∧
      ((Sess pc' sd c' ∧ log = []) ∨
       (Sess pc' (cycle sd rr.freshProp).1 c' ∧ CycOut sd rr (cycle sd rr.freshProp).2 out log))

theorem everySecond_eff {pc : PeerCrypto} {sd : Side} {c : Core} (h : Sess pc sd c) (rr : RotRand) (hf : rr.freshProp < 2 ^ 256) :
    TickEff pc sd c rr (PeerCrypto.everySecond pc rr) := by
  obtain ⟨h1, m1, _⟩ := tick1_sess h
  refine tick_cases (M := TickEff pc sd c rr) pc rr (fun _ _ => ⟨_, h1, m1, rfl⟩)
    (fun _ _ _ => ⟨m1, c.everySecond, rfl, Or.inl ⟨tick2_sess h1, rfl⟩⟩) (fun _ => ?_)
  obtain ⟨pc', o, res, log, c', e, _, hm, hh, hif⟩ := tickRot_eff (tick2_sess h1) rr hf
  rw [e]
  refine ⟨hm.trans m1, c', hh, ?_⟩
  split at hif
  · exact Or.inl ⟨hif.1, hif.2.1⟩
  · exact Or.inr ⟨hif.2.1, hif.2.2⟩

theorem everySecond_quiet {pc : PeerCrypto} {sd : Side} {c : Core} (h : Sess pc sd c) (hq : Quiet pc) (rr : RotRand) :
    ∃ pc2, PeerCrypto.everySecond pc rr = tickRot pc2 rr ∧ Sess pc2 sd c.everySecond ∧ Quiet pc2 ∧ pc2.master = pc.master ∧
      pc2.rotateCounter = pc.rotateCounter := by
  obtain ⟨h1, m1, c1⟩ := tick1_sess h
  obtain ⟨hr, q1⟩ := tick1_quiet hq
  refine ⟨tick2 (tick1 pc).1, ?_, tick2_sess h1, tick2_quiet q1, m1, c1⟩
  exact tick_cases (M := (· = tickRot (tick2 (tick1 pc).1) rr)) pc rr (fun _ he => by rw [hr] at he; cases he)
    (fun _ ho hne => by rw [hr] at ho; cases ho; exact absurd rfl hne) (fun _ => rfl)

theorem decMsg_sess {pc : PeerCrypto} {sd : Side} {c : Core} (h : Sess pc sd c) (bodyOf : Init.BodyOf) (d : Bytes) :
    (∃ c', decMsg bodyOf pc d = ({ pc with core := some c' }, .error .crypto) ∧ CoreSame c c') ∨
    (∃ c' key n p, decMsg bodyOf pc d = ({ pc with core := some c' }, .ok p) ∧ CoreSame c c' ∧ bodyOf (d.drop 8) = .sealed key n p) := by
  have hs : CoreSame c (c.decrypt { hdr := d.take 8, body := bodyOf (d.drop 8) }).1 := step_same c (.open _) nofun
  rw [decMsg_enc h.enc h.core]
  rcases CoreLemmas.decrypt_cases c { hdr := d.take 8, body := bodyOf (d.drop 8) } with ⟨e, he⟩ | ⟨k, p, _, _, _, _, hb, he⟩
  · rw [he] at hs ⊢
    exact Or.inl ⟨c, rfl, hs⟩
  · rw [he] at hs ⊢
    exact Or.inr ⟨_, k.key, _, p, rfl, hs, hb⟩

theorem handleRotate_eff {pc : PeerCrypto} {sd : Side} {c : Core} (h : Sess pc sd c) (data : Bytes) (rr : RotRand)
    (hf : rr.freshPend < 2 ^ 256) :
    PeerCrypto.handleRotate pc data rr = (pc, .error .crypto) ∨
    (∃ bm c' pc', readRotMsg data = some bm ∧ PeerCrypto.handleRotate pc data rr = (pc', .ok ()) ∧
      Sess pc' (process sd (PeerCrypto.rotMsgOfBytes bm) rr.freshPend) c' ∧ pc'.master = pc.master ∧ c'.half = c.half) := by
  unfold PeerCrypto.handleRotate
  rw [if_neg (by rw [h.enc]; exact Bool.false_ne_true), h.rot]
  cases hr : readRotMsg data with
  | none => exact Or.inl rfl
  | some bm =>
    have hok := sideOK_process h.ok (PeerCrypto.rotMsgOfBytes bm) hf
    rcases process_shape sd (PeerCrypto.rotMsgOfBytes bm) rr.freshPend with ⟨hrot, hs, hc⟩ | ⟨hrot, p, q, hs, hc⟩
    · simp only [hrot, Bool.false_eq_true, if_false]
      exact Or.inr ⟨bm, c, _, rfl, rfl, ⟨rfl, h.core, h.enc, hok, h.cpl.frame hs hc⟩, rfl, rfl⟩
    · obtain ⟨c', e, hs', hh⟩ := sess_installKey (pc := { pc with rot := some (process sd (PeerCrypto.rotMsgOfBytes bm) rr.freshPend) })
        (use := true) rfl h.core h.enc hok h.cpl hs hc rr.starts
      simp only [hrot, if_true, e]
      simp only [h.core]
      exact Or.inr ⟨bm, c', _, rfl, rfl, hs', rfl, hh⟩

/-- effect of `handle_message` on an established session, for a datagram without handshake marker: errors leave the rotation state
    alone; a payload message is handed on; a rotation message (`res = .none`) is exactly the one the datagram carries, and it is
    processed by the rotation state -/
def RecvEff (bodyOf : Init.BodyOf) (pc : PeerCrypto) (sd : Side) (c : Core) (d : Bytes) (f : Nat) : POutcome MsgResult → Prop
  | .panic => True
  | .err pc' _ => ∃ c', Sess pc' sd c' ∧ pc'.master = pc.master ∧ c'.half = c.half
  | .ok pc' _ res _ => pc'.master = pc.master ∧ ∃ c', c'.half = c.half ∧
      ((res ≠ .none ∧ Sess pc' sd c') ∨ (res = .none ∧ ∃ m, rotOf bodyOf d = some m ∧ Sess pc' (process sd m f) c'))

theorem handleMessage_eff {pc : PeerCrypto} {sd : Side} {c : Core} (h : Sess pc sd c) (env : CryptoEnv) (bodyOf : Init.BodyOf)
    (ok : Bytes → Bool) (d tail : Bytes) (rnd : Rand) (rr : RotRand) (hf : rr.freshPend < 2 ^ 256)
    (hd : d.head? ≠ some Generated.INIT_MESSAGE_FIRST_BYTE) :
    RecvEff bodyOf pc sd c d rr.freshPend (PeerCrypto.handleMessage env bodyOf ok pc d tail rnd rr) := by
  rw [handleMessage_eq]
  cases d with
  | nil => exact ⟨c, h, rfl, rfl⟩
  | cons b0 rest =>
    have hb : ¬ b0 = Generated.INIT_MESSAGE_FIRST_BYTE := fun e => hd (by rw [e]; rfl)
    simp only [hb, if_false]
    rcases decMsg_sess h bodyOf (b0 :: rest) with ⟨c', he, hs⟩ | ⟨c', key, n, p, he, hs, hbody⟩
    · rw [he]
      exact ⟨c', h.withCore hs, rfl, hs.half⟩
    · rw [he]
      simp only []
      have h1 := h.withCore hs
      cases p with
      | nil => trivial
      | cons ty body =>
        simp only []
        by_cases hty : ty = Generated.MESSAGE_TYPE_ROTATION
        · rw [if_pos hty]
          have hdata : body ++ (if ({ pc with core := some c' } : PeerCrypto).unencrypted then tail else []) = body := by
            have : ({ pc with core := some c' } : PeerCrypto).unencrypted = false := h.enc
            rw [this]; simp
          rw [hdata]
          by_cases hpan : PeerCrypto.rotatePanics { pc with core := some c' } body = true
          · rw [if_pos hpan]; trivial
          rw [if_neg hpan]
          rcases handleRotate_eff h1 body rr hf with hr | ⟨bm, c2, pc2, hrd, hr2, hs2, hm2, hh2⟩
          · rw [hr]
            exact ⟨c', h1, rfl, hs.half⟩
          · rw [hr2]
            refine ⟨hm2, c2, hh2.trans hs.half, Or.inr ⟨rfl, _, ?_, hs2⟩⟩
            rw [rotOf_sealed bodyOf _ key n _ hbody]
            simp only [hty, if_true, hrd, Option.map_some]
        · rw [if_neg hty]
          exact ⟨rfl, c', hs.half, Or.inl ⟨(by intro e; cases e), h1⟩⟩

theorem sendMessage_eff {pc : PeerCrypto} {sd : Side} {c : Core} (h : Sess pc sd c) (ty : Nat) (body ct : Bytes) :
    ∃ c' hdr key n, PeerCrypto.sendMessage pc ty body ct = ({ pc with core := some c' }, .ok (hdr ++ ct, [(ct, .sealed key n (ty :: body))])) ∧
      CoreSame c c' ∧ hdr.length = 8 ∧ hdr.head? = some sd.cur :=
  sealMsg_sess h (ty :: body) ct

theorem sideOK_initSide (b : Bool) (p : Nat) (hp : p < 2 ^ 256) : SideOK (PeerCrypto.initSide b p) := by
  refine ⟨by simp [PeerCrypto.initSide], by simp [PeerCrypto.initSide, NonDummy], ?_, ?_, ?_⟩
  · intro k e h; simp [PeerCrypto.initSide] at h
  · intro q h
    cases b
    · simp [PeerCrypto.initSide] at h
    · simp [PeerCrypto.initSide] at h; omega
  · intro c i h; simp [PeerCrypto.initSide] at h

theorem sess_initSide {pc : PeerCrypto} {c0 : Core} (b : Bool) (p : Nat) (hp : p < 2 ^ 256)
    (hr : pc.rot = some (PeerCrypto.initSide b p)) (hc : pc.core = some c0) (hu : pc.unencrypted = false)
    (hm : pc.master = (c0.slots[0]?.map (·.key)).getD 0) (hlen : c0.slots.length = 4) (hcur : c0.cur = 0) :
    Sess pc (PeerCrypto.initSide b p) c0 := by
  refine ⟨hr, hc, hu, sideOK_initSide b p hp, hlen, by rw [hcur]; rfl, ?_⟩
  intro i hi hn
  have h0 : i = 0 := by
    rcases Nat.eq_zero_or_pos i with h | h
    · exact h
    · exfalso
      have : ¬ i = 0 := by omega
      simp [PeerCrypto.initSide, this, NonDummy] at hn
  subst h0
  have hlt : 0 < c0.slots.length := by omega
  simp only [keysOf, List.getElem?_map, PeerCrypto.initSide, if_true, PeerCrypto.keyRefOf, hm,
    List.getElem?_eq_getElem hlt, Option.map_some, Option.getD_some]

theorem quiet_tick {pc : PeerCrypto} {sd : Side} {c : Core} (h : Sess pc sd c) (hq : Quiet pc) (rr : RotRand) (hf : rr.freshProp < 2 ^ 256) :
    ∃ pc' out res log c', PeerCrypto.everySecond pc rr = .ok pc' out res log ∧ Quiet pc' ∧ pc'.master = pc.master ∧ c'.half = c.half ∧
      if pc.rotateCounter + 1 < Generated.ROTATE_INTERVAL then
        Sess pc' sd c' ∧ log = [] ∧ out = [] ∧ pc'.rotateCounter = pc.rotateCounter + 1
      else
        pc'.rotateCounter = 0 ∧ Sess pc' (cycle sd rr.freshProp).1 c' ∧ CycOut sd rr (cycle sd rr.freshProp).2 out log := by
  obtain ⟨pc2, he, hs2, hq2, hm2, hc2⟩ := everySecond_quiet h hq rr
  obtain ⟨pc', out, res, log, c', e, hi, hm, hh, hif⟩ := tickRot_eff hs2 rr hf
  refine ⟨pc', out, res, log, c', he.trans e, ?_, hm.trans hm2, hh, ?_⟩
  · intro ist hist; rw [hi] at hist; exact hq2 ist hist
  · rw [hc2] at hif; exact hif

end VpnCloud.Proofs.C07SessionLemmas
