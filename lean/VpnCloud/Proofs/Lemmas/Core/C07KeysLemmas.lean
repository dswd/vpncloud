import VpnCloud.Proofs.Lemmas.Core.RotLemmas
/-
  Helper definitions and lemmas for `Proofs/C07Keys.lean`: the ghost log of installed rotation keys
  (`processLog`, `cycleLog` — what a step installs, proved to be exactly the change of the slots), the
  instrumented two-party system `GSys`/`GStep`/`GReach`, the ownership invariant `SideInv` (every
  ephemeral number is drawn by exactly one end; an installed key consumes one own number that is never
  live again) and the log relation `LogRel` carried along the invariant `Ahead` of `Proofs/C07.lean`.
-/
namespace VpnCloud.Rot

theorem K_inj (a b c d : Nat) : K a b = K c d ↔ (a = c ∧ b = d) ∨ (a = d ∧ b = c) := by
  refine ⟨fun h => ?_, ?_⟩
  · unfold K at h
    split at h <;> split at h <;> (injection h with h1 h2; omega)
  · rintro (⟨rfl, rfl⟩ | ⟨rfl, rfl⟩)
    · rfl
    · exact K_comm a b

theorem K_ne_init (a b : Nat) : K a b ≠ .init := by
  rw [K_eq]; exact fun h => Key.noConfusion h

theorem K_ne_dummy (a b side slot : Nat) : K a b ≠ .dummy side slot := by
  rw [K_eq]; exact fun h => Key.noConfusion h

theorem K_is_dh (a b : Nat) : ∃ lo hi, K a b = .dh lo hi ∧ lo ≤ hi := ⟨_, _, K_eq a b, by omega⟩

/-- the `(message id, key)` that `process` hands to `rotate_key`, if it does -/
def processLog (s : Side) (m : Msg) : List (Nat × Key) :=
  if m.id ≤ s.id then [] else
  match m.confirm, s.proposed with
  | some c, some p => [(m.id, K p c)]
  | _, _ => []

/-- the `(message id, key)` that `cycle` hands to `rotate_key`, if it does -/
def cycleLog (s : Side) : List (Nat × Key) :=
  match s.proposed, s.pending with
  | none, some (key, _) => [(s.id + 2, key)]
  | _, _ => []

/-- replay a log (newest first) on a slot table -/
def installAll (sl : Nat → Key) (l : List (Nat × Key)) : Nat → Key :=
  l.foldr (fun r s => install s r.2 r.1) sl

theorem installAll_append (sl : Nat → Key) (a b : List (Nat × Key)) :
    installAll sl (a ++ b) = installAll (installAll sl b) a := List.foldr_append

theorem installAll_old {n : Nat} {sl : Nat → Key} (hs : ∀ i, (sl i).Old n) :
    ∀ l : List (Nat × Key), (∀ r ∈ l, r.2.Old n) → ∀ i, (installAll sl l i).Old n
  | [], _ => hs
  | r :: l, h => install_old (installAll_old hs l fun r' hr' => h r' (List.mem_cons_of_mem _ hr')) (h r List.mem_cons_self) r.1

theorem processLog_ignore {s : Side} {m : Msg} (h : m.id ≤ s.id) : processLog s m = [] := by
  simp [processLog, h]

theorem processLog_store {s : Side} {m : Msg} (hle : ¬ m.id ≤ s.id) (h : m.confirm = none ∨ s.proposed = none) :
    processLog s m = [] := by
  unfold processLog
  simp only [hle, if_false]
  rcases h with h | h
  · rw [h]
  · rw [h]; cases m.confirm <;> rfl

theorem processLog_install {s : Side} {m : Msg} {c p : Nat} (hle : ¬ m.id ≤ s.id)
    (hc : m.confirm = some c) (hp : s.proposed = some p) : processLog s m = [(m.id, K p c)] := by
  simp [processLog, hle, hc, hp]

theorem process_slots (s : Side) (m : Msg) (f : Nat) :
    (process s m f).slots = installAll s.slots (processLog s m) := by
  rcases process_cases s m f with ⟨hle, e⟩ | ⟨hle, hn, e⟩ | ⟨hle, c, p, hc, hp, e⟩
  · rw [e, processLog_ignore hle]; rfl
  · rw [e, processLog_store hle hn]; rfl
  · rw [e, processLog_install hle hc hp]; rfl

theorem cycleLog_not_waiting {s : Side} (h : ¬ Waiting s) : cycleLog s = [] := by
  unfold cycleLog
  split
  · rename_i key e hp hq
    exact absurd ⟨hp, _, hq⟩ h
  · rfl

theorem cycleLog_waiting {s : Side} {key : Key} {e : Nat} (hp : s.proposed = none) (hq : s.pending = some (key, e)) :
    cycleLog s = [(s.id + 2, key)] := by
  unfold cycleLog; rw [hp, hq]

theorem cycle_slots (s : Side) (f : Nat) :
    (cycle s f).1.slots = installAll s.slots (cycleLog s) := by
  by_cases hw : Waiting s
  · obtain ⟨key, e, hq, hc⟩ := cycle_waiting hw f
    rw [hc, cycleLog_waiting hw.1 hq]; rfl
  · rw [cycleLog_not_waiting hw]
    obtain ⟨b, e⟩ := cycle_fst_of_not_waiting hw f
    rw [e]
    rfl

/-- the two-party system with, per end, the list of all `(id, key)` ever installed (newest first) -/
structure GSys where
  sys : Sys
  logX : List (Nat × Key)
  logY : List (Nat × Key)

def ginit : GSys := ⟨initSys, [], []⟩

inductive GStep : GSys → GSys → Prop
  | cycleX (g : GSys) : GStep g
      ⟨{ g.sys with x := (cycle g.sys.x g.sys.fresh).1, sentX := addMsg g.sys.sentX (cycle g.sys.x g.sys.fresh).2,
                    fresh := g.sys.fresh + 1 }, cycleLog g.sys.x ++ g.logX, g.logY⟩
  | cycleY (g : GSys) : GStep g
      ⟨{ g.sys with y := (cycle g.sys.y g.sys.fresh).1, sentY := addMsg g.sys.sentY (cycle g.sys.y g.sys.fresh).2,
                    fresh := g.sys.fresh + 1 }, g.logX, cycleLog g.sys.y ++ g.logY⟩
  | delivX (g : GSys) (m : Msg) (h : m ∈ g.sys.sentY) : GStep g
      ⟨{ g.sys with x := process g.sys.x m g.sys.fresh, fresh := g.sys.fresh + 1 },
        processLog g.sys.x m ++ g.logX, g.logY⟩
  | delivY (g : GSys) (m : Msg) (h : m ∈ g.sys.sentX) : GStep g
      ⟨{ g.sys with y := process g.sys.y m g.sys.fresh, fresh := g.sys.fresh + 1 },
        g.logX, processLog g.sys.y m ++ g.logY⟩

inductive GReach : GSys → Prop
  | init : GReach ginit
  | step {g g'} : GReach g → GStep g g' → GReach g'

/-- what one end knows, in terms of who drew which ephemeral number: all own material is `mine`, a stored
pending key mixes one own and one foreign number, and every logged key `K a c` consumed an own number
`a` that is no longer live at this end. -/
structure SideInv (mine theirs : Nat → Prop) (S : Side) (sent : List Msg) (log : List (Nat × Key)) : Prop where
  prop : ∀ p, S.proposed = some p → mine p
  pend : ∀ k e, S.pending = some (k, e) → mine e ∧ ∃ q, theirs q ∧ k = K e q
  pp : ∀ p k e, S.proposed = some p → S.pending = some (k, e) → p ≠ e
  conf : ∀ c i, S.confirmed = some (c, i) → mine c
  msgs : ∀ m ∈ sent, mine m.propose ∧ ∀ c, m.confirm = some c → mine c
  logd : ∀ r ∈ log, ∃ a c, r.2 = K a c ∧ mine a ∧ theirs c ∧ S.proposed ≠ some a ∧ ∀ k, S.pending ≠ some (k, a)
  nodup : (log.map Prod.snd).Nodup

theorem SideInv.mono {mine theirs mine' theirs' : Nat → Prop} {S : Side} {sent : List Msg} {log : List (Nat × Key)}
    (h : SideInv mine theirs S sent log) (hm : ∀ n, mine n → mine' n) (ht : ∀ n, theirs n → theirs' n) :
    SideInv mine' theirs' S sent log where
  prop p hp := hm _ (h.prop p hp)
  pend k e hk := by
    obtain ⟨h1, q, h2, h3⟩ := h.pend k e hk
    exact ⟨hm _ h1, q, ht _ h2, h3⟩
  pp := h.pp
  conf c i hc := hm _ (h.conf c i hc)
  msgs m hmem := ⟨hm _ (h.msgs m hmem).1, fun c hc => hm _ ((h.msgs m hmem).2 c hc)⟩
  logd r hr := by
    obtain ⟨a, c, h1, h2, h3, h4, h5⟩ := h.logd r hr
    exact ⟨a, c, h1, hm _ h2, ht _ h3, h4, h5⟩
  nodup := h.nodup

theorem SideInv.fresh_key {mine theirs : Nat → Prop} {S : Side} {sent : List Msg} {log : List (Nat × Key)}
    (h : SideInv mine theirs S sent log) (hd : ∀ n, mine n → theirs n → False) {a c : Nat} (ha : mine a) (hc : theirs c)
    (hlive : S.proposed = some a ∨ ∃ k, S.pending = some (k, a)) : K a c ∉ log.map Prod.snd := by
  intro hmem
  obtain ⟨r, hr, hrk⟩ := List.mem_map.1 hmem
  obtain ⟨a', c', h1, h2, h3, h4, h5⟩ := h.logd r hr
  rw [h1, K_inj] at hrk
  rcases hrk with ⟨rfl, rfl⟩ | ⟨rfl, rfl⟩
  · rcases hlive with hp | ⟨k, hq⟩
    · exact h4 hp
    · exact h5 k hq
  · exact hd _ ha h3

theorem SideInv.old {mine theirs : Nat → Prop} {S : Side} {sent : List Msg} {log : List (Nat × Key)} {n : Nat} {sl : Nat → Key}
    (h : SideInv mine theirs S sent log) (hm : ∀ i, mine i → i < n) (ht : ∀ i, theirs i → i < n)
    (hs : S.slots = installAll sl log) (hsl : ∀ i, (sl i).Old n) : SideOld n S where
  slots := hs ▸ installAll_old hsl log fun r hr => by
    obtain ⟨a, c, e, ha, hc, _, _⟩ := h.logd r hr
    rw [e]; exact old_K.2 ⟨hm a ha, ht c hc⟩
  pending k e hk := by
    obtain ⟨he, q, hq, rfl⟩ := h.pend k e hk
    exact ⟨old_K.2 ⟨hm e he, ht q hq⟩, hm e he⟩
  proposed p hp := hm p (h.prop p hp)
  confirmed c i hc := hm c (h.conf c i hc)

theorem sideInv_cycle {mine theirs : Nat → Prop} {S : Side} {sent : List Msg} {log : List (Nat × Key)} (f : Nat)
    (h : SideInv mine theirs S sent log) (hf : ¬ mine f) (hd : ∀ n, mine n → theirs n → False) :
    SideInv (fun n => mine n ∨ n = f) theirs (cycle S f).1 (addMsg sent (cycle S f).2) (cycleLog S ++ log) := by
  have h' : SideInv (fun n => mine n ∨ n = f) theirs S sent log := h.mono (fun _ => Or.inl) (fun _ => id)
  by_cases hw : Waiting S
  · obtain ⟨key, e, hq, hc⟩ := cycle_waiting hw f
    obtain ⟨he, q, hq', hkey⟩ := h.pend key e hq
    have hef : e ≠ f := fun heq => hf (heq ▸ he)
    rw [cycleLog_waiting hw.1 hq, hc]
    refine ⟨?_, ?_, ?_, ?_, ?_, ?_, ?_⟩
    · intro p hp'; cases hp'; exact Or.inr rfl
    · intro k e' hk; cases hk
    · intro p k e' _ hk; cases hk
    · intro c i hc; cases hc; exact Or.inl he
    · intro m hm
      rcases List.mem_cons.1 hm with rfl | hm
      · exact ⟨Or.inr rfl, fun c hc => by cases hc; exact Or.inl he⟩
      · exact h'.msgs m hm
    · intro r hr
      rcases List.mem_cons.1 hr with rfl | hr
      · refine ⟨e, q, hkey, Or.inl he, hq', ?_, fun k hk => by cases hk⟩
        intro heq; cases heq; exact hef rfl
      · obtain ⟨a, c, h1, h2, h3, _, _⟩ := h.logd r hr
        refine ⟨a, c, h1, Or.inl h2, h3, ?_, fun k hk => by cases hk⟩
        intro heq; cases heq; exact hf h2
    · exact List.nodup_cons.2 ⟨hkey ▸ h.fresh_key hd he hq' (Or.inr ⟨_, hq⟩), h.nodup⟩
  · rw [cycleLog_not_waiting hw, List.nil_append]
    rcases cycle_not_waiting hw f with ⟨b, e⟩ | ⟨p, hp, e⟩ <;> rw [e]
    · exact ⟨h'.prop, h'.pend, h'.pp, h'.conf, h'.msgs, h'.logd, h'.nodup⟩
    · refine { h' with msgs := ?_ }
      intro m hm
      rcases List.mem_cons.1 hm with rfl | hm
      · refine ⟨h'.prop p hp, fun c hc => ?_⟩
        obtain ⟨ci, hci, rfl⟩ := Option.map_eq_some_iff.1 hc
        exact h'.conf ci.1 ci.2 hci
      · exact h'.msgs m hm

theorem sideInv_process {mine theirs : Nat → Prop} {S : Side} {sent : List Msg} {log : List (Nat × Key)} (f : Nat)
    (m : Msg) (h : SideInv mine theirs S sent log) (hf : ¬ mine f) (hd : ∀ n, mine n → theirs n → False)
    (hm : theirs m.propose ∧ ∀ c, m.confirm = some c → theirs c) :
    SideInv (fun n => mine n ∨ n = f) theirs (process S m f) sent (processLog S m ++ log) := by
  have h' : SideInv (fun n => mine n ∨ n = f) theirs S sent log := h.mono (fun _ => Or.inl) (fun _ => id)
  have hpend : ∀ k e, some (K f m.propose, f) = some (k, e) →
      (mine e ∨ e = f) ∧ ∃ q, theirs q ∧ k = K e q := by
    intro k e hk; cases hk; exact ⟨Or.inr rfl, _, hm.1, rfl⟩
  rcases process_cases S m f with ⟨hle, e⟩ | ⟨hle, hn, e⟩ | ⟨hle, c, p, hc, hp, e⟩
  · rw [e, processLog_ignore hle]; exact h'
  · rw [e, processLog_store hle hn, List.nil_append]
    refine ⟨h'.prop, hpend, ?_, h'.conf, h'.msgs, ?_, h.nodup⟩
    · intro p k e hp hk; cases hk
      intro heq; exact hf (heq ▸ h.prop p hp)
    · intro r hr
      obtain ⟨a, c', h1, h2, h3, h4, _⟩ := h.logd r hr
      refine ⟨a, c', h1, Or.inl h2, h3, h4, ?_⟩
      intro k hk; cases hk; exact hf h2
  · rw [e, processLog_install hle hc hp]
    have hmp : mine p := h.prop p hp
    have hpf : p ≠ f := fun heq => hf (heq ▸ hmp)
    refine ⟨?_, hpend, ?_, h'.conf, h'.msgs, ?_, ?_⟩
    · intro p' hp'; cases hp'
    · intro p' k e hp'; cases hp'
    · intro r hr
      rcases List.mem_cons.1 hr with rfl | hr
      · refine ⟨p, c, rfl, Or.inl hmp, hm.2 c hc, (fun h0 => by cases h0), ?_⟩
        intro k hk; cases hk; exact hpf rfl
      · obtain ⟨a, c', h1, h2, h3, _, _⟩ := h.logd r hr
        refine ⟨a, c', h1, Or.inl h2, h3, (fun h0 => by cases h0), ?_⟩
        intro k hk; cases hk; exact hf h2
    · exact List.nodup_cons.2 ⟨h.fresh_key hd hmp (hm.2 c hc) (Or.inl hp), h.nodup⟩

/-- the ownership invariant on the components it talks about (`n`: the numbers drawn so far are those below `n`) -/
def KInv4 (n : Nat) (X Y : Side) (sx sy : List Msg) (lx ly : List (Nat × Key)) : Prop :=
  ∃ ox oy : Nat → Prop, (∀ i, ox i → i < n) ∧ (∀ i, oy i → i < n) ∧ (∀ i, ox i → oy i → False) ∧
    SideInv ox oy X sx lx ∧ SideInv oy ox Y sy ly

theorem KInv4.symm {n : Nat} {X Y : Side} {sx sy : List Msg} {lx ly : List (Nat × Key)} (h : KInv4 n X Y sx sy lx ly) :
    KInv4 n Y X sy sx ly lx := by
  obtain ⟨ox, oy, bx, by', hd, hx, hy⟩ := h
  exact ⟨oy, ox, by', bx, fun i a b => hd i b a, hy, hx⟩

theorem kinv4_draw {n : Nat} {X Y X' : Side} {sx sy sx' : List Msg} {lx ly lx' : List (Nat × Key)} (h : KInv4 n X Y sx sy lx ly)
    (hX : ∀ {ox oy : Nat → Prop}, ¬ ox n → (∀ i, ox i → oy i → False) → SideInv ox oy X sx lx → SideInv oy ox Y sy ly →
      SideInv (fun i => ox i ∨ i = n) oy X' sx' lx') : KInv4 (n + 1) X' Y sx' sy lx' ly := by
  obtain ⟨ox, oy, bx, by', hd, hx, hy⟩ := h
  have nfx : ¬ ox n := fun h0 => Nat.lt_irrefl _ (bx _ h0)
  have nfy : ¬ oy n := fun h0 => Nat.lt_irrefl _ (by' _ h0)
  refine ⟨_, oy, ?_, fun i h0 => Nat.lt_succ_of_lt (by' i h0), ?_, hX nfx hd hx hy, hy.mono (fun _ => id) (fun _ => Or.inl)⟩
  · rintro i (h0 | rfl)
    · exact Nat.lt_succ_of_lt (bx i h0)
    · exact Nat.lt_succ_self _
  · rintro i (h0 | rfl) h1
    · exact hd i h0 h1
    · exact nfy h1

def KInv (g : GSys) : Prop := KInv4 g.sys.fresh g.sys.x g.sys.y g.sys.sentX g.sys.sentY g.logX g.logY

theorem sideInv_start {mine theirs : Nat → Prop} {S : Side} {sent : List Msg} (hq : S.pending = none) (hc : S.confirmed = none)
    (hp : ∀ p, S.proposed = some p → mine p) (hm : ∀ m ∈ sent, mine m.propose ∧ m.confirm = none) :
    SideInv mine theirs S sent [] :=
  ⟨hp, fun k e h => (by rw [hq] at h; cases h), fun p k e _ h => (by rw [hq] at h; cases h),
    fun c i h => (by rw [hc] at h; cases h), fun m h => ⟨(hm m h).1, fun c h' => by rw [(hm m h).2] at h'; cases h'⟩,
    fun r h => (by cases h), List.nodup_nil⟩

theorem kinv_init : KInv ginit :=
  ⟨(· = 0), fun _ => False, fun n hn => hn ▸ Nat.zero_lt_one, fun _ hn => hn.elim, fun _ _ hn => hn,
    sideInv_start rfl rfl (fun p hp => by cases hp; rfl) (fun m hm => by rw [List.mem_singleton.1 hm]; exact ⟨rfl, rfl⟩),
    sideInv_start rfl rfl (fun p hp => by cases hp) (fun m hm => by cases hm)⟩

theorem kinv_step {g g' : GSys} (h : KInv g) (st : GStep g g') : KInv g' := by
  cases st with
  | cycleX => exact kinv4_draw h (fun nf hd hx _ => sideInv_cycle _ hx nf hd)
  | cycleY => exact (kinv4_draw h.symm (fun nf hd hx _ => sideInv_cycle _ hx nf hd)).symm
  | delivX m hm => exact kinv4_draw h (fun nf hd hx hy => sideInv_process _ m hx nf hd (hy.msgs m hm))
  | delivY m hm => exact (kinv4_draw h.symm (fun nf hd hx hy => sideInv_process _ m hx nf hd (hy.msgs m hm))).symm

theorem kinv_reach {g : GSys} (h : GReach g) : KInv g := by
  induction h with
  | init => exact kinv_init
  | step _ st ih => exact kinv_step ih st

/-- `X` is the end that is ahead: all logged ids are at most `X.id`, the two logs agree on every id they
share, and the key `X` logged under its latest id is the one `Y` will derive when the confirmation arrives. -/
structure LogRel (X Y : Side) (lx ly : List (Nat × Key)) : Prop where
  lxle : ∀ r ∈ lx, r.1 ≤ X.id
  lyle : ∀ r ∈ ly, r.1 ≤ X.id
  agree : ∀ i k k', (i, k) ∈ lx → (i, k') ∈ ly → k = k'
  top : ∀ k, (X.id, k) ∈ lx → ∀ q, Y.proposed = some q → ∀ c, X.confirmed = some (c, X.id) → k = K c q

theorem logRel_cycle_not_waiting {X Y : Side} {lx ly : List (Nat × Key)} (h : LogRel X Y lx ly) (f : Nat) :
    (¬ Waiting X → LogRel (cycle X f).1 Y (cycleLog X ++ lx) ly) ∧ (¬ Waiting Y → LogRel X (cycle Y f).1 lx (cycleLog Y ++ ly)) := by
  constructor <;> intro hw <;> rw [cycleLog_not_waiting hw, List.nil_append] <;>
    obtain ⟨b, e⟩ := cycle_fst_of_not_waiting hw f <;> rw [e]
  · exact ⟨h.lxle, h.lyle, h.agree, h.top⟩
  · exact ⟨h.lxle, h.lyle, h.agree, h.top⟩

theorem logRel_delivY {X Y : Side} {sx sy : List Msg} {lx ly : List (Nat × Key)} (ha : Ahead X Y sx sy)
    (h : LogRel X Y lx ly) {m : Msg} (hm : m ∈ sx) (f : Nat) :
    LogRel X (process Y m f) lx (processLog Y m ++ ly) := by
  rcases process_cases Y m f with ⟨hle, e⟩ | ⟨hle, hn, e⟩ | ⟨hle, c, q, hc, hq, e⟩
  · rw [e, processLog_ignore hle]; exact h
  · rw [e, processLog_store hle hn]; exact ⟨h.lxle, h.lyle, h.agree, h.top⟩
  · -- Y derives for X's current id the key X logged when it advanced to that id
    rw [e, processLog_install hle hc hq]
    obtain ⟨p, hp, rfl⟩ := ha.accepted hm hle
    refine ⟨h.lxle, ?_, ?_, fun _ _ _ hq' => by cases hq'⟩
    · intro r hr
      rcases List.mem_cons.1 hr with rfl | hr
      · exact Nat.le_refl _
      · exact h.lyle r hr
    · intro i k k' hk hk'
      rcases List.mem_cons.1 hk' with heq | hr
      · cases heq
        rw [h.top k hk q hq c (ha.confirmed_of hc).2, K_comm]
      · exact h.agree i k k' hk hr

theorem logRel_cycleY_waiting {X Y : Side} {sx sy : List Msg} {lx ly : List (Nat × Key)} (ha : Ahead X Y sx sy)
    (h : LogRel X Y lx ly) (hw : Waiting Y) (f : Nat) :
    LogRel (cycle Y f).1 X (cycleLog Y ++ ly) lx := by
  have hid := ha.idrel
  obtain ⟨e, p', hp', hpe, hc⟩ := ha.overtake hw f
  rw [cycleLog_waiting hw.1 hpe, hc]
  refine ⟨?_, ?_, ?_, ?_⟩
  · intro r hr
    rcases List.mem_cons.1 hr with rfl | hr
    · exact Nat.le_refl _
    · have := h.lyle r hr; show r.1 ≤ Y.id + 2; omega
  · intro r hr
    have := h.lxle r hr; show r.1 ≤ Y.id + 2; omega
  · intro i k k' hk hk'
    rcases List.mem_cons.1 hk with heq | hk
    · cases heq
      have := h.lxle _ hk'; simp only at this; omega
    · exact (h.agree i k' k hk' hk).symm
  · intro k hk q hq c hc
    cases hc
    rw [hp'] at hq; cases hq
    rcases List.mem_cons.1 hk with heq | hk
    · cases heq; rfl
    · have := h.lyle _ hk; simp only at this; omega

def GInv4 (X Y : Side) (sx sy : List Msg) (lx ly : List (Nat × Key)) : Prop :=
  (Ahead X Y sx sy ∧ LogRel X Y lx ly) ∨ (Ahead Y X sy sx ∧ LogRel Y X ly lx)

theorem ginv4_cycle {X Y : Side} {sx sy : List Msg} {lx ly : List (Nat × Key)} (h : GInv4 X Y sx sy lx ly) (f : Nat) :
    GInv4 (cycle X f).1 Y (addMsg sx (cycle X f).2) sy (cycleLog X ++ lx) ly := by
  rcases h with ⟨h, l⟩ | ⟨h, l⟩
  · exact Or.inl ⟨ahead_cycleX h f, (logRel_cycle_not_waiting l f).1 (ahead_not_waiting h)⟩
  · by_cases hw : Waiting X
    · exact Or.inl ⟨ahead_cycleY_waiting h hw f, logRel_cycleY_waiting h l hw f⟩
    · exact Or.inr ⟨ahead_cycleY_not_waiting h hw f, (logRel_cycle_not_waiting l f).2 hw⟩

theorem ginv4_deliv {X Y : Side} {sx sy : List Msg} {lx ly : List (Nat × Key)} (h : GInv4 X Y sx sy lx ly) {m : Msg}
    (hm : m ∈ sy) (f : Nat) : GInv4 (process X m f) Y sx sy (processLog X m ++ lx) ly := by
  rcases h with ⟨h, l⟩ | ⟨h, l⟩
  · rw [ahead_delivX h hm f, processLog_ignore (by have := h.syle m hm; omega)]; exact Or.inl ⟨h, l⟩
  · exact Or.inr ⟨ahead_delivY h hm f, logRel_delivY h l hm f⟩

def GInv (g : GSys) : Prop := GInv4 g.sys.x g.sys.y g.sys.sentX g.sys.sentY g.logX g.logY

theorem ginv_init : GInv ginit :=
  Or.inl ⟨ahead_start 0 _ _ rfl, fun r h => (by cases h), fun r h => (by cases h), fun _ _ _ h => (by cases h),
    fun _ h => (by cases h)⟩

theorem ginv_step {g g' : GSys} (h : GInv g) (st : GStep g g') : GInv g' := by
  cases st with
  | cycleX => exact ginv4_cycle h _
  | cycleY => exact (ginv4_cycle h.symm _).symm
  | delivX m hm => exact ginv4_deliv h hm _
  | delivY m hm => exact (ginv4_deliv h.symm hm _).symm

theorem ginv_reach {g : GSys} (h : GReach g) : GInv g := by
  induction h with
  | init => exact ginv_init
  | step _ st ih => exact ginv_step ih st

end VpnCloud.Rot
