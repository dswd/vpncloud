import VpnCloud.Spec.C03Slot
/-
  The crypto core for C02 / C03 / C04: the carry chain of `Nonce::increment` as +1 on the value (`incRev_val`), `encrypt` and `decrypt` with
  their guards written out once (`encrypt_eq`, `decrypt_eq`; `decrypt_cases` and its readings), and the replay window of a slot as a
  function of its history: the three stages `threshold`, `pending`, `top` and the invariant `Window` (`run_inv`).
-/
namespace VpnCloud.Proofs.CoreLemmas


/-- decidable equality of results, for the concrete non-vacuity examples -/
instance {ε α : Type} [DecidableEq ε] [DecidableEq α] : DecidableEq (Except ε α)
  | .ok a, .ok b => if h : a = b then isTrue (by rw [h]) else isFalse (by intro e; cases e; exact h rfl)
  | .error a, .error b => if h : a = b then isTrue (by rw [h]) else isFalse (by intro e; cases e; exact h rfl)
  | .ok _, .error _ => isFalse (by intro e; cases e)
  | .error _, .ok _ => isFalse (by intro e; cases e)

theorem pow96 : (2 : Nat) ^ 96 = 79228162514264337593543950336 := by decide
theorem pow56 : (2 : Nat) ^ 56 = 72057594037927936 := by decide
theorem pow48 : (2 : Nat) ^ 48 = 281474976710656 := by decide
theorem pow256_7 : (256 : Nat) ^ 7 = 72057594037927936 := by decide

theorem half_eq : HALF = 39614081257132168796771975168 := by unfold HALF; decide
theorem nonce_mod_eq : NONCE_MOD = 79228162514264337593543950336 := by unfold NONCE_MOD; decide

theorem beVal_ofBE7 (v : Nat) : Bytes.beVal (Bytes.ofBE 7 v) = v % 2 ^ 56 := by
  rw [Bytes.beVal_ofBE, pow256_7]

theorem incRev_length (l : List Nat) : (Nonce.incRev l).length = l.length := by
  induction l with
  | nil => rfl
  | cons b rest ih =>
    simp only [Nonce.incRev]
    split <;> simp [ih]

theorem incRev_wf (l : List Nat) (h : Bytes.WF l) : Bytes.WF (Nonce.incRev l) := by
  induction l with
  | nil => simp [Nonce.incRev]
  | cons b rest ih =>
    rw [Bytes.wf_cons] at h
    simp only [Nonce.incRev]
    split
    · rw [Bytes.wf_cons]; exact ⟨Nat.mod_lt _ (by omega), h.2⟩
    · rw [Bytes.wf_cons]; exact ⟨Nat.mod_lt _ (by omega), ih h.2⟩

theorem incRev_val (l : List Nat) (h : Bytes.WF l) :
    Bytes.beVal (Nonce.incRev l).reverse = (Bytes.beVal l.reverse + 1) % 256 ^ l.length := by
  induction l with
  | nil => rfl
  | cons b rest ih =>
    rw [Bytes.wf_cons] at h
    have hlt := Bytes.beVal_lt rest.reverse (Bytes.wf_reverse.2 h.2)
    rw [List.length_reverse] at hlt
    rw [Nonce.incRev, List.length_cons, Nat.pow_succ, List.reverse_cons, Bytes.beVal_snoc]
    by_cases hc : b = 255
    · -- carry: the last byte wraps to 0 and the rest is incremented
      subst hc
      rw [if_neg (by decide), List.reverse_cons, Bytes.beVal_snoc, ih h.2,
        show Bytes.beVal rest.reverse * 256 + 255 + 1 = (Bytes.beVal rest.reverse + 1) * 256 by omega,
        Nat.mul_mod_mul_right]
      exact Nat.add_zero _
    · have hb : (b + 1) % 256 = b + 1 := Nat.mod_eq_of_lt (by omega)
      rw [hb, if_pos (Nat.succ_pos b), List.reverse_cons, Bytes.beVal_snoc, Nat.mod_eq_of_lt (by omega)]
      omega

/-- `encrypt` once the sending slot is known (in a core whose `cur` names no slot it returns the core and an empty datagram) -/
theorem encrypt_eq (c : Core) (p : Bytes) (k : SlotKey) (hk : c.slots[c.cur]? = some k) :
    c.encrypt p = ({ c with slots := c.slots.set c.cur { k with send := (k.send + 1) % NONCE_MOD } },
      { hdr := c.cur :: Bytes.ofBE 7 ((k.send + 1) % NONCE_MOD), body := .sealed k.key ((k.send + 1) % NONCE_MOD) p }) := by
  simp only [Core.encrypt, hk]

theorem encrypt_none (c : Core) (p : Bytes) (h : c.slots[c.cur]? = none) : c.encrypt p = (c, { hdr := [], body := .garbage 0 }) := by
  simp only [Core.encrypt, h]

theorem core_encrypt_body (c : Core) (plain : Bytes) (k : KeyRef) (n : Nat) (p : Bytes)
    (h : (c.encrypt plain).2.body = .sealed k n p) : p = plain := by
  unfold Core.encrypt at h
  split at h
  · cases h
  · simp only [Body.sealed.injEq] at h
    exact h.2.2.symm

/-- `decrypt` with its guards written out.  `24` is the value of the regenerated `EXTRA_LEN + TAG_LEN` (8 + 16); `4` stands in
    the guard `keyIdInvalid` itself.  Every statement below with `d.len ≥ 24` / `d.keyId < 4` inherits them from here, and the
    closing `rfl`s of this proof fail if the regenerated values change. -/
theorem decrypt_eq (c : Core) (d : Dgram) : c.decrypt d =
    if d.len < 24 then (c, .error .tooShort)
    else if d.keyId ≥ 4 then (c, .error .badKeyId)
    else match c.slots[d.keyId]? with
      | none => (c, .error .badKeyId)
      | some k =>
        if c.reconstruct d.counter < k.min then (c, .error .oldNonce)
        else match d.body with
          | .sealed key n p =>
            if key = k.key ∧ n = c.reconstruct d.counter then
              ({ c with slots := c.slots.set d.keyId (Spec.C03.slotStep k (.accept (c.reconstruct d.counter))) }, .ok p)
            else (c, .error .openFailed)
          | .garbage _ => (c, .error .openFailed) := by
  simp only [Core.decrypt, Generated.datagramTooShort, Generated.keyIdInvalid, Generated.nonceTooOld,
    Generated.seenAdvances, decide_eq_true_eq, Spec.C03.slotStep]
  cases c.slots[d.keyId]? with
  | none => rfl
  | some k => cases d.body <;> rfl

theorem decrypt_cases (c : Core) (d : Dgram) :
    (∃ e, c.decrypt d = (c, .error e)) ∨
    (∃ k p, d.len ≥ 24 ∧ d.keyId < 4 ∧ c.slots[d.keyId]? = some k ∧ k.min ≤ c.reconstruct d.counter ∧
      d.body = .sealed k.key (c.reconstruct d.counter) p ∧
      c.decrypt d =
        ({ c with slots := c.slots.set d.keyId (Spec.C03.slotStep k (.accept (c.reconstruct d.counter))) }, .ok p)) := by
  rw [decrypt_eq]
  by_cases h1 : d.len < 24
  · exact Or.inl ⟨_, if_pos h1⟩
  by_cases h2 : d.keyId ≥ 4
  · exact Or.inl ⟨_, by rw [if_neg h1, if_pos h2]⟩
  rw [if_neg h1, if_neg h2]
  cases c.slots[d.keyId]? with
  | none => exact Or.inl ⟨_, rfl⟩
  | some k =>
    by_cases h3 : c.reconstruct d.counter < k.min
    · exact Or.inl ⟨_, if_pos h3⟩
    simp only [if_neg h3]
    cases d.body with
    | garbage n => exact Or.inl ⟨_, rfl⟩
    | sealed key n p =>
      by_cases hkn : key = k.key ∧ n = c.reconstruct d.counter
      · exact Or.inr ⟨k, p, Nat.le_of_not_lt h1, Nat.lt_of_not_le h2, rfl, Nat.le_of_not_lt h3,
          by rw [hkn.1, hkn.2], if_pos hkn⟩
      · exact Or.inl ⟨_, if_neg hkn⟩

theorem decrypt_ok (c : Core) (d : Dgram) (p : Bytes) (h : (c.decrypt d).2 = .ok p) :
    ∃ k, d.len ≥ 24 ∧ d.keyId < 4 ∧ c.slots[d.keyId]? = some k ∧ k.min ≤ c.reconstruct d.counter ∧
      d.body = .sealed k.key (c.reconstruct d.counter) p ∧
      (c.decrypt d).1 =
        { c with slots := c.slots.set d.keyId (Spec.C03.slotStep k (.accept (c.reconstruct d.counter))) } := by
  rcases decrypt_cases c d with ⟨e, he⟩ | ⟨k, p', hlen, hid, hk, hmin, hb, hd⟩
  · rw [he] at h; cases h
  · rw [hd] at h ⊢
    cases h
    exact ⟨k, hlen, hid, hk, hmin, hb, rfl⟩

theorem decrypt_rejects (c : Core) (d : Dgram)
    (h : ∀ k p, c.slots[d.keyId]? = some k → k.min ≤ c.reconstruct d.counter →
      d.body ≠ .sealed k.key (c.reconstruct d.counter) p) :
    ∃ e, (c.decrypt d).2 = .error e := by
  rcases decrypt_cases c d with ⟨e, he⟩ | ⟨k, p, _, _, hk, hmin, hb, _⟩
  · exact ⟨e, by rw [he]⟩
  · exact absurd hb (h k p hk hmin)

theorem decrypt_rejects_seal (c : Core) (d : Dgram) (K n : Nat) (p : Bytes) (hb : d.body = .sealed K n p)
    (h : ∀ k, c.slots[d.keyId]? = some k → k.key = K → n ≠ c.reconstruct d.counter) :
    ∃ e, (c.decrypt d).2 = .error e :=
  decrypt_rejects c d fun k p' hk _ hb' => by
    rw [hb] at hb'
    cases hb'
    exact h k hk rfl rfl

theorem find?_unique {α : Type} {p : α → Bool} {l : List α} {a : α} (ha : a ∈ l) (hp : p a = true)
    (hu : ∀ b ∈ l, p b = true → b = a) : l.find? p = some a := by
  cases hf : l.find? p with
  | none => exact absurd hp (List.find?_eq_none.1 hf a ha)
  | some b => rw [hu b (List.mem_of_find?_eq_some hf) (List.find?_some hf)]

open VpnCloud.Spec.C03

theorem snoc_induction {α : Type} {P : List α → Prop} (hnil : P [])
    (hsnoc : ∀ l a, P l → P (l ++ [a])) : ∀ l, P l := by
  have hrev : ∀ l : List α, P l.reverse := by
    intro l
    induction l with
    | nil => exact hnil
    | cons a l ih => rw [List.reverse_cons]; exact hsnoc _ _ ih
  intro l
  have := hrev l.reverse
  rwa [List.reverse_reverse] at this

/-- one more than everything accepted so far, at least 1: the value the *next* tick stores in `nextMin` -/
def top (h : List Ev) : Nat := max 1 (maxAcceptedSucc h)

/-- the value the next tick moves into `min`: `top` of the history before the most recent tick
    (a stage of the replay window; unrelated to the `pending` handshakes of node and rotation) -/
def pending (h : List Ev) : Nat :=
  match beforeLastButOneTick.go h.reverse 1 with
  | none => 0
  | some old => max 1 (maxAcceptedSucc old)

theorem threshold_eq (h : List Ev) :
    threshold h = match beforeLastButOneTick.go h.reverse 0 with
      | none => 0
      | some old => max 1 (maxAcceptedSucc old) := rfl

theorem go_accept (n : Nat) (rest : List Ev) (t : Nat) :
    beforeLastButOneTick.go (.accept n :: rest) t = beforeLastButOneTick.go rest t := by
  simp [beforeLastButOneTick.go]

theorem go_tick_zero (rest : List Ev) :
    beforeLastButOneTick.go (.tick :: rest) 0 = beforeLastButOneTick.go rest 1 := by
  simp [beforeLastButOneTick.go]

theorem go_tick_one (rest : List Ev) :
    beforeLastButOneTick.go (.tick :: rest) 1 = some rest.reverse := by
  simp [beforeLastButOneTick.go]

theorem threshold_snoc_accept (h : List Ev) (n : Nat) : threshold (h ++ [.accept n]) = threshold h := by
  rw [threshold_eq, threshold_eq, List.reverse_append, List.reverse_singleton, List.singleton_append, go_accept]

theorem threshold_snoc_tick (h : List Ev) : threshold (h ++ [.tick]) = pending h := by
  rw [threshold_eq, pending, List.reverse_append, List.reverse_singleton, List.singleton_append, go_tick_zero]

theorem pending_snoc_accept (h : List Ev) (n : Nat) : pending (h ++ [.accept n]) = pending h := by
  rw [pending, pending, List.reverse_append, List.reverse_singleton, List.singleton_append, go_accept]

theorem pending_snoc_tick (h : List Ev) : pending (h ++ [.tick]) = top h := by
  rw [pending, List.reverse_append, List.reverse_singleton, List.singleton_append, go_tick_one,
    List.reverse_reverse]
  rfl

theorem mas_append (a b : List Ev) :
    maxAcceptedSucc (a ++ b) = max (maxAcceptedSucc a) (maxAcceptedSucc b) := by
  induction a with
  | nil => exact (Nat.zero_max _).symm
  | cons e a ih =>
    cases e with
    | accept n => exact (congrArg (max (n + 1)) ih).trans (Nat.max_assoc _ _ _).symm
    | tick => exact ih

theorem top_snoc_accept (h : List Ev) (n : Nat) : top (h ++ [.accept n]) = max (top h) (n + 1) := by
  rw [top, mas_append, top, ← Nat.max_assoc]
  rfl

theorem top_snoc_tick (h : List Ev) : top (h ++ [.tick]) = top h := by
  rw [top, mas_append]
  exact congrArg (max 1) (Nat.max_zero _)

theorem mas_le_iff (h : List Ev) (n : Nat) :
    maxAcceptedSucc h ≤ n ↔ ∀ m, Ev.accept m ∈ h → m < n := by
  induction h with
  | nil => exact ⟨fun _ _ hm => (nomatch hm), fun _ => Nat.zero_le _⟩
  | cons e h ih =>
    cases e with
    | accept k =>
      rw [maxAcceptedSucc, Nat.max_le, ih]
      simp only [List.mem_cons, Ev.accept.injEq, forall_eq_or_imp]
      rfl
    | tick =>
      rw [maxAcceptedSucc, ih]
      simp only [List.mem_cons, reduceCtorEq, false_or]

theorem countTicks_append (a b : List Ev) : countTicks (a ++ b) = countTicks a + countTicks b := by
  simp [countTicks]

theorem countTicks_tick : countTicks [Ev.tick] = 1 := by decide
theorem countTicks_accept (n : Nat) : countTicks [Ev.accept n] = 0 := by simp [countTicks]

theorem pending_le_top (h : List Ev) : pending h ≤ top h := by
  induction h using snoc_induction with
  | hnil => decide
  | hsnoc h e ih =>
    cases e with
    | accept n => rw [pending_snoc_accept, top_snoc_accept]; omega
    | tick => rw [pending_snoc_tick, top_snoc_tick]; omega

theorem threshold_le_pending (h : List Ev) : threshold h ≤ pending h := by
  induction h using snoc_induction with
  | hnil => decide
  | hsnoc h e ih =>
    cases e with
    | accept n => rw [pending_snoc_accept, threshold_snoc_accept]; exact ih
    | tick => rw [pending_snoc_tick, threshold_snoc_tick]; exact pending_le_top h

theorem top_propagates (h more : List Ev) :
    top h ≤ top (h ++ more) ∧ (1 ≤ countTicks more → top h ≤ pending (h ++ more)) ∧
      (2 ≤ countTicks more → top h ≤ threshold (h ++ more)) := by
  induction more using snoc_induction with
  | hnil => simp [countTicks]
  | hsnoc m e ih =>
    obtain ⟨i1, i2, i3⟩ := ih
    rw [← List.append_assoc, countTicks_append]
    cases e with
    | accept n =>
      rw [top_snoc_accept, pending_snoc_accept, threshold_snoc_accept, countTicks_accept]
      exact ⟨by omega, i2, i3⟩
    | tick =>
      rw [top_snoc_tick, pending_snoc_tick, threshold_snoc_tick, countTicks_tick]
      exact ⟨i1, fun _ => i1, fun h2 => i2 (by omega)⟩

theorem slotRun_snoc (k : SlotKey) (h : List Ev) (e : Ev) :
    slotRun k (h ++ [e]) = slotStep (slotRun k h) e := by
  simp [slotRun, List.foldl_append]

/-- `Admissible` is decidable (used for the concrete non-vacuity examples) -/
instance decAdmissible : (k : SlotKey) → (h : List Ev) → Decidable (Admissible k h)
  | _, [] => isTrue trivial
  | k, .accept n :: rest =>
    have := decAdmissible (slotStep k (.accept n)) rest
    inferInstanceAs (Decidable (k.min ≤ n ∧ n + 1 < NONCE_MOD ∧ Admissible (slotStep k (.accept n)) rest))
  | k, .tick :: rest =>
    have := decAdmissible (slotStep k .tick) rest
    inferInstanceAs (Decidable (Admissible (slotStep k .tick) rest))

theorem admissible_bound (k : SlotKey) (h : List Ev) (hadm : Admissible k h) :
    ∀ n, Ev.accept n ∈ h → n + 1 < NONCE_MOD := by
  induction h generalizing k with
  | nil => exact fun n hn => nomatch hn
  | cons e h ih =>
    intro n hn
    cases e with
    | accept m =>
      rcases List.mem_cons.1 hn with heq | hn
      · cases heq; exact hadm.2.1
      · exact ih _ hadm.2.2 n hn
    | tick =>
      rcases List.mem_cons.1 hn with heq | hn
      · cases heq
      · exact ih _ hadm n hn
theorem admissible_snoc (k : SlotKey) (h : List Ev) (e : Ev) :
    Admissible k (h ++ [e]) ↔ Admissible k h ∧
      (∀ n, e = .accept n → (slotRun k h).min ≤ n ∧ n + 1 < NONCE_MOD) := by
  induction h generalizing k with
  | nil =>
    cases e with
    | accept n => simp [Admissible, slotRun]
    | tick => simp [Admissible]
  | cons x h ih =>
    cases x with
    | accept m => simp only [List.cons_append, Admissible, ih, slotRun, List.foldl_cons, and_assoc]
    | tick => simp only [List.cons_append, Admissible, ih, slotRun, List.foldl_cons]

/-- the replay-window state of a slot is the one the history `h` prescribes: floor, floor-to-be and
    highest accepted nonce are the three stages `threshold`, `pending`, `top` of `h` -/
def Window (k : SlotKey) (h : List Ev) : Prop :=
  k.min = threshold h ∧ k.nextMin = pending h ∧ k.seen + 1 = top h ∧ k.seen + 1 < NONCE_MOD

theorem window_new (K : KeyRef) (half : Bool) (start : Nat) : Window (SlotKey.new K half start) [] :=
  ⟨rfl, rfl, rfl, show 0 + 1 < NONCE_MOD by decide⟩

theorem window_tick {k : SlotKey} {h : List Ev} (w : Window k h) : Window k.updateMinNonce (h ++ [.tick]) := by
  obtain ⟨i1, i2, i3, i4⟩ := w
  rw [Window, threshold_snoc_tick, pending_snoc_tick, top_snoc_tick]
  exact ⟨i2, by rw [← i3]; exact Nat.mod_eq_of_lt i4, i3, i4⟩

theorem window_accept {k : SlotKey} {h : List Ev} (w : Window k h) (n : Nat) (hn : n + 1 < NONCE_MOD) :
    Window (slotStep k (.accept n)) (h ++ [.accept n]) := by
  obtain ⟨i1, i2, i3, i4⟩ := w
  rw [Window, threshold_snoc_accept, pending_snoc_accept, top_snoc_accept]
  simp only [slotStep]
  split
  · exact ⟨i1, i2, by show n + 1 = _; omega, hn⟩
  · exact ⟨i1, i2, by omega, i4⟩

theorem run_inv (key : KeyRef) (half : Bool) (start : Nat) (h : List Ev)
    (hb : ∀ n, Ev.accept n ∈ h → n + 1 < NONCE_MOD) : Window (slotRun (SlotKey.new key half start) h) h := by
  induction h using snoc_induction with
  | hnil => exact window_new key half start
  | hsnoc h e ih =>
    have w := ih (fun n hn => hb n (List.mem_append_left _ hn))
    rw [slotRun_snoc]
    cases e with
    | accept n => exact window_accept w n (hb n (List.mem_append_right _ (List.mem_singleton.2 rfl)))
    | tick => exact window_tick w

end VpnCloud.Proofs.CoreLemmas
