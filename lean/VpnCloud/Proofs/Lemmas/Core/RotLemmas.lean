import VpnCloud.Proofs.C07
/-
  Side-level lemmas for the lock-step progress theorems of `C07More.lean` and `C07Session.lean`.

  `AheadL` strengthens `Ahead` by "the end that is ahead has actually sent a message with its current id"
  (an end sends that message in the very cycle in which it advances its id).  A round of the lock-step schedule
  (`RoundF`) delivers with arbitrary numbers for new key pairs (`procF`); the schedule of `C07More.lean`, which
  numbers them by the counter, is an instance.

  That sealing keys get replaced needs no schedule: `Since I N` says what has been drawn since an earlier state, is kept by every
  operation that draws a number `≥ N`, and yields new sealing keys once the leading id has advanced by 4.
-/
namespace VpnCloud.Rot

def AheadL (X Y : Side) (sx sy : List Msg) : Prop := Ahead X Y sx sy ∧ ∃ m ∈ sx, m.id = X.id

theorem mem_addMsg {l : List Msg} {m : Msg} (o : Option Msg) (h : m ∈ l) : m ∈ addMsg l o := by
  cases o with
  | none => exact h
  | some a => exact List.mem_cons_of_mem _ h

theorem process_id (s : Side) (m : Msg) (f : Nat) : (process s m f).id = s.id := by
  rcases process_cases s m f with ⟨_, e⟩ | ⟨_, _, e⟩ | ⟨_, _, _, _, _, e⟩ <;> rw [e]

theorem process_pending {s : Side} {m : Msg} (f : Nat) (h : ¬ m.id ≤ s.id) :
    (process s m f).pending = some (K f m.propose, f) := by
  rcases process_cases s m f with ⟨hle, _⟩ | ⟨_, _, e⟩ | ⟨_, _, _, _, _, e⟩
  · exact absurd hle h
  · rw [e]
  · rw [e]

theorem process_waiting {s : Side} (h : Waiting s) (m : Msg) (f : Nat) : Waiting (process s m f) := by
  rcases process_cases s m f with ⟨_, e⟩ | ⟨_, _, e⟩ | ⟨_, _, _, _, _, e⟩ <;> rw [e]
  · exact h
  · exact ⟨h.1, _, rfl⟩
  · exact ⟨rfl, _, rfl⟩

theorem process_latest {X Y : Side} {sx sy : List Msg} (h : Ahead X Y sx sy) {m : Msg} (hm : m ∈ sx)
    (hmid : m.id = X.id) (f : Nat) : Waiting (process Y m f) := by
  rcases (ahead_delivY h hm f).ysub with ⟨hn, _⟩ | ⟨hp, e, p, _, hpe⟩
  · rw [process_pending f (by have := h.idrel; omega)] at hn; cases hn
  · exact ⟨hp, _, hpe⟩

theorem aheadL_cycleX {X Y : Side} {sx sy : List Msg} (h : AheadL X Y sx sy) (f : Nat) :
    AheadL (cycle X f).1 Y (addMsg sx (cycle X f).2) sy ∧ (cycle X f).1.id = X.id := by
  have hid := cycle_id_of_not_waiting (ahead_not_waiting h.1) f
  obtain ⟨m, hm, hmid⟩ := h.2
  exact ⟨⟨ahead_cycleX h.1 f, m, mem_addMsg _ hm, by rw [hid]; exact hmid⟩, hid⟩

theorem aheadL_cycleY_waiting {X Y : Side} {sx sy : List Msg} (h : AheadL X Y sx sy) (hw : Waiting Y) (f : Nat) :
    AheadL (cycle Y f).1 X (addMsg sy (cycle Y f).2) sx ∧ (cycle Y f).1.id = Y.id + 2 := by
  refine ⟨⟨ahead_cycleY_waiting h.1 hw f, ?_⟩, ?_⟩ <;> obtain ⟨key, e, _, hc⟩ := cycle_waiting hw f <;> rw [hc]
  exact ⟨_, List.mem_cons_self, rfl⟩

theorem aheadL_cycleY_not_waiting {X Y : Side} {sx sy : List Msg} (h : AheadL X Y sx sy) (hw : ¬ Waiting Y) (f : Nat) :
    AheadL X (cycle Y f).1 sx (addMsg sy (cycle Y f).2) ∧ (cycle Y f).1.id = Y.id :=
  ⟨⟨ahead_cycleY_not_waiting h.1 hw f, h.2⟩, cycle_id_of_not_waiting hw f⟩

end VpnCloud.Rot

namespace VpnCloud.Proofs.C07SessionLemmas
open VpnCloud.Rot

/-- the invariant `InvL` of `C07More.lean` on the four components it talks about -/
def InvL4 (X Y : Side) (sx sy : List Msg) : Prop := AheadL X Y sx sy ∨ AheadL Y X sy sx

theorem invL4_symm {X Y : Side} {sx sy : List Msg} (h : InvL4 X Y sx sy) : InvL4 Y X sy sx := h.symm

theorem invL4_rop {X Y X' : Side} {sx sy sx' : List Msg} (h : InvL4 X Y sx sy) (r : ROp X sx sy X' sx') : InvL4 X' Y sx' sy := by
  cases r with
  | stutter => exact h
  | cycle f =>
    rcases h with h | h
    · exact Or.inl (aheadL_cycleX h f).1
    · by_cases hw : Waiting X
      · exact Or.inl (aheadL_cycleY_waiting h hw f).1
      · exact Or.inr (aheadL_cycleY_not_waiting h hw f).1
  | deliver m hm f =>
    rcases h with h | h
    · rw [ahead_delivX h.1 hm f]; exact Or.inl h
    · exact Or.inr ⟨ahead_delivY h.1 hm f, h.2⟩

/-- deliver the messages of `l` one after the other, each with its own number for the reply key pair -/
def procF : Side → List (Msg × Nat) → Side
  | Y, [] => Y
  | Y, (m, f) :: l => procF (process Y m f) l

theorem aheadL_procF {X : Side} {sx sy : List Msg} (l : List (Msg × Nat)) :
    ∀ {Y : Side}, AheadL X Y sx sy → (∀ p ∈ l, p.1 ∈ sx) →
      AheadL X (procF Y l) sx sy ∧ (procF Y l).id = Y.id ∧
      (Waiting Y → Waiting (procF Y l)) ∧ ((∃ p ∈ l, p.1.id = X.id) → Waiting (procF Y l)) := by
  induction l with
  | nil =>
    intro Y h _
    refine ⟨h, rfl, id, ?_⟩
    rintro ⟨p, hp, _⟩; cases hp
  | cons a l ih =>
    intro Y h hl
    obtain ⟨m, f⟩ := a
    have ha : m ∈ sx := hl (m, f) List.mem_cons_self
    have h1 : AheadL X (process Y m f) sx sy := ⟨ahead_delivY h.1 ha f, h.2⟩
    obtain ⟨i1, i2, i3, i4⟩ := ih (Y := process Y m f) h1 (fun p hp => hl p (List.mem_cons_of_mem _ hp))
    refine ⟨i1, by rw [show procF Y ((m, f) :: l) = procF (process Y m f) l from rfl, i2, process_id],
      fun hw => i3 (process_waiting hw m f), ?_⟩
    rintro ⟨p, hp, hpid⟩
    rcases List.mem_cons.1 hp with rfl | hp
    · exact i3 (process_latest h.1 ha hpid f)
    · exact i4 ⟨p, hp, hpid⟩

theorem procF_ignored {X Y : Side} {sx sy : List Msg} (h : Ahead X Y sx sy) (l : List (Msg × Nat)) :
    (∀ p ∈ l, p.1 ∈ sy) → procF X l = X := by
  induction l with
  | nil => intro _; rfl
  | cons a l ih =>
    intro hl
    obtain ⟨m, f⟩ := a
    show procF (process X m f) l = X
    rw [ahead_delivX h (hl (m, f) List.mem_cons_self) f]
    exact ih (fun p hp => hl p (List.mem_cons_of_mem _ hp))

/-- `l` delivers exactly the messages of `s` (any order, any multiplicity ≥ 1, any numbers) -/
def Covers (l : List (Msg × Nat)) (s : List Msg) : Prop := ∀ m, (∃ p ∈ l, p.1 = m) ↔ m ∈ s

/-! ### one half of a round: a cycle at `A`, then delivery of every message `A` ever sent to `B` -/

section halfF
variable {A B : Side} {sa sb : List Msg} {l : List (Msg × Nat)} (f : Nat)

theorem halfF_deliver (h1 : AheadL (cycle A f).1 B (addMsg sa (cycle A f).2) sb) (hl : Covers l (addMsg sa (cycle A f).2)) :
    AheadL (cycle A f).1 (procF B l) (addMsg sa (cycle A f).2) sb ∧ Waiting (procF B l) ∧ (procF B l).id = B.id := by
  obtain ⟨i1, i2, _, i4⟩ := aheadL_procF l (Y := B) h1 (fun p hp => (hl p.1).1 ⟨p, hp, rfl⟩)
  obtain ⟨m, hm, hmid⟩ := h1.2
  obtain ⟨p, hp, hpm⟩ := (hl m).2 hm
  exact ⟨i1, i4 ⟨p, hp, by rw [hpm]; exact hmid⟩, i2⟩

theorem halfF_ahead (h : AheadL A B sa sb) (hl : Covers l (addMsg sa (cycle A f).2)) :
    AheadL (cycle A f).1 (procF B l) (addMsg sa (cycle A f).2) sb ∧ Waiting (procF B l) ∧
      (cycle A f).1.id = A.id ∧ (procF B l).id = B.id := by
  obtain ⟨h1, hid⟩ := aheadL_cycleX h f
  obtain ⟨a, b, c⟩ := halfF_deliver f h1 hl
  exact ⟨a, b, hid, c⟩

theorem halfF_behind_waiting (h : AheadL B A sb sa) (hw : Waiting A) (hl : Covers l (addMsg sa (cycle A f).2)) :
    AheadL (cycle A f).1 (procF B l) (addMsg sa (cycle A f).2) sb ∧ Waiting (procF B l) ∧
      (cycle A f).1.id = A.id + 2 ∧ (procF B l).id = B.id := by
  obtain ⟨h1, hid⟩ := aheadL_cycleY_waiting h hw f
  obtain ⟨a, b, c⟩ := halfF_deliver f h1 hl
  exact ⟨a, b, hid, c⟩

theorem halfF_behind_not_waiting (h : AheadL B A sb sa) (hw : ¬ Waiting A) (hl : Covers l (addMsg sa (cycle A f).2)) :
    AheadL (procF B l) (cycle A f).1 sb (addMsg sa (cycle A f).2) ∧
      (cycle A f).1.id = A.id ∧ (procF B l).id = B.id := by
  obtain ⟨h1, hid⟩ := aheadL_cycleY_not_waiting h hw f
  have hB : procF B l = B := procF_ignored h1.1 l (fun p hp => (hl p.1).1 ⟨p, hp, rfl⟩)
  rw [hB]
  exact ⟨h1, hid, rfl⟩

end halfF

/-- **one round of the loss-free lock-step schedule** on `(X, Y, sx, sy)`: a cycle of `X` (number `f`), every message `X` has sent is delivered
    to `Y` (`l1`), a cycle of `Y` (number `f'`), every message `Y` has sent is delivered to `X` (`l2`); all numbers arbitrary -/
def RoundF (X Y : Side) (sx sy : List Msg) (X' Y' : Side) (sx' sy' : List Msg) : Prop :=
  ∃ f f' l1 l2, Covers l1 (addMsg sx (cycle X f).2) ∧ Covers l2 (addMsg sy (cycle (procF Y l1) f').2) ∧
    X' = procF (cycle X f).1 l2 ∧ Y' = (cycle (procF Y l1) f').1 ∧
    sx' = addMsg sx (cycle X f).2 ∧ sy' = addMsg sy (cycle (procF Y l1) f').2

/-- after one round from any state of the invariant `Y` is ahead and `X` waits (steady state); no id has decreased; from the steady
    state both ids have advanced by exactly 2 -/
theorem roundF_spec {X Y X' Y' : Side} {sx sy sx' sy' : List Msg} (h : InvL4 X Y sx sy) (r : RoundF X Y sx sy X' Y' sx' sy') :
    AheadL Y' X' sy' sx' ∧ Waiting X' ∧ X.id ≤ X'.id ∧ Y.id ≤ Y'.id ∧
      (AheadL Y X sy sx → Waiting X → X'.id = X.id + 2 ∧ Y'.id = Y.id + 2) := by
  obtain ⟨f, f', l1, l2, hl1, hl2, rfl, rfl, rfl, rfl⟩ := r
  rcases h with h | h
  · obtain ⟨a1, a2, a3, a4⟩ := halfF_ahead f h hl1
    obtain ⟨b1, b2, b3, b4⟩ := halfF_behind_waiting f' a1 a2 hl2
    refine ⟨b1, b2, by omega, by omega, fun h' _ => ?_⟩
    have := h.1.idrel; have := h'.1.idrel; omega
  · by_cases hw : Waiting X
    · obtain ⟨a1, a2, a3, a4⟩ := halfF_behind_waiting f h hw hl1
      obtain ⟨b1, b2, b3, b4⟩ := halfF_behind_waiting f' a1 a2 hl2
      exact ⟨b1, b2, by omega, by omega, fun _ _ => ⟨by omega, by omega⟩⟩
    · obtain ⟨a1, a3, a4⟩ := halfF_behind_not_waiting f h hw hl1
      obtain ⟨b1, b2, b3, b4⟩ := halfF_ahead f' a1 hl2
      exact ⟨b1, b2, by omega, by omega, fun _ hw' => absurd hw' hw⟩

/-- **two rounds suffice**: after two rounds both ends have advanced their id — each has installed a new key and made a new proposal -/
theorem lockstepF_fresh {X Y X1 Y1 X2 Y2 : Side} {sx sy sx1 sy1 sx2 sy2 : List Msg} (h : InvL4 X Y sx sy)
    (r1 : RoundF X Y sx sy X1 Y1 sx1 sy1) (r2 : RoundF X1 Y1 sx1 sy1 X2 Y2 sx2 sy2) : X2.id > X.id ∧ Y2.id > Y.id := by
  obtain ⟨a1, a2, a3, a4, _⟩ := roundF_spec h r1
  obtain ⟨_, _, _, _, b5⟩ := roundF_spec (Or.inr a1) r2
  obtain ⟨c1, c2⟩ := b5 a1 a2
  omega

end VpnCloud.Proofs.C07SessionLemmas

namespace VpnCloud.Rot

theorem steady_cur {X Y : Side} {sx sy : List Msg} (h : Ahead Y X sy sx) (hw : Waiting X) :
    X.cur = (if Y.id > 1 then Y.id % 4 else 0) ∧ Y.cur = (if Y.id ≤ 2 then 0 else (Y.id - 1) % 4) := by
  refine ⟨?_, h.xcur⟩
  rw [h.ycur]
  simp only [hw.1, true_and]
  split
  · rfl
  · rw [if_pos (by omega)]

/-- every ephemeral key pair a key is made of was drawn before the counter reached `n` -/
def Key.Old (n : Nat) : Key → Prop
  | .dh lo hi => lo < n ∧ hi < n
  | _ => True

/-- the key is the shared secret of two ephemeral key pairs both drawn when the counter was at least `n` -/
def Key.New (n : Nat) (k : Key) : Prop := ∃ a b, k = K a b ∧ n ≤ a ∧ n ≤ b

theorem K_eq (a b : Nat) : K a b = .dh (min a b) (max a b) := by
  unfold K; split
  · next h => rw [Nat.min_eq_left h, Nat.max_eq_right h]
  · next h => rw [Nat.min_eq_right (Nat.le_of_not_le h), Nat.max_eq_left (Nat.le_of_not_le h)]

theorem old_K {n a b : Nat} : (K a b).Old n ↔ a < n ∧ b < n := by
  rw [K_eq]
  show min a b < n ∧ max a b < n ↔ _
  omega

theorem Key.New.mono {n n' : Nat} {k : Key} (h : k.New n') (hn : n ≤ n') : k.New n := by
  obtain ⟨a, b, e, ha, hb⟩ := h
  exact ⟨a, b, e, by omega, by omega⟩

theorem Key.New.ne_old {n : Nat} {k k' : Key} (h : k.New n) (h' : k'.Old n) : k ≠ k' := by
  rintro rfl
  obtain ⟨a, b, rfl, ha, hb⟩ := h
  have := old_K.1 h'
  omega

structure SideOld (n : Nat) (S : Side) : Prop where
  slots : ∀ i, (S.slots i).Old n
  pending : ∀ k e, S.pending = some (k, e) → k.Old n ∧ e < n
  proposed : ∀ p, S.proposed = some p → p < n
  confirmed : ∀ c i, S.confirmed = some (c, i) → c < n

theorem install_old {n : Nat} {s : Nat → Key} {k : Key} (hs : ∀ i, (s i).Old n) (hk : k.Old n) (id : Nat) :
    ∀ i, (install s k id i).Old n := by
  intro i; unfold install; split
  · exact hk
  · exact hs i

/-- Relative to an earlier state in which no id exceeded `I` and the counter stood at `N` (so at that state every premise below is
    false): a number held for an id above `I` has been drawn since, because the message it answers did not exist before.  The key for
    id `j` is made of the proposal of message `j - 1` and of the reply number drawn while processing that message, hence is new once
    `j - 1 > I`.  `X` is the end that is ahead; `win` speaks of the slots of its ids `X.id`, `X.id - 1`, `X.id - 2`: both sealing slots are
    among them, and by `Ahead.sync1/2` the peer holds the same keys there. -/
structure Since (I N : Nat) (X Y : Side) : Prop where
  xprop : I < X.id → ∀ p, X.proposed = some p → N ≤ p
  xconf : I + 1 < X.id → ∀ c i, X.confirmed = some (c, i) → N ≤ c
  yprop : I < Y.id → ∀ q, Y.proposed = some q → N ≤ q
  ypend : I < X.id → ∀ k e, Y.pending = some (k, e) → N ≤ e
  win : ∀ d, d ≤ 2 → I + 1 + d < X.id → (X.slots ((X.id - d) % 4)).New N

theorem since_cycle_not_waiting {I N : Nat} {X Y : Side} (h : Since I N X Y) (f : Nat) :
    (¬ Waiting X → Since I N (cycle X f).1 Y) ∧ (¬ Waiting Y → Since I N X (cycle Y f).1) := by
  constructor <;> intro hw <;> obtain ⟨b, e⟩ := cycle_fst_of_not_waiting hw f <;> rw [e]
  · exact ⟨h.xprop, h.xconf, h.yprop, h.ypend, h.win⟩
  · exact ⟨h.xprop, h.xconf, h.yprop, h.ypend, h.win⟩

theorem since_delivY {I N : Nat} {X Y : Side} (h : Since I N X Y) (m : Msg) {f : Nat} (hf : N ≤ f) :
    Since I N X (process Y m f) := by
  have hp : I < X.id → ∀ k e, some (K f m.propose, f) = some (k, e) → N ≤ e := fun _ k e hk => by cases hk; exact hf
  rcases process_cases Y m f with ⟨_, e⟩ | ⟨_, _, e⟩ | ⟨_, _, _, _, _, e⟩ <;> rw [e]
  · exact h
  · exact ⟨h.xprop, h.xconf, h.yprop, hp, h.win⟩
  · exact ⟨h.xprop, h.xconf, fun _ q hq => (by cases hq), hp, h.win⟩

/-- the cycle in which `Y` overtakes: the key it installs is made of its pending reply and `X`'s proposal, both drawn since if `X.id`
    is above `I`; the two other slots of its window are the sealing slots, which hold what `X` holds there -/
theorem since_cycleY_waiting {I N : Nat} {X Y : Side} {sx sy : List Msg} (ha : Ahead X Y sx sy) (h : Since I N X Y) (hw : Waiting Y)
    {f : Nat} (hf : N ≤ f) : Since I N (cycle Y f).1 X := by
  obtain ⟨e, p, hp, hpe, hc⟩ := ha.overtake hw f
  -- the three slots of the window of `Y`'s new id `Y.id + 2`, in terms of `X.id`
  obtain ⟨w0, w1, w2⟩ : (I + 1 + 0 < Y.id + 2 → I < X.id) ∧ (I + 1 + 1 < Y.id + 2 → 1 < X.id ∧ I + 1 + 0 < X.id) ∧
      (I + 1 + 2 < Y.id + 2 → ¬ X.id ≤ 2 ∧ I + 1 + 1 < X.id) := by
    have := ha.idrel
    omega
  obtain ⟨n1, n2, _, _⟩ := ha.cur_overtake hw.1
  rw [hc]
  refine ⟨fun _ q hq => by cases hq; exact hf, ?_, fun hI q hq => h.xprop hI q hq, ?_, ?_⟩
  · intro hI c i hci; cases hci
    exact h.ypend (w0 hI) _ _ hpe
  · intro _ k e hk; rw [ha.xpend] at hk; cases hk
  · intro d hd hI
    show (install Y.slots (K e p) (Y.id + 2) ((Y.id + 2 - d) % 4)).New N
    match d, hd, hI with
    | 0, _, hI =>
      simp only [install, Nat.sub_zero, if_true]
      exact ⟨e, p, rfl, h.ypend (w0 hI) _ _ hpe, h.xprop (w0 hI) p hp⟩
    | 1, _, hI =>
      obtain ⟨h1, hI'⟩ := w1 hI
      have hcur : Y.cur = X.id % 4 := by rw [ha.ycur, if_pos ⟨hw.1, h1⟩]
      rw [show Y.id + 2 - 1 = X.id from ha.idrel, ← hcur]; simp only [install, if_neg n1]
      rw [ha.sync2, hcur]; exact h.win 0 (Nat.zero_le 2) hI'
    | 2, _, hI =>
      obtain ⟨h2, hI'⟩ := w2 hI
      have hcur : X.cur = (X.id - 1) % 4 := by rw [ha.xcur, if_neg h2]
      rw [show Y.id + 2 - 2 = X.id - 1 by rw [← ha.idrel]; rfl, ← hcur]; simp only [install, if_neg n2]
      rw [← ha.sync1, hcur]; exact h.win 1 (by decide) hI'

theorem Since.keys {I N : Nat} {X Y : Side} {sx sy : List Msg} (ha : Ahead X Y sx sy) (h : Since I N X Y) (hI : I + 4 ≤ X.id) :
    (X.slots X.cur).New N ∧ (Y.slots Y.cur).New N := by
  have hw : ∀ d, d ≤ 2 → I + 1 + d < X.id := fun d hd => by omega
  constructor
  · rw [ha.xcur, if_neg (by omega)]; exact h.win 1 (by decide) (hw 1 (by decide))
  · rw [ha.sync2, ha.ycur]
    split
    · exact h.win 0 (Nat.zero_le 2) (hw 0 (Nat.zero_le 2))
    · rw [if_neg (by omega)]; exact h.win 2 (Nat.le_refl 2) (hw 2 (Nat.le_refl 2))

end VpnCloud.Rot
