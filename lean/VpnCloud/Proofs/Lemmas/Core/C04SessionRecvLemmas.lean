import VpnCloud.Proofs.Lemmas.Core.C04SessionLemmas
/-
  Helper lemmas for the receiver half of `Proofs/C04Session.lean` (C03 lifted to sessions):
  per-slot histories of a trace, the window invariant, slot independence, and the two-tick death
  of replays.
-/
namespace VpnCloud.Proofs.C04Session

open VpnCloud.Spec.C03
open VpnCloud.Proofs.CoreLemmas

/-- what one operation on core `c` does to the history `h` of slot `i` (history = events since the key
    now in the slot was installed): an accepted datagram addressed to the slot appends `accept nonce`,
    a tick appends `tick`, a rotation into the slot starts a new history, everything else nothing -/
def histStep (i : Nat) (c : Core) (h : List Ev) : SOp → List Ev
  | .open d => if d.keyId = i ∧ accepted c d = true then h ++ [.accept (c.reconstruct d.counter)] else h
  | .tick => h ++ [.tick]
  | .rotate _ id _ _ => if id % 4 = i then [] else h
  | .seal _ => h

/-- the history of slot `i` after a trace that starts at core `c` with history `h` -/
def slotHist (i : Nat) : Core → List Ev → List SOp → List Ev
  | _, h, [] => h
  | c, h, op :: ops => slotHist i (step c op).1 (histStep i c h op) ops

def delivered : List SOp → List Dgram
  | [] => []
  | .open d :: ops => d :: delivered ops
  | .seal _ :: ops => delivered ops
  | .tick :: ops => delivered ops
  | .rotate _ _ _ _ :: ops => delivered ops

/-- received datagrams are byte strings: every header element is a byte -/
def DeliveredWF (ops : List SOp) : Prop := ∀ d ∈ delivered ops, Bytes.WF d.hdr

instance (ops : List SOp) : Decidable (DeliveredWF ops) := by unfold DeliveredWF; infer_instance

theorem delivered_append (a b : List SOp) : delivered (a ++ b) = delivered a ++ delivered b := by
  induction a with
  | nil => rfl
  | cons op a ih => cases op <;> simp [delivered, ih]

theorem deliveredWF_cons {op : SOp} {ops : List SOp} (h : DeliveredWF (op :: ops)) :
    (∀ d, op = .open d → Bytes.WF d.hdr) ∧ DeliveredWF ops :=
  ⟨fun d hd => h d (by rw [hd]; exact List.mem_cons_self),
   fun d hd => h d (by cases op <;> simp [delivered, hd])⟩

def numTicks : List SOp → Nat
  | [] => 0
  | .tick :: ops => numTicks ops + 1
  | .seal _ :: ops => numTicks ops
  | .open _ :: ops => numTicks ops
  | .rotate _ _ _ _ :: ops => numTicks ops

theorem numTicks_cons (op : SOp) (ops : List SOp) : numTicks (op :: ops) = numTicks [op] + numTicks ops := by
  cases op <;> simp [numTicks] <;> omega

theorem counter_lt (d : Dgram) (h : Bytes.WF d.hdr) : d.counter < 2 ^ 56 := by
  have h1 := Bytes.beVal_lt _ (Bytes.wf_take 7 (Bytes.wf_drop 1 h))
  have h3 : 256 ^ ((d.hdr.drop 1).take 7).length ≤ 256 ^ 7 :=
    Nat.pow_le_pow_right (by decide) (List.length_take_le _ _)
  exact Nat.lt_of_lt_of_le h1 h3

theorem reconstruct_lt (c : Core) (d : Dgram) (h : Bytes.WF d.hdr) : c.reconstruct d.counter + 1 < NONCE_MOD := by
  have := counter_lt d h
  simp only [Core.reconstruct, HALF, NONCE_MOD]
  split <;> omega

/-- one operation keeps the history of slot `i` in step with the slot: the window state is the one the history prescribes, and the
    history stays admissible — an accept is recorded only for a nonce that passed the window test of the slot, whose floor is the one
    `slotRun` computes from the history -/
theorem histStep_keeps (i : Nat) (c : Core) (h : List Ev) (op : SOp) (k : SlotKey) (K : KeyRef) (half : Bool) (start : Nat)
    (hk : c.slots[i]? = some k) (w : Window k h) (a : Admissible (SlotKey.new K half start) h)
    (hwf : ∀ d, op = .open d → Bytes.WF d.hdr) :
    Window (slotAfter c i k op) (histStep i c h op) ∧ Admissible (SlotKey.new K half start) (histStep i c h op) := by
  cases op with
  | «seal» p =>
    simp only [slotAfter, histStep]
    split <;> exact ⟨w, a⟩
  | tick => exact ⟨window_tick w, (admissible_snoc _ h _).2 ⟨a, fun n hn => nomatch hn⟩⟩
  | rotate K' id use start' =>
    by_cases hc : id % 4 = i
    · simp only [slotAfter, histStep, if_pos hc]; exact ⟨window_new _ _ _, trivial⟩
    · simp only [slotAfter, histStep, if_neg hc]; exact ⟨w, a⟩
  | «open» d =>
    by_cases hc : d.keyId = i ∧ accepted c d = true
    · simp only [slotAfter, histStep, if_pos hc]
      have hlt := reconstruct_lt c d (hwf d rfl)
      refine ⟨window_accept w _ hlt, (admissible_snoc _ h _).2 ⟨a, fun n hn => ?_⟩⟩
      cases hn
      refine ⟨?_, hlt⟩
      rw [C03.window_refines K half start h a, ← w.1]
      exact accepted_floor c d k (hc.1 ▸ hk) hc.2
    · simp only [slotAfter, histStep, if_neg hc]; exact ⟨w, a⟩

theorem win_run (i : Nat) (K : KeyRef) (half : Bool) (start : Nat) :
    ∀ (ops : List SOp) (c : Core) (h : List Ev) (k : SlotKey),
    c.slots[i]? = some k → Window k h → Admissible (SlotKey.new K half start) h → DeliveredWF ops →
    ∃ k', (run c ops).1.slots[i]? = some k' ∧ Window k' (slotHist i c h ops) ∧ k'.key = slotKeyAfter i k.key ops ∧
      Admissible (SlotKey.new K half start) (slotHist i c h ops) := by
  intro ops
  induction ops with
  | nil => intro c h k hk w a _; exact ⟨k, hk, w, rfl, a⟩
  | cons op ops ih =>
    intro c h k hk w a hwf
    obtain ⟨hwf1, hwf'⟩ := deliveredWF_cons hwf
    obtain ⟨w1, a1⟩ := histStep_keeps i c h op k K half start hk w a hwf1
    obtain ⟨k2, hk2, w2, hkey2, a2⟩ := ih (step c op).1 (histStep i c h op) _ (step_slot c op i k hk) w1 a1 hwf'
    exact ⟨k2, hk2, w2, by rw [hkey2, slotAfter_key]; rfl, a2⟩

theorem decrypt_congr (c c' : Core) (d : Dgram) (hhalf : c'.half = c.half)
    (hslot : (c'.slots[d.keyId]?).map (fun k => (k.key, k.min)) = (c.slots[d.keyId]?).map (fun k => (k.key, k.min))) :
    (c'.decrypt d).2 = (c.decrypt d).2 := by
  have hrec : c'.reconstruct d.counter = c.reconstruct d.counter := by rw [Core.reconstruct, hhalf]; rfl
  rw [decrypt_eq, decrypt_eq, hrec]
  -- the same tests in the same order on both sides
  by_cases h1 : d.len < 24
  · rw [if_pos h1, if_pos h1]
  by_cases h2 : d.keyId ≥ 4
  · rw [if_neg h1, if_neg h1, if_pos h2, if_pos h2]
  rw [if_neg h1, if_neg h1, if_neg h2, if_neg h2]
  rcases hk : c.slots[d.keyId]? with _ | k <;> rcases hk' : c'.slots[d.keyId]? with _ | k' <;> rw [hk, hk'] at hslot
  · cases hslot
  · cases hslot
  · obtain ⟨hkey, hmin⟩ := Prod.mk.inj (Option.some.inj hslot)
    simp only [hkey, hmin]
    by_cases h3 : c.reconstruct d.counter < k.min
    · rw [if_pos h3, if_pos h3]
    rw [if_neg h3, if_neg h3]
    cases d.body with
    | garbage n => rfl
    | sealed key n p =>
      by_cases h4 : key = k.key ∧ n = c.reconstruct d.counter
      · simp only [if_pos h4]
      · simp only [if_neg h4]

/-- does the operation touch the receive window of slot `i`?  (a tick ages all four slots) -/
def affects (op : SOp) (i : Nat) : Prop :=
  match op with
  | .open d => d.keyId = i
  | .rotate _ id _ _ => id % 4 = i
  | .tick => True
  | .seal _ => False

instance (op : SOp) (i : Nat) : Decidable (affects op i) := by
  cases op <;> simp only [affects] <;> infer_instance

theorem unaffected_step (c : Core) (op : SOp) (i : Nat) (h : List Ev) (hna : ¬ affects op i) :
    (∀ k, ((slotAfter c i k op).key, (slotAfter c i k op).min) = (k.key, k.min)) ∧ histStep i c h op = h := by
  cases op with
  | «seal» p =>
    refine ⟨fun k => ?_, rfl⟩
    simp only [slotAfter]
    split <;> rfl
  | tick => exact absurd trivial hna
  | rotate K id use start =>
    exact ⟨fun k => by rw [show slotAfter c i k (.rotate K id use start) = k from if_neg hna], if_neg hna⟩
  | «open» d =>
    exact ⟨fun k => by rw [show slotAfter c i k (.open d) = k from if_neg fun h => hna h.1], if_neg fun hc => hna hc.1⟩

/-- a trace without operations on slot `i` leaves what `decrypt` reads of the slot, and the slot's history, as they were -/
theorem run_unaffected (c : Core) (ops : List SOp) (i : Nat) (hna : ∀ op ∈ ops, ¬ affects op i) (h : List Ev) :
    ((run c ops).1.slots[i]?).map (fun k => (k.key, k.min)) = (c.slots[i]?).map (fun k => (k.key, k.min)) ∧
      slotHist i c h ops = h := by
  induction ops generalizing c with
  | nil => exact ⟨rfl, rfl⟩
  | cons op ops ih =>
    obtain ⟨hs, hh⟩ := unaffected_step c op i h (hna op List.mem_cons_self)
    obtain ⟨i1, i2⟩ := ih (step c op).1 (fun o ho => hna o (List.mem_cons_of_mem _ ho))
    rw [run_cons, slotHist, hh]
    refine ⟨i1.trans ?_, i2⟩
    rw [step_slots, Option.map_map]
    exact congrArg (fun f => Option.map f c.slots[i]?) (funext hs)

/-- stage `t` (number of ticks so far, 0 / 1 / ≥ 2) of the death of the nonces `≤ n'` under key `K` in a
    slot: while the slot holds `K`, `n'` has been seen, after one tick it is below the pending floor,
    after two ticks below the floor -/
def Stage (K : KeyRef) (n' t : Nat) (k : SlotKey) : Prop :=
  k.seen + 1 < NONCE_MOD ∧ (k.key = K → n' ≤ k.seen ∧ (1 ≤ t → n' < k.nextMin) ∧ (2 ≤ t → n' < k.min))

theorem slotAfter_stage (K : KeyRef) (n' t j : Nat) (c : Core) (op : SOp) (k : SlotKey) (st : Stage K n' t k)
    (hrot : ∀ K' id use start, op = .rotate K' id use start → K' ≠ K)
    (hwf : ∀ d, op = .open d → Bytes.WF d.hdr) : Stage K n' (t + numTicks [op]) (slotAfter c j k op) := by
  cases op with
  | «seal» p =>
    simp only [slotAfter]
    split <;> exact st
  | tick =>
    obtain ⟨s1, s2⟩ := st
    refine ⟨s1, fun hkey => ?_⟩
    obtain ⟨a, b, c'⟩ := s2 hkey
    simp only [slotAfter, SlotKey.updateMinNonce, numTicks]
    rw [Nat.mod_eq_of_lt s1]
    exact ⟨a, fun _ => by omega, fun h2 => b (by omega)⟩
  | rotate K' id use start =>
    simp only [slotAfter]
    split
    · exact ⟨show 0 + 1 < NONCE_MOD by decide, fun hkey => absurd hkey (hrot K' id use start rfl)⟩
    · exact st
  | «open» d =>
    simp only [slotAfter]
    split
    · obtain ⟨s1, s2⟩ := st
      simp only [slotStep]
      split
      · refine ⟨reconstruct_lt c d (hwf d rfl), fun hkey => ?_⟩
        obtain ⟨a, b, c'⟩ := s2 hkey
        exact ⟨by show n' ≤ c.reconstruct d.counter; omega, b, c'⟩
      · exact ⟨s1, s2⟩
    · exact st

theorem stage_run (K : KeyRef) (n' j : Nat) : ∀ (ops : List SOp) (t : Nat) (c : Core) (k : SlotKey),
    c.slots[j]? = some k → Stage K n' t k → K ∉ rotatedKeys ops → DeliveredWF ops →
    ∃ k', (run c ops).1.slots[j]? = some k' ∧ Stage K n' (t + numTicks ops) k' := by
  intro ops
  induction ops with
  | nil => intro t c k hk st _ _; exact ⟨k, hk, st⟩
  | cons op ops ih =>
    intro t c k hk st hf hwf
    rw [rotatedKeys_cons, List.mem_append, not_or] at hf
    obtain ⟨hwf1, hwf'⟩ := deliveredWF_cons hwf
    have st1 := slotAfter_stage K n' t j c op k st
      (fun K' id use start h heq => hf.1 (by rw [h, heq]; exact List.mem_cons_self)) hwf1
    rw [numTicks_cons, ← Nat.add_assoc]
    exact ih _ _ _ (step_slot c op j k hk) st1 hf.2 hwf'

/-- from ANY core: once `c` has accepted `d'` (nonce `n'` under key `K`), after a trace with two ticks that does not rotate `K` in again
    every datagram for that slot under `K` with a nonce `≤ n'` is rejected.  `hseen` keeps the slot's highest nonce below the top of the
    96-bit range (it holds of every slot a session reaches, `Window`) -/
theorem replay_dies (c : Core) (more : List SOp) (d' d : Dgram) (K : KeyRef) (n n' : Nat) (p p' : Bytes) (k : SlotKey)
    (hk : c.slots[d'.keyId]? = some k) (hseen : k.seen + 1 < NONCE_MOD) (hwf' : Bytes.WF d'.hdr) (hwf : DeliveredWF more)
    (hacc : (c.decrypt d').2 = .ok p') (hb' : d'.body = .sealed K n' p') (hb : d.body = .sealed K n p) (hid : d.keyId = d'.keyId)
    (hle : n ≤ n') (hfresh : K ∉ rotatedKeys more) (h2 : 2 ≤ numTicks more) :
    ∃ e, ((run (c.decrypt d').1 more).1.decrypt d).2 = .error e := by
  obtain ⟨k0, _, _, hk0, _, hb0, hd⟩ := decrypt_ok c d' p' hacc
  rw [hk] at hk0
  cases hk0
  rw [hb'] at hb0
  cases hb0
  -- the accepting slot has seen `n'`: stage 0
  have st0 : Stage k.key (c.reconstruct d'.counter) 0 (slotStep k (.accept (c.reconstruct d'.counter))) := by
    have hrl := reconstruct_lt c d' hwf'
    simp only [slotStep]
    split
    · exact ⟨hrl, fun _ => ⟨Nat.le_refl _, fun h => absurd h (by omega), fun h => absurd h (by omega)⟩⟩
    · exact ⟨hseen, fun _ => ⟨by omega, fun h => absurd h (by omega), fun h => absurd h (by omega)⟩⟩
  obtain ⟨k3, hk3, st3⟩ := stage_run k.key _ d'.keyId more 0 (c.decrypt d').1 _
    (by rw [hd]; exact List.getElem?_set_self (List.getElem?_eq_some_iff.1 hk).1) st0 hfresh hwf
  rw [← hid] at hk3
  -- two ticks later the floor of the slot, while it holds the key, is above `n'`
  exact decrypt_rejects _ d fun k1 p1 hk1 hmin hb1 => by
    rw [hk3] at hk1
    cases hk1
    rw [hb] at hb1
    obtain ⟨hkey, hn, _⟩ := Body.sealed.inj hb1
    have := (st3.2 hkey.symm).2.2 (by omega)
    omega

end VpnCloud.Proofs.C04Session
