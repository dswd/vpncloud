import VpnCloud.Proofs.C02
/-
  Definitions (operation traces of a `Core`) and helper lemmas for `Proofs/C04Session.lean`:
  C04 (no (key, nonce) pair twice) and C03 (replay window) lifted from one key to whole sessions
  with key rotation.
-/
namespace VpnCloud.Proofs.C04Session

open VpnCloud.Spec.C04 VpnCloud.Spec.C03
open VpnCloud.Proofs.CoreLemmas

/-- the operations a `CryptoCore` undergoes during a session: sealing a payload, the housekeeping
    tick, installing a rotated key, opening a received datagram -/
inductive SOp
  | «seal» (p : Bytes)
  | tick
  | rotate (key : KeyRef) (id : Nat) (use : Bool) (start : Nat)
  | «open» (d : Dgram)
  deriving DecidableEq, Repr

/-- one operation: new core and the datagrams put on the wire (one for a seal, none otherwise) -/
def step (c : Core) : SOp → Core × List Dgram
  | .seal p => ((c.encrypt p).1, [(c.encrypt p).2])
  | .tick => (c.everySecond, [])
  | .rotate key id use start => (c.rotateKey key id use start, [])
  | .open d => ((c.decrypt d).1, [])

/-- a whole trace: final core and all emitted datagrams, oldest first -/
def run (c : Core) : List SOp → Core × List Dgram
  | [] => (c, [])
  | op :: ops => ((run (step c op).1 ops).1, (step c op).2 ++ (run (step c op).1 ops).2)

def rotatedKeys : List SOp → List KeyRef
  | [] => []
  | .rotate key _ _ _ :: ops => key :: rotatedKeys ops
  | .seal _ :: ops => rotatedKeys ops
  | .tick :: ops => rotatedKeys ops
  | .open _ :: ops => rotatedKeys ops

def rotatedStarts : List SOp → List Nat
  | [] => []
  | .rotate _ _ _ start :: ops => start :: rotatedStarts ops
  | .seal _ :: ops => rotatedStarts ops
  | .tick :: ops => rotatedStarts ops
  | .open _ :: ops => rotatedStarts ops

/-- hypothesis I3 (key freshness) on a trace: every rotated-in key differs from the keys in `used`
    (for a session: the handshake key and the dummy key) and from every key rotated in before -/
def Fresh (used : List KeyRef) (ops : List SOp) : Prop :=
  (rotatedKeys ops).Nodup ∧ ∀ K ∈ used, K ∉ rotatedKeys ops

instance (used : List KeyRef) (ops : List SOp) : Decidable (Fresh used ops) := by
  unfold Fresh; infer_instance

/-- all start values of rotated-in keys are 48-bit values (bytes 6..11 of the nonce are random) -/
def StartsOK (ops : List SOp) : Prop := ∀ s ∈ rotatedStarts ops, s < 2 ^ 48

instance (ops : List SOp) : Decidable (StartsOK ops) := by unfold StartsOK; infer_instance

def keyOf (d : Dgram) : Option KeyRef := (sealedWith d).map Prod.fst

def sealsUnder (K : KeyRef) (ds : List Dgram) : Nat := ds.countP (fun d => decide (keyOf d = some K))

/-- same-key nonces strictly increase in emission order -/
def Increasing (ds : List Dgram) : Prop :=
  ds.Pairwise (fun d1 d2 => ∀ K n1 n2, sealedWith d1 = some (K, n1) → sealedWith d2 = some (K, n2) → n1 < n2)

theorem run_nil (c : Core) : run c [] = (c, []) := rfl
theorem run_cons (c : Core) (op : SOp) (ops : List SOp) :
    run c (op :: ops) = ((run (step c op).1 ops).1, (step c op).2 ++ (run (step c op).1 ops).2) := rfl

theorem run_append (c : Core) (a b : List SOp) :
    run c (a ++ b) = ((run (run c a).1 b).1, (run c a).2 ++ (run (run c a).1 b).2) := by
  induction a generalizing c with
  | nil => simp [run]
  | cons op a ih => simp only [List.cons_append, run_cons, ih, List.append_assoc]

theorem rotatedKeys_cons (op : SOp) (ops : List SOp) : rotatedKeys (op :: ops) = rotatedKeys [op] ++ rotatedKeys ops := by
  cases op <;> rfl

theorem rotatedKeys_append (a b : List SOp) : rotatedKeys (a ++ b) = rotatedKeys a ++ rotatedKeys b := by
  induction a with
  | nil => rfl
  | cons op a ih => rw [List.cons_append, rotatedKeys_cons, ih, ← List.append_assoc, ← rotatedKeys_cons]

theorem sealsUnder_append (K : KeyRef) (a b : List Dgram) :
    sealsUnder K (a ++ b) = sealsUnder K a + sealsUnder K b := List.countP_append

theorem sealsUnder_nil (K : KeyRef) : sealsUnder K [] = 0 := rfl

theorem sealsUnder_le_length (K : KeyRef) (ds : List Dgram) : sealsUnder K ds ≤ ds.length :=
  List.countP_le_length

theorem sealedWith_encrypt (c : Core) (p : Bytes) (k : SlotKey) (hk : c.slots[c.cur]? = some k) :
    sealedWith (c.encrypt p).2 = some (k.key, (k.send + 1) % NONCE_MOD) := by
  rw [encrypt_eq c p k hk]
  rfl

/-- did the core accept the datagram?  The test under which `histStep` records an accept and `slotAfter` moves the addressed slot. -/
def accepted (c : Core) (d : Dgram) : Bool :=
  match (c.decrypt d).2 with
  | .ok _ => true
  | .error _ => false

theorem accepted_iff (c : Core) (d : Dgram) : accepted c d = true ↔ ∃ p, (c.decrypt d).2 = .ok p := by
  unfold accepted
  split
  · rename_i p h; simp [h]
  · rename_i e h; simp [h]

def keyStep (i : Nat) (K : KeyRef) : SOp → KeyRef
  | .rotate K' id _ _ => if id % 4 = i then K' else K
  | .open _ => K
  | .tick => K
  | .seal _ => K

/-- the key slot `i` holds after a trace if it held `K` before: the one rotated into it last -/
def slotKeyAfter (i : Nat) (K : KeyRef) (ops : List SOp) : KeyRef := ops.foldl (keyStep i) K

theorem getElem?_set_of_some {α : Type} {l : List α} {i j : Nat} {a k : α} (h : l[j]? = some k) :
    (l.set i a)[j]? = some (if i = j then a else k) := by
  rw [List.getElem?_set]
  split
  · next hij => rw [if_pos (hij ▸ (List.getElem?_eq_some_iff.1 h).1)]
  · exact h

theorem encrypt_slots (c : Core) (p : Bytes) (j : Nat) (k : SlotKey) (hk : c.slots[j]? = some k) :
    (c.encrypt p).1.slots[j]? = some (if c.cur = j then { k with send := (k.send + 1) % NONCE_MOD } else k) := by
  cases hc : c.slots[c.cur]? with
  | none => rw [encrypt_none c p hc, if_neg (fun h => by rw [h, hk] at hc; cases hc)]; exact hk
  | some kc =>
    rw [encrypt_eq c p kc hc]
    refine (getElem?_set_of_some hk).trans ?_
    split
    · next hcj => rw [hcj, hk] at hc; cases hc; rfl
    · rfl

theorem tick_slots (c : Core) (j : Nat) : c.everySecond.slots[j]? = (c.slots[j]?).map SlotKey.updateMinNonce := by
  simp only [Core.everySecond, List.getElem?_map]

theorem slotStep_accept_key (k : SlotKey) (n : Nat) :
    (slotStep k (.accept n)).key = k.key ∧ (slotStep k (.accept n)).send = k.send ∧
    (slotStep k (.accept n)).min = k.min ∧ (slotStep k (.accept n)).nextMin = k.nextMin := by
  simp only [slotStep]
  split <;> exact ⟨rfl, rfl, rfl, rfl⟩

theorem open_core (c : Core) (d : Dgram) :
    (accepted c d = false ∧ (c.decrypt d).1 = c) ∨
    (accepted c d = true ∧ ∃ k, c.slots[d.keyId]? = some k ∧ k.min ≤ c.reconstruct d.counter ∧
      (c.decrypt d).1 = { c with slots := c.slots.set d.keyId (slotStep k (.accept (c.reconstruct d.counter))) }) := by
  unfold accepted
  split
  · next p hp =>
    obtain ⟨k, _, _, hk, hmin, _, hd⟩ := decrypt_ok c d p hp
    exact Or.inr ⟨rfl, k, hk, hmin, hd⟩
  · next e he => exact Or.inl ⟨rfl, C02.reject_no_state c d e he⟩

theorem open_slot (c : Core) (d : Dgram) (j : Nat) (k : SlotKey) (hk : c.slots[j]? = some k) :
    (c.decrypt d).1.slots[j]? =
      some (if d.keyId = j ∧ accepted c d = true then slotStep k (.accept (c.reconstruct d.counter)) else k) := by
  rcases open_core c d with ⟨ha, hd⟩ | ⟨ha, k0, hk0, _, hd⟩
  · rw [hd, ha, hk]; simp
  · rw [hd, getElem?_set_of_some hk, ha]
    simp only [and_true]
    split
    · next hj => rw [hj, hk] at hk0; cases hk0; rfl
    · rfl

theorem accepted_floor (c : Core) (d : Dgram) (k : SlotKey) (hk : c.slots[d.keyId]? = some k) (ha : accepted c d = true) :
    k.min ≤ c.reconstruct d.counter := by
  rcases open_core c d with ⟨ha', _⟩ | ⟨_, k0, hk0, hmin, _⟩
  · rw [ha] at ha'; cases ha'
  · rw [hk] at hk0; cases hk0; exact hmin

/-- what operation `op` on core `c` makes of slot `j` holding `k` -/
def slotAfter (c : Core) (j : Nat) (k : SlotKey) : SOp → SlotKey
  | .seal _ => if c.cur = j then { k with send := (k.send + 1) % NONCE_MOD } else k
  | .tick => k.updateMinNonce
  | .rotate K id _ start => if id % 4 = j then SlotKey.new K c.half start else k
  | .open d => if d.keyId = j ∧ accepted c d = true then slotStep k (.accept (c.reconstruct d.counter)) else k

theorem step_slot (c : Core) (op : SOp) (j : Nat) (k : SlotKey) (hk : c.slots[j]? = some k) :
    (step c op).1.slots[j]? = some (slotAfter c j k op) := by
  cases op with
  | «seal» p => exact encrypt_slots c p j k hk
  | tick => exact (tick_slots c j).trans (by rw [hk]; rfl)
  | rotate K id use start => exact getElem?_set_of_some hk
  | «open» d => exact open_slot c d j k hk

theorem open_shape (c : Core) (d : Dgram) :
    (c.decrypt d).1.cur = c.cur ∧ (c.decrypt d).1.half = c.half ∧ (c.decrypt d).1.slots.length = c.slots.length := by
  rcases open_core c d with ⟨_, hd⟩ | ⟨_, _, _, _, hd⟩ <;> rw [hd]
  · exact ⟨rfl, rfl, rfl⟩
  · exact ⟨rfl, rfl, List.length_set⟩

theorem encrypt_shape (c : Core) (p : Bytes) :
    (c.encrypt p).1.cur = c.cur ∧ (c.encrypt p).1.half = c.half ∧ (c.encrypt p).1.slots.length = c.slots.length := by
  cases hc : c.slots[c.cur]? with
  | none => rw [encrypt_none c p hc]; exact ⟨rfl, rfl, rfl⟩
  | some k => rw [encrypt_eq c p k hc]; exact ⟨rfl, rfl, List.length_set⟩

def curAfter (c : Core) : SOp → Nat
  | .rotate _ id use _ => if use then id % 4 else c.cur
  | .seal _ => c.cur
  | .tick => c.cur
  | .open _ => c.cur

theorem step_shape (c : Core) (op : SOp) :
    (step c op).1.cur = curAfter c op ∧ (step c op).1.half = c.half ∧ (step c op).1.slots.length = c.slots.length := by
  cases op with
  | «seal» p => exact encrypt_shape c p
  | tick => exact ⟨rfl, rfl, by simp [step, Core.everySecond]⟩
  | rotate K id use start => exact ⟨rfl, rfl, by simp [step, Core.rotateKey]⟩
  | «open» d => exact open_shape c d

theorem step_cur (c : Core) (op : SOp) : (step c op).1.cur = curAfter c op := (step_shape c op).1
theorem step_half (c : Core) (op : SOp) : (step c op).1.half = c.half := (step_shape c op).2.1
theorem step_len (c : Core) (op : SOp) : (step c op).1.slots.length = c.slots.length := (step_shape c op).2.2

theorem run_len (c : Core) (ops : List SOp) : (run c ops).1.slots.length = c.slots.length := by
  induction ops generalizing c with
  | nil => rfl
  | cons op ops ih => rw [run_cons]; simp only; rw [ih, step_len]

theorem run_half (c : Core) (ops : List SOp) : (run c ops).1.half = c.half := by
  induction ops generalizing c with
  | nil => rfl
  | cons op ops ih => rw [run_cons]; simp only; rw [ih, step_half]

theorem step_slot_inv (c : Core) (op : SOp) (j : Nat) (k' : SlotKey) (h : (step c op).1.slots[j]? = some k') :
    ∃ k, c.slots[j]? = some k ∧ k' = slotAfter c j k op := by
  have hj : j < c.slots.length := by rw [← step_len c op]; exact (List.getElem?_eq_some_iff.1 h).1
  rw [step_slot c op j _ (List.getElem?_eq_getElem hj)] at h
  exact ⟨_, List.getElem?_eq_getElem hj, (Option.some.inj h).symm⟩

theorem slotAfter_key (c : Core) (j : Nat) (k : SlotKey) (op : SOp) : (slotAfter c j k op).key = keyStep j k.key op := by
  cases op with
  | «seal» p => simp only [slotAfter, keyStep]; split <;> rfl
  | tick => rfl
  | rotate K id use start => simp only [slotAfter, keyStep, apply_ite SlotKey.key]; rfl
  | «open» d => simp only [slotAfter, keyStep, apply_ite SlotKey.key, (slotStep_accept_key k _).1, ite_self]

/-- **one operation, slot by slot** (with `step_cur`, `step_half` this determines the new core) -/
theorem step_slots (c : Core) (op : SOp) (j : Nat) :
    (step c op).1.slots[j]? = (c.slots[j]?).map (fun k => slotAfter c j k op) := by
  cases hk : c.slots[j]? with
  | none => exact List.getElem?_eq_none_iff.2 (by rw [step_len]; exact List.getElem?_eq_none_iff.1 hk)
  | some k => exact step_slot c op j k hk

theorem step_keys (c : Core) (op : SOp) (hop : ∀ K id use start, op ≠ .rotate K id use start) :
    (step c op).1.slots.map (·.key) = c.slots.map (·.key) := by
  apply List.ext_getElem?
  intro j
  rw [List.getElem?_map, List.getElem?_map, step_slots, Option.map_map]
  refine congrArg (fun f => Option.map f c.slots[j]?) (funext fun k => ?_)
  show (slotAfter c j k op).key = k.key
  rw [slotAfter_key]
  cases op with
  | rotate K id use start => exact absurd rfl (hop K id use start)
  | _ => rfl

theorem step_cur_lt (c : Core) (op : SOp) (h : c.cur < 4) : (step c op).1.cur < 4 := by
  rw [step_cur]
  cases op with
  | rotate K id use start =>
    cases use
    · exact h
    · exact Nat.mod_lt _ (by decide)
  | _ => exact h

theorem new_slot (key : KeyRef) (half : Bool) (dummy : KeyRef) (starts : List Nat) (i : Nat) (hi : i < 4) :
    (Core.new key half dummy starts).slots[i]? =
      some (SlotKey.new (if i = 0 then key else dummy) half (starts.getD i 0)) := by
  match i, hi with
  | 0, _ => rfl
  | 1, _ => rfl
  | 2, _ => rfl
  | 3, _ => rfl

theorem new_keys (key : KeyRef) (half : Bool) (dummy : KeyRef) (starts : List Nat) (j : Nat) (k : SlotKey)
    (h : (Core.new key half dummy starts).slots[j]? = some k) : k.key ∈ [key, dummy] := by
  rw [new_slot key half dummy starts j (List.getElem?_eq_some_iff.1 h).1] at h
  cases h
  simp only [SlotKey.new]
  split <;> simp

theorem run_slot_key (ops : List SOp) (c : Core) (j : Nat) (k' : SlotKey) (h : (run c ops).1.slots[j]? = some k') :
    ∃ k, c.slots[j]? = some k ∧ (k'.key = k.key ∨ k'.key ∈ rotatedKeys ops) := by
  induction ops generalizing c with
  | nil => exact ⟨k', h, Or.inl rfl⟩
  | cons op ops ih =>
    obtain ⟨k1, hk1, hkey1⟩ := ih (step c op).1 h
    obtain ⟨k, hk, rfl⟩ := step_slot_inv c op j k1 hk1
    refine ⟨k, hk, ?_⟩
    rw [rotatedKeys_cons]
    rcases hkey1 with h1 | h1
    · rw [h1, slotAfter_key]
      cases op with
      | rotate K id use start =>
        simp only [keyStep]
        split
        · exact Or.inr (List.mem_append_left _ List.mem_cons_self)
        · exact Or.inl rfl
      | _ => exact Or.inl rfl
    · exact Or.inr (List.mem_append_right _ h1)

theorem slot_avoids_key (K : KeyRef) (j : Nat) (ops : List SOp) (c : Core)
    (h0 : ∀ k, c.slots[j]? = some k → k.key ≠ K) (hf : K ∉ rotatedKeys ops) :
    ∀ k, (run c ops).1.slots[j]? = some k → k.key ≠ K := by
  intro k' hk'
  obtain ⟨k, hk, h1 | h1⟩ := run_slot_key ops c j k' hk'
  · rw [h1]; exact h0 k hk
  · exact fun heq => hf (heq ▸ h1)

theorem slot_keys_used (ops : List SOp) (c : Core) (used : List KeyRef)
    (h0 : ∀ (j : Nat) (k : SlotKey), c.slots[j]? = some k → k.key ∈ used) :
    ∀ (j : Nat) (k : SlotKey), (run c ops).1.slots[j]? = some k → k.key ∈ used ++ rotatedKeys ops := by
  intro j k' hk'
  obtain ⟨k, hk, h1 | h1⟩ := run_slot_key ops c j k' hk'
  · rw [h1]; exact List.mem_append_left _ (h0 j k hk)
  · exact List.mem_append_right _ h1

/-- the part of the invariant that does not speak of the log: four slots, a current slot among them, the half, and
    every key held is one of `used` -/
structure Shape (half : Bool) (used : List KeyRef) (c : Core) : Prop where
  len : c.slots.length = 4
  cur : c.cur < 4
  hhalf : c.half = half
  keys : ∀ (j : Nat) (k : SlotKey), c.slots[j]? = some k → k.key ∈ used

theorem shape_step {half : Bool} {used : List KeyRef} {c : Core} (h : Shape half used c) (op : SOp) :
    Shape half (used ++ rotatedKeys [op]) (step c op).1 :=
  ⟨(step_len c op).trans h.len, step_cur_lt c op h.cur, (step_half c op).trans h.hhalf, slot_keys_used [op] c used h.keys⟩

/-- invariant of a sending core together with the log `L` of everything it emitted so far and the
    list `used` of all keys it ever held -/
structure SInv (half : Bool) (used : List KeyRef) (c : Core) (L : List Dgram) : Prop where
  shape : Shape half used c
  form : ∀ d ∈ L, ∃ kid K s m p, K ∈ used ∧ s < 2 ^ 48 ∧ m < 2 ^ 95 - 2 ^ 48 ∧
    d = { hdr := kid :: Bytes.ofBE 7 (base half + s + 1 + m), body := .sealed K (base half + s + 1 + m) p }
  curslot : ∃ (k : SlotKey) (s : Nat), c.slots[c.cur]? = some k ∧ s < 2 ^ 48 ∧ k.send = base half + s + sealsUnder k.key L ∧
    ∀ d ∈ L, ∀ n, sealedWith d = some (k.key, n) → n ≤ k.send
  incr : Increasing L

theorem sinv_new (key : KeyRef) (half : Bool) (dummy : KeyRef) (starts : List Nat)
    (hs : ∀ s ∈ starts, s < 2 ^ 48) : SInv half [key, dummy] (Core.new key half dummy starts) [] := by
  refine ⟨⟨rfl, Nat.zero_lt_succ 3, rfl, new_keys key half dummy starts⟩, (fun _ hd => nomatch hd), ?_, List.Pairwise.nil⟩
  refine ⟨SlotKey.new key half (starts.getD 0 0), starts.getD 0 0, rfl, ?_, rfl, fun _ hd => nomatch hd⟩
  cases starts with
  | nil => decide
  | cons a t => exact hs a List.mem_cons_self

theorem slotAfter_passive (c : Core) (j : Nat) (k : SlotKey) (op : SOp) (hop : op = .tick ∨ ∃ d, op = .open d) :
    (slotAfter c j k op).key = k.key ∧ (slotAfter c j k op).send = k.send := by
  rcases hop with rfl | ⟨d, rfl⟩
  · exact ⟨rfl, rfl⟩
  · simp only [slotAfter]
    split
    · exact ⟨(slotStep_accept_key k _).1, (slotStep_accept_key k _).2.1⟩
    · exact ⟨rfl, rfl⟩

theorem sinv_passive {half : Bool} {used : List KeyRef} {c : Core} {L : List Dgram} (h : SInv half used c L) (op : SOp)
    (hop : op = .tick ∨ ∃ d, op = .open d) : SInv half used (step c op).1 L := by
  obtain ⟨k, s, hk, hs, hsend, hle⟩ := h.curslot
  obtain ⟨hkey, hsnd⟩ := slotAfter_passive c c.cur k op hop
  have hcur : (step c op).1.cur = c.cur := by
    rcases hop with rfl | ⟨d, rfl⟩
    · rfl
    · exact (open_shape c d).1
  have hsh := shape_step h.shape op
  rw [show rotatedKeys [op] = [] by rcases hop with rfl | ⟨d, rfl⟩ <;> rfl, List.append_nil] at hsh
  exact ⟨hsh, h.form, ⟨_, s, by rw [hcur]; exact step_slot c op c.cur k hk, hs, by rw [hsnd, hkey]; exact hsend,
    by rw [hkey, hsnd]; exact hle⟩, h.incr⟩

theorem sinv_seal {half : Bool} {used : List KeyRef} {c : Core} {L : List Dgram}
    (h : SInv half used c L) (p : Bytes)
    (hb : ∀ K, sealsUnder K (L ++ [(c.encrypt p).2]) < 2 ^ 95 - 2 ^ 48) :
    SInv half used (c.encrypt p).1 (L ++ [(c.encrypt p).2]) := by
  obtain ⟨k, s, hk, hs, hsend, hle⟩ := h.curslot
  have hsw := sealedWith_encrypt c p k hk
  have hcnt : sealsUnder k.key (L ++ [(c.encrypt p).2]) = sealsUnder k.key L + 1 := by
    rw [sealsUnder_append]
    simp [sealsUnder, keyOf, hsw]
  have hb' := hb k.key
  rw [hcnt] at hb'
  have hlt : k.send + 1 < NONCE_MOD := by
    rw [hsend]
    simp only [base, HALF, NONCE_MOD]
    split <;> omega
  rw [Nat.mod_eq_of_lt hlt] at hsw
  have hd : (c.encrypt p).2 = { hdr := c.cur :: Bytes.ofBE 7 (k.send + 1), body := .sealed k.key (k.send + 1) p } :=
    (C04.encrypt_spec c p k hk hlt).1
  refine ⟨List.append_nil used ▸ shape_step h.shape (.seal p), ?_, ?_, ?_⟩
  · intro d hd'
    rcases List.mem_append.1 hd' with hd' | hd'
    · exact h.form d hd'
    · refine ⟨c.cur, k.key, s, sealsUnder k.key L, p, h.shape.keys _ k hk, hs, by omega, ?_⟩
      rw [List.mem_singleton.1 hd', hd, hsend, Nat.add_right_comm _ _ 1]
  · refine ⟨{ k with send := k.send + 1 }, s, C04.encrypt_slot c p k hk hlt, hs, ?_, ?_⟩
    · show k.send + 1 = base half + s + sealsUnder k.key (L ++ [(c.encrypt p).2])
      rw [hcnt, hsend]; rfl
    · intro d hd' n hn
      show n ≤ k.send + 1
      rcases List.mem_append.1 hd' with hd' | hd'
      · exact Nat.le_succ_of_le (hle d hd' n hn)
      · rw [List.mem_singleton.1 hd', hsw] at hn
        cases hn
        exact Nat.le_refl _
  · show List.Pairwise _ _
    rw [List.pairwise_append]
    refine ⟨h.incr, List.pairwise_singleton _ _, ?_⟩
    intro a ha b hb K n1 n2 h1 h2
    rw [List.mem_singleton.1 hb, hsw] at h2
    cases h2
    exact Nat.lt_succ_of_le (hle a ha n1 h1)

theorem keyOf_ne_of_not_used {half : Bool} {used : List KeyRef} {c : Core} {L : List Dgram}
    (h : SInv half used c L) (K : KeyRef) (hK : K ∉ used) (d : Dgram) (hd : d ∈ L) : keyOf d ≠ some K := by
  obtain ⟨kid, K', s, m, p, hK', _, _, rfl⟩ := h.form d hd
  intro heq
  cases heq
  exact hK hK'

theorem sinv_rotate {half : Bool} {used : List KeyRef} {c : Core} {L : List Dgram}
    (h : SInv half used c L) (K : KeyRef) (id : Nat) (use : Bool) (start : Nat)
    (hK : K ∉ used) (hstart : start < 2 ^ 48) :
    SInv half (used ++ [K]) (c.rotateKey K id use start) L := by
  have hi : id % 4 < c.slots.length := by rw [h.shape.len]; omega
  refine ⟨shape_step h.shape (.rotate K id use start), ?_, ?_, h.incr⟩
  · intro d hd
    obtain ⟨kid, K', s, m, p, hK', r⟩ := h.form d hd
    exact ⟨kid, K', s, m, p, List.mem_append_left _ hK', r⟩
  · obtain ⟨k, s, hk, hs, hsend, hle⟩ := h.curslot
    by_cases hnew : id % 4 = (c.rotateKey K id use start).cur
    · -- the current slot holds the new key, under which nothing has been sealed yet
      refine ⟨SlotKey.new K half start, start, by rw [C04.rotate_slots, if_pos hnew, if_pos hi, h.shape.hhalf], hstart, ?_, ?_⟩
      · show base half + start = base half + start + sealsUnder K L
        rw [sealsUnder, List.countP_eq_zero.2 fun d hd => by simpa using keyOf_ne_of_not_used h K hK d hd]
        rfl
      · intro d hd n hn
        exact absurd (by rw [keyOf, hn]; rfl) (keyOf_ne_of_not_used h K hK d hd)
    · have hcur : (c.rotateKey K id use start).cur = c.cur := by
        cases use
        · rfl
        · exact absurd rfl hnew
      exact ⟨k, s, by rw [C04.rotate_slots, if_neg hnew, hcur, hk], hs, hsend, hle⟩

theorem fresh_other {used : List KeyRef} {op : SOp} {ops : List SOp}
    (h : Fresh used (op :: ops)) (hop : ∀ K id use start, op ≠ .rotate K id use start) : Fresh used ops := by
  cases op with
  | rotate K id use start => exact absurd rfl (hop K id use start)
  | «seal» p => exact h
  | tick => exact h
  | «open» d => exact h

theorem fresh_append {used : List KeyRef} {a b : List SOp} (h : Fresh used (a ++ b)) :
    Fresh (used ++ rotatedKeys a) b := by
  rw [Fresh, rotatedKeys_append, List.nodup_append] at h
  refine ⟨h.1.2.1, fun K hK hb => ?_⟩
  rcases List.mem_append.1 hK with hu | ha
  · exact h.2 K hu (List.mem_append_right _ hb)
  · exact h.1.2.2 K ha K hb rfl

theorem sinv_run {half : Bool} : ∀ (ops : List SOp) (used : List KeyRef) (c : Core) (L : List Dgram),
    SInv half used c L → Fresh used ops → StartsOK ops →
    (∀ K, sealsUnder K (L ++ (run c ops).2) < 2 ^ 95 - 2 ^ 48) →
    SInv half (used ++ rotatedKeys ops) (run c ops).1 (L ++ (run c ops).2) := by
  intro ops
  induction ops with
  | nil =>
    intro used c L h _ _ _
    simpa [run, rotatedKeys] using h
  | cons op ops ih =>
    intro used c L h hf hs hb
    rw [run_cons] at hb ⊢
    simp only at hb ⊢
    rw [← List.append_assoc] at hb ⊢
    cases op with
    | «seal» p =>
      refine ih used _ _ (sinv_seal h p fun K => ?_) hf hs hb
      have := hb K
      rw [sealsUnder_append] at this
      exact Nat.lt_of_le_of_lt (Nat.le_add_right _ _) this
    | tick =>
      rw [show L ++ (step c .tick).2 = L from List.append_nil L] at hb ⊢
      exact ih used _ _ (sinv_passive h .tick (Or.inl rfl)) hf hs hb
    | «open» d =>
      rw [show L ++ (step c (.open d)).2 = L from List.append_nil L] at hb ⊢
      exact ih used _ _ (sinv_passive h (.open d) (Or.inr ⟨d, rfl⟩)) hf hs hb
    | rotate K id use start =>
      rw [show L ++ (step c (.rotate K id use start)).2 = L from List.append_nil L] at hb ⊢
      have := ih (used ++ [K]) _ _ (sinv_rotate h K id use start (fun hu => hf.2 K hu List.mem_cons_self)
        (hs start List.mem_cons_self)) (fresh_append (a := [.rotate K id use start]) hf)
        (fun s hs' => hs s (List.mem_cons_of_mem _ hs')) hb
      rwa [List.append_assoc] at this

theorem session_sinv (key : KeyRef) (half : Bool) (dummy : KeyRef) (starts : List Nat) (ops : List SOp)
    (hfresh : Fresh [key, dummy] ops)
    (hstarts : (∀ s ∈ starts, s < 2 ^ 48) ∧ StartsOK ops)
    (hcount : ∀ K, sealsUnder K (run (Core.new key half dummy starts) ops).2 < 2 ^ 95 - 2 ^ 48) :
    SInv half ([key, dummy] ++ rotatedKeys ops) (run (Core.new key half dummy starts) ops).1
      (run (Core.new key half dummy starts) ops).2 := by
  have := sinv_run (half := half) ops [key, dummy] (Core.new key half dummy starts) []
    (sinv_new key half dummy starts hstarts.1) hfresh hstarts.2 (by rw [List.nil_append]; exact hcount)
  rwa [List.nil_append] at this

/-- strictly increasing same-key nonces, all entries sealed: the (key, nonce) log has no duplicates -/
theorem nodup_of_sinv {half : Bool} {used : List KeyRef} {c : Core} {L : List Dgram}
    (h : SInv half used c L) : (L.map sealedWith).Nodup := by
  unfold List.Nodup
  rw [List.pairwise_map]
  refine List.Pairwise.imp_of_mem ?_ h.incr
  intro a b ha _ hR heq
  obtain ⟨kid, K, s, m, p, _, _, _, rfl⟩ := h.form a ha
  exact Nat.lt_irrefl _ (hR K _ _ rfl heq.symm)

def numSeals : List SOp → Nat
  | [] => 0
  | .seal _ :: ops => numSeals ops + 1
  | .tick :: ops => numSeals ops
  | .rotate _ _ _ _ :: ops => numSeals ops
  | .open _ :: ops => numSeals ops

theorem numSeals_cons (op : SOp) (ops : List SOp) : numSeals (op :: ops) = numSeals [op] + numSeals ops := by
  cases op <;> simp [numSeals] <;> omega

theorem slotAfter_send_mono (c : Core) (op : SOp) (j : Nat) (k : SlotKey)
    (hnr : ∀ K id use start, op = .rotate K id use start → id % 4 ≠ j)
    (hnw : k.send + numSeals [op] < NONCE_MOD) :
    (slotAfter c j k op).key = k.key ∧ k.send ≤ (slotAfter c j k op).send ∧
      (slotAfter c j k op).send ≤ k.send + numSeals [op] := by
  have stay : k.key = k.key ∧ k.send ≤ k.send ∧ k.send ≤ k.send + numSeals [op] :=
    ⟨rfl, Nat.le_refl _, Nat.le_add_right _ _⟩
  cases op with
  | «seal» p =>
    simp only [slotAfter]
    split
    · have e : ({ k with send := (k.send + 1) % NONCE_MOD } : SlotKey).send = k.send + 1 := Nat.mod_eq_of_lt hnw
      exact ⟨rfl, by rw [e]; exact Nat.le_succ _, by rw [e]; exact Nat.le_refl _⟩
    · exact stay
  | tick => exact stay
  | rotate K id use start => rwa [show slotAfter c j k (.rotate K id use start) = k from if_neg (hnr K id use start rfl)]
  | «open» d =>
    obtain ⟨h1, h2⟩ := slotAfter_passive c j k (.open d) (Or.inr ⟨d, rfl⟩)
    rwa [h1, h2]

/-! ## traces that only seal (for the non-vacuity of the 56-bit statement) -/

theorem run_seals (c : Core) (ps : List Bytes) : run c (ps.map SOp.seal) = sealMany c ps := by
  induction ps generalizing c with
  | nil => rfl
  | cons p ps ih =>
    simp only [List.map_cons, run_cons, step, sealMany, ih, List.singleton_append]

theorem seals_rotate_nothing (ps : List Bytes) :
    rotatedKeys (ps.map SOp.seal) = [] ∧ rotatedStarts (ps.map SOp.seal) = [] := by
  induction ps with
  | nil => exact ⟨rfl, rfl⟩
  | cons p ps ih => exact ih

/-- a trace of `N` seals from a new core: hypotheses of the session theorems hold for `N` below the limit, and
    the last datagram carries the nonce `base + start + N` -/
theorem seals_only (key : KeyRef) (half : Bool) (dummy : KeyRef) (s0 N : Nat) (hs0 : s0 < 2 ^ 48)
    (hN : N < 2 ^ 95 - 2 ^ 48) (hpos : 0 < N) :
    Fresh [key, dummy] ((List.replicate N ([] : Bytes)).map SOp.seal) ∧
    StartsOK ((List.replicate N ([] : Bytes)).map SOp.seal) ∧
    (∀ K, sealsUnder K (run (Core.new key half dummy [s0]) ((List.replicate N ([] : Bytes)).map SOp.seal)).2 < 2 ^ 95 - 2 ^ 48) ∧
    ∃ d ∈ (run (Core.new key half dummy [s0]) ((List.replicate N ([] : Bytes)).map SOp.seal)).2,
      sealedWith d = some (key, base half + s0 + N) := by
  have hlt : (SlotKey.new key half s0).send + (List.replicate N ([] : Bytes)).length < NONCE_MOD := by
    rw [List.length_replicate]
    simp only [SlotKey.new, HALF, NONCE_MOD]
    split <;> omega
  have hlog := C04.send_strictly_increasing (Core.new key half dummy [s0]) (List.replicate N ([] : Bytes))
    (SlotKey.new key half s0) rfl hlt
  rw [List.length_replicate] at hlog
  obtain ⟨hk, hst⟩ := seals_rotate_nothing (List.replicate N ([] : Bytes))
  rw [run_seals]
  refine ⟨by rw [Fresh, hk]; exact ⟨List.nodup_nil, fun _ _ => List.not_mem_nil⟩,
    by rw [StartsOK, hst]; exact fun _ hs => (nomatch hs), fun K => ?_, ?_⟩
  · have := congrArg List.length hlog
    rw [List.length_map, List.length_map, List.length_range] at this
    exact Nat.lt_of_le_of_lt (sealsUnder_le_length K _) (by rw [this]; exact hN)
  · have hmem : some (key, base half + s0 + N) ∈
        ((sealMany (Core.new key half dummy [s0]) (List.replicate N ([] : Bytes))).2.map sealedWith) := by
      rw [hlog, List.mem_map]
      refine ⟨N - 1, List.mem_range.2 (by omega), ?_⟩
      show some (key, base half + s0 + 1 + (N - 1)) = _
      congr 2
      omega
    exact List.mem_map.1 hmem

end VpnCloud.Proofs.C04Session
