import VpnCloud.Model.Payload
import VpnCloud.Spec.C19
/-
  C19 — Address dissection of frames and packets is exact and total.
-/
namespace VpnCloud.Proofs.C19

open VpnCloud.Payload VpnCloud.Spec.C19

/-- forget the error class -/
def toOpt {ε α} : Except ε α → Option α
  | .ok a => some a
  | .error _ => none

@[simp] theorem toOpt_ok {ε α} (a : α) : toOpt (.ok a : Except ε α) = some a := rfl
@[simp] theorem toOpt_error {ε α} (e : ε) : toOpt (.error e : Except ε α) = none := rfl
theorem readExact_eq (n : Nat) (r : Bytes) :
    readExact n r = if n ≤ r.length then some (r.take n, r.drop n) else none := rfl

theorem readAt_some {i n : Nat} {b a r : Bytes} (h : readExact n (b.drop i) = some (a, r)) :
    n ≤ b.length - i ∧ a = slice b i (i + n) ∧ r = b.drop (i + n) := by
  rw [readExact_eq, List.length_drop] at h
  split at h
  · cases h
    exact ⟨‹_›, by rw [slice, Nat.add_sub_cancel_left], by rw [List.drop_drop]⟩
  · cases h

theorem readAt_none {i n k : Nat} {b : Bytes} (hk : i + n ≤ k) (h : readExact n (b.drop i) = none) : b.length < k := by
  rw [readExact_eq, List.length_drop] at h
  split at h
  · cases h
  · omega

/-- the low 12 bits of the TCI `x y`, as two bytes: the high nibble of `x` is dropped -/
theorem vid_digits (x y : Nat) (hy : y < 256) :
    (x * 256 + y) % 4096 / 256 = x % 16 ∧ (x * 256 + y) % 4096 % 256 = y ∧
      ((x * 256 + y) % 4096 = 0 ↔ x % 16 = 0 ∧ y = 0) := by
  omega

/-- **frame_exact**: on every byte string the model dissector (which mirrors the cursor reads of
    `Frame::parse`) returns exactly what the reference dissector returns: same accept/reject
    decision and the same address pair.  The proof follows the reads: each one either fails, and
    then the string is shorter than the reference demands, or fixes the next slice. -/
theorem frame_exact (b : Bytes) (hb : Bytes.WF b) :
    toOpt (frameParse b) = frameRef b := by
  unfold frameParse frameRef
  split
  next h => exact (if_pos (readAt_none (i := 0) (by decide) h)).symm
  next dst r1 h1 =>
  obtain ⟨l1, rfl, rfl⟩ := readAt_some (i := 0) h1
  split
  next h => exact (if_pos (readAt_none (by decide) h)).symm
  next src r2 h2 =>
  obtain ⟨l2, rfl, rfl⟩ := readAt_some h2
  split
  next h => exact (if_pos (readAt_none (by decide) h)).symm
  next proto r3 h3 =>
  obtain ⟨l3, rfl, rfl⟩ := readAt_some h3
  have h14 : ¬ b.length < 14 := by omega
  rw [if_neg h14]
  simp only [Nat.reduceAdd]
  split
  case isFalse => rfl
  split
  next h => rw [if_pos (readAt_none (k := 16) (by decide) h)]; rfl
  next tci r4 h4 =>
  obtain ⟨l4, rfl, -⟩ := readAt_some h4
  have e0 : (slice b 14 (14 + 2)).headD 0 = b.getD 14 0 := by
    simp [slice, List.headD_eq_head?_getD, List.head?_take, List.head?_drop]
  have e1 : (slice b 14 (14 + 2)).getD 1 0 = b.getD 15 0 := by
    simp [slice, List.getD_eq_getElem?_getD, List.getElem?_drop]
  have hy : b.getD 15 0 < 256 := Bytes.getD_lt hb 15
  have h16 : ¬ b.length < 16 := by omega
  rw [if_neg h16, e0, e1]
  obtain ⟨hd, hm, hz⟩ := vid_digits (b.getD 14 0) _ hy
  simp only [hd, hm, hz, List.cons.injEq, and_true]
  split <;> rfl

/-- the reference dissector rejects exactly for the two "too short" reasons (and with `frame_exact` so does the model, whatever
    error class its `Except` carries) -/
theorem frame_reject_iff (b : Bytes) :
    frameRef b = none ↔ (b.length < 14 ∨ (Spec.C19.slice b 12 14 = [0x81, 0x00] ∧ b.length < 16)) := by
  unfold frameRef
  split
  · simp [*]
  split
  · split
    · simp [*]
    · simp only [*, false_or, and_false, iff_false]
      split <;> simp
  · simp [*]

theorem two_addrs (d : Bytes) (i j n : Nat) (hn : n ≤ 16) (hi : i + n ≤ d.length) (hj : j + n ≤ d.length) :
    toOpt (do let src ← readFromFixed (d.drop i) n; let dst ← readFromFixed (d.drop j) n; pure (src, dst)) =
      some (slice d i (i + n), slice d j (j + n)) := by
  have r : ∀ k, k + n ≤ d.length → readFromFixed (d.drop k) n = .ok (slice d k (k + n)) := fun k hk => by
    rw [readFromFixed, if_neg (by omega), readExact_eq, if_pos (by rw [List.length_drop]; omega), slice,
      Nat.add_sub_cancel_left]
  rw [r i hi, r j hj]
  rfl

/-- **packet_exact**: the IP dissector agrees with the reference on every byte string. -/
theorem packet_exact (b : Bytes) : toOpt (packetParse b) = packetRef b := by
  unfold packetParse packetRef
  cases b with
  | nil => rfl
  | cons b0 rest =>
    simp only []
    split
    · split
      · rfl
      · exact two_addrs _ 12 16 4 (by decide) (by omega) (by omega)
    split
    · split
      · rfl
      · exact two_addrs _ 8 24 16 (by decide) (by omega) (by omega)
    · rfl

/-- `only_header_bytes` of DESIGN.md section 5 (frame, stated for the reference dissector): once a string has 16 bytes, what follows them does not
    change the result. -/
theorem frame_only_header (b t : Bytes) (h : 16 ≤ b.length) :
    frameRef (b ++ t) = frameRef b := by
  unfold frameRef slice
  have e : ∀ i, i < 16 → (b ++ t).getD i 0 = b.getD i 0 := by
    intro i hi
    simp only [List.getD_eq_getElem?_getD]
    rw [List.getElem?_append_left (by omega)]
  have d : ∀ i n, i + n ≤ 16 → ((b ++ t).drop i).take n = (b.drop i).take n := by
    intro i n hin
    rw [List.drop_append_of_le_length (by omega), List.take_append_of_le_length]
    simp only [List.length_drop]; omega
  have hl : ¬ (b ++ t).length < 14 := by simp only [List.length_append]; omega
  have hl' : ¬ (b ++ t).length < 16 := by simp only [List.length_append]; omega
  have hb : ¬ b.length < 14 := by omega
  have hb' : ¬ b.length < 16 := by omega
  simp only [hl, hl', hb, hb', if_false, d 0 6 (by omega), d 6 6 (by omega), d 12 2 (by omega),
    e 14 (by omega), e 15 (by omega), Nat.sub_zero, Nat.reduceSub]

/-- non-vacuity / sanity: the in-tree VLAN example and the VLAN-0 fold -/
example : frameRef [6,5,4,3,2,1, 1,2,3,4,5,6, 0x81,0, 4,210, 1,2,3] =
    some ([4,210,1,2,3,4,5,6], [4,210,6,5,4,3,2,1]) := by decide +kernel
example : frameRef [6,5,4,3,2,1, 1,2,3,4,5,6, 0x81,0, 0xe0,0, 1,2,3] =
    some ([1,2,3,4,5,6], [6,5,4,3,2,1]) := by decide +kernel
example : toOpt (frameParse [6,5,4,3,2,1, 1,2,3,4,5,6, 0x81,0, 0xe0,0, 1,2,3]) =
    some ([1,2,3,4,5,6], [6,5,4,3,2,1]) := by decide +kernel

end VpnCloud.Proofs.C19
