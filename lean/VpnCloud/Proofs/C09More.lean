import VpnCloud.Proofs.Lemmas.Node.C09MoreLemmas
import VpnCloud.Proofs.Lemmas.Node.NetStepLemmas
import VpnCloud.Proofs.C10More
/-
  C09 — "established connections survive forged and replayed traffic", node level, one step.

  `a` is the (mapped) address of an established peer: `lookupA n.peers a = some p`.

  1. `other_source_keeps_session` / `other_source_keeps_claims`: a datagram from any other source.
  2. `rejected_keeps_session` (+ `rejected_session_fields`, `rejected_by_core_keeps_session`): a datagram without the
     handshake marker from `a` that the session rejects.
  3. `replayed_handshake_keeps_session` (+ `fresh_attempt_never_completes`, `pending_handles_handshake`): a datagram with the
     handshake marker from `a`.
  4. `pending_expiry_keeps_peer` (+ `pendLoop_touches_only_pending`): housekeeping and pending attempts.
-/
namespace VpnCloud.Proofs.C09More

open VpnCloud.Node
open VpnCloud.Proofs.AssocLemmas VpnCloud.Proofs.NodeLemmas VpnCloud.Proofs.SessionInvLemmas VpnCloud.Proofs.C09MoreLemmas

/-! ## 1. datagrams from another source -/

/-- **other_source_keeps_session**: whatever arrives from a source other than `a` — arbitrary bytes, genuine, replayed — the node keeps the
    very same peer record for `a`: session object, expiry, addresses. -/
theorem other_source_keeps_session (env : CryptoEnv) (bodyOf : Init.BodyOf) (o : Oracle) (n : Node) (now : Int) (src : NAddr) (data tail : Bytes)
    (a : NAddr) (p : Peer) (hp : lookupA n.peers a = some p) (hsrc : mappedAddr src ≠ a) :
    lookupA (handleNet env bodyOf o n now src data tail).1.node.peers a = some p :=
  ((NetStepLemmas.handleNet_effect env bodyOf o n now src data tail).others fun h => hsrc h.symm).trans hp

/-- the claims attributed to `a` after a datagram from another source (other peer id): exactly the ones before, or the ones before with
    the entries that have expired at `now` dropped (`set_claims` / `remove_claims` for the sender end with the sweep of the whole table).
    No hypothesis on the table. -/
theorem other_source_claims_swept (env : CryptoEnv) (bodyOf : Init.BodyOf) (o : Oracle) (n : Node) (now : Int) (src : NAddr) (data tail : Bytes)
    (a : NAddr) (hid : addrId (mappedAddr src) ≠ addrId a) :
    let c := (handleNet env bodyOf o n now src data tail).1
    c.node.table.claims.filter (fun e => e.peer = addrId a) = n.table.claims.filter (fun e => e.peer = addrId a) ∨
    c.node.table.claims.filter (fun e => e.peer = addrId a) =
      (n.table.claims.filter (fun e => e.peer = addrId a)).filter (fun e => e.timeout ≥ now) := by
  -- one table operation at most, for the id of the sender
  show claimsOf (addrId a) _ = claimsOf (addrId a) n.table ∨ claimsOf (addrId a) _ = sweep now (claimsOf (addrId a) n.table)
  cases NetStepLemmas.handleNet_netStep env bodyOf o n now src data tail with
  | same _ _ h3 =>
    rcases h3 with h | ⟨addr, _, h, _⟩ | ⟨cs, _, h⟩
    · exact Or.inl (by rw [h])
    · exact Or.inl (by rw [h, claimsOf_learn])
    · exact Or.inr (by rw [h, claimsOf_setClaims _ _ hid])
  | join _ _ _ _ _ h4 => exact Or.inr (by rw [h4, claimsOf_setClaims _ _ hid])
  | leave _ _ _ _ _ _ _ _ _ _ h6 => exact Or.inr (by rw [h6, claimsOf_removeClaims _ _ hid])

/-- **other_source_keeps_session** (routes): a datagram from another source (other peer id) leaves the claims attributed to `a` unchanged.
    Hypothesis added (`hlive`): none of the claims of `a` has expired at `now` — an expired entry is dropped by the sweep at the end of
    `set_claims` / `remove_claims` of ANY peer (`original_claims_false` below); the next `housekeep` would drop it anyway. -/
theorem other_source_keeps_claims (env : CryptoEnv) (bodyOf : Init.BodyOf) (o : Oracle) (n : Node) (now : Int) (src : NAddr) (data tail : Bytes)
    (a : NAddr) (hid : addrId (mappedAddr src) ≠ addrId a)
    (hlive : ∀ e ∈ n.table.claims, e.peer = addrId a → now ≤ e.timeout) :
    (handleNet env bodyOf o n now src data tail).1.node.table.claims.filter (fun e => e.peer = addrId a) =
      n.table.claims.filter (fun e => e.peer = addrId a) := by
  rcases other_source_claims_swept env bodyOf o n now src data tail a hid with h | h
  · exact h
  · rw [h]
    apply sweep_id
    intro e he
    rw [List.mem_filter] at he
    exact hlive e he.1 (by simpa using he.2)

/-! ### the claim statement without `hlive` is false; non-vacuity -/
namespace Cex1
open VpnCloud.Proofs.InitLemmas

def s : NAddr := .v6 (List.replicate 16 0) 1
def a : NAddr := .v6 (List.replicate 16 0) 2
def ps : Peer := { addrs := [], timeout := 100, peerTimeout := 300, nodeId := List.replicate 16 1, crypto := { init := none, unencrypted := true } }
def pa : Peer := { addrs := [], timeout := 100, peerTimeout := 300, nodeId := List.replicate 16 2, crypto := { init := none, unencrypted := true } }
def claimA (t : Int) : ClaimEntry := { peer := 2, claim := { base := [10, 0, 0, 2], prefixLen := 32 }, timeout := t }
/-- two established peers `s`, `a`; the table holds one claim of `a` with expiry `t` -/
def n (t : Int) : Node :=
  { nodeId := List.replicate 16 9, addr := .v6 (List.replicate 16 0) 3,
    cfg := { tap := false, learning := false, broadcast := false, peerTimeout := 300, peerTimeoutPublish := 300, updateFreq := 10,
             claims := [], key := [7, 7, 7, 7], trusted := [[9, 9, 9, 9]], algos := Toy.algos },
    peers := [(s, ps), (a, pa)], table := { cacheTimeout := 300, claimTimeout := 300, claims := [claimA t] } }
def o : Oracle := { emitted := fun _ _ => [], rotProp := fun _ => 0, rotPend := fun _ => 0, starts := fun _ => [] }
/-- a genuine node-information message of `s` (no peers, no claims) -/
def info : NodeInfo := { nodeId := List.replicate 16 1, peers := [], claims := [], peerTimeout := none, addrs := [] }
def data : Bytes := Generated.MESSAGE_TYPE_NODE_INFO :: Codec.encodeNodeInfo info

theorem hp (t : Int) : lookupA (n t).peers a = some pa := rfl
theorem hsrc : mappedAddr s ≠ a := by decide
theorem hid : addrId (mappedAddr s) ≠ addrId a := by decide

/-- at time 10 the claim of `a` that expired at 5 disappears when `s` announces itself -/
theorem claims_differ :
    (handleNet Toy.env (Toy.body 0) o (n 5) 10 s data []).1.node.table.claims.filter (fun e => e.peer = addrId a) ≠
      (n 5).table.claims.filter (fun e => e.peer = addrId a) := by decide +kernel

/-- non-vacuity of `other_source_keeps_claims`: the same node with a live claim of `a` (expiry 50 at time 10) -/
example : ∀ e ∈ (n 50).table.claims, e.peer = addrId a → (10 : Int) ≤ e.timeout := by
  intro e he _
  simp only [n, List.mem_singleton] at he
  subst he
  decide

example : (handleNet Toy.env (Toy.body 0) o (n 50) 10 s data []).1.node.table.claims.filter (fun e => e.peer = addrId a) = [claimA 50] := by
  decide +kernel

end Cex1

/-- the claim statement of the property list (without `hlive`) is false -/
theorem original_claims_false :
    ¬ (∀ (env : CryptoEnv) (bodyOf : Init.BodyOf) (o : Oracle) (n : Node) (now : Int) (src : NAddr) (data tail : Bytes) (a : NAddr) (p : Peer)
        (_ : lookupA n.peers a = some p) (_ : mappedAddr src ≠ a) (_ : addrId (mappedAddr src) ≠ addrId a),
        (handleNet env bodyOf o n now src data tail).1.node.table.claims.filter (fun e => e.peer = addrId a) =
          n.table.claims.filter (fun e => e.peer = addrId a)) :=
  fun h => Cex1.claims_differ (h _ _ Cex1.o (Cex1.n 5) 10 Cex1.s Cex1.data [] Cex1.a Cex1.pa (Cex1.hp 5) Cex1.hsrc Cex1.hid)

/-! ## 2. a rejected datagram without the handshake marker from `a` itself -/

/-- **rejected_keeps_session** (node level): a datagram without the handshake marker from the address of an established peer that the
    peer's session rejects changes nothing but the counter of invalid packets and the stored session object: nothing is sent or written to
    the interface, no panic, routes / pending attempts / own addresses / the set of peers are untouched, the error is reported (and is not
    the fatal one, so no pending attempt is closed). -/
theorem rejected_keeps_session (env : CryptoEnv) (bodyOf : Init.BodyOf) (o : Oracle) (n : Node) (now : Int) (src : NAddr) (data tail : Bytes)
    (p : Peer) (pc : PeerCrypto) (e : InitErr)
    (hp : lookupA n.peers (mappedAddr src) = some p)
    (hinit : data.head? ≠ some Generated.INIT_MESSAGE_FIRST_BYTE)
    (hrej : PeerCrypto.handleMessage env bodyOf payloadOk p.crypto data tail
      (rndFor o { node := n } (mappedAddr src)).1 (rndFor o { node := n } (mappedAddr src)).2.1 = .err pc e) :
    let r := handleNet env bodyOf o n now src data tail
    r.2 = some e ∧ e ≠ .cryptoInitFatal ∧ r.1.outs = [] ∧ r.1.panicked = false ∧
    r.1.node.table = n.table ∧ r.1.node.pending = n.pending ∧ r.1.node.own = n.own ∧
    r.1.node = { n with peers := insertA n.peers (mappedAddr src) { p with crypto := pc }, droppedIn := n.droppedIn + 1 } ∧
    r.1.node.peers.map (·.1) = n.peers.map (·.1) ∧
    lookupA r.1.node.peers (mappedAddr src) = some { p with crypto := pc } := by
  intro r
  have hne : e ≠ .cryptoInitFatal := by
    rcases (handleMessage_plain_err env bodyOf payloadOk p.crypto pc data tail _ _ e hinit hrej).1 with h | h <;> rw [h] <;> decide
  have hao : applyOutcome env o { node := n } now (mappedAddr src) true (.err pc e) =
      (countInvalid { node := { n with peers := insertA n.peers (mappedAddr src) { p with crypto := pc } } }, some e) := by
    unfold applyOutcome
    simp only [hp, if_true]
  have hr : r = (countInvalid { node := { n with peers := insertA n.peers (mappedAddr src) { p with crypto := pc } } }, some e) := by
    show handleNet env bodyOf o n now src data tail = _
    rw [handleNet_eq, dispatch_peer env bodyOf o n now tail hp hinit, hrej, hao, finish_of_not_fatal _ _ _ (by simpa using hne)]
  rw [hr]
  refine ⟨rfl, hne, rfl, rfl, rfl, rfl, rfl, rfl, ?_, ?_⟩
  · exact insertA_keys_of_some _ _ _ _ hp
  · exact lookupA_insertA_self _ _ _

/-- what `Core.decrypt` can change: nothing but the `seen` mark of the addressed slot — current slot, half, and of every slot the key, the
    send counter and both replay thresholds stay -/
theorem decrypt_frame (c : Core) (d : Dgram) :
    (c.decrypt d).1.cur = c.cur ∧ (c.decrypt d).1.half = c.half ∧
    (c.decrypt d).1.slots.map (fun k => (k.key, k.send, k.min, k.nextMin)) = c.slots.map (fun k => (k.key, k.send, k.min, k.nextMin)) := by
  rcases CoreLemmas.decrypt_cases c d with ⟨e, he⟩ | ⟨k, p, _, _, hk, _, _, hd⟩
  · rw [he]; exact ⟨rfl, rfl, rfl⟩
  · rw [hd]
    refine ⟨rfl, rfl, ?_⟩
    simp only []
    apply List.ext_getElem?
    intro j
    simp only [List.getElem?_map, List.getElem?_set]
    by_cases hj : d.keyId = j
    · subst hj
      rw [hk]
      by_cases hl : d.keyId < c.slots.length
      · simp only [hl, if_true, Option.map_some]
        unfold Spec.C03.slotStep
        simp only []
        split <;> rfl
      · simp only [hl, if_false]
        rw [List.getElem?_eq_none (by omega)] at hk
        cases hk
    · simp only [hj, if_false]

/-- **rejected_keeps_session** (the session object): after a rejected datagram without the handshake marker every field of the session
    object except `core` is as before (lingering handshake, rotation state and counter, plain flag, master key, cipher); the error is not the
    fatal one; and the core is EXACTLY as before unless it accepted the datagram — then the datagram is a genuine seal of a rotation message
    under the key of the addressed slot with the reconstructed nonce, and of the core only the `seen` mark of that slot moved (`decrypt_frame`:
    key slots, send counters, current slot, both replay thresholds stay). -/
theorem rejected_session_fields (env : CryptoEnv) (bodyOf : Init.BodyOf) (ok : Bytes → Bool) (pc pc' : PeerCrypto) (data tail : Bytes)
    (rnd : Rand) (rr : RotRand) (e : InitErr) (hinit : data.head? ≠ some Generated.INIT_MESSAGE_FIRST_BYTE)
    (h : PeerCrypto.handleMessage env bodyOf ok pc data tail rnd rr = .err pc' e) :
    e ≠ .cryptoInitFatal ∧
    pc'.init = pc.init ∧ pc'.rot = pc.rot ∧ pc'.unencrypted = pc.unencrypted ∧ pc'.rotateCounter = pc.rotateCounter ∧
    pc'.master = pc.master ∧ pc'.cipher = pc.cipher ∧
    (pc' = pc ∨ ∃ core body k, pc.unencrypted = false ∧ pc.core = some core ∧
      core.slots[(dgramOf bodyOf data).keyId]? = some k ∧
      (dgramOf bodyOf data).body = .sealed k.key (core.reconstruct (dgramOf bodyOf data).counter) (Generated.MESSAGE_TYPE_ROTATION :: body) ∧
      pc'.core = some (core.decrypt (dgramOf bodyOf data)).1) := by
  obtain ⟨he, hpc⟩ := handleMessage_plain_err env bodyOf ok pc pc' data tail rnd rr e hinit h
  have hne : e ≠ .cryptoInitFatal := by rcases he with h | h <;> rw [h] <;> decide
  rcases hpc with rfl | ⟨core, body, hu, hc, hdec, rfl⟩
  · exact ⟨hne, rfl, rfl, rfl, rfl, rfl, rfl, Or.inl rfl⟩
  · obtain ⟨_, _, k, hk, hb⟩ := C02.accepted_is_genuine core _ _ hdec
    exact ⟨hne, rfl, rfl, rfl, rfl, rfl, rfl, Or.inr ⟨core, body, k, hu, hc, hk, hb, rfl⟩⟩

/-- **forged / stale datagrams leave the session object itself unchanged**: if the core of the session rejects the datagram (tampered or
    fabricated ciphertext `C02.garbage_rejected`, a seal under another key `C02.cross_connection_rejected`, a nonce below the window floor,
    a reflected datagram `C02.reflection_rejected`, …), the session layer answers with an error and the unchanged session object. -/
theorem rejected_by_core_keeps_session (env : CryptoEnv) (bodyOf : Init.BodyOf) (ok : Bytes → Bool) (pc : PeerCrypto) (core : Core) (data tail : Bytes)
    (rnd : Rand) (rr : RotRand) (hinit : data.head? ≠ some Generated.INIT_MESSAGE_FIRST_BYTE)
    (hu : pc.unencrypted = false) (hc : pc.core = some core) (hrej : ∃ e', (core.decrypt (dgramOf bodyOf data)).2 = .error e') :
    ∃ e, PeerCrypto.handleMessage env bodyOf ok pc data tail rnd rr = .err pc e ∧ e ≠ .cryptoInitFatal := by
  rw [handleMessage_eq]
  cases data with
  | nil => exact ⟨.state, rfl, by decide⟩
  | cons b0 rest =>
    have hb : ¬ b0 = Generated.INIT_MESSAGE_FIRST_BYTE := by
      intro hb; apply hinit; rw [hb]; rfl
    simp only [hb, if_false]
    obtain ⟨e', he'⟩ := hrej
    rcases decMsg_cases bodyOf pc (b0 :: rest) with ⟨hu', _⟩ | ⟨_, hc', _⟩ | ⟨c, _, hc', ⟨_, _, hd⟩ | ⟨plain, hp, _⟩⟩
    · rw [hu] at hu'; cases hu'
    · rw [hc] at hc'; cases hc'
    · rw [hd]
      exact ⟨.crypto, rfl, by decide⟩
    · rw [hc] at hc'
      cases hc'
      rw [he'] at hp
      cases hp

/-- node level, combined: a datagram without the handshake marker from `a` that the core of `a`'s session rejects leaves the peer record of
    `a` exactly as it was (session object included); only the counter of invalid packets moves. -/
theorem forged_data_keeps_peer (env : CryptoEnv) (bodyOf : Init.BodyOf) (o : Oracle) (n : Node) (now : Int) (src : NAddr) (data tail : Bytes)
    (p : Peer) (core : Core)
    (hp : lookupA n.peers (mappedAddr src) = some p)
    (hinit : data.head? ≠ some Generated.INIT_MESSAGE_FIRST_BYTE)
    (hu : p.crypto.unencrypted = false) (hc : p.crypto.core = some core) (hrej : ∃ e', (core.decrypt (dgramOf bodyOf data)).2 = .error e') :
    let r := handleNet env bodyOf o n now src data tail
    lookupA r.1.node.peers (mappedAddr src) = some p ∧ r.1.outs = [] ∧ r.1.panicked = false ∧
    r.1.node.table = n.table ∧ r.1.node.pending = n.pending ∧ r.1.node.own = n.own ∧
    r.1.node.peers.map (·.1) = n.peers.map (·.1) ∧ r.1.node.droppedIn = n.droppedIn + 1 := by
  obtain ⟨e, he, _⟩ := rejected_by_core_keeps_session env bodyOf payloadOk p.crypto core data tail
    (rndFor o { node := n } (mappedAddr src)).1 (rndFor o { node := n } (mappedAddr src)).2.1 hinit hu hc hrej
  obtain ⟨_, _, h3, h4, h5, h6, h7, h8, h9, h10⟩ := rejected_keeps_session env bodyOf o n now src data tail p p.crypto e hp hinit he
  refine ⟨h10, h3, h4, h5, h6, h7, h9, ?_⟩
  rw [h8]

/-! ### non-vacuity for section 2 -/
namespace Ex2
open VpnCloud.Proofs.InitLemmas

def s : NAddr := .v6 (List.replicate 16 0) 1
def core : Core := Core.new 7 false 8 [0, 0, 0, 0]
/-- an established peer with an encrypted session and no lingering handshake -/
def p : Peer := { addrs := [], timeout := 100, peerTimeout := 300, nodeId := List.replicate 16 1,
                  crypto := { init := none, core := some core, rot := some (PeerCrypto.initSide false 0) } }
def n : Node :=
  { nodeId := List.replicate 16 9, addr := .v6 (List.replicate 16 0) 3,
    cfg := { tap := false, learning := false, broadcast := false, peerTimeout := 300, peerTimeoutPublish := 300, updateFreq := 10,
             claims := [], key := [7, 7, 7, 7], trusted := [[9, 9, 9, 9]], algos := Toy.algos },
    peers := [(s, p)], table := { cacheTimeout := 300, claimTimeout := 300 } }
/-- 30 fabricated bytes: key id 0, some counter, a body that is no intact seal -/
def data : Bytes := List.replicate 30 0
def forged : Init.BodyOf := fun b => .garbage b.length

example : lookupA n.peers (mappedAddr s) = some p := rfl
example : data.head? ≠ some Generated.INIT_MESSAGE_FIRST_BYTE := by decide
example : (core.decrypt (dgramOf forged data)).2 = .error .openFailed := by decide +kernel
example : PeerCrypto.handleMessage Toy.env forged payloadOk p.crypto data [] (rndFor Cex1.o { node := n } (mappedAddr s)).1
    (rndFor Cex1.o { node := n } (mappedAddr s)).2.1 = .err p.crypto .crypto := rfl

/-- "`pc = p.crypto`" is NOT true of every rejected datagram: a GENUINE seal (here: key 7 of slot 0, the reconstructed nonce) of a
    rotation message that is too short is accepted by the core — its `seen` mark moves — and then rejected by `handle_rotate_message`
    (`Error::Crypto`).  Only a holder of the session key can make such a datagram; this is the second alternative of
    `rejected_session_fields`. -/
def genuineShortRotation : Init.BodyOf := fun _ => .sealed 7 (HALF + 5) [Generated.MESSAGE_TYPE_ROTATION]
def data5 : Bytes := [0, 0, 0, 0, 0, 0, 0, 5] ++ List.replicate 17 0

def errPc : POutcome MsgResult → Option PeerCrypto
  | .err pc _ => some pc
  | _ => none

theorem session_object_can_change :
    ∃ pc', errPc (PeerCrypto.handleMessage Toy.env genuineShortRotation payloadOk p.crypto data5 [] {} {}) = some pc' ∧
      pc'.core ≠ p.crypto.core ∧ pc'.core = some (core.decrypt (dgramOf genuineShortRotation data5)).1 :=
  ⟨_, rfl, by decide, rfl⟩

end Ex2

/-! ## 3. a datagram WITH the handshake marker from `a` -/

/-- **key lemma**: a FRESH attempt (`Crypto::peer_instance`, the throw-away responder of `handle_net_message`) that handles ONE message —
    any bytes — never reports a completed handshake (`.initialized` / `.initializedWithReply`): it is in the initial stage, and a single
    message can at most produce a reply.  It does not panic either. -/
theorem fresh_attempt_never_completes (env : CryptoEnv) (bodyOf : Init.BodyOf) (ok : Bytes → Bool) (n : Node) (hash : Bytes) (data tail : Bytes)
    (rnd : Rand) (rr : RotRand) :
    PeerCrypto.handleMessage env bodyOf ok (newAttempt n hash) data tail rnd rr ≠ .panic ∧
    ∀ pc' out res log, PeerCrypto.handleMessage env bodyOf ok (newAttempt n hash) data tail rnd rr = .ok pc' out res log → res = .reply :=
  ⟨freshAttempt_no_panic env bodyOf ok _ data tail rnd rr (newAttempt_fresh n hash),
   fun pc' out res log h => freshAttempt_only_reply env bodyOf ok _ pc' data tail rnd rr out res log (newAttempt_fresh n hash) h⟩

theorem responder_keeps (env : CryptoEnv) (bodyOf : Init.BodyOf) (o : Oracle) (n : Node) (now : Int) (a : NAddr) (data tail : Bytes)
    (rnd : Rand) (rr : RotRand) (hash : Option Bytes) :
    let c := (responder env bodyOf o n now a data tail rnd rr hash).1
    c.node.peers = n.peers ∧ c.node.table = n.table ∧ c.node.own = n.own ∧ c.panicked = false ∧
    (c.outs = [] ∨ ∃ b, c.outs = [.dgram a b]) := by
  obtain ⟨hnp, hrep⟩ := fresh_attempt_never_completes env bodyOf payloadOk n (hash.getD []) data tail rnd rr
  unfold responder
  simp only []
  cases hm : PeerCrypto.handleMessage env bodyOf payloadOk (newAttempt n (hash.getD [])) data tail rnd rr with
  | panic => exact absurd hm hnp
  | err pc e => exact ⟨rfl, rfl, rfl, rfl, Or.inl rfl⟩
  | ok pc' out res log =>
    have := hrep pc' out res log hm
    subst this
    exact ⟨rfl, rfl, rfl, rfl, Or.inr ⟨out, rfl⟩⟩

/-- **replayed_handshake_keeps_session** (the repaired defect F-C09): a datagram WITH the handshake marker from the address of an established
    peer whose session has no lingering handshake, while no attempt is pending for that address — whatever the bytes are, in particular a
    verbatim replay of a genuine ping — is handled by a throw-away responder: the whole peer list (so the peer record of `a`: session,
    expiry, addresses), the routing table and the own addresses are unchanged, the node does not panic, nothing is written to the interface;
    all the node may emit is one datagram back to `a`. -/
theorem replayed_handshake_keeps_session (env : CryptoEnv) (bodyOf : Init.BodyOf) (o : Oracle) (n : Node) (now : Int) (src : NAddr) (data tail : Bytes)
    (p : Peer)
    (hp : lookupA n.peers (mappedAddr src) = some p)
    (hinit : data.head? = some Generated.INIT_MESSAGE_FIRST_BYTE)
    (hi : p.crypto.init = none) (hq : lookupA n.pending (mappedAddr src) = none) :
    let c := (handleNet env bodyOf o n now src data tail).1
    lookupA c.node.peers (mappedAddr src) = some p ∧ c.node.peers = n.peers ∧ c.node.table = n.table ∧ c.node.own = n.own ∧
    c.panicked = false ∧ (c.outs = [] ∨ ∃ b, c.outs = [.dgram (mappedAddr src) b]) ∧ (∀ b, Out.iface b ∉ c.outs) := by
  intro c
  have hd : dispatch env bodyOf o n now (mappedAddr src) data tail =
      responder env bodyOf o n now (mappedAddr src) data tail (rndFor o { node := n } (mappedAddr src)).1
        (rndFor o { node := n } (mappedAddr src)).2.1 (rndFor o { node := n } (mappedAddr src)).2.2 := by
    unfold dispatch
    simp only [hp, hq, hinit, hi, decide_true, Bool.not_true, Bool.false_eq_true, if_false, Option.isSome_none]
  obtain ⟨h1, h2, h3, h4, h5⟩ := responder_keeps env bodyOf o n now (mappedAddr src) data tail (rndFor o { node := n } (mappedAddr src)).1
    (rndFor o { node := n } (mappedAddr src)).2.1 (rndFor o { node := n } (mappedAddr src)).2.2
  have hc : c = (finish (mappedAddr src) (responder env bodyOf o n now (mappedAddr src) data tail (rndFor o { node := n } (mappedAddr src)).1
        (rndFor o { node := n } (mappedAddr src)).2.1 (rndFor o { node := n } (mappedAddr src)).2.2)).1 := by
    show (handleNet env bodyOf o n now src data tail).1 = _
    rw [handleNet_eq, hd]
  have hif := C10More.handshake_never_reaches_iface env bodyOf o n now src data tail hinit
  rw [handleNet_eq, hd, finish_outs] at hif
  rw [hc]
  simp only [finish_peers, finish_table, finish_own, finish_panicked, finish_outs]
  exact ⟨by rw [h1]; exact hp, h1, h2, h3, h4, h5, hif⟩

/-- the peer record `add_new_peer` writes for `a` when the pending attempt of `a` reports a completed handshake -/
def newPeerRecord (n : Node) (now : Int) (a : NAddr) (info : NodeInfo) (pc : PeerCrypto) : Peer :=
  { addrs := info.addrs.foldl (fun l x => if l.contains x then l else l ++ [x]) [a],
    timeout := now + n.cfg.peerTimeout,
    peerTimeout := info.peerTimeout.getD Generated.DEFAULT_PEER_TIMEOUT,
    nodeId := info.nodeId,
    crypto := pc }

theorem addNewPeer_lookup (env : CryptoEnv) (o : Oracle) (c : Ctx) (now : Int) (a : NAddr) (info : NodeInfo) (pc : PeerCrypto)
    (h : lookupA c.node.pending a = some pc) :
    lookupA (addNewPeer env o c now a info).node.peers a = some (newPeerRecord c.node now a info pc) := by
  rw [C15MoreLemmas.addNewPeer_eq h]
  simp only []
  -- the hypothesis is left as a goal: given in place it is elaborated before the context is known, which is dear
  rw [C15MoreLemmas.updatePeerInfo_peers env o _ now a (some info) ?p ?hp]
  case hp => exact lookupA_insertA_self _ _ _
  exact lookupA_insertA_self _ _ _

theorem handleResult_init (env : CryptoEnv) (o : Oracle) (c : Ctx) (now : Int) (src : NAddr) (res : MsgResult) (out pl : Bytes) (info : NodeInfo)
    (hres : res = .initialized pl ∨ res = .initializedWithReply pl) (hdec : Codec.decodeNodeInfo pl = some info) :
    (handleResult env o c now src res out).1.node = (addNewPeer env o c now src info).node := by
  rcases hres with rfl | rfl <;> simp only [handleResult, hdec, send_node]

theorem pendingOutcome_applied (env : CryptoEnv) (o : Oracle) (n : Node) (now : Int) (a : NAddr) (p : Peer) (r : POutcome MsgResult)
    (hp : lookupA n.peers a = some p)
    (hmk : ∀ pc out res log, r = .ok pc out res log →
      res = .reply ∨ ∃ pl, (res = .initialized pl ∨ res = .initializedWithReply pl) ∧ payloadOk pl = true) :
    let c := (finish a (applyOutcome env o { node := n } now a false r)).1
    ((∀ pc out res log, r = .ok pc out res log → res = .reply) →
      lookupA c.node.peers a = some p ∧ c.node.peers = n.peers ∧ c.node.table = n.table) ∧
    (∀ pc out res log pl, r = .ok pc out res log → res = .initialized pl ∨ res = .initializedWithReply pl →
      ∃ info, Codec.decodeNodeInfo pl = some info ∧ lookupA c.node.peers a = some (newPeerRecord n now a info pc)) := by
  intro c
  have hc : c = (finish a (applyOutcome env o { node := n } now a false r)).1 := rfl
  rw [hc]
  simp only [finish_peers, finish_table]
  rw [applyOutcome_eq]
  cases r with
  | panic => exact ⟨fun _ => ⟨hp, rfl, rfl⟩, fun _ _ _ _ _ h => (nomatch h)⟩
  | err pc e => exact ⟨fun _ => ⟨hp, rfl, rfl⟩, fun _ _ _ _ _ h => (nomatch h)⟩
  | ok pc out res log =>
    simp only []
    rcases hmk pc out res log rfl with rfl | ⟨pl, hres, hok⟩
    · refine ⟨fun _ => ⟨hp, rfl, rfl⟩, fun _ _ _ _ _ h h' => ?_⟩
      cases h
      rcases h' with h' | h' <;> cases h'
    · unfold payloadOk at hok
      cases hdec : Codec.decodeNodeInfo pl with
      | none => rw [hdec] at hok; cases hok
      | some info =>
        refine ⟨fun hall => ?_, fun _ _ _ _ pl' h h' => ?_⟩
        · cases hall pc out res log rfl
          rcases hres with h | h <;> cases h
        · cases h
          have hpl : pl' = pl := by
            rcases hres with rfl | rfl <;> rcases h' with h' | h' <;> cases h' <;> rfl
          subst hpl
          refine ⟨info, hdec, ?_⟩
          rw [handleResult_init env o _ now a _ out pl' info hres hdec]
          exact addNewPeer_lookup env o _ now a info pc (lookupA_insertA_self _ _ _)

theorem dispatch_pending (env : CryptoEnv) (bodyOf : Init.BodyOf) (o : Oracle) (n : Node) (now : Int) {s : NAddr} {data : Bytes} (tail : Bytes)
    {p : Peer} {q : PeerCrypto} (hp : lookupA n.peers s = some p) (hinit : data.head? = some Generated.INIT_MESSAGE_FIRST_BYTE)
    (hq : lookupA n.pending s = some q) :
    dispatch env bodyOf o n now s data tail = applyOutcome env o { node := n } now s false
      (PeerCrypto.handleMessage env bodyOf payloadOk q data tail (rndFor o { node := n } s).1 (rndFor o { node := n } s).2.1) := by
  unfold dispatch
  simp only [hp, hq, hinit, decide_true, Bool.not_true, Bool.false_eq_true, if_false]

/-- **variant with an attempt pending for `a`**: a datagram with the handshake marker from `a` is handled by the pending attempt `q`, never
    by the established session.  Unless `q` reports a completed handshake the whole peer list and the routing table are unchanged; if it
    does (`.initialized` / `.initializedWithReply` with the peer's node information `info`), the record of `a` is replaced by
    `newPeerRecord`: the session object `q` has become, a fresh expiry, the announced addresses.  Nothing is written to the interface. -/
theorem pending_handles_handshake (env : CryptoEnv) (bodyOf : Init.BodyOf) (o : Oracle) (n : Node) (now : Int) (src : NAddr) (data tail : Bytes)
    (p : Peer) (q : PeerCrypto)
    (hp : lookupA n.peers (mappedAddr src) = some p)
    (hinit : data.head? = some Generated.INIT_MESSAGE_FIRST_BYTE)
    (hq : lookupA n.pending (mappedAddr src) = some q) :
    let r := PeerCrypto.handleMessage env bodyOf payloadOk q data tail
      (rndFor o { node := n } (mappedAddr src)).1 (rndFor o { node := n } (mappedAddr src)).2.1
    let c := (handleNet env bodyOf o n now src data tail).1
    (∀ b, Out.iface b ∉ c.outs) ∧
    ((∀ pc out res log, r = .ok pc out res log → res = .reply) →
      lookupA c.node.peers (mappedAddr src) = some p ∧ c.node.peers = n.peers ∧ c.node.table = n.table) ∧
    (∀ pc out res log pl, r = .ok pc out res log → res = .initialized pl ∨ res = .initializedWithReply pl →
      ∃ info, Codec.decodeNodeInfo pl = some info ∧
        lookupA c.node.peers (mappedAddr src) = some (newPeerRecord n now (mappedAddr src) info pc)) := by
  refine ⟨C10More.handshake_never_reaches_iface env bodyOf o n now src data tail hinit, ?_⟩
  have hc : (handleNet env bodyOf o n now src data tail).1 = (finish (mappedAddr src) (applyOutcome env o { node := n } now (mappedAddr src) false
      (PeerCrypto.handleMessage env bodyOf payloadOk q data tail
        (rndFor o { node := n } (mappedAddr src)).1 (rndFor o { node := n } (mappedAddr src)).2.1))).1 := by
    rw [handleNet_eq, dispatch_pending env bodyOf o n now tail hp hinit hq]
  simp only [hc]
  apply pendingOutcome_applied env o n now (mappedAddr src) p _ hp
  intro pc out res log hr
  rcases handleMessage_marker_ok env bodyOf payloadOk q pc data tail _ _ out res log hinit hr with hrep | ⟨pl, ist, st', o', ini, lg, _, hs, hres, _⟩
  · exact Or.inl hrep
  · exact Or.inr ⟨pl, hres, handleInit_success_ok env bodyOf payloadOk ist st' _ _ o' pl ini lg hs⟩

/-! ### non-vacuity for section 3 -/
namespace Ex3
open VpnCloud.Proofs.InitLemmas

/-- the node of `Ex2` (one established peer `s`, encrypted session, no lingering handshake, nothing pending) receives replayed
    handshake bytes from `s` -/
def replay : Bytes := Generated.INIT_MESSAGE_FIRST_BYTE :: Toy.pong Toy.algos 0

example : lookupA Ex2.n.peers (mappedAddr Ex2.s) = some Ex2.p := rfl
example : replay.head? = some Generated.INIT_MESSAGE_FIRST_BYTE := rfl
example : Ex2.p.crypto.init = none := rfl
example : lookupA Ex2.n.pending (mappedAddr Ex2.s) = none := rfl
/-- … and the same node with an attempt pending for `s` (hypotheses of `pending_handles_handshake`) -/
example : lookupA ({ Ex2.n with pending := [(Ex2.s, { init := some Toy.st })] } : Node).pending (mappedAddr Ex2.s) = some { init := some Toy.st } := rfl

end Ex3

/-! ## 4. housekeeping and pending attempts -/

/-- **pending_expiry_keeps_peer**: housekeeping never removes an established peer whose expiry has not passed because of pending attempts.
    If the keys of the peer list are distinct and the peer's session does not fail in its own `every_second` (whatever randomness it is
    given: `hok`), the peer is still there after `housekeep` with the same expiry — for EVERY value `q` of the list of pending attempts.
    (`hok` holds for every session without lingering handshake that can seal: `everySecond_healthy`.) -/
theorem pending_expiry_keeps_peer (env : CryptoEnv) (o : Oracle) (n : Node) (now : Int) (a : NAddr) (p : Peer)
    (hp : lookupA n.peers a = some p) (hlive : ¬ p.timeout < now) (hnd : (n.peers.map (·.1)).Nodup)
    (hok : ∀ rr pc' e, PeerCrypto.everySecond p.crypto rr ≠ .err pc' e) :
    (lookupA (housekeep env o n now).node.peers a).isSome = true ∧
    (lookupA (housekeep env o n now).node.peers a).map (·.timeout) = some p.timeout ∧
    ∀ q : List (NAddr × PeerCrypto),
      (lookupA (housekeep env o { n with pending := q } now).node.peers a).map (·.timeout) =
        (lookupA (housekeep env o n now).node.peers a).map (·.timeout) := by
  obtain ⟨p1, h1, t1⟩ := housekeep_keeps env o n now a p hp hlive hnd hok
  refine ⟨by rw [h1]; rfl, by rw [h1, Option.map_some, t1], fun q => ?_⟩
  obtain ⟨p2, h2, t2⟩ := housekeep_keeps env o { n with pending := q } now a p hp hlive hnd hok
  rw [h1, h2, Option.map_some, Option.map_some, t1, t2]

/-- the same for a healthy session, stated on the session object: no lingering handshake, and plain or with a core -/
theorem pending_expiry_keeps_healthy_peer (env : CryptoEnv) (o : Oracle) (n : Node) (now : Int) (a : NAddr) (p : Peer)
    (hp : lookupA n.peers a = some p) (hlive : ¬ p.timeout < now) (hnd : (n.peers.map (·.1)).Nodup)
    (hi : p.crypto.init = none) (hs : p.crypto.unencrypted = true ∨ p.crypto.core.isSome = true)
    (q : List (NAddr × PeerCrypto)) :
    (lookupA (housekeep env o { n with pending := q } now).node.peers a).map (·.timeout) = some p.timeout := by
  obtain ⟨p', h, ht⟩ := housekeep_keeps env o { n with pending := q } now a p hp hlive hnd (everySecond_healthy p.crypto hi hs)
  rw [h, Option.map_some, ht]

/-- **the pending loop of `crypto_housekeep` touches only `pending` and the outputs**: `crypto_housekeep` is the loop over the peers run
    after the loop over the pending attempts, and the latter leaves every component of the node except `pending` as it was — in
    particular peers and table are the same before and after the first fold. -/
theorem pendLoop_touches_only_pending (env : CryptoEnv) (o : Oracle) (c : Ctx) (now : Int) :
    cryptoHousekeep env o c now = peerLoop env o (pendLoop o c) now ∧
    (pendLoop o c).node = { c.node with pending := (pendLoop o c).node.pending } ∧
    (pendLoop o c).node.peers = c.node.peers ∧ (pendLoop o c).node.table = c.node.table := by
  refine ⟨rfl, ?_, pendLoop_peers o c, pendLoop_table o c⟩
  have h := pendLoop_node o c
  unfold noPending at h
  generalize (pendLoop o c).node = n1 at h ⊢
  generalize c.node = n0 at h ⊢
  cases n1
  cases n0
  simp only [Node.mk.injEq] at h ⊢
  simp_all

/-! ### non-vacuity for section 4: the two-peer node of `Cex1` (plain sessions, no lingering handshake), any pending list -/
namespace Ex4

example : lookupA (Cex1.n 50).peers Cex1.a = some Cex1.pa := rfl
example : ¬ Cex1.pa.timeout < 10 := by decide
example : ((Cex1.n 50).peers.map (·.1)).Nodup := by decide
example : ∀ rr pc' e, PeerCrypto.everySecond Cex1.pa.crypto rr ≠ .err pc' e := everySecond_healthy _ rfl (Or.inl rfl)

end Ex4

end VpnCloud.Proofs.C09More
