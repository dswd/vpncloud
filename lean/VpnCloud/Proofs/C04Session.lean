import VpnCloud.Proofs.Lemmas.Core.C04SessionRecvLemmas
/-
  C04 "no (key, nonce) pair is ever used twice" and C03 "replay window", lifted from one key /
  one slot (`Proofs/C04.lean`, `Proofs/C03.lean`) to whole sessions of a `CryptoCore` with key
  rotation: traces of seal / tick / rotate / open operations (`SOp`, `run` in
  `Lemmas/Core/C04SessionLemmas.lean`).
-/
namespace VpnCloud.Proofs.C04Session

open VpnCloud.Spec.C04 VpnCloud.Spec.C03
open VpnCloud.Proofs.CoreLemmas

/-- **session_seal_log_nodup**: over the whole life of a connection — any interleaving of sealing,
    housekeeping ticks, key rotations and received datagrams — a node never seals two datagrams under
    the same (key, nonce) pair, provided (a) `Fresh`: every rotated-in key is new (differs from the
    handshake key, the dummy key and all keys rotated in earlier; hypothesis I3), and (b) fewer than
    `2^95 - 2^48` datagrams are sealed per key and all random start values are 48-bit values. -/
theorem session_seal_log_nodup (key : KeyRef) (half : Bool) (dummy : KeyRef) (starts : List Nat) (ops : List SOp)
    (hfresh : Fresh [key, dummy] ops)
    (hstarts : (∀ s ∈ starts, s < 2 ^ 48) ∧ StartsOK ops)
    (hcount : ∀ K, sealsUnder K (run (Core.new key half dummy starts) ops).2 < 2 ^ 95 - 2 ^ 48) :
    ((run (Core.new key half dummy starts) ops).2.map sealedWith).Nodup :=
  nodup_of_sinv (session_sinv key half dummy starts ops hfresh hstarts hcount)

/-- example trace: seal, receive, tick, two rotations (one not yet used for sending), more seals -/
def exOps : List SOp :=
  [.seal [1], .open { hdr := [0, 0, 0, 0, 0, 0, 0, 9], body := .sealed 7 9 [4] }, .tick, .rotate 9 1 true 3,
   .seal [2], .rotate 10 2 false 4, .seal [3]]

/-- non-vacuity of `session_seal_log_nodup`: the hypotheses hold of `exOps`, which emits under two keys -/
example : Fresh [7, 8] exOps ∧ ((∀ s ∈ [5, 6, 7, 8], s < 2 ^ 48) ∧ StartsOK exOps) ∧
    (run (Core.new 7 true 8 [5, 6, 7, 8]) exOps).2.map sealedWith =
      [some (7, HALF + 6), some (9, HALF + 4), some (9, HALF + 5)] := by
  decide +kernel

example : ∀ K, sealsUnder K (run (Core.new 7 true 8 [5, 6, 7, 8]) exOps).2 < 2 ^ 95 - 2 ^ 48 :=
  fun K => Nat.lt_of_le_of_lt (sealsUnder_le_length K _) (by decide)

/-- hypothesis (a) is necessary: a key rotated in a second time (here with the same random start
    value) repeats a (key, nonce) pair although (b) holds; likewise rotating the handshake key in again -/
example :
    (¬ Fresh [7, 8] [.rotate 9 1 true 3, .seal [1], .rotate 9 2 true 3, .seal [1]] ∧
      StartsOK [.rotate 9 1 true 3, .seal [1], .rotate 9 2 true 3, .seal [1]] ∧
      ¬ ((run (Core.new 7 true 8 [5, 6, 7, 8]) [.rotate 9 1 true 3, .seal [1], .rotate 9 2 true 3, .seal [1]]).2.map
          sealedWith).Nodup) ∧
    (¬ Fresh [7, 8] [.seal [1], .rotate 7 1 true 5, .seal [1]] ∧
      ¬ ((run (Core.new 7 true 8 [5, 6, 7, 8]) [.seal [1], .rotate 7 1 true 5, .seal [1]]).2.map sealedWith).Nodup) := by
  decide +kernel

/-- **session_halves_disjoint**: the two ends of one handshake (same key, opposite halves) never
    emit two datagrams with the same (key, nonce) pair between them, whatever each of them does and
    whenever each of them rotates: the joint log has no duplicates.  Each side rotates in fresh keys
    (I3) — in particular both may rotate in the same keys in the same order at different times, the
    theorem does not need to know — and stays below `2^95 - 2^48` seals per key with 48-bit starts. -/
theorem session_halves_disjoint (key dA dB : KeyRef) (startsA startsB : List Nat) (opsA opsB : List SOp)
    (hfA : Fresh [key, dA] opsA) (hfB : Fresh [key, dB] opsB)
    (hsA : (∀ s ∈ startsA, s < 2 ^ 48) ∧ StartsOK opsA) (hsB : (∀ s ∈ startsB, s < 2 ^ 48) ∧ StartsOK opsB)
    (hcA : ∀ K, sealsUnder K (run (Core.new key true dA startsA) opsA).2 < 2 ^ 95 - 2 ^ 48)
    (hcB : ∀ K, sealsUnder K (run (Core.new key false dB startsB) opsB).2 < 2 ^ 95 - 2 ^ 48) :
    (((run (Core.new key true dA startsA) opsA).2 ++ (run (Core.new key false dB startsB) opsB).2).map
      sealedWith).Nodup := by
  have iA := session_sinv key true dA startsA opsA hfA hsA hcA
  have iB := session_sinv key false dB startsB opsB hfB hsB hcB
  rw [List.map_append, List.nodup_append]
  refine ⟨nodup_of_sinv iA, nodup_of_sinv iB, ?_⟩
  intro a ha b hb heq
  obtain ⟨da, hda, rfl⟩ := List.mem_map.1 ha
  obtain ⟨db, hdb, rfl⟩ := List.mem_map.1 hb
  obtain ⟨_, K1, s1, m1, _, _, hs1, hm1, rfl⟩ := iA.form da hda
  obtain ⟨_, K2, s2, m2, _, _, hs2, hm2, rfl⟩ := iB.form db hdb
  simp only [sealedWith, Option.some.injEq, Prod.mk.injEq] at heq
  exact C04.halves_disjoint K1 s1 s2 m1 m2 hs1 hs2 hm1 hm2 heq.2

/-- non-vacuity: both ends rotate in keys 9 and 10, in this order, at different times -/
def exOpsB : List SOp := [.seal [1], .seal [2], .rotate 9 1 false 3, .tick, .seal [5], .rotate 10 2 true 4, .seal [3]]

example : Fresh [7, 8] exOps ∧ Fresh [7, 11] exOpsB ∧ rotatedKeys exOps = rotatedKeys exOpsB ∧
    ((∀ s ∈ [5, 6, 7, 8], s < 2 ^ 48) ∧ StartsOK exOps) ∧ ((∀ s ∈ [5, 1, 2, 3], s < 2 ^ 48) ∧ StartsOK exOpsB) ∧
    (run (Core.new 7 false 11 [5, 1, 2, 3]) exOpsB).2.map sealedWith =
      [some (7, 6), some (7, 7), some (7, 8), some (10, 5)] := by
  decide +kernel

example : ∀ K, sealsUnder K (run (Core.new 7 false 11 [5, 1, 2, 3]) exOpsB).2 < 2 ^ 95 - 2 ^ 48 :=
  fun K => Nat.lt_of_le_of_lt (sealsUnder_le_length K _) (by decide)

/-- the bound on the start values is necessary: a "start" of `2^95 + 5` on the lower-half side lands on
    the nonce of the upper-half side -/
example :
    ¬ (((run (Core.new 7 true 8 [5]) [.seal [1]]).2 ++ (run (Core.new 7 false 8 [2 ^ 95 + 5]) [.seal [1]]).2).map
        sealedWith).Nodup := by
  decide +kernel

/-- receiving does not disturb the send side: opening any datagram (accepted or not) leaves the
    current slot, and the key and send counter of every slot, as they were -/
theorem open_keeps_send (c : Core) (d : Dgram) :
    (c.decrypt d).1.cur = c.cur ∧ (c.decrypt d).1.slots.length = c.slots.length ∧
    ∀ (j : Nat) (k' : SlotKey), (c.decrypt d).1.slots[j]? = some k' →
      ∃ k : SlotKey, c.slots[j]? = some k ∧ k'.key = k.key ∧ k'.send = k.send :=
  ⟨(open_shape c d).1, (open_shape c d).2.2, fun j k' h => by
    obtain ⟨k, hk, rfl⟩ := step_slot_inv c (.open d) j k' h
    exact ⟨k, hk, slotAfter_passive c j k (.open d) (Or.inr ⟨d, rfl⟩)⟩⟩

/-- **send_monotone_between_rotations**: between two rotations of a slot (no operation of the trace
    installs a key in slot `j`) the slot keeps its key and its send counter only grows — by at most
    one per seal — whatever else happens (ticks, received datagrams, rotations of other slots), as
    long as the 96-bit counter itself does not overflow. -/
theorem send_monotone_between_rotations (c : Core) (ops : List SOp) (j : Nat) (k : SlotKey)
    (hk : c.slots[j]? = some k)
    (hnorot : ∀ K id use start, SOp.rotate K id use start ∈ ops → id % 4 ≠ j)
    (hnowrap : k.send + numSeals ops < NONCE_MOD) :
    ∃ k', (run c ops).1.slots[j]? = some k' ∧ k'.key = k.key ∧ k.send ≤ k'.send ∧
      k'.send ≤ k.send + numSeals ops := by
  induction ops generalizing c k with
  | nil => exact ⟨k, hk, rfl, Nat.le_refl _, Nat.le_refl _⟩
  | cons op ops ih =>
    rw [numSeals_cons] at hnowrap ⊢
    obtain ⟨hkey1, hlo1, hhi1⟩ := slotAfter_send_mono c op j k
      (fun K id use start h => hnorot K id use start (by rw [h]; exact List.mem_cons_self)) (by omega)
    obtain ⟨k2, hk2, hkey2, hlo2, hhi2⟩ := ih (step c op).1 _ (step_slot c op j k hk)
      (fun K id use start h => hnorot K id use start (List.mem_cons_of_mem _ h)) (by omega)
    exact ⟨k2, hk2, by rw [hkey2, hkey1], by omega, by omega⟩

/-- non-vacuity: slot 0 of the example trace is never rotated; two of the three seals go through it -/
example : (∀ K id use start, SOp.rotate K id use start ∈ exOps → id % 4 ≠ 0) ∧
    (Core.new 7 true 8 [5, 6, 7, 8]).slots[0]? = some (SlotKey.new 7 true 5) ∧
    ((run (Core.new 7 true 8 [5, 6, 7, 8]) exOps).1.slots[0]?).map SlotKey.send = some (HALF + 6) ∧
    (SlotKey.new 7 true 5).send + numSeals exOps < NONCE_MOD := by
  refine ⟨?_, by decide, by decide, by decide⟩
  intro K id use start h
  simp only [exOps, List.mem_cons, reduceCtorEq, SOp.rotate.injEq, List.not_mem_nil, or_false, false_or] at h
  rcases h with ⟨_, rfl, _, _⟩ | ⟨_, rfl, _, _⟩ <;> decide

/-- **counter_never_wraps**: along every session trace (hypotheses of `session_seal_log_nodup`)
    (1) the nonces used under one key strictly increase in emission order, (2) every nonce stays inside
    the sender's own half of the nonce space — the 96-bit counter never wraps —, and (3) once the counter
    of a key no longer fits the 56 transmitted bits, that datagram and every later datagram under that
    key is rejected by the peer (any core of the opposite half, in any state): the 56-bit wire counter
    cannot wrap onto values that were used before. -/
theorem counter_never_wraps (key : KeyRef) (half : Bool) (dummy : KeyRef) (starts : List Nat) (ops : List SOp)
    (hfresh : Fresh [key, dummy] ops)
    (hstarts : (∀ s ∈ starts, s < 2 ^ 48) ∧ StartsOK ops)
    (hcount : ∀ K, sealsUnder K (run (Core.new key half dummy starts) ops).2 < 2 ^ 95 - 2 ^ 48) :
    Increasing (run (Core.new key half dummy starts) ops).2 ∧
    (∀ d ∈ (run (Core.new key half dummy starts) ops).2,
      ∃ K n, sealedWith d = some (K, n) ∧ base half < n ∧ n < base half + 2 ^ 95) ∧
    (∀ pre d1 post, (run (Core.new key half dummy starts) ops).2 = pre ++ d1 :: post →
      ∀ K n1, sealedWith d1 = some (K, n1) → base half + 2 ^ 56 ≤ n1 →
      ∀ d2 ∈ d1 :: post, keyOf d2 = some K →
      ∀ r : Core, r.half = !half → ∃ e, (r.decrypt d2).2 = .error e) := by
  have inv := session_sinv key half dummy starts ops hfresh hstarts hcount
  refine ⟨inv.incr, ?_, ?_⟩
  · intro d hd
    obtain ⟨kid, K, s, m, p, _, hs, hm, rfl⟩ := inv.form d hd
    exact ⟨K, _, rfl, C04.stays_in_half K half s m hs hm⟩
  · intro pre d1 post hlog K n1 hd1 hbig d2 hd2 hkey r hr
    have hd2mem : d2 ∈ (run (Core.new key half dummy starts) ops).2 := by
      rw [hlog]; exact List.mem_append_right _ hd2
    obtain ⟨kid, K2, s, m, p, _, hs, hm, rfl⟩ := inv.form d2 hd2mem
    simp only [keyOf, sealedWith, Option.map_some, Option.some.injEq] at hkey
    subst hkey
    -- the nonce of `d2` is at least that of `d1`
    have hge : n1 ≤ base half + s + 1 + m := by
      rcases List.mem_cons.1 hd2 with heq | hpost
      · subst heq
        cases hd1
        exact Nat.le_refl _
      · have hinc := inv.incr
        unfold Increasing at hinc
        rw [hlog, List.pairwise_append] at hinc
        have := (List.pairwise_cons.1 hinc.2.1).1 _ hpost K2 n1 _ hd1 rfl
        omega
    have hr' : (!r.half) = half := by rw [hr, Bool.not_not]
    exact C04.beyond_56_bits_rejected r K2 (base half + s + 1 + m) (s + 1 + m) p kid (by rw [hr']; omega)
      (by omega) (by omega)

/-- non-vacuity of (1), (2): the example trace meets the hypotheses -/
example : Increasing (run (Core.new 7 true 8 [5, 6, 7, 8]) exOps).2 :=
  (counter_never_wraps 7 true 8 [5, 6, 7, 8] exOps (by decide) (by decide)
    (fun K => Nat.lt_of_le_of_lt (sealsUnder_le_length K _) (by decide))).1

/-- non-vacuity of (3): the trace of `2^56` seals from a new core meets all hypotheses of
    `counter_never_wraps` (`2^56` is far below the limit of `2^95 - 2^48` seals per key) and its last
    datagram carries a counter that no longer fits 56 bits -/
example : ∃ ops : List SOp,
    Fresh [7, 8] ops ∧ ((∀ s ∈ [5], s < 2 ^ 48) ∧ StartsOK ops) ∧
    (∀ K, sealsUnder K (run (Core.new 7 true 8 [5]) ops).2 < 2 ^ 95 - 2 ^ 48) ∧
    ∃ d ∈ (run (Core.new 7 true 8 [5]) ops).2, ∃ K n, sealedWith d = some (K, n) ∧ base true + 2 ^ 56 ≤ n := by
  obtain ⟨h1, h2, h3, d, hd, hsw⟩ := seals_only 7 true 8 5 (2 ^ 56) (by decide) (by decide) (by decide)
  exact ⟨_, h1, ⟨by decide, h2⟩, h3, d, hd, 7, _, hsw, by omega⟩

/-- **session_window_refines**: `C03.window_refines` for the whole core and whole sessions.  After any
    trace of seals, ticks, rotations and received datagrams (arbitrary ones: genuine, replayed, forged),
    each of the four slots holds the key that was rotated into it last (the handshake / dummy key if
    none was) and its window floor is the `threshold` of the slot's own history since that key was
    installed.  Hypothesis `DeliveredWF`: received datagrams consist of bytes (header elements `< 256`);
    without it the statement is false of the model, see the counterexample below. -/
theorem session_window_refines (key : KeyRef) (half : Bool) (dummy : KeyRef) (starts : List Nat) (ops : List SOp)
    (hwf : DeliveredWF ops) (i : Nat) (hi : i < 4) :
    ∃ k, (run (Core.new key half dummy starts) ops).1.slots[i]? = some k ∧
      k.key = slotKeyAfter i (if i = 0 then key else dummy) ops ∧
      k.min = threshold (slotHist i (Core.new key half dummy starts) [] ops) := by
  -- `key`, `0` only name the fresh slot over which `win_run` states `Admissible`; that conjunct is not used here, any values do
  obtain ⟨k, hk, w, hkey, _⟩ := win_run i key half 0 ops (Core.new key half dummy starts) [] _
    (new_slot key half dummy starts i hi) (window_new _ _ _) trivial hwf
  exact ⟨k, hk, hkey, w.1⟩

/-- **session_history_admissible**: the link to the one-slot theory.  The history of each slot of a
    session is an admissible history in the sense of `Spec/C03Slot.lean` (every recorded accept passed
    the window test of its time), so `C03.window_refines` applies slot by slot: the floor of the slot is
    the floor `slotRun` computes from a fresh slot over the slot's own history. -/
theorem session_history_admissible (key : KeyRef) (half : Bool) (dummy : KeyRef) (starts : List Nat) (ops : List SOp)
    (hwf : DeliveredWF ops) (i : Nat) (hi : i < 4) (K : KeyRef) (start : Nat) :
    Admissible (SlotKey.new K half start) (slotHist i (Core.new key half dummy starts) [] ops) ∧
    ∃ k, (run (Core.new key half dummy starts) ops).1.slots[i]? = some k ∧
      k.min = (slotRun (SlotKey.new K half start) (slotHist i (Core.new key half dummy starts) [] ops)).min := by
  obtain ⟨k, hk, w, _, a⟩ := win_run i K half start ops (Core.new key half dummy starts) [] _
    (new_slot key half dummy starts i hi) (window_new _ _ _) trivial hwf
  exact ⟨a, k, hk, by rw [w.1, C03.window_refines K half start _ a]⟩

/-- **session_accept_iff**: the decision of the receiver as a function of the trace alone.  A
    well-formed datagram with key id `i` whose body is a seal of `p` under key `K` and nonce `n` is
    accepted iff `K` is the key slot `i` currently holds (the one installed there last), the
    transmitted counter is the nonce's (`n` = other half's base + counter), and `n` is at least the
    `threshold` of the history of slot `i` since that key was installed. -/
theorem session_accept_iff (key : KeyRef) (half : Bool) (dummy : KeyRef) (starts : List Nat) (ops : List SOp)
    (hwf : DeliveredWF ops) (d : Dgram) (K : KeyRef) (n : Nat) (p : Bytes)
    (hlen : d.len ≥ 24) (hid : d.keyId < 4) (hb : d.body = .sealed K n p) :
    ((run (Core.new key half dummy starts) ops).1.decrypt d).2 = .ok p ↔
      slotKeyAfter d.keyId (if d.keyId = 0 then key else dummy) ops = K ∧
      n = base (!half) + d.counter ∧
      threshold (slotHist d.keyId (Core.new key half dummy starts) [] ops) ≤ n := by
  obtain ⟨k, hk, hkey, hmin⟩ := session_window_refines key half dummy starts ops hwf d.keyId hid
  have hrec : (run (Core.new key half dummy starts) ops).1.reconstruct d.counter = base (!half) + d.counter := by
    rw [C04.reconstruct_eq, run_half]; rfl
  rw [← hkey, ← hmin, ← hrec]
  constructor
  · intro hacc
    obtain ⟨k0, _, _, hk0, hmin0, hb0, _⟩ := decrypt_ok _ d p hacc
    rw [hk] at hk0
    cases hk0
    rw [hb] at hb0
    cases hb0
    exact ⟨rfl, rfl, hmin0⟩
  · rintro ⟨h1, h2, h3⟩
    exact ((C03.decrypt_authentic _ d k p hlen hid hk (by rw [hb, h1, h2])).1 (by rw [← h2]; exact h3)).1

/-- a receiver trace: two datagrams accepted out of order in slot 0, ticks, a rotation into slot 1 and a
    datagram under the new key -/
def exRecv : List SOp :=
  [.open { hdr := [0, 0, 0, 0, 0, 0, 0, 9], body := .sealed 7 9 [4] },
   .open { hdr := [0, 0, 0, 0, 0, 0, 0, 6], body := .sealed 7 6 [4] }, .tick,
   .rotate 9 5 false 3, .open { hdr := [1, 0, 0, 0, 0, 0, 0, 2], body := .sealed 9 2 [4] }, .tick]

/-- non-vacuity: the histories of slots 0 and 1 of `exRecv`, and the resulting verdicts -/
example : DeliveredWF exRecv ∧
    slotHist 0 (Core.new 7 true 8 [5, 6, 7, 8]) [] exRecv = [.accept 9, .accept 6, .tick, .tick] ∧
    slotHist 1 (Core.new 7 true 8 [5, 6, 7, 8]) [] exRecv = [.accept 2, .tick] ∧
    slotKeyAfter 1 8 exRecv = 9 ∧
    threshold [.accept 9, .accept 6, .tick, .tick] = 10 ∧
    ((run (Core.new 7 true 8 [5, 6, 7, 8]) exRecv).1.decrypt
      { hdr := [0, 0, 0, 0, 0, 0, 0, 9], body := .sealed 7 9 [4] }).2 = .error .oldNonce ∧
    ((run (Core.new 7 true 8 [5, 6, 7, 8]) exRecv).1.decrypt
      { hdr := [0, 0, 0, 0, 0, 0, 0, 10], body := .sealed 7 10 [4] }).2 = .ok [4] ∧
    ((run (Core.new 7 true 8 [5, 6, 7, 8]) exRecv).1.decrypt
      { hdr := [1, 0, 0, 0, 0, 0, 0, 1], body := .sealed 9 1 [4] }).2 = .ok [4] := by
  decide +kernel

/-- `DeliveredWF` is necessary: a "datagram" whose counter field holds the non-byte `2^96 - 1` drives
    `seen + 1` to `2^96`, which wraps to 0; two ticks later the model's floor is 0 while the threshold of
    the history is `2^96` -/
example :
    ¬ DeliveredWF [.open { hdr := [0, 0, 0, 0, 0, 0, 0, 2 ^ 96 - 1], body := .sealed 7 (2 ^ 96 - 1) [4] }, .tick, .tick] ∧
    ((run (Core.new 7 true 8 [5, 6, 7, 8])
        [.open { hdr := [0, 0, 0, 0, 0, 0, 0, 2 ^ 96 - 1], body := .sealed 7 (2 ^ 96 - 1) [4] }, .tick, .tick]).1.slots[0]?).map SlotKey.min
      = some 0 ∧
    threshold (slotHist 0 (Core.new 7 true 8 [5, 6, 7, 8]) []
        [.open { hdr := [0, 0, 0, 0, 0, 0, 0, 2 ^ 96 - 1], body := .sealed 7 (2 ^ 96 - 1) [4] }, .tick, .tick]) = 2 ^ 96 := by
  decide +kernel

/-- **per_slot_independent**: the replay windows of the four slots are independent.  Operations that
    do not touch slot `i` — seals, datagrams addressed to other slots (accepted or not), rotations into
    other slots; everything except ticks, which age all four slots — change neither the verdict on any
    datagram addressed to slot `i` nor the slot's history. -/
theorem per_slot_independent (c : Core) (ops : List SOp) (i : Nat) (hna : ∀ op ∈ ops, ¬ affects op i)
    (d : Dgram) (hd : d.keyId = i) (h : List Ev) :
    ((run c ops).1.decrypt d).2 = (c.decrypt d).2 ∧ slotHist i c h ops = h := by
  obtain ⟨hs, hh⟩ := run_unaffected c ops i hna h
  exact ⟨decrypt_congr _ _ _ (run_half c ops) (hd ▸ hs), hh⟩

/-- the exception: a tick ages every slot -/
theorem tick_ages_every_slot (c : Core) (j : Nat) :
    (step c .tick).1.slots[j]? = (c.slots[j]?).map SlotKey.updateMinNonce := tick_slots c j

/-- non-vacuity: traffic and a rotation on slots 1 and 2, and seals, between two looks at slot 0 -/
example : (∀ op ∈ [SOp.open { hdr := [1, 0, 0, 0, 0, 0, 0, 2], body := .sealed 8 2 [4] }, .rotate 9 2 true 3, .seal [1]],
    ¬ affects op 0) := by
  decide +kernel

/-- **rotate_resets_slot** (first half): `rotate_key` puts the new key into slot `id % 4` with the
    initial window (floor = `threshold []` = 0): every genuine datagram under the new key is accepted,
    whatever was accepted under the key that was there before. -/
theorem rotate_resets_slot (c : Core) (K : KeyRef) (id : Nat) (use : Bool) (start : Nat) (h4 : c.slots.length = 4) :
    (c.rotateKey K id use start).slots[id % 4]? = some (SlotKey.new K c.half start) ∧
    (SlotKey.new K c.half start).min = threshold [] ∧
    (∀ d p, d.len ≥ 24 → d.keyId = id % 4 →
      d.body = .sealed K ((c.rotateKey K id use start).reconstruct d.counter) p →
      ((c.rotateKey K id use start).decrypt d).2 = .ok p) := by
  have hslot : (c.rotateKey K id use start).slots[id % 4]? = some (SlotKey.new K c.half start) :=
    (C04.rotate_fresh c K id use start h4).1
  refine ⟨hslot, rfl, ?_⟩
  intro d p hlen hid hb
  have hid4 : d.keyId < 4 := by rw [hid]; omega
  rw [← hid] at hslot
  exact ((C03.decrypt_authentic _ d _ p hlen hid4 hslot hb).1 (Nat.zero_le _)).1

/-- non-vacuity: slot 0 has a floor of 10 under key 7; after key 9 is rotated into it (id 4) nonce 1 under key 9 is accepted -/
example :
    (run (Core.new 7 true 8 [5, 6, 7, 8]) exRecv).1.slots.length = 4 ∧
    ((run (Core.new 7 true 8 [5, 6, 7, 8]) exRecv).1.slots[0]?).map SlotKey.min = some 10 ∧
    (((run (Core.new 7 true 8 [5, 6, 7, 8]) exRecv).1.rotateKey 9 4 false 3).decrypt
      { hdr := [0, 0, 0, 0, 0, 0, 0, 1], body := .sealed 9 1 [4] }).2 = .ok [4] := by
  decide +kernel

/-- in a trace, a rotation into slot `i` makes the slot's history start afresh: what happened before is forgotten -/
theorem rotate_resets_history (i : Nat) (c : Core) (h : List Ev) (pre post : List SOp)
    (K : KeyRef) (id : Nat) (use : Bool) (start : Nat) (hid : id % 4 = i) :
    slotHist i c h (pre ++ .rotate K id use start :: post) =
      slotHist i (run c (pre ++ [.rotate K id use start])).1 [] post := by
  induction pre generalizing c h with
  | nil => simp only [List.nil_append, slotHist, histStep, if_pos hid, run_cons, run_nil]
  | cons op pre ih =>
    simp only [List.cons_append, slotHist, run_cons]
    exact ih _ _

/-- **rotate_resets_slot** (second half), with the ideal AEAD as in `C02.accepted_is_genuine`: once a
    key `K` has been rotated into slot `id % 4`, a datagram addressed to that slot and sealed under any
    other key `Kold` — in particular the overwritten one — is rejected, and stays rejected forever,
    provided `Kold` is never rotated in again (key freshness, I3). -/
theorem overwritten_key_rejected_forever (c : Core) (K Kold : KeyRef) (id : Nat) (use : Bool) (start : Nat)
    (post : List SOp) (hne : K ≠ Kold) (hpost : Kold ∉ rotatedKeys post)
    (d : Dgram) (n : Nat) (p : Bytes) (hid : d.keyId = id % 4) (hb : d.body = .sealed Kold n p) :
    ∃ e, ((run (c.rotateKey K id use start) post).1.decrypt d).2 = .error e := by
  refine decrypt_rejects_seal _ d Kold n p hb fun k hk hkey => absurd hkey ?_
  rw [hid] at hk
  refine slot_avoids_key Kold (id % 4) post _ (fun k hk => ?_) hpost k hk
  rw [C04.rotate_slots, if_pos rfl] at hk
  split at hk
  · cases hk; exact hne
  · cases hk

/-- the session form: in a session whose rotated-in keys are fresh (I3), the key that a rotation
    overwrites is dead in that slot from then on -/
theorem overwritten_key_rejected_forever_session (key : KeyRef) (half : Bool) (dummy : KeyRef) (starts : List Nat)
    (pre post : List SOp) (K : KeyRef) (id : Nat) (use : Bool) (start : Nat)
    (hfresh : Fresh [key, dummy] (pre ++ .rotate K id use start :: post))
    (kold : SlotKey) (hold : (run (Core.new key half dummy starts) pre).1.slots[id % 4]? = some kold)
    (d : Dgram) (n : Nat) (p : Bytes) (hid : d.keyId = id % 4) (hb : d.body = .sealed kold.key n p) :
    ∃ e, ((run (Core.new key half dummy starts) (pre ++ .rotate K id use start :: post)).1.decrypt d).2 = .error e := by
  have hused : kold.key ∈ [key, dummy] ++ rotatedKeys pre :=
    slot_keys_used pre (Core.new key half dummy starts) [key, dummy] (new_keys key half dummy starts)
      (id % 4) kold hold
  have hnot := (fresh_append hfresh).2 _ hused
  rw [run_append, run_cons]
  exact overwritten_key_rejected_forever _ K kold.key id use start post (fun h => hnot (h ▸ List.mem_cons_self))
    (fun h => hnot (List.mem_cons_of_mem _ h)) d n p hid hb

/-- non-vacuity: key 7 (slot 0) is overwritten by key 9 (id 4); the datagram accepted before is rejected after -/
example :
    Fresh [7, 8] ([.tick] ++ .rotate 9 4 true 3 :: [.tick, .seal [1]]) ∧
    ((run (Core.new 7 true 8 [5, 6, 7, 8]) [.tick]).1.slots[4 % 4]?).map SlotKey.key = some 7 ∧
    ((run (Core.new 7 true 8 [5, 6, 7, 8]) [.tick]).1.decrypt
      { hdr := [0, 0, 0, 0, 0, 0, 0, 9], body := .sealed 7 9 [4] }).2 = .ok [4] ∧
    ((run (Core.new 7 true 8 [5, 6, 7, 8]) ([.tick] ++ .rotate 9 4 true 3 :: [.tick, .seal [1]])).1.decrypt
      { hdr := [0, 0, 0, 0, 0, 0, 0, 9], body := .sealed 7 9 [4] }).2 = .error .openFailed := by
  decide +kernel

/-- **dies_in_two_ticks_session**: the headline of C03 for whole sessions.  Once a core has accepted a
    datagram with nonce `n'` under key `K`, then after two further ticks — with any other operations in
    between and after: seals, further datagrams, rotations — every datagram for the same slot under `K`
    with a nonce `n ≤ n'` (in particular a replay of the accepted one) is rejected, forever.
    Hypotheses: received datagrams consist of bytes (`DeliveredWF`), and `K` is not rotated in again
    later (key freshness, I3) — without the latter the statement is false, see below. -/
theorem dies_in_two_ticks_session (key : KeyRef) (half : Bool) (dummy : KeyRef) (starts : List Nat)
    (pre more : List SOp) (d' d : Dgram) (K : KeyRef) (n n' : Nat) (p p' : Bytes)
    (hwf : DeliveredWF (pre ++ .open d' :: more))
    (hacc : ((run (Core.new key half dummy starts) pre).1.decrypt d').2 = .ok p')
    (hb' : d'.body = .sealed K n' p') (hb : d.body = .sealed K n p) (hid : d.keyId = d'.keyId) (hle : n ≤ n')
    (hfresh : K ∉ rotatedKeys more) (h2 : 2 ≤ numTicks more) :
    ∃ e, ((run (Core.new key half dummy starts) (pre ++ .open d' :: more)).1.decrypt d).2 = .error e := by
  have hwfpre : DeliveredWF pre := fun x hx => hwf x (by rw [delivered_append]; exact List.mem_append_left _ hx)
  have hwfd' : Bytes.WF d'.hdr := hwf d' (by rw [delivered_append]; simp [delivered])
  have hwfmore : DeliveredWF more := fun x hx => hwf x (by rw [delivered_append]; simp [delivered, hx])
  obtain ⟨_, hid4, k, hk, _⟩ := C02.accepted_is_genuine _ d' p' hacc
  obtain ⟨k1, hk1, w, _⟩ := win_run d'.keyId key half 0 pre (Core.new key half dummy starts) [] _
    (new_slot key half dummy starts d'.keyId hid4) (window_new _ _ _) trivial hwfpre
  rw [hk] at hk1
  cases hk1
  rw [run_append, run_cons]
  exact replay_dies _ more d' d K n n' p p' k hk w.2.2.2 hwfd' hwfmore hacc hb' hb hid hle hfresh h2

/-- non-vacuity: datagram 9 accepted, then tick, a seal, a rotation of another slot, tick: 9 and the older 6 are dead -/
example :
    DeliveredWF ([.tick] ++ .open { hdr := [0, 0, 0, 0, 0, 0, 0, 9], body := .sealed 7 9 [4] } ::
      [.tick, .seal [1], .rotate 9 1 true 3, .tick]) ∧
    ((run (Core.new 7 true 8 [5, 6, 7, 8]) [.tick]).1.decrypt
      { hdr := [0, 0, 0, 0, 0, 0, 0, 9], body := .sealed 7 9 [4] }).2 = .ok [4] ∧
    7 ∉ rotatedKeys [.tick, .seal [1], .rotate 9 1 true 3, .tick] ∧
    2 ≤ numTicks [.tick, .seal [1], .rotate 9 1 true 3, .tick] ∧
    ((run (Core.new 7 true 8 [5, 6, 7, 8]) ([.tick] ++ .open { hdr := [0, 0, 0, 0, 0, 0, 0, 9], body := .sealed 7 9 [4] } ::
      [.tick, .seal [1], .rotate 9 1 true 3, .tick])).1.decrypt
      { hdr := [0, 0, 0, 0, 0, 0, 0, 6], body := .sealed 7 6 [4] }).2 = .error .oldNonce := by
  decide +kernel

/-- key freshness is necessary: if the same key is rotated into the slot again, the window restarts and the
    captured datagram is accepted a second time, long after two ticks -/
example :
    ((run (Core.new 7 true 8 [5, 6, 7, 8]) ([] ++ .open { hdr := [0, 0, 0, 0, 0, 0, 0, 9], body := .sealed 7 9 [4] } ::
      [.tick, .tick, .rotate 7 0 false 1])).1.decrypt
      { hdr := [0, 0, 0, 0, 0, 0, 0, 9], body := .sealed 7 9 [4] }).2 = .ok [4] ∧
    ((run (Core.new 7 true 8 [5, 6, 7, 8]) ([] ++ .open { hdr := [0, 0, 0, 0, 0, 0, 0, 9], body := .sealed 7 9 [4] } ::
      [.tick, .tick])).1.decrypt
      { hdr := [0, 0, 0, 0, 0, 0, 0, 9], body := .sealed 7 9 [4] }).2 = .error .oldNonce := by
  decide +kernel

end VpnCloud.Proofs.C04Session
