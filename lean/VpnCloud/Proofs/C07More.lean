import VpnCloud.Proofs.C07Keys
/-
  C07 — further theorems about key rotation.

  * Consequences of the inductive invariant `Inv` of `C07.lean` (`ids_interlock`, `sent_ids_bounded`, `only_latest_matters`,
    `receive_before_send`) and of its strengthening `InvL` (`latest_sent`: the end that is ahead has sent its latest message).
  * Lock-step progress: a round (`round`; `IsRound`: the messages of a round delivered in any order) from any reachable state leads
    to the steady state `Steady` (`isRound_spec`), from which every round advances both ids by exactly 2 and moves both sealing slots
    (`steady_isRound`); hence `lockstep_progress`, `lockstep_fresh` (2 rounds suffice; `lockstep_one_round_not_enough`: 1 does not),
    `lockstep_fresh_4`.
  * The keys themselves are replaced (`lockstep_new_keys`, `lockstep_fresh_keys`): after 3 or more rounds both current sealing keys
    are made of key pairs drawn after the start state, hence differ from every key held in any slot at the start.  The rounds only
    contribute the progress of the ids: `SinceS` (kept by every `Step`, `sinceS_step`) gives new keys on any schedule (`sinceS_keys`).
  Remark: the *index* of the sealing slot of an end alternates with period 2 rounds in the steady state (`id` grows by 2
  per round, slot = id-derived value mod 4), so "the slot index after exactly 4 rounds differs from the one at the start"
  is false; what changes for good is the id and the key, which is what is proved.
  Side-level lemmas: `Lemmas/Core/RotLemmas.lean`.
-/
namespace VpnCloud.Rot
open VpnCloud.Proofs.C07SessionLemmas

theorem inv_reachable {s : Sys} (h : Reachable s) : Inv s := reachable_lift inv_init inv4_symm inv4_rop h

/-- **ids_interlock**: the message ids of the two ends always differ by exactly one -/
theorem ids_interlock {s : Sys} (h : Reachable s) : s.x.id = s.y.id + 1 ∨ s.y.id = s.x.id + 1 := by
  rcases inv_reachable h with h | h
  · exact Or.inl h.idrel.symm
  · exact Or.inr h.idrel.symm

/-- every message ever sent by an end carries an id not above that end's current id -/
theorem sent_ids_bounded {s : Sys} (h : Reachable s) :
    (∀ m ∈ s.sentX, m.id ≤ s.x.id) ∧ (∀ m ∈ s.sentY, m.id ≤ s.y.id) := by
  rcases inv_reachable h with h | h
  · exact ⟨h.sxle, fun m hm => by have := h.syle m hm; have := h.idrel; omega⟩
  · exact ⟨fun m hm => by have := h.syle m hm; have := h.idrel; omega, h.sxle⟩

theorem ahead_only_latest {X Y : Side} {sx sy : List Msg} (h : Ahead X Y sx sy) {m : Msg} (hm : m ∈ sx) (f : Nat)
    (hne : process Y m f ≠ Y) : m.id = X.id := by
  by_cases hacc : m.id ≤ Y.id
  · exact absurd (process_ignore f hacc) hne
  · obtain ⟨p, _, rfl⟩ := h.accepted hm hacc
    rfl

/-- **only_latest_matters**: a delivered message changes the receiver only if it carries the sender's current (latest)
    id; duplicates and older messages are ignored — so loss, duplication and reordering of older messages cannot
    disturb the rotation -/
theorem only_latest_matters {s : Sys} (h : Reachable s) (m : Msg) (f : Nat) :
    (m ∈ s.sentX → process s.y m f ≠ s.y → m.id = s.x.id) ∧ (m ∈ s.sentY → process s.x m f ≠ s.x → m.id = s.y.id) := by
  rcases inv_reachable h with h | h
  · exact ⟨fun hm hne => ahead_only_latest h hm f hne, fun hm hne => absurd (ahead_delivX h hm f) hne⟩
  · exact ⟨fun hm hne => absurd (ahead_delivX h hm f) hne, fun hm hne => ahead_only_latest h hm f hne⟩

/-- **receive_before_send**: whenever an end switches its sealing slot to a new key (process installs with
    `cur := m.id % 4`), the peer already holds that key in the same slot -/
theorem receive_before_send {s : Sys} (h : Reachable s) (m : Msg) (hm : m ∈ s.sentY) :
    let x' := process s.x m s.fresh
    x'.cur ≠ s.x.cur → x'.slots x'.cur = s.y.slots x'.cur := by
  intro x' _
  exact (rotation_sync (Reachable.step h (Step.delivX s m hm))).1

/-- the mirror image for the other end -/
theorem receive_before_send_y {s : Sys} (h : Reachable s) (m : Msg) (hm : m ∈ s.sentX) :
    let y' := process s.y m s.fresh
    y'.cur ≠ s.y.cur → y'.slots y'.cur = s.x.slots y'.cur := by
  intro y' _
  exact (rotation_sync (Reachable.step h (Step.delivY s m hm))).2

/-- the strengthened invariant: `Inv` plus "the end that is ahead has sent its latest message" -/
def InvL (s : Sys) : Prop := AheadL s.x s.y s.sentX s.sentY ∨ AheadL s.y s.x s.sentY s.sentX

theorem invL_inv {s : Sys} (h : InvL s) : Inv s := h.imp And.left And.left

theorem invL_init : InvL initSys := Or.inl ⟨ahead_start 0 _ _ rfl, _, List.mem_singleton.2 rfl, rfl⟩

theorem invL_reachable {s : Sys} (h : Reachable s) : InvL s := reachable_lift invL_init invL4_symm invL4_rop h

/-- **latest_sent**: the end that is ahead has sent a message carrying its current id (so the peer can always catch up) -/
theorem latest_sent {s : Sys} (h : Reachable s) :
    (s.x.id = s.y.id + 1 → ∃ m ∈ s.sentX, m.id = s.x.id) ∧ (s.y.id = s.x.id + 1 → ∃ m ∈ s.sentY, m.id = s.y.id) := by
  rcases invL_reachable h with h | h
  · exact ⟨fun _ => h.2, fun e => by have := h.1.idrel; omega⟩
  · exact ⟨fun e => by have := h.1.idrel; omega, fun _ => h.2⟩

/-! ### the schedule as functions on `Sys` (each is one `Step`, resp. a sequence of `Step`s) -/

def cycleXStep (s : Sys) : Sys :=
  { s with x := (cycle s.x s.fresh).1, sentX := addMsg s.sentX (cycle s.x s.fresh).2, fresh := s.fresh + 1 }
def cycleYStep (s : Sys) : Sys :=
  { s with y := (cycle s.y s.fresh).1, sentY := addMsg s.sentY (cycle s.y s.fresh).2, fresh := s.fresh + 1 }
def delivXStep (s : Sys) (m : Msg) : Sys := { s with x := process s.x m s.fresh, fresh := s.fresh + 1 }
def delivYStep (s : Sys) (m : Msg) : Sys := { s with y := process s.y m s.fresh, fresh := s.fresh + 1 }

def deliverListX : Sys → List Msg → Sys
  | s, [] => s
  | s, m :: l => deliverListX (delivXStep s m) l
def deliverListY : Sys → List Msg → Sys
  | s, [] => s
  | s, m :: l => deliverListY (delivYStep s m) l

def roundWith (l1 l2 : List Msg) (s : Sys) : Sys :=
  deliverListX (cycleYStep (deliverListY (cycleXStep s) l1)) l2

/-- **one round of the loss-free lock-step schedule**: cycle at X; deliver every message X ever sent to Y; cycle at Y;
    deliver every message Y ever sent to X (here: in the order of the lists, newest first). -/
def round (s : Sys) : Sys :=
  let s1 := cycleXStep s
  let s3 := cycleYStep (deliverListY s1 s1.sentX)
  deliverListX s3 s3.sentY

/-- `t` is the result of one round from `s` with the messages delivered **in any order** (and any multiplicity ≥ 1):
    `l1` enumerates exactly the messages X has sent after its cycle, `l2` exactly those Y has sent after its cycle. -/
def IsRound (s t : Sys) : Prop :=
  ∃ l1 l2, (∀ m, m ∈ l1 ↔ m ∈ (cycleXStep s).sentX) ∧
    (∀ m, m ∈ l2 ↔ m ∈ (cycleYStep (deliverListY (cycleXStep s) l1)).sentY) ∧ t = roundWith l1 l2 s

theorem isRound_round (s : Sys) : IsRound s (round s) := ⟨_, _, fun _ => Iff.rfl, fun _ => Iff.rfl, rfl⟩

theorem deliverListX_eq (l : List Msg) : ∀ s : Sys,
    deliverListX s l = { s with x := procF s.x (l.zipIdx s.fresh), fresh := s.fresh + l.length } := by
  induction l with
  | nil => intro s; rfl
  | cons a l ih =>
    intro s
    show deliverListX (delivXStep s a) l = _
    rw [ih]
    simp only [delivXStep, procF, List.zipIdx_cons, List.length_cons]
    congr 1; omega

theorem deliverListY_eq (l : List Msg) : ∀ s : Sys,
    deliverListY s l = { s with y := procF s.y (l.zipIdx s.fresh), fresh := s.fresh + l.length } := by
  induction l with
  | nil => intro s; rfl
  | cons a l ih =>
    intro s
    show deliverListY (delivYStep s a) l = _
    rw [ih]
    simp only [delivYStep, procF, List.zipIdx_cons, List.length_cons]
    congr 1; omega

section steps
variable {P : Sys → Prop} (hP : ∀ {s t : Sys}, P s → Step s t → P t)
include hP

theorem deliverListX_inv (l : List Msg) : ∀ {s : Sys}, P s → (∀ m ∈ l, m ∈ s.sentY) → P (deliverListX s l) := by
  induction l with
  | nil => intro s h _; exact h
  | cons a l ih =>
    intro s h hl
    exact ih (s := delivXStep s a) (hP h (Step.delivX s a (hl a List.mem_cons_self)))
      (fun m hm => hl m (List.mem_cons_of_mem _ hm))

theorem deliverListY_inv (l : List Msg) : ∀ {s : Sys}, P s → (∀ m ∈ l, m ∈ s.sentX) → P (deliverListY s l) := by
  induction l with
  | nil => intro s h _; exact h
  | cons a l ih =>
    intro s h hl
    exact ih (s := delivYStep s a) (hP h (Step.delivY s a (hl a List.mem_cons_self)))
      (fun m hm => hl m (List.mem_cons_of_mem _ hm))

theorem isRound_inv {s t : Sys} (h : P s) (r : IsRound s t) : P t := by
  obtain ⟨l1, l2, h1, h2, rfl⟩ := r
  have r1 : P (cycleXStep s) := hP h (Step.cycleX s)
  have r2 := deliverListY_inv hP l1 r1 (fun m hm => (h1 m).1 hm)
  have r3 : P (cycleYStep (deliverListY (cycleXStep s) l1)) := hP r2 (Step.cycleY _)
  exact deliverListX_inv hP l2 r3 (fun m hm => (h2 m).1 hm)

end steps

theorem round_reachable {s : Sys} (h : Reachable s) : Reachable (round s) := isRound_inv Reachable.step h (isRound_round s)

/-- the steady state of the lock-step schedule: Y is ahead (and has sent its latest message), X has received it and
    will advance at its next cycle -/
def Steady (s : Sys) : Prop := AheadL s.y s.x s.sentY s.sentX ∧ Waiting s.x

theorem covers_zipIdx {l : List Msg} {sent : List Msg} (f : Nat) (h : ∀ m, m ∈ l ↔ m ∈ sent) : Covers (l.zipIdx f) sent := by
  intro m
  rw [← h m]
  exact ⟨fun ⟨p, hp, e⟩ => e ▸ List.fst_mem_of_mem_zipIdx hp, fun hm => by
    rw [← List.zipIdx_map_fst f l] at hm
    exact List.mem_map.1 hm⟩

theorem isRound_roundF {s t : Sys} (r : IsRound s t) : RoundF s.x s.y s.sentX s.sentY t.x t.y t.sentX t.sentY := by
  obtain ⟨l1, l2, h1, h2, rfl⟩ := r
  simp only [deliverListY_eq, cycleXStep, cycleYStep] at h1 h2
  rw [roundWith, deliverListX_eq, deliverListY_eq]
  exact ⟨s.fresh, s.fresh + 1 + l1.length, l1.zipIdx (s.fresh + 1), l2.zipIdx (s.fresh + 1 + l1.length + 1),
    covers_zipIdx _ h1, covers_zipIdx _ h2, rfl, rfl, rfl, rfl⟩

theorem isRound_spec {s t : Sys} (h : InvL s) (r : IsRound s t) :
    Steady t ∧ s.x.id ≤ t.x.id ∧ s.y.id ≤ t.y.id ∧ (Steady s → t.x.id = s.x.id + 2 ∧ t.y.id = s.y.id + 2) := by
  obtain ⟨a, b, c, d, e⟩ := roundF_spec h (isRound_roundF r)
  exact ⟨⟨a, b⟩, c, d, fun hs => e hs.1 hs.2⟩

theorem steady_invL {s : Sys} (h : Steady s) : InvL s := Or.inr h.1

theorem steady_isRound {s t : Sys} (h : Steady s) (r : IsRound s t) :
    Steady t ∧ t.x.id = s.x.id + 2 ∧ t.y.id = s.y.id + 2 ∧ t.x.cur ≠ s.x.cur ∧ t.y.cur ≠ s.y.cur := by
  obtain ⟨ht, _, _, hid⟩ := isRound_spec (steady_invL h) r
  obtain ⟨hx, hy⟩ := hid h
  obtain ⟨c1, c2⟩ := steady_cur h.1.1 h.2
  obtain ⟨d1, d2⟩ := steady_cur ht.1.1 ht.2
  have := h.1.1.idrel
  refine ⟨ht, hx, hy, ?_, ?_⟩
  · rw [c1, d1, hy, if_pos (by omega)]; split <;> omega
  · rw [c2, d2, hy, if_neg (by omega)]; split <;> omega

inductive IsRounds : Nat → Sys → Sys → Prop
  | zero (s : Sys) : IsRounds 0 s s
  | succ {n : Nat} {s t u : Sys} : IsRound s t → IsRounds n t u → IsRounds (n + 1) s u

def rounds : Nat → Sys → Sys
  | 0, s => s
  | n + 1, s => rounds n (round s)

theorem isRounds_rounds (n : Nat) : ∀ s : Sys, IsRounds n s (rounds n s) := by
  induction n with
  | zero => intro s; exact IsRounds.zero s
  | succ n ih => intro s; exact IsRounds.succ (isRound_round s) (ih (round s))

theorem isRounds_inv {P : Sys → Prop} (hP : ∀ {s t : Sys}, P s → Step s t → P t) {n : Nat} {s t : Sys} (r : IsRounds n s t)
    (h : P s) : P t := by
  induction r with
  | zero => exact h
  | succ r1 _ ih => exact ih (isRound_inv hP h r1)

theorem rounds_reachable (n : Nat) {s : Sys} (h : Reachable s) : Reachable (rounds n s) :=
  isRounds_inv Reachable.step (isRounds_rounds n s) h

theorem steady_isRounds {n : Nat} {s t : Sys} (r : IsRounds n s t) (h : Steady s) :
    Steady t ∧ t.x.id = s.x.id + 2 * n ∧ t.y.id = s.y.id + 2 * n := by
  induction r with
  | zero => exact ⟨h, rfl, rfl⟩
  | succ r1 _ ih =>
    obtain ⟨h1, a, b, _, _⟩ := steady_isRound h r1
    obtain ⟨h2, c, d⟩ := ih h1
    exact ⟨h2, by omega, by omega⟩

/-- **lockstep progress, general form** (messages delivered in any order within each round): from every reachable state,
    after `n + 1` rounds the system is in the steady state and both ids have increased by at least `2 * n` — the first
    round may be needed to resynchronise, every further round advances both ends by exactly 2. -/
theorem lockstep_progress {n : Nat} {s t : Sys} (h : Reachable s) (r : IsRounds (n + 1) s t) :
    Steady t ∧ s.x.id + 2 * n ≤ t.x.id ∧ s.y.id + 2 * n ≤ t.y.id := by
  cases r with
  | succ r1 rs =>
    obtain ⟨h1, a, b, _⟩ := isRound_spec (invL_reachable h) r1
    obtain ⟨h2, c, d⟩ := steady_isRounds rs h1
    exact ⟨h2, by omega, by omega⟩

/-- **lockstep_fresh** (strongest form in terms of ids): from every reachable state, after **2** rounds of the loss-free
    lock-step schedule both ends have advanced their id (i.e. each has installed a new key and made a new proposal). -/
theorem lockstep_fresh {s : Sys} (h : Reachable s) :
    (rounds 2 s).x.id > s.x.id ∧ (rounds 2 s).y.id > s.y.id := by
  obtain ⟨_, a, b⟩ := lockstep_progress (n := 1) h (isRounds_rounds 2 s)
  omega

/-- the 4-round form (ids, not slot indices: see the remark at the head of the file): after 4 rounds both ids have increased, by at least 6 -/
theorem lockstep_fresh_4 {s : Sys} (h : Reachable s) :
    (rounds 4 s).x.id ≥ s.x.id + 6 ∧ (rounds 4 s).y.id ≥ s.y.id + 6 := by
  obtain ⟨_, a, b⟩ := lockstep_progress (n := 3) h (isRounds_rounds 4 s)
  omega

/-- 2 rounds are necessary: one round from the initial state leaves X's id unchanged -/
theorem lockstep_one_round_not_enough : (rounds 1 initSys).x.id = initSys.x.id := by decide

/-- All key material an end holds was drawn before the current value of the fresh-counter.  No invariant of `Sys` of its own: the slots
    are not determined by the rest of the state, but in the logged system they are the log replayed (`slots_logged`) and every logged
    key is made of owned numbers, which the counter bounds (`KInv4`); every reachable state carries such logs (`greach_complete`). -/
theorem sides_old {s : Sys} (h : Reachable s) : SideOld s.fresh s.x ∧ SideOld s.fresh s.y := by
  obtain ⟨lx, ly, hg⟩ := greach_complete h
  obtain ⟨ox, oy, bx, by', _, hx, hy⟩ := kinv_reach hg
  obtain ⟨sx, sy⟩ := slots_logged hg
  have h0 : ∀ (b : Nat) (i : Nat), (if i = 0 then Key.init else Key.dummy b i).Old s.fresh := fun b i => by split <;> trivial
  exact ⟨hx.old bx by' sx (h0 0), hy.old by' bx sy (h0 1)⟩

def Since4 (I N : Nat) (X Y : Side) (sx sy : List Msg) : Prop :=
  (Ahead X Y sx sy ∧ Since I N X Y) ∨ (Ahead Y X sy sx ∧ Since I N Y X)

theorem since4_cycle {I N : Nat} {X Y : Side} {sx sy : List Msg} (h : Since4 I N X Y sx sy) {f : Nat} (hf : N ≤ f) :
    Since4 I N (cycle X f).1 Y (addMsg sx (cycle X f).2) sy := by
  rcases h with ⟨a, b⟩ | ⟨a, b⟩
  · exact Or.inl ⟨ahead_cycleX a f, (since_cycle_not_waiting b f).1 (ahead_not_waiting a)⟩
  · by_cases hw : Waiting X
    · exact Or.inl ⟨ahead_cycleY_waiting a hw f, since_cycleY_waiting a b hw hf⟩
    · exact Or.inr ⟨ahead_cycleY_not_waiting a hw f, (since_cycle_not_waiting b f).2 hw⟩

theorem since4_deliv {I N : Nat} {X Y : Side} {sx sy : List Msg} (h : Since4 I N X Y sx sy) {m : Msg} (hm : m ∈ sy) {f : Nat}
    (hf : N ≤ f) : Since4 I N (process X m f) Y sx sy := by
  rcases h with ⟨a, b⟩ | ⟨a, b⟩
  · rw [ahead_delivX a hm f]; exact Or.inl ⟨a, b⟩
  · exact Or.inr ⟨ahead_delivY a hm f, since_delivY b m hf⟩

def SinceS (I N : Nat) (s : Sys) : Prop := N ≤ s.fresh ∧ Since4 I N s.x s.y s.sentX s.sentY

theorem sinceS_step {I N : Nat} {s t : Sys} (h : SinceS I N s) (st : Step s t) : SinceS I N t := by
  obtain ⟨hN, h⟩ := h
  cases st with
  | cycleX => exact ⟨Nat.le_succ_of_le hN, since4_cycle h hN⟩
  | cycleY => exact ⟨Nat.le_succ_of_le hN, (since4_cycle h.symm hN).symm⟩
  | delivX m hm => exact ⟨Nat.le_succ_of_le hN, since4_deliv h hm hN⟩
  | delivY m hm => exact ⟨Nat.le_succ_of_le hN, (since4_deliv h.symm hm hN).symm⟩

theorem sinceS_start {s : Sys} (h : Inv s) {I : Nat} (hx : s.x.id ≤ I) (hy : s.y.id ≤ I) : SinceS I s.fresh s := by
  have base : ∀ {X Y : Side}, X.id ≤ I → Y.id ≤ I → Since I s.fresh X Y := fun hX hY =>
    ⟨fun h => absurd h (by omega), fun h => absurd h (by omega), fun h => absurd h (by omega), fun h => absurd h (by omega),
      fun d _ h3 => absurd h3 (by omega)⟩
  exact ⟨Nat.le_refl _, h.imp (fun a => ⟨a, base hx hy⟩) (fun a => ⟨a, base hy hx⟩)⟩

/-- **new keys for any schedule**: in whatever way `t` is reached from `s` (here: a property `SinceS` kept by every step), once the
    id of the end that is ahead in `t` exceeds every id of `s` by 4, both sealing keys of `t` are made of key pairs drawn after `s` -/
theorem sinceS_keys {I N : Nat} {t : Sys} (h : SinceS I N t) (hI : I + 4 ≤ t.x.id ∨ I + 4 ≤ t.y.id) :
    (t.x.slots t.x.cur).New N ∧ (t.y.slots t.y.cur).New N := by
  rcases h.2 with ⟨a, b⟩ | ⟨a, b⟩
  · exact b.keys a (by have := a.idrel; omega)
  · exact (b.keys a (by have := a.idrel; omega)).symm

/-- **lockstep_fresh_keys (general form)**: from every reachable state `s`, after `n + 3` rounds of the lock-step schedule
    (messages delivered in any order within each round) the current sealing key of either end is the shared secret of two
    ephemeral key pairs that were both drawn after `s` — the keys themselves keep being replaced, for ever. -/
theorem lockstep_new_keys {n : Nat} {s t : Sys} (h : Reachable s) (r : IsRounds (n + 3) s t) :
    (t.x.slots t.x.cur).New s.fresh ∧ (t.y.slots t.y.cur).New s.fresh := by
  obtain ⟨_, a, b⟩ := lockstep_progress (n := n + 2) h r
  have hs := sinceS_start (inv_reachable h) (Nat.le_max_left s.x.id s.y.id) (Nat.le_max_right s.x.id s.y.id)
  refine sinceS_keys (isRounds_inv sinceS_step r hs) ?_
  rcases Nat.le_total s.x.id s.y.id with hle | hle
  · rw [Nat.max_eq_right hle]; omega
  · rw [Nat.max_eq_left hle]; omega

/-- **lockstep_fresh_keys**: from every reachable state `s`, after 3 (or more) rounds of the loss-free lock-step schedule the
    current sealing key of either end differs from every key that either end held in any slot in `s`. -/
theorem lockstep_fresh_keys {s : Sys} (h : Reachable s) (n : Nat) (i : Nat) :
    let t := rounds (n + 3) s
    t.x.slots t.x.cur ≠ s.x.slots i ∧ t.x.slots t.x.cur ≠ s.y.slots i ∧
    t.y.slots t.y.cur ≠ s.x.slots i ∧ t.y.slots t.y.cur ≠ s.y.slots i := by
  intro t
  obtain ⟨a, b⟩ := lockstep_new_keys h (isRounds_rounds (n + 3) s)
  obtain ⟨hx, hy⟩ := sides_old h
  exact ⟨a.ne_old (hx.slots i), a.ne_old (hy.slots i), b.ne_old (hx.slots i), b.ne_old (hy.slots i)⟩

end VpnCloud.Rot
