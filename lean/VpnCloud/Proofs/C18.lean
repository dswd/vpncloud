import VpnCloud.Proofs.Lemmas.Codec.Base62Lemmas
/-
  C18 — the base-62 key text codec (`to_base62` / `from_base62` / `Crypto::key_from_base62`):
  no panic, value preservation, canonical form, error behaviour, round trip, and acceptance of
  every generated 32-byte key.  All statements are proved as given (no hypothesis added).
-/
namespace VpnCloud.Proofs.C18

open VpnCloud.Base62 VpnCloud.Spec.C18
open VpnCloud.Proofs.Base62Lemmas

theorem toBase62_spec (b : Bytes) (hb : Bytes.WF b) :
    ∃ ds, toBase62 b = some (ds.reverse.map digitChar) ∧ Canon 62 ds ∧
      leVal 62 ds = Bytes.beVal b := by
  obtain ⟨ds, e, c, v⟩ := toDigits_spec (b.length * 2) b hb [] (canon_nil 62) (by simp only [List.length_nil]; omega)
  refine ⟨ds, ?_, c, ?_⟩
  · simp only [toBase62, e]
    exact congrArg some (List.map_congr_left fun d hd => alphabet_getD d (c.1 d (List.mem_reverse.mp hd)))
  · rw [v]; simp

/-- `to_base62` prints the big-endian value of the bytes in base 62.  With it the text of concrete bytes is
    obtained by a few divisions of one large number instead of running the schoolbook loops. -/
theorem toBase62_eq (b : Bytes) (hb : Bytes.WF b) : toBase62 b = some (natText (Bytes.beVal b)) := by
  obtain ⟨ds, e, c, v⟩ := toBase62_spec b hb
  obtain ⟨c', v'⟩ := digitsLE_spec 62 (by decide) _ _ (Nat.le_refl (Bytes.beVal b))
  rw [e, canon_unique 62 ds _ c c' (v.trans v'.symm)]; rfl

theorem canon_text_head (ds : List Nat) (hc : Canon 62 ds) :
    (ds.reverse.map digitChar).head? ≠ some '0' := by
  rw [List.head?_map, List.head?_reverse]
  intro h
  cases hl : ds.getLast? with
  | none => rw [hl] at h; cases h
  | some d =>
    rw [hl] at h
    simp only [Option.map_some, Option.some.injEq] at h
    have hd : d < 62 := hc.1 d (List.mem_of_getLast? hl)
    have := digitChar_zero d hd h
    subst this
    exact hc.2 hl

/-- decoding a text of base-62 digits: proper bytes with the same value and no leading zero byte (any other text
    gives an error that names a character which is no digit: `fromBase62_error`) -/
theorem fromBase62_value (cs : List Char) (h : ∀ c ∈ cs, (charVal c).isSome) :
    ∃ bs, fromBase62 cs = .ok bs ∧ Bytes.WF bs ∧ textVal cs = some (Bytes.beVal bs) ∧ bs.head? ≠ some 0 := by
  obtain ⟨out, e, c, v⟩ := fromChars_spec cs h [] (canon_nil 256)
  refine ⟨out.reverse, ?_, ?_, ?_, ?_⟩
  · simp only [fromBase62, e]
  · intro x hx; exact c.1 x (List.mem_reverse.mp hx)
  · rw [textVal_eq, beVal_reverse]; exact v
  · rw [List.head?_reverse]; exact c.2

/-- `to_base62` never panics (neither the `assert!(d < 62)` nor the index `buf[buflen]`) -/
theorem toBase62_total (b : Bytes) (hb : Bytes.WF b) : (toBase62 b).isSome := by
  obtain ⟨ds, e, _, _⟩ := toBase62_spec b hb
  rw [e]; rfl

/-- value preservation and canonical form: the text denotes the same number as the bytes and has no leading '0' -/
theorem toBase62_value (b : Bytes) (hb : Bytes.WF b) :
    ∃ cs, toBase62 b = some cs ∧ textVal cs = some (Bytes.beVal b) ∧ cs.head? ≠ some '0' := by
  obtain ⟨ds, e, c, v⟩ := toBase62_spec b hb
  exact ⟨_, e, by rw [textVal_digits ds c.1, v], canon_text_head ds c⟩

theorem fromBase62_error (cs : List Char) (h : ¬ ∀ c ∈ cs, (charVal c).isSome) :
    ∃ c, fromBase62 cs = .error c ∧ (charVal c).isNone := by
  obtain ⟨c, e, hn⟩ := fromChars_error cs h []
  exact ⟨c, by simp only [fromBase62, e], hn⟩

/-- round trip up to the leading zero bytes that the text form cannot express -/
theorem from_to (b : Bytes) (hb : Bytes.WF b) :
    ∃ cs, toBase62 b = some cs ∧ fromBase62 cs = .ok (dropLeadingZeros b) := by
  obtain ⟨ds, e, c, v⟩ := toBase62_spec b hb
  obtain ⟨bs, e2, wf, tv, hd⟩ := fromBase62_value _ (digits_chars_valid ds c.1)
  refine ⟨_, e, ?_⟩
  rw [e2]
  congr 1
  apply be_unique bs _ wf (dlz_wf b hb) hd (dlz_spec b).choose_spec.2
  rw [textVal_digits ds c.1, v] at tv
  rw [dlz_val]
  exact (Option.some.inj tv).symm

theorem keyFromBase62_restore (k : Bytes) (hl : k.length = 32) (cs : List Char)
    (h : fromBase62 cs = .ok (dropLeadingZeros k)) : keyFromBase62 cs = .ok k := by
  obtain ⟨z, h1, _⟩ := dlz_spec k
  have hlen : z + (dropLeadingZeros k).length = 32 := by
    have := congrArg List.length h1
    rw [List.length_append, List.length_replicate] at this
    omega
  simp only [keyFromBase62, h]
  congr 1
  rw [show 32 - (dropLeadingZeros k).length = z by omega]
  exact h1.symm

/-- every 32-byte key survives printing and parsing, whatever its leading bytes are -/
theorem generated_key_accepted (k : Bytes) (hk : Bytes.WF k) (hl : k.length = 32) :
    ∃ cs, toBase62 k = some cs ∧ keyFromBase62 cs = .ok k ∧ parsePublicKey cs = some k ∧
      parsePrivateKey cs = some k := by
  obtain ⟨cs, e, h⟩ := from_to k hk
  have hk' := keyFromBase62_restore k hl cs h
  refine ⟨cs, e, hk', ?_, ?_⟩
  · simp only [parsePublicKey, hk', hl, if_true]
  · simp only [parsePrivateKey, hk', hl, if_true]

/-- key generation with the cryptographic functions as parameters: for every seed source and every public-key
    derivation that return 32 proper bytes, both printed keys are accepted and denote the same keys -/
theorem generated_pair_usable (pubOf : Bytes → Bytes) (seed : Bytes)
    (hs : Bytes.WF seed ∧ seed.length = 32) (hp : Bytes.WF (pubOf seed) ∧ (pubOf seed).length = 32) :
    ∃ priv pub, generateKeypair pubOf seed = some (priv, pub) ∧ parsePrivateKey priv = some seed ∧
      parsePublicKey pub = some (pubOf seed) := by
  obtain ⟨a, ea, _, _, ha⟩ := generated_key_accepted seed hs.1 hs.2
  obtain ⟨b, eb, _, hb, _⟩ := generated_key_accepted (pubOf seed) hp.1 hp.2
  exact ⟨a, b, by simp only [generateKeypair, ea, eb], ha, hb⟩

/-! ## non-vacuity: concrete values -/

/-- `Except` has no `DecidableEq` instance in core; needed only for the `decide` examples below -/
local instance exceptDecEq {ε α : Type} [DecidableEq ε] [DecidableEq α] : DecidableEq (Except ε α)
  | .ok a, .ok b => if h : a = b then isTrue (by rw [h]) else isFalse (fun e => h (Except.ok.inj e))
  | .error a, .error b => if h : a = b then isTrue (by rw [h]) else isFalse (fun e => h (Except.error.inj e))
  | .ok _, .error _ => isFalse (fun e => by cases e)
  | .error _, .ok _ => isFalse (fun e => by cases e)

/-- a 32-byte key that starts with two zero bytes -/
def keyZ : Bytes :=
  [0, 0, 3, 4, 5, 6, 7, 8, 9, 10, 11, 12, 13, 14, 15, 16, 17, 18, 19, 20, 21, 22, 23, 24, 25, 26, 27, 28, 29, 30, 31, 255]

def keyZText : List Char := "2bEepJNwWlzybARLTGCTrQrHHfqGzqMLGjwuhVQF".toList

theorem keyZ_wf : Bytes.WF keyZ ∧ keyZ.length = 32 := by decide
example : Bytes.WF keyZ ∧ keyZ.length = 32 := keyZ_wf

theorem keyZText_eq : toBase62 keyZ = some keyZText := by
  rw [toBase62_eq keyZ keyZ_wf.1]
  unfold keyZText
  rewrite [String.toList_ofList]
  decide +kernel

theorem keyZ_accepted : fromBase62 keyZText = .ok (dropLeadingZeros keyZ) ∧ keyFromBase62 keyZText = .ok keyZ ∧
    parsePublicKey keyZText = some keyZ ∧ parsePrivateKey keyZText = some keyZ := by
  obtain ⟨cs, e, h⟩ := from_to keyZ keyZ_wf.1
  obtain ⟨cs', e', h'⟩ := generated_key_accepted keyZ keyZ_wf.1 keyZ_wf.2
  rw [keyZText_eq, Option.some.injEq] at e e'
  subst e e'
  exact ⟨h, h'⟩

example : toBase62 keyZ = some keyZText := keyZText_eq
example : fromBase62 keyZText = .ok (keyZ.drop 2) := keyZ_accepted.1
example : dropLeadingZeros keyZ = keyZ.drop 2 := by decide
example : keyFromBase62 keyZText = .ok keyZ := keyZ_accepted.2.1
example : parsePublicKey keyZText = some keyZ ∧ parsePrivateKey keyZText = some keyZ := keyZ_accepted.2.2
/-- the all-zero key prints as the empty text and is restored from it -/
example : toBase62 (List.replicate 32 0) = some [] ∧ parsePublicKey [] = some (List.replicate 32 0) := by
  decide +kernel
/-- the largest key needs 43 of the 64 digits of the buffer -/
example : (toBase62 (List.replicate 32 255)).map List.length = some 43 := by
  rw [toBase62_eq _ (Bytes.wf_replicate _ _ (by decide))]; decide +kernel
example : toBase62 [84, 101, 115, 116] = some "1Xp7Ke".toList := by rw [toBase62_eq _ (by decide)]; decide +kernel
example : textVal "1Xp7Ke".toList = some (Bytes.beVal [84, 101, 115, 116]) := by decide +kernel
example : fromBase62 "1Xp7Ke".toList = .ok [84, 101, 115, 116] := by decide +kernel
/-- leading '0' characters are accepted by the decoder and do not change the value -/
example : fromBase62 "001Xp7Ke".toList = .ok [84, 101, 115, 116] := by decide +kernel
/-- the decoder reports the first character that is not alphanumeric -/
example : fromBase62 "1Xp-7K_e".toList = .error '-' ∧ (charVal '-').isNone := by decide +kernel
/-- a text that denotes a number of more than 32 bytes is rejected by the key parsers -/
example : parsePublicKey (List.replicate 44 'z') = none ∧ parsePrivateKey (List.replicate 44 'z') = none := by
  decide +kernel
/-- the generic hypotheses of `generated_pair_usable` are satisfiable -/
example : ∃ priv pub, generateKeypair (fun s => s.reverse) keyZ = some (priv, pub) ∧
    parsePrivateKey priv = some keyZ ∧ parsePublicKey pub = some keyZ.reverse :=
  generated_pair_usable (fun s => s.reverse) keyZ keyZ_wf (by decide)

end VpnCloud.Proofs.C18
