import VpnCloud.Proofs.C05
import VpnCloud.Proofs.C06
import VpnCloud.Proofs.C16Init
/-
  C05 "lockstep_completes" — the loss-free handshake completes with agreement.

  Two fresh handshake objects `a` (initiator) and `b` (responder) of two parties that trust each other's key;
  `(a1, ping) := sendPing env a r1`, then ping → `b`, pong → `a1`, peng → `b1`.  For every choice of the random parts
  `r1 … r4` all three deliveries succeed (stages PENG / WAITING_TO_CLOSE / CLOSING, each end reports the other's payload),
  and the ends agree: same selected cipher, slot 0 of both cores holds `masterKey c r1.ecdhPub r2.ecdhPub`, opposite
  halves; or both plain.  (`lockstep_completes`, `lockstep_completes_run`; the steps: `ping_accepted`,
  `pong_completes_initiator`, `peng_completes_responder`.)

  The messages and seal logs of the run are given in closed form (`pingMsg`, `pongMsg`, `pengMsg`, `log2`, `log3`, `wire`);
  that the model emits exactly these is part of the conclusion, so the hypotheses about them ((ii) signatures, (iv) ideal
  AEAD) are hypotheses about "the messages as the model builds them".

  Hypotheses (`Hyps`, = `HypsS (negotiated a b)` + `nego`), all of the kinds (i)–(vi):
  (i)   widths: hashes 20 bytes; per message salt 4 bytes, signature < 256 bytes, salted key hash 4 bytes (`RandWF`);
        ephemeral keys 32 proper bytes (`EcdhWF`); payloads < 65536 - 24 bytes and accepted by `ok`; ciphertexts at most
        payload + tag long; cipher lists with 32-bit speeds (`algosWF`) and without duplicates (`NoDup`); slot-0 counter
        starts < 2^48;
  (ii)  `env` verifies the three signatures (`SigOk`);
  (iii) each receiver finds exactly the sender's key under the salted key hash (`Finds`);
  (iv)  `bodyOf` maps `r2.ct`, `r3.ct` to what the seal logs record (`Opens … log2`, `Opens … log3`; empty logs when plain);
  (v)   the salted node-id hashes differ as numbers, neither is the salted hash of the other's node id;
  (vi)  the negotiation does not fail.
  Not needed (and not assumed): that the throw-away key reference `dummy` differs from the master key — the payloads of
  this run address key slot 0.  Of `Fresh` only `b.stage`, `a.crypto`, `b.crypto` are used.
  Non-vacuity: `Toy.hyps_cipher`, `Toy.hyps_plain` and the examples behind them.
-/
namespace VpnCloud.Proofs.C05Lockstep

open VpnCloud.Init VpnCloud.InitMsg VpnCloud.Spec.C04 VpnCloud.Spec.C06
open VpnCloud.Proofs.InitLemmas VpnCloud.Proofs.LockstepLemmas
open VpnCloud.Proofs.C16Init (algosWF initmsg_roundtrip)

structure Fresh (st : InitSt) : Prop where
  stage : st.stage = Generated.STAGE_PING
  ecdh : st.ecdh = none
  last : st.last = none
  crypto : st.crypto = none
  retries : st.retries = 0

/-- nonce of the first seal of a fresh core of the given half whose slot-0 counter starts at `start` (increment before use) -/
def firstNonce (half : Bool) (start : Nat) : Nat := (if half then HALF else 0) + start + 1

/-- payload field of a pong / peng: sealed (key id 0, 7 counter bytes, ciphertext) if a cipher was selected, else the plain payload -/
def payloadField (sel : Option Cipher) (half : Bool) (r : Rand) (plain : Bytes) : Bytes :=
  match sel with
  | some _ => 0 :: Bytes.ofBE 7 (firstNonce half r.start) ++ r.ct
  | none => plain

/-- seal log of a pong / peng: the ciphertext bytes stand for `plain` sealed under the master key with the first nonce -/
def sealLog (sel : Option Cipher) (r1 r2 : Rand) (half : Bool) (r : Rand) (plain : Bytes) : SealLog :=
  match sel with
  | some c => [(r.ct, .sealed (masterKey c r1.ecdhPub r2.ecdhPub) (firstNonce half r.start) plain)]
  | none => []

def pingMsg (a : InitSt) (r1 : Rand) : InitMsg := .ping a.hash r1.ecdhPub a.algos
def pongMsgS (sel : Option Cipher) (a b : InitSt) (r2 : Rand) : InitMsg :=
  .pong b.hash r2.ecdhPub b.algos (payloadField sel (bytesGt b.hash a.hash) r2 b.payload)
def pengMsgS (sel : Option Cipher) (a b : InitSt) (r3 : Rand) : InitMsg :=
  .peng a.hash (payloadField sel (bytesGt a.hash b.hash) r3 a.payload)

/-- the datagram of message `m` sent by `sender` with the random parts `r` -/
def wire (env : CryptoEnv) (sender : InitSt) (m : InitMsg) (r : Rand) : Bytes :=
  writeTo m r.salt (env.keyHash sender.ownKey r.salt) r.sig

/-- the signature `r.sig` of `sender` on message `m` verifies -/
def SigOk (env : CryptoEnv) (sender : InitSt) (m : InitMsg) (r : Rand) : Prop :=
  env.sigVerify sender.ownKey (signedRegion m r.salt (env.keyHash sender.ownKey r.salt)) r.sig = true

/-- `receiver` finds exactly the sender's key under the salted key hash of a message salted with `r.salt` -/
def Finds (env : CryptoEnv) (receiver sender : InitSt) (r : Rand) : Prop :=
  receiver.trusted.find? (fun tk => env.keyHash tk r.salt = env.keyHash sender.ownKey r.salt) = some sender.ownKey

/-- `bodyOf` is the ideal AEAD on the entries of a seal log -/
def Opens (bodyOf : BodyOf) (log : SealLog) : Prop := ∀ e ∈ log, bodyOf e.1 = e.2

/-- widths of the random parts of one message -/
structure RandWF (env : CryptoEnv) (sender : InitSt) (r : Rand) : Prop where
  salt : r.salt.length = 4
  sig : r.sig.length < 256
  keyHash : (env.keyHash sender.ownKey r.salt).length = 4

/-- a 32-byte ephemeral public key -/
def EcdhWF (k : Bytes) : Prop := k.length = 32 ∧ Bytes.WF k

/-- hypotheses of the run except (vi), for the negotiation result `sel` -/
structure HypsS (sel : Option Cipher) (env : CryptoEnv) (bodyOf : BodyOf) (ok : Bytes → Bool) (a b : InitSt) (r1 r2 r3 : Rand) : Prop where
  freshA : Fresh a
  freshB : Fresh b
  -- (i) widths
  hashA : a.hash.length = 20
  hashB : b.hash.length = 20
  rand1 : RandWF env a r1
  rand2 : RandWF env b r2
  rand3 : RandWF env a r3
  ecdh1 : EcdhWF r1.ecdhPub
  ecdh2 : EcdhWF r2.ecdhPub
  payloadA : a.payload.length < 65536 - 24
  payloadB : b.payload.length < 65536 - 24
  payloadOkA : ok a.payload = true
  payloadOkB : ok b.payload = true
  ct2 : r2.ct.length ≤ b.payload.length + Generated.TAG_LEN
  ct3 : r3.ct.length ≤ a.payload.length + Generated.TAG_LEN
  algosA : algosWF a.algos
  algosB : algosWF b.algos
  nodupA : NoDup a.algos
  nodupB : NoDup b.algos
  start2 : r2.start < 2 ^ 48
  start3 : r3.start < 2 ^ 48
  -- (ii) signatures
  sig1 : SigOk env a (pingMsg a r1) r1
  sig2 : SigOk env b (pongMsgS sel a b r2) r2
  sig3 : SigOk env a (pengMsgS sel a b r3) r3
  -- (iii) trust
  finds1 : Finds env b a r1
  finds2 : Finds env a b r2
  finds3 : Finds env b a r3
  -- (iv) ideal AEAD
  opens2 : Opens bodyOf (sealLog sel r1 r2 (bytesGt b.hash a.hash) r2 b.payload)
  opens3 : Opens bodyOf (sealLog sel r1 r2 (bytesGt a.hash b.hash) r3 a.payload)
  -- (v) two different nodes
  hashNe : Bytes.beVal a.hash ≠ Bytes.beVal b.hash
  notSelfA : checkSaltedNodeIdHash env b.hash a.nodeId = false
  notSelfB : checkSaltedNodeIdHash env a.hash b.nodeId = false

/-- what the second and third delivery need to know about the responder after the first -/
structure RespReady (sel : Option Cipher) (a b : InitSt) (r1 r2 : Rand) (b1 : InitSt) : Prop where
  stage : b1.stage = Generated.STAGE_PENG
  hash : b1.hash = b.hash
  nodeId : b1.nodeId = b.nodeId
  trusted : b1.trusted = b.trusted
  selected : b1.selected = sel
  crypto : ∀ c, sel = some c → ∃ core, b1.crypto = some core ∧
    Slot0 core (masterKey c r1.ecdhPub r2.ecdhPub) (bytesGt b.hash a.hash) (firstNonce (bytesGt b.hash a.hash) r2.start)
  plain : sel = none → b1.crypto = none

/-- state of the initiator's side after the second delivery -/
structure InitDone (sel : Option Cipher) (a b : InitSt) (r1 r2 r3 : Rand) (a2 : InitSt) : Prop where
  stage : a2.stage = Generated.WAITING_TO_CLOSE
  selected : a2.selected = sel
  crypto : ∀ c, sel = some c → ∃ core, a2.crypto = some core ∧
    Slot0 core (masterKey c r1.ecdhPub r2.ecdhPub) (bytesGt a.hash b.hash) (firstNonce (bytesGt a.hash b.hash) r3.start)
  plain : sel = none → a2.crypto = none

/-- state of the responder's side after the third delivery -/
structure RespDone (sel : Option Cipher) (a b : InitSt) (r1 r2 : Rand) (b2 : InitSt) : Prop where
  stage : b2.stage = Generated.CLOSING
  selected : b2.selected = sel
  crypto : ∀ c, sel = some c → ∃ core, b2.crypto = some core ∧
    Slot0 core (masterKey c r1.ecdhPub r2.ecdhPub) (bytesGt b.hash a.hash) (firstNonce (bytesGt b.hash a.hash) r2.start)
  plain : sel = none → b2.crypto = none

theorem sealed_take_drop (n : Nat) (ct : Bytes) :
    (0 :: Bytes.ofBE 7 n ++ ct).take 8 = 0 :: Bytes.ofBE 7 n ∧ (0 :: Bytes.ofBE 7 n ++ ct).drop 8 = ct := by
  have hl : (0 :: Bytes.ofBE 7 n).length = 8 := by simp [Bytes.ofBE_length]
  exact ⟨List.take_left' hl, List.drop_left' hl⟩

theorem payloadField_length (sel : Option Cipher) (half : Bool) (r : Rand) (plain : Bytes)
    (hp : plain.length < 65536 - 24) (hct : r.ct.length ≤ plain.length + Generated.TAG_LEN) :
    (payloadField sel half r plain).length < 65536 := by
  cases sel with
  | none => simp only [payloadField]; omega
  | some c =>
    simp only [payloadField, List.length_append, List.length_cons, Bytes.ofBE_length]
    simp only [Generated.TAG_LEN] at hct
    omega

theorem firstNonce_eq (half : Bool) (start : Nat) : firstNonce half start = base half + (start + 1) := by
  simp only [firstNonce, base, Nat.add_assoc]

theorem accept_wire {env : CryptoEnv} (bodyOf : BodyOf) (ok : Bytes → Bool) {x sender : InitSt} {m : InitMsg} {r : Rand} (rnd : Rand)
    (hm : C16Init.msgWF m) (hw : RandWF env sender r) (hf : Finds env x sender r) (hs : SigOk env sender m r) (hne : x.hash ≠ m.hash)
    (hself : checkSaltedNodeIdHash env m.hash x.nodeId = false) (hst : m.stage = x.stage) :
    handleInit env bodyOf ok x (wire env sender m r) rnd = handleMsg env bodyOf ok x m rnd := by
  have hr := initmsg_roundtrip env m r.salt r.sig [] sender.ownKey x.trusted hm hw.salt hw.keyHash hw.sig hf hs
  rw [List.append_nil] at hr
  exact handleInit_accept env bodyOf ok x _ rnd m _ hr hne hself hst

/-! ### the payload field, sealed or plain

  The only place where the run depends on whether a cipher was negotiated is the payload field of pong and peng. -/

/-- the core of an object that negotiated `sel` with the ephemeral keys of `r1`, `r2`: none when plain, else slot 0 holds their master
    key, sends in `half` and has sent up to `send` -/
structure CoreAt (sel : Option Cipher) (r1 r2 : Rand) (half : Bool) (send : Nat) (cr : Option Core) : Prop where
  sealed : ∀ c, sel = some c → ∃ core, cr = some core ∧ Slot0 core (masterKey c r1.ecdhPub r2.ecdhPub) half send
  plain : sel = none → cr = none

theorem crypto_none_eta {s : InitSt} (h : s.crypto = none) : s = { s with crypto := none } := by
  cases s; simp only at h; subst h; rfl

theorem encryptPayload_field {sel : Option Cipher} {r1 r2 : Rand} {half : Bool} (s : InitSt) (r : Rand) (hs : r.start < 2 ^ 48)
    (hc : CoreAt sel r1 r2 half (base half + r.start) s.crypto) :
    ∃ cr, encryptPayload s r = ({ s with crypto := cr }, payloadField sel half r s.payload, sealLog sel r1 r2 half r s.payload) ∧
      CoreAt sel r1 r2 half (firstNonce half r.start) cr := by
  cases sel with
  | none =>
    refine ⟨none, ?_, fun c h => (by cases h), fun _ => rfl⟩
    rw [encryptPayload_none _ _ (hc.2 rfl), ← crypto_none_eta (hc.2 rfl)]
    rfl
  | some c =>
    obtain ⟨core, hcore, h0⟩ := hc.1 c rfl
    obtain ⟨e1, e2⟩ := slot0_encrypt s.payload h0 (first_nonce_lt _ _ hs)
    refine ⟨_, ?_, fun c' h => by cases h; exact ⟨_, rfl, e2⟩, fun h => by cases h⟩
    rw [encryptPayload_some _ _ _ hcore, e1]
    rfl

theorem decryptPayload_field {sel : Option Cipher} {r1 r2 : Rand} {half : Bool} {send : Nat} (s : InitSt) (bodyOf : BodyOf) (r : Rand)
    (plain : Bytes) (hs : r.start < 2 ^ 48) (hc : CoreAt sel r1 r2 (!half) send s.crypto)
    (ho : Opens bodyOf (sealLog sel r1 r2 half r plain)) :
    ∃ cr, decryptPayload s bodyOf (payloadField sel half r plain) = ({ s with crypto := cr }, some plain) ∧
      CoreAt sel r1 r2 (!half) send cr := by
  cases sel with
  | none =>
    refine ⟨none, ?_, fun c h => (by cases h), fun _ => rfl⟩
    rw [decryptPayload_none _ _ _ (hc.2 rfl), ← crypto_none_eta (hc.2 rfl)]
    rfl
  | some c =>
    obtain ⟨core, hcore, h0⟩ := hc.1 c rfl
    obtain ⟨et, ed⟩ := sealed_take_drop (firstNonce half r.start) r.ct
    have hbody : bodyOf r.ct = .sealed (masterKey c r1.ecdhPub r2.ecdhPub) (firstNonce half r.start) plain :=
      ho _ (List.mem_singleton.2 rfl)
    have hopen := slot0_opens h0 (r.start + 1) (start_succ_lt _ hs) plain
    rw [← firstNonce_eq] at hopen
    refine ⟨_, decryptPayload_ok s bodyOf _ core plain hcore ?_, fun c' h => by cases h; exact ⟨_, rfl, slot0_decrypt _ h0⟩,
      fun h => by cases h⟩
    simp only [payloadField]
    rw [et, ed, hbody]
    exact hopen

theorem pingSt_eq (st0 : InitSt) (h e : Bytes) (sel : Option Cipher) (rnd : Rand) :
    pingSt st0 h e sel rnd = { st0 with retries := 0, selected := sel, crypto := (pingSt st0 h e sel rnd).crypto } := by
  cases sel <;> rfl

theorem coreAt_new {sel : Option Cipher} {r1 r2 : Rand} {half : Bool} {start : Nat} {cr cr0 : Option Core} (h0 : cr0 = none)
    (hcr : ∀ c, sel = some c → ∃ d ss, cr = some (Core.new (masterKey c r1.ecdhPub r2.ecdhPub) half d (start :: ss)))
    (hn : sel = none → cr = cr0) : CoreAt sel r1 r2 half (base half + start) cr := by
  refine ⟨fun c hc => ?_, fun hc => (hn hc).trans h0⟩
  obtain ⟨d, ss, rfl⟩ := hcr c hc
  exact ⟨_, rfl, slot0_new _ _ _ _ _⟩

section steps
variable {sel : Option Cipher} {env : CryptoEnv} {bodyOf : BodyOf} {ok : Bytes → Bool} {a b : InitSt} {r1 r2 r3 : Rand}

theorem HypsS.key_comm (H : HypsS sel env bodyOf ok a b r1 r2 r3) (c : Cipher) :
    masterKey c r2.ecdhPub r1.ecdhPub = masterKey c r1.ecdhPub r2.ecdhPub :=
  C05.masterKey_comm_wf c _ _ ⟨H.ecdh2.2, H.ecdh1.2⟩ (by rw [H.ecdh2.1, H.ecdh1.1])

theorem HypsS.half_opp (H : HypsS sel env bodyOf ok a b r1 r2 r3) : bytesGt a.hash b.hash = !bytesGt b.hash a.hash :=
  C05.halves_opposite _ _ H.hashNe

def sentPing (env : CryptoEnv) (a : InitSt) (r1 : Rand) : InitSt :=
  { a with ecdh := some r1.ecdhPub, last := some (wire env a (pingMsg a r1) r1), stage := Generated.STAGE_PONG }

theorem sendPing_eq (env : CryptoEnv) (a : InitSt) (r1 : Rand) :
    sendPing env a r1 = (sentPing env a r1, wire env a (pingMsg a r1) r1) := rfl

theorem ping_accepted_S (H : HypsS sel env bodyOf ok a b r1 r2 r3) (hnego : selectAlgorithm a.algos b.algos = .ok sel) :
    ∃ b1, handleInit env bodyOf ok b (wire env a (pingMsg a r1) r1) r2 =
        .ok b1 (wire env b (pongMsgS sel a b r2) r2, .continue, sealLog sel r1 r2 (bytesGt b.hash a.hash) r2 b.payload) ∧
      RespReady sel a b r1 r2 b1 := by
  rw [accept_wire bodyOf ok r2 (m := pingMsg a r1) ⟨H.hashA, by rw [H.ecdh1.1]; decide, H.algosA⟩ H.rand1 H.finds1 H.sig1
    (fun e => hash_ne_of_beVal H.hashNe e.symm) H.notSelfB (by rw [H.freshB.stage]; rfl)]
  have hsel : selectAlgorithm b.algos a.algos = .ok sel := by
    rw [C06.select_symm _ _ H.nodupB H.nodupA]; exact hnego
  have hc : CoreAt sel r1 r2 (bytesGt b.hash a.hash) (base (bytesGt b.hash a.hash) + r2.start)
      (pingSt b a.hash r1.ecdhPub sel r2).crypto :=
    coreAt_new H.freshB.crypto (fun c hc => by subst hc; exact ⟨_, _, by rw [← H.key_comm c]; rfl⟩) (fun hc => by subst hc; rfl)
  obtain ⟨cr, he, hcr⟩ := encryptPayload_field (pingSt b a.hash r1.ecdhPub sel r2) r2 H.start2 hc
  rw [pingMsg, handleMsg_ping_ok env bodyOf ok b _ _ _ r2 sel hsel, pingRes, sendMessage_pong, he, pingSt_eq]
  exact ⟨_, rfl, rfl, rfl, rfl, rfl, rfl, hcr.1, hcr.2⟩

theorem pong_completes_initiator_S (H : HypsS sel env bodyOf ok a b r1 r2 r3) (hnego : selectAlgorithm a.algos b.algos = .ok sel) :
    ∃ a2, handleInit env bodyOf ok (sendPing env a r1).1 (wire env b (pongMsgS sel a b r2) r2) r3 =
        .ok a2 (wire env a (pengMsgS sel a b r3) r3, .success b.payload true, sealLog sel r1 r2 (bytesGt a.hash b.hash) r3 a.payload) ∧
      InitDone sel a b r1 r2 r3 a2 := by
  rw [sendPing_eq]
  simp only
  rw [accept_wire bodyOf ok (x := sentPing env a r1) r3 (m := pongMsgS sel a b r2)
    ⟨H.hashB, by rw [H.ecdh2.1]; decide, H.algosB, payloadField_length _ _ _ _ H.payloadB H.ct2⟩ H.rand2 H.finds2 H.sig2
    (hash_ne_of_beVal H.hashNe) H.notSelfA rfl]
  -- the fresh core of the initiator opens the pong payload and then seals the peng payload
  have hc : CoreAt sel r1 r2 (bytesGt a.hash b.hash) (base (bytesGt a.hash b.hash) + r3.start)
      (pongSt (sentPing env a r1) r1.ecdhPub r2.ecdhPub b.hash sel r3).crypto :=
    coreAt_new H.freshA.crypto (fun c hc => by subst hc; exact ⟨_, _, rfl⟩) (fun hc => by subst hc; rfl)
  have hc' := hc
  rw [H.half_opp] at hc'
  obtain ⟨cr, hd, hcr⟩ := decryptPayload_field (pongSt (sentPing env a r1) r1.ecdhPub r2.ecdhPub b.hash sel r3) bodyOf r2 b.payload
    H.start2 hc' H.opens2
  rw [← H.half_opp] at hcr
  obtain ⟨cr', he, hcr'⟩ := encryptPayload_field (r1 := r1) (r2 := r2)
    { pongSt (sentPing env a r1) r1.ecdhPub r2.ecdhPub b.hash sel r3 with crypto := cr } r3 H.start3 hcr
  rw [pongMsgS, handleMsg_pong_ok env bodyOf ok (sentPing env a r1) _ _ _ _ r3 r1.ecdhPub sel _ b.payload rfl hnego hd H.payloadOkB,
    pongRes, sendMessage_peng, he, pongSt_eq]
  exact ⟨_, rfl, rfl, rfl, hcr'.1, hcr'.2⟩

theorem peng_completes_responder_S (H : HypsS sel env bodyOf ok a b r1 r2 r3) (b1 : InitSt) (hb1 : RespReady sel a b r1 r2 b1) (r4 : Rand) :
    ∃ b2, handleInit env bodyOf ok b1 (wire env a (pengMsgS sel a b r3) r3) r4 = .ok b2 ([], .success a.payload false, []) ∧
      RespDone sel a b r1 r2 b2 := by
  rw [accept_wire bodyOf ok (x := b1) r4 (m := pengMsgS sel a b r3) ⟨H.hashA, payloadField_length _ _ _ _ H.payloadA H.ct3⟩ H.rand3
    (by unfold Finds; rw [hb1.trusted]; exact H.finds3) H.sig3 (by rw [hb1.hash]; exact fun e => hash_ne_of_beVal H.hashNe e.symm)
    (by rw [hb1.nodeId]; exact H.notSelfB) (by rw [hb1.stage]; rfl)]
  have hc : CoreAt sel r1 r2 (!bytesGt a.hash b.hash) (firstNonce (bytesGt b.hash a.hash) r2.start)
      ({ b1 with retries := 0 } : InitSt).crypto := by
    rw [H.half_opp, Bool.not_not]; exact ⟨hb1.crypto, hb1.plain⟩
  obtain ⟨cr, hd, hcr⟩ := decryptPayload_field { b1 with retries := 0 } bodyOf r3 a.payload H.start3 hc H.opens3
  rw [H.half_opp, Bool.not_not] at hcr
  rw [pengMsgS, handleMsg_peng_ok env bodyOf ok b1 _ _ r4 _ a.payload hd H.payloadOkA]
  exact ⟨_, rfl, rfl, hb1.selected, hcr.1, hcr.2⟩

end steps

/-- what both ends select (`none` = plain; also `none` when the negotiation fails, which `Hyps.nego` excludes) -/
def negotiated (a b : InitSt) : Option Cipher :=
  match selectAlgorithm a.algos b.algos with
  | .ok s => s
  | .error _ => none

/-- the three messages and the two seal logs of the run, as the model builds them (this is part of the conclusion of `lockstep_completes`) -/
def pongMsg (a b : InitSt) (r2 : Rand) : InitMsg := pongMsgS (negotiated a b) a b r2
def pengMsg (a b : InitSt) (r3 : Rand) : InitMsg := pengMsgS (negotiated a b) a b r3
def log2 (a b : InitSt) (r1 r2 : Rand) : SealLog := sealLog (negotiated a b) r1 r2 (bytesGt b.hash a.hash) r2 b.payload
def log3 (a b : InitSt) (r1 r2 r3 : Rand) : SealLog := sealLog (negotiated a b) r1 r2 (bytesGt a.hash b.hash) r3 a.payload

/-- all hypotheses of `lockstep_completes`: those of `HypsS` for the negotiated cipher, and (vi) the negotiation does not fail -/
structure Hyps (env : CryptoEnv) (bodyOf : BodyOf) (ok : Bytes → Bool) (a b : InitSt) (r1 r2 r3 : Rand) : Prop
    extends HypsS (negotiated a b) env bodyOf ok a b r1 r2 r3 where
  nego : ∀ e, selectAlgorithm a.algos b.algos ≠ .error e

def Agreement (a b : InitSt) (r1 r2 r3 : Rand) (a2 b2 : InitSt) : Prop :=
  match selectAlgorithm a.algos b.algos with
  | .ok (some c) =>
    a2.selected = some c ∧ b2.selected = some c ∧
    ∃ ca cb, a2.crypto = some ca ∧ b2.crypto = some cb ∧
      (ca.slots[0]?.map (·.key)) = some (masterKey c r1.ecdhPub r2.ecdhPub) ∧
      (cb.slots[0]?.map (·.key)) = some (masterKey c r1.ecdhPub r2.ecdhPub) ∧
      ca.cur = 0 ∧ cb.cur = 0 ∧ ca.half = bytesGt a.hash b.hash ∧ cb.half = !ca.half
  | .ok none =>
    a2.selected = none ∧ b2.selected = none ∧ a2.crypto = none ∧ b2.crypto = none ∧
    pongMsg a b r2 = .pong b.hash r2.ecdhPub b.algos b.payload ∧ pengMsg a b r3 = .peng a.hash a.payload ∧
    log2 a b r1 r2 = [] ∧ log3 a b r1 r2 r3 = []
  | .error _ => False

theorem Hyps.nego_eq {env : CryptoEnv} {bodyOf : BodyOf} {ok : Bytes → Bool} {a b : InitSt} {r1 r2 r3 : Rand}
    (H : Hyps env bodyOf ok a b r1 r2 r3) : selectAlgorithm a.algos b.algos = .ok (negotiated a b) := by
  unfold negotiated
  cases h : selectAlgorithm a.algos b.algos with
  | ok s => rfl
  | error e => exact absurd h (H.nego e)

/-- **first delivery**: the responder accepts the ping and answers with the pong -/
theorem ping_accepted (env : CryptoEnv) (bodyOf : BodyOf) (ok : Bytes → Bool) (a b : InitSt) (r1 r2 r3 : Rand)
    (H : Hyps env bodyOf ok a b r1 r2 r3) :
    ∃ b1, handleInit env bodyOf ok b (sendPing env a r1).2 r2 = .ok b1 (wire env b (pongMsg a b r2) r2, .continue, log2 a b r1 r2) ∧
      b1.stage = Generated.STAGE_PENG := by
  obtain ⟨b1, h, hb1⟩ := ping_accepted_S H.toHypsS H.nego_eq
  exact ⟨b1, h, hb1.stage⟩

/-- **second delivery**: the initiator accepts the pong, reports the responder's payload and answers with the peng -/
theorem pong_completes_initiator (env : CryptoEnv) (bodyOf : BodyOf) (ok : Bytes → Bool) (a b : InitSt) (r1 r2 r3 : Rand)
    (H : Hyps env bodyOf ok a b r1 r2 r3) :
    ∃ a2, handleInit env bodyOf ok (sendPing env a r1).1 (wire env b (pongMsg a b r2) r2) r3 =
        .ok a2 (wire env a (pengMsg a b r3) r3, .success b.payload true, log3 a b r1 r2 r3) ∧
      a2.stage = Generated.WAITING_TO_CLOSE := by
  obtain ⟨a2, h, ha2⟩ := pong_completes_initiator_S H.toHypsS H.nego_eq
  exact ⟨a2, h, ha2.stage⟩

/-- **third delivery** (for the state `b1` the first delivery leaves behind): the responder accepts the peng and reports the
    initiator's payload -/
theorem peng_completes_responder (env : CryptoEnv) (bodyOf : BodyOf) (ok : Bytes → Bool) (a b : InitSt) (r1 r2 r3 r4 : Rand)
    (H : Hyps env bodyOf ok a b r1 r2 r3) (b1 : InitSt) (out : Bytes) (log : SealLog)
    (h1 : handleInit env bodyOf ok b (sendPing env a r1).2 r2 = .ok b1 (out, .continue, log)) :
    ∃ b2, handleInit env bodyOf ok b1 (wire env a (pengMsg a b r3) r3) r4 = .ok b2 ([], .success a.payload false, []) ∧
      b2.stage = Generated.CLOSING := by
  obtain ⟨b1', h, hb1⟩ := ping_accepted_S H.toHypsS H.nego_eq
  have e : b1' = b1 := by
    rw [show (sendPing env a r1).2 = wire env a (pingMsg a r1) r1 from rfl, h] at h1
    simp only [Outcome.ok.injEq] at h1
    exact h1.1
  subst e
  obtain ⟨b2, h3, hb2⟩ := peng_completes_responder_S H.toHypsS b1' hb1 r4
  exact ⟨b2, h3, hb2.stage⟩

/-- **lockstep_completes**: the loss-free handshake completes, and the two ends agree -/
theorem lockstep_completes (env : CryptoEnv) (bodyOf : BodyOf) (ok : Bytes → Bool) (a b : InitSt) (r1 r2 r3 r4 : Rand)
    (H : Hyps env bodyOf ok a b r1 r2 r3) :
    ∃ b1 a2 b2 : InitSt,
      handleInit env bodyOf ok b (sendPing env a r1).2 r2 =
        .ok b1 (wire env b (pongMsg a b r2) r2, .continue, log2 a b r1 r2) ∧
      b1.stage = Generated.STAGE_PENG ∧
      handleInit env bodyOf ok (sendPing env a r1).1 (wire env b (pongMsg a b r2) r2) r3 =
        .ok a2 (wire env a (pengMsg a b r3) r3, .success b.payload true, log3 a b r1 r2 r3) ∧
      a2.stage = Generated.WAITING_TO_CLOSE ∧
      handleInit env bodyOf ok b1 (wire env a (pengMsg a b r3) r3) r4 = .ok b2 ([], .success a.payload false, []) ∧
      b2.stage = Generated.CLOSING ∧
      Agreement a b r1 r2 r3 a2 b2 := by
  have hn := H.nego_eq
  obtain ⟨b1, h1, hb1⟩ := ping_accepted_S H.toHypsS hn
  obtain ⟨a2, h2, ha2⟩ := pong_completes_initiator_S H.toHypsS hn
  obtain ⟨b2, h3, hb2⟩ := peng_completes_responder_S H.toHypsS b1 hb1 r4
  refine ⟨b1, a2, b2, h1, hb1.stage, h2, ha2.stage, h3, hb2.stage, ?_⟩
  unfold Agreement
  rw [hn]
  cases hs : negotiated a b with
  | none =>
    simp only
    refine ⟨by rw [ha2.selected, hs], by rw [hb2.selected, hs], ha2.plain hs, hb2.plain hs, ?_, ?_, ?_, ?_⟩
    · simp only [pongMsg, pongMsgS, hs, payloadField]
    · simp only [pengMsg, pengMsgS, hs, payloadField]
    · simp only [log2, hs, sealLog]
    · simp only [log3, hs, sealLog]
  | some c =>
    simp only
    obtain ⟨ca, hca, sa⟩ := ha2.crypto c hs
    obtain ⟨cb, hcb, sb⟩ := hb2.crypto c hs
    refine ⟨by rw [ha2.selected, hs], by rw [hb2.selected, hs], ca, cb, hca, hcb,
      (slot0_coreOK sa).1, (slot0_coreOK sb).1, sa.cur, sb.cur, sa.half, ?_⟩
    rw [sb.half, sa.half, H.half_opp, Bool.not_not]

/-- the same, in the form "run the model, whatever it returns" -/
theorem lockstep_completes_run (env : CryptoEnv) (bodyOf : BodyOf) (ok : Bytes → Bool) (a b : InitSt) (r1 r2 r3 r4 : Rand)
    (H : Hyps env bodyOf ok a b r1 r2 r3) (a1 : InitSt) (ping : Bytes) (hp : sendPing env a r1 = (a1, ping)) :
    ∃ b1 pong l2, handleInit env bodyOf ok b ping r2 = .ok b1 (pong, .continue, l2) ∧ b1.stage = Generated.STAGE_PENG ∧
    ∃ a2 peng l3, handleInit env bodyOf ok a1 pong r3 = .ok a2 (peng, .success b.payload true, l3) ∧
      a2.stage = Generated.WAITING_TO_CLOSE ∧
    ∃ b2, handleInit env bodyOf ok b1 peng r4 = .ok b2 ([], .success a.payload false, []) ∧ b2.stage = Generated.CLOSING ∧
      Opens bodyOf l2 ∧ Opens bodyOf l3 ∧ Agreement a b r1 r2 r3 a2 b2 := by
  obtain ⟨b1, a2, b2, h1, s1, h2, s2, h3, s3, hag⟩ := lockstep_completes env bodyOf ok a b r1 r2 r3 r4 H
  rw [hp] at h1 h2
  exact ⟨b1, _, _, h1, s1, a2, _, _, h2, s2, b2, h3, s3, H.opens2, H.opens3, hag⟩

/-! ## non-vacuity: a toy instance satisfying every hypothesis -/

namespace Toy

/-- toy cryptography: "hashes" are prefixes of the concatenation, every signature verifies -/
def env : CryptoEnv :=
  { keyHash := fun k s => (k ++ s).take 4, nodeHash := fun s i => (s ++ i).take 16, sigVerify := fun _ _ _ => true }

def okP : Bytes → Bool := fun p => p.length ≤ 2

def A (al : Algos) : InitSt :=
  { nodeId := [1], hash := List.replicate 20 1, payload := [10, 11], ownKey := [7, 7, 7, 7], trusted := [[8, 8, 8, 8], [9, 9, 9, 9]], algos := al }
def B (al : Algos) : InitSt :=
  { nodeId := [2], hash := List.replicate 20 2, payload := [20], ownKey := [9, 9, 9, 9], trusted := [[7, 7, 7, 7]], algos := al }

def algosA : Algos := ⟨[(.aes128, 10), (.chacha, 30)], false⟩
def algosB : Algos := ⟨[(.chacha, 20), (.aes128, 25)], true⟩
def plainA : Algos := ⟨[(.aes128, 10)], true⟩
def plainB : Algos := ⟨[], true⟩

def R1 : Rand := { salt := [0, 0, 0, 1], ecdhPub := List.replicate 32 5, sig := [1, 2, 3] }
def R2 : Rand := { salt := [0, 0, 0, 2], ecdhPub := List.replicate 32 6, start := 100, starts123 := [1, 2, 3],
                   ct := List.replicate 17 170, sig := [4, 5], dummy := 1 }
def R3 : Rand := { salt := [0, 0, 0, 3], start := 200, starts123 := [4, 5, 6], ct := List.replicate 18 187, sig := [6], dummy := 1 }
def R4 : Rand := {}

/-- the ideal AEAD of this run: the two ciphertexts stand for what the seal logs record, everything else is garbage -/
def body (a b : InitSt) : BodyOf := fun x =>
  match (log2 a b R1 R2 ++ log3 a b R1 R2 R3).find? (fun e => e.1 = x) with
  | some e => e.2
  | none => .garbage x.length

theorem sel_cipher : selectAlgorithm algosA algosB = .ok (some .chacha) := rfl
theorem sel_plain : selectAlgorithm plainA plainB = .ok none := rfl

theorem hyps_of (alA alB : Algos) (wA : algosWF alA) (wB : algosWF alB) (nA : NoDup alA) (nB : NoDup alB)
    (o2 : Opens (body (A alA) (B alB)) (log2 (A alA) (B alB) R1 R2)) (o3 : Opens (body (A alA) (B alB)) (log3 (A alA) (B alB) R1 R2 R3))
    (hn : ∀ e, selectAlgorithm alA alB ≠ .error e) : Hyps env (body (A alA) (B alB)) okP (A alA) (B alB) R1 R2 R3 where
  freshA := ⟨rfl, rfl, rfl, rfl, rfl⟩
  freshB := ⟨rfl, rfl, rfl, rfl, rfl⟩
  hashA := rfl
  hashB := rfl
  rand1 := ⟨rfl, by decide, rfl⟩
  rand2 := ⟨rfl, by decide, rfl⟩
  rand3 := ⟨rfl, by decide, rfl⟩
  ecdh1 := ⟨rfl, by decide⟩
  ecdh2 := ⟨rfl, by decide⟩
  -- `decide` does not take a goal with `alA`, `alB` in it: the closed form of the goal is given
  payloadA := (by decide : [10, 11].length < 65536 - 24)
  payloadB := (by decide : [20].length < 65536 - 24)
  payloadOkA := rfl
  payloadOkB := rfl
  ct2 := (by decide : R2.ct.length ≤ [20].length + Generated.TAG_LEN)
  ct3 := (by decide : R3.ct.length ≤ [10, 11].length + Generated.TAG_LEN)
  algosA := wA
  algosB := wB
  nodupA := nA
  nodupB := nB
  start2 := by decide
  start3 := by decide
  sig1 := rfl
  sig2 := rfl
  sig3 := rfl
  finds1 := by unfold Finds; rfl
  finds2 := by unfold Finds; rfl
  finds3 := by unfold Finds; rfl
  opens2 := o2
  opens3 := o3
  hashNe := by show Bytes.beVal (List.replicate 20 1) ≠ Bytes.beVal (List.replicate 20 2); decide +kernel
  notSelfA := rfl
  notSelfB := rfl
  nego := hn

/-- every hypothesis holds (cipher negotiated: chacha) -/
theorem hyps_cipher : Hyps env (body (A algosA) (B algosB)) okP (A algosA) (B algosB) R1 R2 R3 :=
  hyps_of _ _ (by unfold algosWF; decide) (by unfold algosWF; decide) (by unfold NoDup; decide) (by unfold NoDup; decide)
    (by unfold Opens; decide +kernel) (by unfold Opens; decide +kernel) (fun e h => by cases sel_cipher.symm.trans h)

/-- so the conclusion holds for this run -/
example : ∃ b1 a2 b2 : InitSt,
    handleInit env (body (A algosA) (B algosB)) okP (B algosB) (sendPing env (A algosA) R1).2 R2 =
      .ok b1 (wire env (B algosB) (pongMsg (A algosA) (B algosB) R2) R2, .continue, log2 (A algosA) (B algosB) R1 R2) ∧
    b1.stage = Generated.STAGE_PENG ∧
    handleInit env (body (A algosA) (B algosB)) okP (sendPing env (A algosA) R1).1 (wire env (B algosB) (pongMsg (A algosA) (B algosB) R2) R2) R3 =
      .ok a2 (wire env (A algosA) (pengMsg (A algosA) (B algosB) R3) R3, .success [20] true, log3 (A algosA) (B algosB) R1 R2 R3) ∧
    a2.stage = Generated.WAITING_TO_CLOSE ∧
    handleInit env (body (A algosA) (B algosB)) okP b1 (wire env (A algosA) (pengMsg (A algosA) (B algosB) R3) R3) R4 =
      .ok b2 ([], .success [10, 11] false, []) ∧
    b2.stage = Generated.CLOSING ∧
    Agreement (A algosA) (B algosB) R1 R2 R3 a2 b2 :=
  lockstep_completes _ _ _ _ _ _ _ _ R4 hyps_cipher

/-- and `Agreement` is the cipher branch there: both cores hold the chacha master key of the two ephemeral keys -/
example (a2 b2 : InitSt) (h : Agreement (A algosA) (B algosB) R1 R2 R3 a2 b2) :
    a2.selected = some .chacha ∧ b2.selected = some .chacha ∧
    ∃ ca cb, a2.crypto = some ca ∧ b2.crypto = some cb ∧
      (ca.slots[0]?.map (·.key)) = some (masterKey .chacha R1.ecdhPub R2.ecdhPub) ∧
      (cb.slots[0]?.map (·.key)) = some (masterKey .chacha R1.ecdhPub R2.ecdhPub) ∧
      ca.cur = 0 ∧ cb.cur = 0 ∧ ca.half = false ∧ cb.half = !ca.half := h

/-- the seal logs of that run are not empty: the ideal-AEAD hypotheses (iv) really constrain `bodyOf` -/
example : log2 (A algosA) (B algosB) R1 R2 = [(R2.ct, .sealed (masterKey .chacha R1.ecdhPub R2.ecdhPub) (HALF + 101) [20])] ∧
    log3 (A algosA) (B algosB) R1 R2 R3 = [(R3.ct, .sealed (masterKey .chacha R1.ecdhPub R2.ecdhPub) 201 [10, 11])] := by
  decide +kernel

/-- independent check by evaluation of the model on that run (results and final stages) -/
def runCheck (a b : InitSt) : Bool :=
  let (a1, w1) := sendPing env a R1
  match handleInit env (body a b) okP b w1 R2 with
  | .ok b1 (w2, .continue, _) =>
    match handleInit env (body a b) okP a1 w2 R3 with
    | .ok a2 (w3, .success p true, _) =>
      match handleInit env (body a b) okP b1 w3 R4 with
      | .ok b2 ([], .success q false, []) =>
        p == b.payload && q == a.payload && a2.stage == Generated.WAITING_TO_CLOSE && b2.stage == Generated.CLOSING &&
        (a2.crypto.map (fun c => c.slots[0]?.map (·.key))) == (b2.crypto.map (fun c => c.slots[0]?.map (·.key))) &&
        (a2.crypto.map (·.half)) == (b2.crypto.map (fun c => !c.half))
      | _ => false
    | _ => false
  | _ => false

example : runCheck (A algosA) (B algosB) = true := by decide +kernel
example : runCheck (A plainA) (B plainB) = true := by decide +kernel

/-- every hypothesis holds (plain negotiated) -/
theorem hyps_plain : Hyps env (body (A plainA) (B plainB)) okP (A plainA) (B plainB) R1 R2 R3 :=
  hyps_of _ _ (by unfold algosWF; decide) (by unfold algosWF; decide) (by unfold NoDup; decide) (by unfold NoDup; decide)
    (by unfold Opens; decide +kernel) (by unfold Opens; decide +kernel) (fun e h => by cases sel_plain.symm.trans h)

example : ∃ b1 a2 b2 : InitSt,
    handleInit env (body (A plainA) (B plainB)) okP (B plainB) (sendPing env (A plainA) R1).2 R2 =
      .ok b1 (wire env (B plainB) (pongMsg (A plainA) (B plainB) R2) R2, .continue, log2 (A plainA) (B plainB) R1 R2) ∧
    b1.stage = Generated.STAGE_PENG ∧
    handleInit env (body (A plainA) (B plainB)) okP (sendPing env (A plainA) R1).1 (wire env (B plainB) (pongMsg (A plainA) (B plainB) R2) R2) R3 =
      .ok a2 (wire env (A plainA) (pengMsg (A plainA) (B plainB) R3) R3, .success [20] true, log3 (A plainA) (B plainB) R1 R2 R3) ∧
    a2.stage = Generated.WAITING_TO_CLOSE ∧
    handleInit env (body (A plainA) (B plainB)) okP b1 (wire env (A plainA) (pengMsg (A plainA) (B plainB) R3) R3) R4 =
      .ok b2 ([], .success [10, 11] false, []) ∧
    b2.stage = Generated.CLOSING ∧
    Agreement (A plainA) (B plainB) R1 R2 R3 a2 b2 :=
  lockstep_completes _ _ _ _ _ _ _ _ R4 hyps_plain

end Toy

end VpnCloud.Proofs.C05Lockstep
