import VpnCloud.Proofs.Lemmas.Handshake.C05AgreeLemmas
/-
  C05 — agreement of the handshake for ALL schedules (two-party system with an adversarial network).

  1. `responder_success_binds` — the responder's counterpart of `C05.initiator_success_binds` (hypotheses `hcr`, `hdummy`, each with a
     counterexample: `Toy.hcr_needed`, `Toy.hdummy_needed`).
  2. `Sys` / `Step` / `Reach` — two `InitSt` objects, the ghost logs `sent`, `sigs`, `seals`, `doneA`, `doneB`; steps: either side
     initiates (`ping`), `every_second` at either side (`tick`), the network delivers ANY bytes to either side (`deliver`, `deliverErr`).
     Loss, duplication, reordering, delay, truncation, extension and injection are all instances of "deliver any bytes, any number of
     times, or never".  Hypotheses of the theorems (nothing is postulated):
       (I1) ideal signatures — side condition `I1` of the delivery steps, pointwise for the delivered window: what verifies under a
            trusted key was signed (exactly these bytes) by an honest object (ghost `sigs`);
       (AEAD) `Opens bodyOf s.seals` on the final state (as in `C05Lockstep`): on logged ciphertexts `bodyOf` is what the log records;
       (I3') side conditions `RandOK` of the steps: ephemeral keys are 32-byte strings, throw-away keys are no master keys, widths.
     Not needed: (I2) in its "only if" form and freshness of ephemeral keys — every accepted message is authenticated by (I1), so its
     payload field is the genuine one, and each object lives for one attempt only (no restart step in this system).
  3. `attempt_agreement` (+ `attempt_agreement_payloads`, `success_at_most_once`, `static_reach`, `role_switch_exclusive`):
     safety for all schedules, single and dual open, with NO partner hypothesis: in the closed two-party system two completed ends
     are always partners (`Agree.partner`).  `Toy.opens_needed`: the statement is false without the AEAD hypothesis.
  4. Non-vacuity: `Toy.both_completed` (single open, chacha), `Toy.dual_open_completed` (both initiate, A switches role), with a toy
     environment whose signature verification accepts exactly the signatures of the run.

  The proof is an inductive invariant (`Inv`, = `Inv2` of `Lemmas/Handshake/C05AgreeLemmas.lean`) over ghost records of the ping answer
  and the completion of each object: `MsgBy` is what a signed pong / peng of an object says about its key and payload, `ObjInv` the
  per-object facts, `Inv2.bridge` the use of (I1), `Inv2.agree_init` the agreement argument.
-/
namespace VpnCloud.Proofs.C05Agree

open VpnCloud.Init VpnCloud.InitMsg
open VpnCloud.Proofs.InitLemmas VpnCloud.Proofs.C05AgreeLemmas
open VpnCloud.Proofs.C05Lockstep (Opens)
open VpnCloud.Proofs.C16Init (algosWF)

/-- the conclusion of `responder_success_binds` -/
def RespBound (env : CryptoEnv) (bodyOf : BodyOf) (st0 st1 st2 : InitSt) (w1 w2 : Bytes) (rnd1 : Rand) (out1 p : Bytes)
    (log1 : SealLog) : Prop :=
  ∃ ha ea aa k1 hb pl k2, InitMsg.readFrom env w1 st0.trusted = .ok (.ping ha ea aa, k1) ∧
      InitMsg.readFrom env w2 st1.trusted = .ok (.peng hb pl, k2) ∧ st2.stage = Generated.CLOSING ∧
      (match selectAlgorithm st0.algos aa with
       | .ok (some c) => st1.selected = some c ∧ st2.selected = some c ∧
           ∃ plPong n1, out1 = wireOf env st0 (.pong st0.hash rnd1.ecdhPub st0.algos plPong) rnd1 ∧ plPong.drop 8 = rnd1.ct ∧
             log1 = [(rnd1.ct, .sealed (masterKey c rnd1.ecdhPub ea) n1 st0.payload)] ∧
           ∃ core n, st2.crypto = some core ∧ key0 core = some (masterKey c rnd1.ecdhPub ea) ∧ core.half = bytesGt st0.hash ha ∧
             bodyOf (pl.drop 8) = .sealed (masterKey c rnd1.ecdhPub ea) n p
       | .ok none => st2.selected = none ∧ st2.crypto = none ∧
           out1 = wireOf env st0 (.pong st0.hash rnd1.ecdhPub st0.algos st0.payload) rnd1 ∧ p = pl
       | .error _ => False)

/-- **responder key binding** (counterpart of `C05.initiator_success_binds`): an object that answers a ping (first step: stage PING → PENG,
    sending its pong with the ephemeral key `rnd1.ecdhPub`) and then completes on a peng (second step) holds the core it created when it
    answered the ping — slot 0 has `masterKey c own ea` for its own ephemeral key `own = rnd1.ecdhPub` and the `ea` of that ping, with the
    cipher `c` it selected then and the nonce half of the hash comparison — and the payload `p` it reports was sealed under exactly that
    key; with no cipher selected it reports the transmitted payload.

    Hypotheses added (counterexamples below): `hcr` — the object has no core when the ping arrives (true of a fresh object; otherwise,
    with plain negotiated, a left-over core opens the peng payload); `hdummy` — nothing is ever sealed under the throw-away key of
    slots 1..3 of the core created for the pong (otherwise a peng payload addressed to key id 1..3 and sealed under that key is
    accepted). -/
theorem responder_success_binds (env : CryptoEnv) (bodyOf : BodyOf) (ok : Bytes → Bool) (st0 st1 st2 : InitSt) (w1 w2 : Bytes)
    (rnd1 rnd2 : Rand) (out1 out2 p : Bytes) (log1 log2 : SealLog)
    (hstage : st0.stage = Generated.STAGE_PING) (hcr : st0.crypto = none)
    (hdummy : ∀ x n q, bodyOf x ≠ .sealed rnd1.dummy n q)
    (h1 : handleInit env bodyOf ok st0 w1 rnd1 = .ok st1 (out1, .continue, log1)) (hs1 : st1.stage = Generated.STAGE_PENG)
    (h2 : handleInit env bodyOf ok st1 w2 rnd2 = .ok st2 (out2, .success p false, log2)) :
    RespBound env bodyOf st0 st1 st2 w1 w2 rnd1 out1 p log1 := by
  unfold RespBound
  obtain ⟨ha, ea, aa, k1, st0', sel, hr1, hsel, hst0, hR⟩ :=
    (h1 ▸ handleInit_eff env bodyOf ok st0 w1 rnd1).answered (by rw [hstage]; decide) hs1
  -- the object awaited no pong: no role switch
  obtain rfl : st0 = st0' := by
    rcases hst0 with ⟨h, _⟩ | ⟨_, h, _⟩
    · exact h.symm
    · rw [hstage] at h; exact absurd h (by decide)
  rcases (handleInit_success_cases env bodyOf ok st1 st2 w2 rnd2 out2 p false log2 h2).2 with
    ⟨hf, _⟩ | ⟨_, _, st2', hst2, hb, pl, k2, hr2, hd⟩
  · cases hf
  subst hst2
  refine ⟨ha, ea, aa, k1, hb, pl, k2, hr1, hr2, rfl, ?_⟩
  rw [hsel]
  cases sel with
  | some c =>
    obtain ⟨core, n1, plPong, heq, hd8, _, hkeys⟩ := LockstepLemmas.pingRes_some env st0 ha ea c rnd1
    rw [heq] at hR
    simp only [Outcome.ok.injEq, Prod.mk.injEq, true_and] at hR
    obtain ⟨hst1, hout1, hlog1⟩ := hR
    subst hst1
    have hk := hkeys (fun k => k = rnd1.dummy) rfl
    obtain ⟨core', hst2, hk', n, hn | ⟨k', hk1, hk2⟩⟩ := LockstepLemmas.decryptPayload_keys hd rfl hk
    · exact ⟨rfl, by rw [hst2], plPong, n1, hout1, hd8, hlog1, _, n, by rw [hst2], hk'.1.1, hk'.1.2, hn⟩
    · subst hk1; exact absurd hk2 (hdummy _ _ _)
  | none =>
    rw [LockstepLemmas.pingRes_none env st0 ha ea rnd1 hcr] at hR
    simp only [Outcome.ok.injEq, Prod.mk.injEq, true_and] at hR
    obtain ⟨hst1, hout1, _⟩ := hR
    subst hst1
    rcases decryptPayload_cases _ _ _ _ _ hd with ⟨_, hst2, hp⟩ | ⟨c0, hc0, _, _⟩
    · simp only [Option.some.injEq] at hp
      rw [hst2]
      exact ⟨rfl, hcr, hout1, hp⟩
    · have hc0' : st0.crypto = some c0 := hc0
      rw [hcr] at hc0'; cases hc0'

/-- the cryptographic environment of a run: hashes and signature verification, the ideal view of ciphertexts, the payload parser -/
structure Params where
  env : CryptoEnv
  bodyOf : BodyOf
  ok : Bytes → Bool

inductive Who | A | B
  deriving DecidableEq, Repr

/-- Two handshake objects (`InitSt`, not `PeerCrypto`: everything the property talks about — key, cipher, role, payload, completion —
    is decided inside `InitState::handle_init`; `PeerCrypto.handleInitMessage` only moves the core out and starts the rotation with
    `!is_initiator`) and the ghost logs of the run. -/
structure Sys where
  a : InitSt
  b : InitSt
  /-- every handshake datagram ever emitted by either side (never removed) -/
  sent : List Bytes := []
  /-- ghost: (signer's public key, signed region) of every message an honest party signed -/
  sigs : List (Bytes × Bytes) := []
  /-- ghost: every genuine seal so far -/
  seals : SealLog := []
  /-- ghost: the successes A reported so far, newest first: (peer payload, is_initiator) -/
  doneA : List (Bytes × Bool) := []
  doneB : List (Bytes × Bool) := []

def Sys.obj (s : Sys) : Who → InitSt
  | .A => s.a
  | .B => s.b

def Sys.done (s : Sys) : Who → List (Bytes × Bool)
  | .A => s.doneA
  | .B => s.doneB

/-- party `x` moves to `st'`, emits `out` (empty = nothing), signs `sg`, seals `log`, reports `dn` -/
def Sys.upd (s : Sys) (x : Who) (st' : InitSt) (out : Bytes) (sg : List (Bytes × Bytes)) (log : SealLog) (dn : List (Bytes × Bool)) : Sys :=
  match x with
  | .A => { s with a := st', sent := if out = [] then s.sent else s.sent ++ [out], sigs := s.sigs ++ sg, seals := s.seals ++ log,
                   doneA := dn ++ s.doneA }
  | .B => { s with b := st', sent := if out = [] then s.sent else s.sent ++ [out], sigs := s.sigs ++ sg, seals := s.seals ++ log,
                   doneB := dn ++ s.doneB }

/-- the steps of the system; the network is the adversary: it delivers ANY bytes `w` (elements of `sent`, once, many times, never, in
    any order, extended, truncated, invented) to either side, restricted only by (I1) -/
inductive Step (P : Params) : Sys → Sys → Prop
  /-- `x` initiates: `send_ping` (allowed whenever the object is in stage PING) -/
  | ping (s : Sys) (x : Who) (rnd : Rand) (hst : (s.obj x).stage = Generated.STAGE_PING) (hr : RandOK P.env (s.obj x) rnd) :
      Step P s (s.upd x (sendPing P.env (s.obj x) rnd).1 (sendPing P.env (s.obj x) rnd).2
        (newSig (s.obj x) (sendPing P.env (s.obj x) rnd).1 (sendPing P.env (s.obj x) rnd).2 rnd) [] [])
  /-- `every_second` at `x` (retransmission, timeout, closing) -/
  | tick (s : Sys) (x : Who) :
      Step P s (s.upd x (everySecond (s.obj x)).1 (match (everySecond (s.obj x)).2 with | .ok o => o | .error _ => []) [] [] [])
  /-- the network delivers `w` to `x`, which handles it without error -/
  | deliver (s : Sys) (x : Who) (w : Bytes) (rnd : Rand) (st' : InitSt) (out : Bytes) (res : InitResult) (log : SealLog)
      (hI : I1 P.env s.sigs (s.obj x).trusted w) (hr : RandOK P.env (s.obj x) rnd)
      (h : handleInit P.env P.bodyOf P.ok (s.obj x) w rnd = .ok st' (out, res, log)) :
      Step P s (s.upd x st' out (newSig (s.obj x) st' out rnd) log (doneOf res))
  /-- the network delivers `w` to `x`, which returns an error (the object keeps what `handle_init` changed before it failed) -/
  | deliverErr (s : Sys) (x : Who) (w : Bytes) (rnd : Rand) (st' : InitSt) (e : InitErr)
      (hI : I1 P.env s.sigs (s.obj x).trusted w)
      (h : handleInit P.env P.bodyOf P.ok (s.obj x) w rnd = .err st' e) :
      Step P s (s.upd x st' [] [] [] [])

inductive Reach (P : Params) (s0 : Sys) : Sys → Prop
  | refl : Reach P s0 s0
  | step {s s' : Sys} : Reach P s0 s → Step P s s' → Reach P s0 s'

/-- a fresh object with fields of the widths of the wire format -/
structure FreshObj (st : InitSt) : Prop where
  stage : st.stage = Generated.STAGE_PING
  ecdh : st.ecdh = none
  last : st.last = none
  crypto : st.crypto = none
  hash : st.hash.length = 20
  algos : algosWF st.algos
  payload : st.payload.length < 65536

/-- initial states: two fresh objects of two different nodes, empty logs -/
structure Init0 (s : Sys) : Prop where
  a : FreshObj s.a
  b : FreshObj s.b
  hashNe : Bytes.beVal s.a.hash ≠ Bytes.beVal s.b.hash
  sent : s.sent = []
  sigs : s.sigs = []
  seals : s.seals = []
  doneA : s.doneA = []
  doneB : s.doneB = []

/-- the invariant of the system: `Inv2` (see `Lemmas/Handshake/C05AgreeLemmas.lean`) for some ghost records of the two objects
    (their ping answers and completions with the ephemeral keys used) -/
def Inv (P : Params) (s : Sys) : Prop := ∃ ga gb, Inv2 P.bodyOf s.a s.b ga gb s.doneA s.doneB s.sigs s.seals

theorem inv_init (P : Params) (s : Sys) (h : Init0 s) : Inv P s := by
  have fresh : ∀ (x y : InitSt) (d : List (Bytes × Bool)), FreshObj x → d = [] → ObjInv P.bodyOf x y ⟨none, []⟩ d s.sigs := by
    intro x y d hx hd
    refine .early ⟨rfl, rfl⟩ hd (Or.inl hx.stage) ?_ ?_
    · intro core hc; rw [hx.crypto] at hc; cases hc
    · intro own hc; rw [hx.ecdh] at hc; cases hc
  refine ⟨⟨none, []⟩, ⟨none, []⟩, fresh _ _ _ h.a h.doneA, fresh _ _ _ h.b h.doneB, ?_, ⟨h.a.hash, h.a.algos, h.a.payload⟩,
    ⟨h.b.hash, h.b.algos, h.b.payload⟩, h.hashNe⟩
  intro k r hk
  rw [h.sigs] at hk; cases hk

def Who.other : Who → Who
  | .A => .B
  | .B => .A

/-- a property of the two objects and the logs, as a family over (object, peer, successes of each, signatures, seals, datagrams sent) -/
abbrev Fam := InitSt → InitSt → List (Bytes × Bool) → List (Bytes × Bool) → List (Bytes × Bytes) → SealLog → List Bytes → Prop

/-- the family `J` on the system `s`, with `x` in the role of the object -/
def Sys.view (J : Fam) (s : Sys) (x : Who) : Prop :=
  J (s.obj x) (s.obj x.other) (s.done x) (s.done x.other) s.sigs s.seals s.sent

section
variable {J : Fam} (hsw : ∀ {x y dx dy sg sl st}, J x y dx dy sg sl st → J y x dy dx sg sl st)
include hsw

theorem Sys.view_at {s : Sys} (h : s.view J .A) (x : Who) : s.view J x := by
  cases x
  · exact h
  · exact hsw h

theorem Sys.view_upd (s : Sys) (x : Who) {st' : InitSt} {out : Bytes} {sg : List (Bytes × Bytes)} {log : SealLog} {dn : List (Bytes × Bool)}
    (h : J st' (s.obj x.other) (dn ++ s.done x) (s.done x.other) (s.sigs ++ sg) (s.seals ++ log)
      (if out = [] then s.sent else s.sent ++ [out])) : (s.upd x st' out sg log dn).view J .A := by
  cases x
  · exact h
  · exact hsw h

end

/-- `Inv` as a family: `Inv P s` unfolds to `s.view (InvF P) .A`, and `Sys.view_at` / `Sys.view_upd` take the one for the other
    (likewise `C01MutualLemmas.TF` for `TI`, `C05Recover.RF` for `RInv`) -/
def InvF (P : Params) : Fam := fun x y dx dy sg sl _ => ∃ gx gy, Inv2 P.bodyOf x y gx gy dx dy sg sl

theorem InvF.swap {P : Params} {x y : InitSt} {dx dy : List (Bytes × Bool)} {sg : List (Bytes × Bytes)} {sl : SealLog} {st : List Bytes}
    (h : InvF P x y dx dy sg sl st) : InvF P y x dy dx sg sl st :=
  let ⟨gx, gy, h⟩ := h
  ⟨gy, gx, h.swap⟩

theorem inv_step (P : Params) (s s' : Sys) (hi : Inv P s) (hs : Step P s s') : Inv P s' := by
  have hv := Sys.view_at (J := InvF P) InvF.swap hi
  cases hs with
  | ping x rnd hst hr =>
    obtain ⟨gx, gy, h⟩ := hv x
    exact Sys.view_upd (J := InvF P) InvF.swap s x ⟨gx, gy, h.ping P.env hst hr⟩
  | tick x =>
    obtain ⟨gx, gy, h⟩ := hv x
    refine Sys.view_upd (J := InvF P) InvF.swap s x ⟨gx, gy, ?_⟩
    rw [List.append_nil, List.append_nil, List.nil_append]
    exact h.tick
  | deliver x w rnd st' out res log hI hr hh =>
    obtain ⟨gx, gy, h⟩ := hv x
    have hd := h.deliver P.env P.ok rnd hI
    rw [hh] at hd
    obtain ⟨gx', h'⟩ := hd hr
    exact Sys.view_upd (J := InvF P) InvF.swap s x ⟨gx', gy, h'⟩
  | deliverErr x w rnd st' e hI hh =>
    obtain ⟨gx, gy, h⟩ := hv x
    refine Sys.view_upd (J := InvF P) InvF.swap s x ⟨gx, gy, ?_⟩
    rw [List.append_nil, List.append_nil, List.nil_append]
    have hd := h.deliver P.env P.ok rnd hI
    rw [hh] at hd
    exact hd

theorem inv_reach (P : Params) (s0 s : Sys) (h0 : Init0 s0) (hr : Reach P s0 s) : Inv P s := by
  induction hr with
  | refl => exact inv_init P s0 h0
  | step _ hs ih => exact inv_step P _ _ ih hs

/-- **success_at_most_once**: in every reachable state each handshake object has reported success at most once (the ghost lists
    `doneA`, `doneB` collect every `InitResult::Success` a `deliver` step returned): a node never completes one handshake attempt
    twice, whatever the network replays. -/
theorem success_at_most_once (P : Params) (s0 s : Sys) (h0 : Init0 s0) (hr : Reach P s0 s) :
    s.doneA.length ≤ 1 ∧ s.doneB.length ≤ 1 := by
  obtain ⟨ga, gb, h⟩ := inv_reach P s0 s h0 hr
  refine ⟨?_, ?_⟩
  · rw [h.ox.done_eq, List.length_map]; exact h.ox.len
  · rw [h.oy.done_eq, List.length_map]; exact h.oy.len

/-- **attempt_agreement** (all schedules, single and dual open): in every reachable state in which both objects have reported success
    — A with `(pa, ia)`, B with `(pb, ib)` — the two ends have opposite `is_initiator` flags (so exactly one of them, the responder, starts
    the key rotation: `RotationState::new(!is_initiator)` in `PeerCrypto.handleInitMessage`), each reported exactly the payload of the
    other object, both selected the same cipher, and if it is a cipher both cores hold in slot 0 the master key of the same pair of
    ephemeral keys (`masterKey c ea eb = masterKey c eb ea` by `masterKey_comm_wf`) with opposite nonce halves: each opens what the other
    seals.  Hypothesis (ideal AEAD, as `C05Lockstep.Opens`): on the ciphertexts of the seal log `bodyOf` is what the log records. -/
theorem attempt_agreement (P : Params) (s0 s : Sys) (h0 : Init0 s0) (hr : Reach P s0 s) (hop : Opens P.bodyOf s.seals)
    (pa pb : Bytes) (ia ib : Bool) (hA : (pa, ia) ∈ s.doneA) (hB : (pb, ib) ∈ s.doneB) :
    ia = !ib ∧ pa = s.b.payload ∧ pb = s.a.payload ∧ CoresAgree s.a s.b ∧
    (∀ ca cb, s.a.crypto = some ca → s.b.crypto = some cb → key0 ca = key0 cb ∧ cb.half = !ca.half) := by
  obtain ⟨ga, gb, h⟩ := inv_reach P s0 s h0 hr
  obtain ⟨dA, hdA, rfl, rfl⟩ := mem_done h.ox.done_eq hA
  obtain ⟨dB, hdB, rfl, rfl⟩ := mem_done h.oy.done_eq hB
  have hca : CoresAgree s.a s.b ∧ dA.isInit = !dB.isInit ∧ dA.payload = s.b.payload ∧ dB.payload = s.a.payload := by
    rcases h.agree hop hdA hdB with ha | ha
    · exact ⟨h.cores hdA hdB ha, by rw [ha.roleX, ha.roleY]; rfl, ha.payX, ha.payY⟩
    · exact ⟨(h.swap.cores hdB hdA ha).symm, by rw [ha.roleX, ha.roleY]; rfl, ha.payY, ha.payX⟩
  obtain ⟨hc, h1, h2, h3⟩ := hca
  refine ⟨h1, h2, h3, hc, ?_⟩
  intro ca cb hca hcb
  obtain ⟨hsel, hm⟩ := hc
  cases hs : s.a.selected with
  | none => rw [hs] at hm; rw [hm.1] at hca; cases hca
  | some c =>
    rw [hs] at hm
    obtain ⟨cx, cy, ex, ey, wx, wy, e1, e2, k1, k2, f1, f2⟩ := hm
    rw [hca] at e1; rw [hcb] at e2
    simp only [Option.some.injEq] at e1 e2
    subst e1; subst e2
    refine ⟨?_, ?_⟩
    · rw [k1, k2, C05.masterKey_comm_wf c ex ey ⟨wx.2, wy.2⟩ (by rw [wx.1, wy.1])]
    · rw [f1, f2]; exact C05.halves_opposite _ _ (fun e => h.hne e.symm)

/-- **role_switch_exclusive** (dual open): when both objects have sent their ping (stage PONG) and each receives the other's ping,
    exactly one of them — the one with the smaller salted node-id hash — resets and answers as responder (its `handle_init` continues
    as for a fresh object); the other ignores the ping and stays initiator.  The two cases exclude each other
    (`C05.halves_opposite`). -/
theorem role_switch_exclusive (env : CryptoEnv) (bodyOf : BodyOf) (ok : Bytes → Bool) (x y : InitSt) (wx wy : Bytes) (rx ry : Rand)
    (ex ey : Bytes) (alx aly : Algos) (kx ky : Bytes)
    (hx : x.stage = Generated.STAGE_PONG) (hy : y.stage = Generated.STAGE_PONG) (hne : Bytes.beVal x.hash ≠ Bytes.beVal y.hash)
    (hselfx : checkSaltedNodeIdHash env y.hash x.nodeId = false) (hselfy : checkSaltedNodeIdHash env x.hash y.nodeId = false)
    (hrx : InitMsg.readFrom env wx x.trusted = .ok (.ping y.hash ey aly, kx))
    (hry : InitMsg.readFrom env wy y.trusted = .ok (.ping x.hash ex alx, ky)) :
    (bytesGt y.hash x.hash = true ∧ bytesGt x.hash y.hash = false ∧
      handleInit env bodyOf ok x wx rx = handleMsg env bodyOf ok (resetSt x) (.ping y.hash ey aly) rx ∧
      handleInit env bodyOf ok y wy ry = .ok y ([], .continue, [])) ∨
    (bytesGt x.hash y.hash = true ∧ bytesGt y.hash x.hash = false ∧
      handleInit env bodyOf ok y wy ry = handleMsg env bodyOf ok (resetSt y) (.ping x.hash ex alx) ry ∧
      handleInit env bodyOf ok x wx rx = .ok x ([], .continue, [])) := by
  have key : ∀ (u v : InitSt) (w : Bytes) (r : Rand) (e : Bytes) (al : Algos) (k : Bytes), u.stage = Generated.STAGE_PONG →
      Bytes.beVal u.hash ≠ Bytes.beVal v.hash → checkSaltedNodeIdHash env v.hash u.nodeId = false →
      InitMsg.readFrom env w u.trusted = .ok (.ping v.hash e al, k) →
      (bytesGt v.hash u.hash = true → handleInit env bodyOf ok u w r = handleMsg env bodyOf ok (resetSt u) (.ping v.hash e al) r) ∧
      (bytesGt v.hash u.hash = false → handleInit env bodyOf ok u w r = .ok u ([], .continue, [])) := by
    intro u v w r e al k hu hn hself hr
    rw [handleInit_read env bodyOf ok u w r _ k hr (fun h => hn (by rw [h]; rfl)) hself]
    rw [show stageCheck u (InitMsg.ping v.hash e al).stage (InitMsg.ping v.hash e al).hash = _ from stageCheck_ping_at_pong u v.hash hu]
    exact ⟨fun hg => by rw [if_pos hg], fun hg => by rw [if_neg (by rw [hg]; decide)]⟩
  have hopp := C05.halves_opposite x.hash y.hash hne
  obtain ⟨kx1, kx2⟩ := key x y wx rx ey aly kx hx hne hselfx hrx
  obtain ⟨ky1, ky2⟩ := key y x wy ry ex alx ky hy (fun e => hne e.symm) hselfy hry
  cases hg : bytesGt y.hash x.hash with
  | true =>
    have hg' : bytesGt x.hash y.hash = false := by rw [hopp, hg]; rfl
    exact Or.inl ⟨rfl, hg', kx1 hg, ky2 hg'⟩
  | false =>
    have hg' : bytesGt x.hash y.hash = true := by rw [hopp, hg]; rfl
    exact Or.inr ⟨hg', rfl, ky1 hg', kx2 hg⟩

/-- the static fields of the two objects (node id, salted hash, own payload, keys, algorithms) never change: "the payload the other
    offered" is the `payload` field of the other object at any time -/
theorem static_reach (P : Params) (s0 s : Sys) (hr : Reach P s0 s) : Static s0.a s.a ∧ Static s0.b s.b := by
  induction hr with
  | refl => exact ⟨Static.refl _, Static.refl _⟩
  | step _ hs ih =>
    obtain ⟨iha, ihb⟩ := ih
    have key : ∀ (t : Sys) (x : Who) (st' : InitSt) (out : Bytes) (sg : List (Bytes × Bytes)) (log : SealLog) (dn : List (Bytes × Bool)),
        Static s0.a t.a → Static s0.b t.b → Static (t.obj x) st' →
        Static s0.a (t.upd x st' out sg log dn).a ∧ Static s0.b (t.upd x st' out sg log dn).b := by
      intro t x st' out sg log dn ha hb hx
      cases x with
      | A => exact ⟨ha.trans hx, hb⟩
      | B => exact ⟨ha, hb.trans hx⟩
    cases hs with
    | ping x rnd hst hr' => exact key _ x _ _ _ _ _ iha ihb ⟨rfl, rfl, rfl, rfl, rfl, rfl⟩
    | tick x =>
      obtain ⟨s', ct, rt, _, he⟩ := everySecond_fst (Sys.obj _ x)
      refine key _ x _ _ _ _ _ iha ihb ?_
      rw [he]; exact ⟨rfl, rfl, rfl, rfl, rfl, rfl⟩
    | deliver x w rnd st' out res log hI hr' hh =>
      exact key _ x _ _ _ _ _ iha ihb (hh ▸ handleInit_eff P.env P.bodyOf P.ok _ w rnd).static
    | deliverErr x w rnd st' e hI hh =>
      exact key _ x _ _ _ _ _ iha ihb (hh ▸ handleInit_eff P.env P.bodyOf P.ok _ w rnd).static

/-- `attempt_agreement`, payload part, in terms of the initial objects: each end reports exactly the payload the other object was
    created with -/
theorem attempt_agreement_payloads (P : Params) (s0 s : Sys) (h0 : Init0 s0) (hr : Reach P s0 s) (hop : Opens P.bodyOf s.seals)
    (pa pb : Bytes) (ia ib : Bool) (hA : (pa, ia) ∈ s.doneA) (hB : (pb, ib) ∈ s.doneB) :
    pa = s0.b.payload ∧ pb = s0.a.payload := by
  obtain ⟨_, h1, h2, _⟩ := attempt_agreement P s0 s h0 hr hop pa pb ia ib hA hB
  obtain ⟨sa, sb⟩ := static_reach P s0 s hr
  exact ⟨by rw [h1, sb.2.2.1], by rw [h2, sa.2.2.1]⟩

/-! ## non-vacuity: toy runs -/

/-- the system after `x` initiated -/
def pingBy (P : Params) (s : Sys) (x : Who) (rnd : Rand) : Sys :=
  s.upd x (sendPing P.env (s.obj x) rnd).1 (sendPing P.env (s.obj x) rnd).2
    (newSig (s.obj x) (sendPing P.env (s.obj x) rnd).1 (sendPing P.env (s.obj x) rnd).2 rnd) [] []

/-- the system after `w` was delivered to `x` -/
def deliverTo (P : Params) (s : Sys) (x : Who) (w : Bytes) (rnd : Rand) : Sys :=
  match handleInit P.env P.bodyOf P.ok (s.obj x) w rnd with
  | .ok st' (out, res, log) => s.upd x st' out (newSig (s.obj x) st' out rnd) log (doneOf res)
  | .err st' _ => s.upd x st' [] [] [] []
  | .panic => s

theorem reach_ping {P : Params} {s0 s : Sys} (hr : Reach P s0 s) (x : Who) (rnd : Rand)
    (hst : (s.obj x).stage = Generated.STAGE_PING) (hrnd : RandOK P.env (s.obj x) rnd) : Reach P s0 (pingBy P s x rnd) :=
  .step hr (.ping s x rnd hst hrnd)

theorem reach_deliver {P : Params} {s0 s : Sys} (hr : Reach P s0 s) (x : Who) (w : Bytes) (rnd : Rand)
    (hI : I1 P.env s.sigs (s.obj x).trusted w) (hrnd : RandOK P.env (s.obj x) rnd) : Reach P s0 (deliverTo P s x w rnd) := by
  unfold deliverTo
  cases h : handleInit P.env P.bodyOf P.ok (s.obj x) w rnd with
  | ok st' r =>
    obtain ⟨out, res, log⟩ := r
    exact .step hr (.deliver s x w rnd st' out res log hI hrnd h)
  | err st' e => exact .step hr (.deliverErr s x w rnd st' e hI h)
  | panic => exact hr

/-- (I1) for an environment that verifies exactly the signatures of the list `L` -/
theorem toy_I1 (env : CryptoEnv) (L : List (Bytes × Bytes × Bytes)) (hv : ∀ k m sg, env.sigVerify k m sg = decide ((k, m, sg) ∈ L))
    (sigs : List (Bytes × Bytes)) (T : List Bytes) (w : Bytes)
    (hcheck : ∀ e ∈ L, e.1 ∈ T → (e.2.1 ++ [e.2.2.length] ++ e.2.2) <+: w → (e.1, e.2.1) ∈ sigs) : I1 env sigs T w := by
  intro signed sig rest k hw hk hver
  rw [hv] at hver
  have hmem : (k, signed, sig) ∈ L := by simpa using hver
  exact hcheck _ hmem hk ⟨rest, hw.symm⟩

namespace Toy
open VpnCloud.Proofs.C05Lockstep (pingMsg pongMsg pengMsg wire)

def a0 : InitSt := C05Lockstep.Toy.A C05Lockstep.Toy.algosA
def b0 : InitSt := C05Lockstep.Toy.B C05Lockstep.Toy.algosB
def R1 : Rand := C05Lockstep.Toy.R1
def R2 : Rand := C05Lockstep.Toy.R2
def R3 : Rand := { C05Lockstep.Toy.R3 with ecdhPub := List.replicate 32 7 }
def R4 : Rand := { salt := [0, 0, 0, 4], ecdhPub := List.replicate 32 8 }
def env0 : CryptoEnv := C05Lockstep.Toy.env

/-- the three datagrams of the run -/
def w1 : Bytes := wire env0 a0 (pingMsg a0 R1) R1
def w2 : Bytes := wire env0 b0 (pongMsg a0 b0 R2) R2
def w3 : Bytes := wire env0 a0 (pengMsg a0 b0 R3) R3

def regionOf (w : Bytes) (r : Rand) : Bytes := w.take (w.length - (r.sig.length + 1))

/-- the signatures honest parties make in the run; the toy verification accepts exactly these (ideal signature) -/
def L : List (Bytes × Bytes × Bytes) :=
  [(a0.ownKey, regionOf w1 R1, R1.sig), (b0.ownKey, regionOf w2 R2, R2.sig), (a0.ownKey, regionOf w3 R3, R3.sig)]

def env : CryptoEnv := { env0 with sigVerify := fun k m sg => decide ((k, m, sg) ∈ L) }

def P : Params := ⟨env, C05Lockstep.Toy.body a0 b0, C05Lockstep.Toy.okP⟩

def s0 : Sys := { a := a0, b := b0 }
def s1 : Sys := pingBy P s0 .A R1
def s2 : Sys := deliverTo P s1 .B w1 R2
def s3 : Sys := deliverTo P s2 .A w2 R3
def s4 : Sys := deliverTo P s3 .B w3 R4

/-- the toy key hash of a 4-byte salt has 4 bytes, whatever the key: no state has to be evaluated for `RandOK.keyHash` -/
theorem keyHash_length (k s : Bytes) (h : s.length = 4) : (env0.keyHash k s).length = 4 := by
  show ((k ++ s).take 4).length = 4
  rw [List.length_take, List.length_append]
  omega

theorem randOK_toy {env : CryptoEnv} (hk : env.keyHash = env0.keyHash) (st : InitSt) (r : Rand)
    (h : r.salt.length = 4 ∧ (r.ecdhPub.length = 32 ∧ Bytes.WF r.ecdhPub) ∧ r.dummy < 2816 ∧ r.ct.length + 8 < 65536) :
    RandOK env st r :=
  .of_small ⟨h.1, by rw [hk]; exact keyHash_length _ _ h.1, h.2⟩

/-- what `toy_I1` asks of the delivery of `w` to `x` in state `s` -/
def SigsKnown (L : List (Bytes × Bytes × Bytes)) (s : Sys) (x : Who) (w : Bytes) : Prop :=
  ∀ e ∈ L, e.1 ∈ (s.obj x).trusted → (e.2.1 ++ [e.2.2.length] ++ e.2.2) <+: w → (e.1, e.2.1) ∈ s.sigs

instance (L : List (Bytes × Bytes × Bytes)) (s : Sys) (x : Who) (w : Bytes) : Decidable (SigsKnown L s x w) := by
  unfold SigsKnown; infer_instance

theorem reach_toy {P : Params} {s0 s : Sys} (L : List (Bytes × Bytes × Bytes))
    (hv : ∀ k m sg, P.env.sigVerify k m sg = decide ((k, m, sg) ∈ L)) (hk : P.env.keyHash = env0.keyHash)
    (hr : Reach P s0 s) (x : Who) (w : Bytes) (rnd : Rand) (hs : SigsKnown L s x w)
    (h : rnd.salt.length = 4 ∧ (rnd.ecdhPub.length = 32 ∧ Bytes.WF rnd.ecdhPub) ∧ rnd.dummy < 2816 ∧ rnd.ct.length + 8 < 65536) :
    Reach P s0 (deliverTo P s x w rnd) :=
  reach_deliver hr x w rnd (toy_I1 P.env L hv _ _ _ hs) (randOK_toy hk _ rnd h)

theorem init0_of (alA alB : Algos) (wA : algosWF alA) (wB : algosWF alB) :
    Init0 { a := C05Lockstep.Toy.A alA, b := C05Lockstep.Toy.B alB } where
  a := ⟨rfl, rfl, rfl, rfl, rfl, wA, (by decide : [10, 11].length < 65536)⟩
  b := ⟨rfl, rfl, rfl, rfl, rfl, wB, (by decide : [20].length < 65536)⟩
  hashNe := C05Lockstep.Toy.hyps_cipher.hashNe
  sent := rfl
  sigs := rfl
  seals := rfl
  doneA := rfl
  doneB := rfl

theorem init0 : Init0 s0 := init0_of _ _ (by unfold algosWF; decide) (by unfold algosWF; decide)

/-- the run evaluated once: what was sent up to each delivery (the datagram sent last is the one delivered next), the signature
    checks of the three deliveries and what is claimed of the last state -/
theorem run_eval : (s1.sent = [w1] ∧ s2.sent = [w1, w2] ∧ s3.sent = [w1, w2, w3]) ∧
    SigsKnown L s1 .B w1 ∧ SigsKnown L s2 .A w2 ∧ SigsKnown L s3 .B w3 ∧ Opens P.bodyOf s4.seals ∧
    s4.doneA = [([20], true)] ∧ s4.doneB = [([10, 11], false)] ∧ s4.a.selected = some .chacha ∧ s4.seals.length = 2 ∧
    s4.sent = [w1, w2, w3] ∧ s4.sigs.length = 3 := by
  unfold Opens
  decide +kernel

theorem reach4 : Reach P s0 s4 :=
  reach_toy L (fun _ _ _ => rfl) rfl
    (reach_toy L (fun _ _ _ => rfl) rfl
      (reach_toy L (fun _ _ _ => rfl) rfl (reach_ping .refl .A R1 rfl (randOK_toy (env := env) rfl _ R1 (by decide)))
        .B w1 R2 run_eval.2.1 (by decide))
      .A w2 R3 run_eval.2.2.1 (by decide))
    .B w3 R4 run_eval.2.2.2.1 (by decide)

/-- **non-vacuity (single open, cipher chacha)**: a reachable state in which both ends have completed; all hypotheses of
    `attempt_agreement` hold there -/
theorem both_completed : Init0 s0 ∧ Reach P s0 s4 ∧ Opens P.bodyOf s4.seals ∧
    s4.doneA = [([20], true)] ∧ s4.doneB = [([10, 11], false)] ∧ s4.a.selected = some .chacha ∧ s4.seals.length = 2 ∧
    s4.sent = [w1, w2, w3] ∧ s4.sigs.length = 3 :=
  ⟨init0, reach4, run_eval.2.2.2.2⟩

/-! ### dual open (plain negotiated) -/

def a1 : InitSt := C05Lockstep.Toy.A C05Lockstep.Toy.plainA
def b1 : InitSt := C05Lockstep.Toy.B C05Lockstep.Toy.plainB
def Q1 : Rand := { salt := [0, 0, 0, 1], ecdhPub := List.replicate 32 5, sig := [1, 2, 3] }
def Q2 : Rand := { salt := [0, 0, 0, 2], ecdhPub := List.replicate 32 6, sig := [4, 5] }
def Q3 : Rand := { salt := [0, 0, 0, 3], ecdhPub := List.replicate 32 7, sig := [6] }
def Q4 : Rand := { salt := [0, 0, 0, 4], ecdhPub := List.replicate 32 8, sig := [7, 7] }
def Q5 : Rand := { salt := [0, 0, 0, 5], ecdhPub := List.replicate 32 9 }

/-- both pings, the pong of A (which switches role: smaller salted hash) and the peng of B -/
def v1 : Bytes := wire env0 a1 (pingMsg a1 Q1) Q1
def v2 : Bytes := wire env0 b1 (pingMsg b1 Q2) Q2
def v3 : Bytes := wire env0 a1 (.pong a1.hash Q3.ecdhPub a1.algos a1.payload) Q3
def v4 : Bytes := wire env0 b1 (.peng b1.hash b1.payload) Q4

def LD : List (Bytes × Bytes × Bytes) :=
  [(a1.ownKey, regionOf v1 Q1, Q1.sig), (b1.ownKey, regionOf v2 Q2, Q2.sig), (a1.ownKey, regionOf v3 Q3, Q3.sig),
   (b1.ownKey, regionOf v4 Q4, Q4.sig)]

def envD : CryptoEnv := { env0 with sigVerify := fun k m sg => decide ((k, m, sg) ∈ LD) }

def PD : Params := ⟨envD, fun x => .garbage x.length, C05Lockstep.Toy.okP⟩

def t0 : Sys := { a := a1, b := b1 }
def t1 : Sys := pingBy PD t0 .A Q1
def t2 : Sys := pingBy PD t1 .B Q2
def t3 : Sys := deliverTo PD t2 .B v1 Q5
def t4 : Sys := deliverTo PD t3 .A v2 Q3
def t5 : Sys := deliverTo PD t4 .B v3 Q4
def t6 : Sys := deliverTo PD t5 .A v4 Q5

theorem init0D : Init0 t0 := init0_of _ _ (by unfold algosWF; decide) (by unfold algosWF; decide)

theorem run_evalD : SigsKnown LD t2 .B v1 ∧ SigsKnown LD t3 .A v2 ∧ SigsKnown LD t4 .B v3 ∧ SigsKnown LD t5 .A v4 ∧
    Opens PD.bodyOf t6.seals ∧ t2.a.stage = Generated.STAGE_PONG ∧ t2.b.stage = Generated.STAGE_PONG ∧
    t3.b.stage = Generated.STAGE_PONG ∧ t4.a.stage = Generated.STAGE_PENG ∧
    t6.doneA = [([20], false)] ∧ t6.doneB = [([10, 11], true)] ∧ t6.sent = [v1, v2, v3, v4] := by
  unfold Opens
  decide +kernel

theorem reachD6 : Reach PD t0 t6 :=
  reach_toy LD (fun _ _ _ => rfl) rfl
    (reach_toy LD (fun _ _ _ => rfl) rfl
      (reach_toy LD (fun _ _ _ => rfl) rfl
        (reach_toy LD (fun _ _ _ => rfl) rfl
          (reach_ping (reach_ping .refl .A Q1 rfl (randOK_toy (env := envD) rfl _ Q1 (by decide)))
            .B Q2 rfl (randOK_toy (env := envD) rfl _ Q2 (by decide)))
          .B v1 Q5 run_evalD.1 (by decide))
        .A v2 Q3 run_evalD.2.1 (by decide))
      .B v3 Q4 run_evalD.2.2.1 (by decide))
    .A v4 Q5 run_evalD.2.2.2.1 (by decide)

/-- **non-vacuity (dual open)**: both initiate; B (larger salted hash) ignores A's ping, A switches role and answers B's ping; both
    complete, B as initiator and A as responder -/
theorem dual_open_completed : Init0 t0 ∧ Reach PD t0 t6 ∧ Opens PD.bodyOf t6.seals ∧
    t2.a.stage = Generated.STAGE_PONG ∧ t2.b.stage = Generated.STAGE_PONG ∧
    t3.b.stage = Generated.STAGE_PONG ∧ t4.a.stage = Generated.STAGE_PENG ∧
    t6.doneA = [([20], false)] ∧ t6.doneB = [([10, 11], true)] ∧ t6.sent = [v1, v2, v3, v4] :=
  ⟨init0D, reachD6, run_evalD.2.2.2.2⟩

/-- the theorems apply to these states -/
example : true = !false ∧ [20] = s4.b.payload ∧ [10, 11] = s4.a.payload ∧ CoresAgree s4.a s4.b ∧
    (∀ ca cb, s4.a.crypto = some ca → s4.b.crypto = some cb → key0 ca = key0 cb ∧ cb.half = !ca.half) :=
  attempt_agreement P s0 s4 init0 reach4 both_completed.2.2.1 [20] [10, 11] true false
    (by rw [both_completed.2.2.2.1]; exact List.mem_singleton.2 rfl) (by rw [both_completed.2.2.2.2.1]; exact List.mem_singleton.2 rfl)

example : false = !true ∧ [20] = t6.b.payload ∧ [10, 11] = t6.a.payload ∧ CoresAgree t6.a t6.b ∧
    (∀ ca cb, t6.a.crypto = some ca → t6.b.crypto = some cb → key0 ca = key0 cb ∧ cb.half = !ca.half) :=
  attempt_agreement PD t0 t6 init0D reachD6 dual_open_completed.2.2.1 [20] [10, 11] false true
    (by rw [dual_open_completed.2.2.2.2.2.2.2.1]; exact List.mem_singleton.2 rfl)
    (by rw [dual_open_completed.2.2.2.2.2.2.2.2.1]; exact List.mem_singleton.2 rfl)

example : s4.doneA.length ≤ 1 ∧ s4.doneB.length ≤ 1 := success_at_most_once P s0 s4 init0 reach4

/-! ### the ideal-AEAD hypothesis is needed -/

/-- an "AEAD view" that is NOT the seal log: the ciphertext of B's pong is claimed to be a seal of `[99]` -/
def badBody : BodyOf := fun x =>
  if x = R2.ct then .sealed (masterKey .chacha R1.ecdhPub R2.ecdhPub) (HALF + 101) [99] else C05Lockstep.Toy.body a0 b0 x

def PB : Params := ⟨env, badBody, C05Lockstep.Toy.okP⟩
def u1 : Sys := pingBy PB s0 .A R1
def u2 : Sys := deliverTo PB u1 .B w1 R2
def u3 : Sys := deliverTo PB u2 .A w2 R3
def u4 : Sys := deliverTo PB u3 .B w3 R4

/-- the run under `badBody` evaluated once: A reports `[99]`, which is not B's payload -/
theorem run_evalB : SigsKnown L u1 .B w1 ∧ SigsKnown L u2 .A w2 ∧ SigsKnown L u3 .B w3 ∧
    ([99], true) ∈ u4.doneA ∧ ([10, 11], false) ∈ u4.doneB ∧ [99] ≠ u4.b.payload := by
  decide +kernel

theorem reachB4 : Reach PB s0 u4 :=
  reach_toy L (fun _ _ _ => rfl) rfl
    (reach_toy L (fun _ _ _ => rfl) rfl
      (reach_toy L (fun _ _ _ => rfl) rfl (reach_ping .refl .A R1 rfl (randOK_toy (env := env) rfl _ R1 (by decide)))
        .B w1 R2 run_evalB.1 (by decide))
      .A w2 R3 run_evalB.2.1 (by decide))
    .B w3 R4 run_evalB.2.2.1 (by decide)

/-- **`Opens` is needed**: without the ideal-AEAD hypothesis the payload part of `attempt_agreement` is false -/
theorem opens_needed : ¬ (∀ (P : Params) (s0 s : Sys), Init0 s0 → Reach P s0 s →
    ∀ (pa pb : Bytes) (ia ib : Bool), (pa, ia) ∈ s.doneA → (pb, ib) ∈ s.doneB → pa = s.b.payload) :=
  fun H => run_evalB.2.2.2.2.2 (H PB s0 u4 init0 reachB4 [99] [10, 11] true false run_evalB.2.2.2.1 run_evalB.2.2.2.2.1)

/-! ### counterexamples for the hypotheses of `responder_success_binds` -/

/-- `responder_success_binds` with the hypotheses `hcr` / `hdummy` made optional -/
def RespBinds (needCr needDummy : Bool) : Prop :=
  ∀ (env : CryptoEnv) (bodyOf : BodyOf) (ok : Bytes → Bool) (st0 st1 st2 : InitSt) (w1 w2 : Bytes)
    (rnd1 rnd2 : Rand) (out1 out2 p : Bytes) (log1 log2 : SealLog),
    st0.stage = Generated.STAGE_PING → (needCr = true → st0.crypto = none) →
    (needDummy = true → ∀ x n q, bodyOf x ≠ .sealed rnd1.dummy n q) →
    handleInit env bodyOf ok st0 w1 rnd1 = .ok st1 (out1, .continue, log1) → st1.stage = Generated.STAGE_PENG →
    handleInit env bodyOf ok st1 w2 rnd2 = .ok st2 (out2, .success p false, log2) →
    RespBound env bodyOf st0 st1 st2 w1 w2 rnd1 out1 p log1

/-- the theorem is `RespBinds true true` -/
example : RespBinds true true := fun env bodyOf ok st0 st1 st2 w1 w2 rnd1 rnd2 out1 out2 p log1 log2 hs hcr hd h1 hs1 h2 =>
  responder_success_binds env bodyOf ok st0 st1 st2 w1 w2 rnd1 rnd2 out1 out2 p log1 log2 hs (hcr rfl) (hd rfl) h1 hs1 h2

def stOf : Res → InitSt
  | .ok st _ => st
  | .err st _ => st
  | .panic => a0
def outOf : Res → Bytes
  | .ok _ (o, _, _) => o
  | _ => []
def logOf : Res → SealLog
  | .ok _ (_, _, l) => l
  | _ => []
def isCont : Res → Bool
  | .ok _ (_, .continue, _) => true
  | _ => false
def isSucc (p : Bytes) : Res → Bool
  | .ok _ (_, .success q false, _) => q == p
  | _ => false

theorem isCont_eq {R : Res} (h : isCont R = true) : R = .ok (stOf R) (outOf R, .continue, logOf R) := by
  unfold isCont at h
  split at h
  · rfl
  · cases h

theorem isSucc_eq {p : Bytes} {R : Res} (h : isSucc p R = true) : R = .ok (stOf R) (outOf R, .success p false, logOf R) := by
  unfold isSucc at h
  split at h
  · rw [eq_of_beq h]; rfl
  · cases h

/-- every ciphertext "opens" as `[42]` sealed under key `key` with nonce 5 -/
def bodyK (key : KeyRef) : BodyOf := fun _ => .sealed key 5 [42]

/-- a peng "of A" whose payload is addressed to key slot `kid` -/
def pengTo (a : InitSt) (kid : Nat) : Bytes := wire env0 a (.peng a.hash (InitLemmas.Toy.pl kid)) R3

def rA : Res := handleInit env0 (bodyK 1) C05Lockstep.Toy.okP b0 w1 R2
def rA2 : Res := handleInit env0 (bodyK 1) C05Lockstep.Toy.okP (stOf rA) (pengTo a0 1) R4

/-- counterexample 1 (`hdummy` is needed; `hcr` holds): the peng payload is addressed to key id 1 and sealed under the throw-away key
    `R2.dummy = 1`; the responder accepts it although it was not sealed under the master key -/
theorem hdummy_needed : ¬ RespBinds true false := by
  intro H
  have ev : isCont rA = true ∧ (stOf rA).stage = Generated.STAGE_PENG ∧ isSucc [42] rA2 = true ∧
      readFrom env0 w1 b0.trusted = .ok (pingMsg a0 R1, a0.ownKey) := by decide +kernel
  obtain ⟨ha, ea, aa, k1, hb, pl, k2, hr1, hr2, _, hm⟩ := H env0 (bodyK 1) C05Lockstep.Toy.okP b0 (stOf rA) (stOf rA2) w1 (pengTo a0 1) R2 R4 (outOf rA) (outOf rA2) [42] (logOf rA) (logOf rA2) rfl
    (fun _ => rfl) (fun h => by cases h) (isCont_eq ev.1) ev.2.1 (isSucc_eq ev.2.2.1)
  rw [ev.2.2.2] at hr1
  simp only [pingMsg, Except.ok.injEq, Prod.mk.injEq, InitMsg.ping.injEq] at hr1
  obtain ⟨⟨_, rfl, rfl⟩, _⟩ := hr1
  have e2 : selectAlgorithm b0.algos a0.algos = .ok (some .chacha) := by decide
  rw [e2] at hm
  obtain ⟨_, _, _, _, _, _, _, core, n, _, _, _, hbody⟩ := hm
  simp only [bodyK, Body.sealed.injEq] at hbody
  have := masterKey_ge .chacha R2.ecdhPub R1.ecdhPub
  rw [← hbody.1] at this
  exact absurd this (by decide)

def bLeft : InitSt := { b1 with crypto := some (Core.new 7 true 8 []) }
def rB : Res := handleInit env0 (bodyK 7) C05Lockstep.Toy.okP bLeft v1 Q2
def rB2 : Res := handleInit env0 (bodyK 7) C05Lockstep.Toy.okP (stOf rB) (pengTo a1 0) R4

/-- counterexample 2 (`hcr` is needed; `hdummy` holds): the object carries a left-over core with key 7, both ends allow plain: the peng
    payload is opened with the left-over core; the core is kept and the reported payload `[42]` is not the transmitted one -/
theorem hcr_needed : ¬ RespBinds false true := by
  intro H
  have ev : isCont rB = true ∧ (stOf rB).stage = Generated.STAGE_PENG ∧ isSucc [42] rB2 = true ∧
      readFrom env0 v1 bLeft.trusted = .ok (pingMsg a1 Q1, a1.ownKey) ∧ (stOf rB2).crypto ≠ none := by decide +kernel
  obtain ⟨ha, ea, aa, k1, hb, pl, k2, hr1, hr2, _, hm⟩ := H env0 (bodyK 7) C05Lockstep.Toy.okP bLeft (stOf rB) (stOf rB2) v1 (pengTo a1 0) Q2 R4 (outOf rB) (outOf rB2) [42] (logOf rB) (logOf rB2) rfl
    (fun h => by cases h) (fun _ x n q hh => by simp only [bodyK, Body.sealed.injEq] at hh; exact absurd hh.1 (by decide))
    (isCont_eq ev.1) ev.2.1 (isSucc_eq ev.2.2.1)
  rw [ev.2.2.2.1] at hr1
  simp only [pingMsg, Except.ok.injEq, Prod.mk.injEq, InitMsg.ping.injEq] at hr1
  obtain ⟨⟨_, rfl, rfl⟩, _⟩ := hr1
  have e2 : selectAlgorithm bLeft.algos a1.algos = .ok none := by decide
  rw [e2] at hm
  exact ev.2.2.2.2 hm.2.1

/-! ### non-vacuity of `responder_success_binds` -/

def keyOf : Body → Option KeyRef
  | .sealed k _ _ => some k
  | .garbage _ => none

theorem body_not_dummy : ∀ x n q, C05Lockstep.Toy.body a0 b0 x ≠ .sealed R2.dummy n q := by
  intro x n q hh
  unfold C05Lockstep.Toy.body at hh
  split at hh
  · rename_i e he
    have hmem := List.mem_of_find?_eq_some he
    have hall : ∀ e ∈ C05Lockstep.log2 a0 b0 C05Lockstep.Toy.R1 C05Lockstep.Toy.R2 ++
        C05Lockstep.log3 a0 b0 C05Lockstep.Toy.R1 C05Lockstep.Toy.R2 C05Lockstep.Toy.R3, keyOf e.2 ≠ some 1 := by decide +kernel
    apply hall e hmem
    rw [hh]; rfl
  · cases hh

def rN : Res := handleInit env0 (C05Lockstep.Toy.body a0 b0) C05Lockstep.Toy.okP b0 w1 R2
def rN2 : Res := handleInit env0 (C05Lockstep.Toy.body a0 b0) C05Lockstep.Toy.okP (stOf rN) w3 R4

/-- non-vacuity of `responder_success_binds`: all hypotheses hold for the responder of the loss-free run (cipher chacha) -/
example : RespBound env0 (C05Lockstep.Toy.body a0 b0) b0 (stOf rN) (stOf rN2) w1 w3 R2 (outOf rN) [10, 11] (logOf rN) :=
  have ev : isCont rN = true ∧ (stOf rN).stage = Generated.STAGE_PENG ∧ isSucc [10, 11] rN2 = true := by decide +kernel
  responder_success_binds env0 (C05Lockstep.Toy.body a0 b0) C05Lockstep.Toy.okP b0 (stOf rN) (stOf rN2) w1 w3 R2 R4 (outOf rN) (outOf rN2)
    [10, 11] (logOf rN) (logOf rN2) rfl rfl body_not_dummy (isCont_eq ev.1) ev.2.1 (isSucc_eq ev.2.2)

end Toy

end VpnCloud.Proofs.C05Agree
