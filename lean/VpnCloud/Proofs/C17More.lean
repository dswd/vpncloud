import VpnCloud.Proofs.C17
import VpnCloud.Proofs.Lemmas.Codec.C17MoreLemmas
/-
  C17, second part — beacons inside arbitrary text: no panic of `decode` on any text, a beacon embedded in a
  host text and interleaved with non-alphanumeric characters is found, several beacons are all found, a beacon
  made with another password is ignored unless hash outputs collide, the age window is symmetric on the
  16-bit hour counter.

  The definitions used to state the theorems (`Checked.*`, `Old.*`, `MarkersOK`, `interleave`, `NoOverlap`,
  `Unbordered`) are in `Proofs/Lemmas/Codec/C17MoreLemmas.lean`.

  The block counter of `mask_with_keystream` is a wrapping `u8` (/repo commit "fix: do not overflow the
  keystream block counter …"): `decode_never_panics` holds for texts of every length in every build
  profile.  What the code before that commit did (`Old`, described where it is defined) is stated in section 1b.
-/
namespace VpnCloud.Proofs.C17More

open VpnCloud.Beacon VpnCloud.Codec VpnCloud.Base62 VpnCloud.Spec.C17 VpnCloud.Proofs.C17
open VpnCloud.Proofs.BeaconLemmas VpnCloud.Proofs.C17MoreLemmas
open VpnCloud.Proofs.C17More.Checked VpnCloud.Proofs.C17More.Old

/-! ## 1. `decode` never panics -/

/-- index condition of `&data[start_pos..end_pos]`: the end marker is searched behind the begin marker, so
    `start_pos ≤ end_pos ≤ data.len()` -/
theorem end_in_bounds (data E : List Char) (startPos g : Nat) (hs : startPos ≤ data.length)
    (h : findSub (data.drop startPos) E = some g) : startPos ≤ startPos + g ∧ startPos + g ≤ data.length := by
  obtain ⟨h1, _, _⟩ := findSub_some h
  rw [List.length_drop] at h1
  omega

/-- the `while` loop of `decode` ends: with a non-empty begin marker the position grows in every round, so the
    fuel of the model (`data.length + 1` rounds) is never used up — more fuel gives the same result -/
theorem decodeLoop_fuel (env : BeaconEnv) (data : List Char) (ttl : Option Nat) (now : Nat)
    (hB : beginMarker env ≠ []) :
    ∀ fuel1 fuel2 pos, pos ≤ data.length → data.length + 1 ≤ fuel1 + pos → data.length + 1 ≤ fuel2 + pos →
      decodeLoop env data ttl now fuel1 pos = decodeLoop env data ttl now fuel2 pos :=
  fun fuel1 fuel2 pos h1 h2 h3 => (decodeLoop_eq_run env ttl now hB fuel1 data pos h1 h2).trans
    (decodeLoop_eq_run env ttl now hB fuel2 data pos h1 h3).symm

/-- **decode_never_panics**: for EVERY text (of any length), time and ttl, in every build profile, none of the panic
    sites of `decode` / `peerlist_decode` / `decrypt_data` / `mask_with_keystream` is reached (slices, indices,
    `expect` on `from_base62`, `unwrap`, the two `assert!`s; the block counter wraps), the loop ends, and the result
    is the one of the model.  The hypotheses concern the key only: the hash returns 64 proper bytes (`EnvWF`) and
    `begin()` / `end()` themselves do not panic (`MarkersOK`: needed, see `zeroEnv` below; it holds whenever the two
    marker hashes do not start with 61 zero bytes, `markersOK_of_nonzero`). -/
theorem decode_never_panics (env : BeaconEnv) (h : EnvWF env) (hm : MarkersOK env)
    (text : List Char) (ttl : Option Nat) (now : Nat) :
    decodeChk env text ttl now = some (decode env text ttl now) := by
  obtain ⟨⟨sb, hb1, hb2⟩, ⟨se, he1, he2⟩⟩ := hm
  obtain ⟨eb, lb⟩ := markerChk_some env TYPE_BEGIN sb hb1 hb2
  obtain ⟨ee, _⟩ := markerChk_some env TYPE_END se he1 he2
  unfold decodeChk decode
  rw [eb, ee]
  exact decodeLoopChk_eq env h (sanitize text) ttl now (sanitize_alnum text)
    (by show 1 ≤ (marker env TYPE_BEGIN).length; omega) _ 0 (Nat.zero_le _) (by omega)

/-- **decode_never_panics**, build with overflow checks (debug / test profile): the same statement — `wrapping_add`
    cannot panic, so the build profile makes no difference and there is no bound on the length of the text (for the
    code before the counter fix the bound was 4096 alphanumeric characters, see section 1b). -/
theorem decode_never_panics_checked (env : BeaconEnv) (h : EnvWF env) (hm : MarkersOK env)
    (text : List Char) (ttl : Option Nat) (now : Nat) :
    decodeChk env text ttl now = some (decode env text ttl now) :=
  decode_never_panics env h hm text ttl now

/-- `begin()` / `end()` do not panic iff each of the two marker hashes, read as a big-endian number, is at least
    `62^4` (then its base-62 text has 5 characters or more); that `to_base62` itself does not panic follows from the
    definitions -/
theorem markersOK_iff (env : BeaconEnv) (h : EnvWF env) :
    MarkersOK env ↔ 14776336 ≤ Bytes.beVal (env.ks TYPE_BEGIN 0 0) ∧ 14776336 ≤ Bytes.beVal (env.ks TYPE_END 0 0) := by
  unfold MarkersOK
  rw [toBase62_len5_iff _ (h.ks_wf TYPE_BEGIN 0 0).1, toBase62_len5_iff _ (h.ks_wf TYPE_END 0 0).1]

/-- the marker hashes do not begin with 61 zero bytes (for SHA-512 and a given key: all but a fraction of `2^-487`
    of the outputs) -/
def MarkerHashesNonzero (env : BeaconEnv) : Prop :=
  (∃ i, i ≤ 60 ∧ (env.ks TYPE_BEGIN 0 0).getD i 0 ≠ 0) ∧ (∃ i, i ≤ 60 ∧ (env.ks TYPE_END 0 0).getD i 0 ≠ 0)

theorem markersOK_of_nonzero (env : BeaconEnv) (h : EnvWF env) (hn : MarkerHashesNonzero env) : MarkersOK env := by
  obtain ⟨⟨i, hi, hx⟩, ⟨j, hj, hy⟩⟩ := hn
  exact ⟨len5_of_nonzero _ (h.ks_wf _ 0 0).1 (h.ks_wf _ 0 0).2 i hi hx,
    len5_of_nonzero _ (h.ks_wf _ 0 0).1 (h.ks_wf _ 0 0).2 j hj hy⟩

/-- **decode_never_panics** with the hypothesis on the markers replaced by a plain condition on the two marker
    hashes: neither begins with 61 zero bytes -/
theorem decode_never_panics_of_hash (env : BeaconEnv) (h : EnvWF env) (hn : MarkerHashesNonzero env)
    (text : List Char) (ttl : Option Nat) (now : Nat) :
    decodeChk env text ttl now = some (decode env text ttl now) :=
  decode_never_panics env h (markersOK_of_nonzero env h hn) text ttl now

/-- the mask loop of the current code does not panic on data of any length (in particular beyond 4096 bytes) and
    computes `mask` -/
theorem mask_never_panics (env : BeaconEnv) (h : EnvWF env) (t s : Nat) (d : Bytes) :
    maskFromChk env t s d 0 0 = some (mask env d t s) :=
  maskFromChk_eq env h t s d 0 0 (by omega)

/-- **long_body_roundtrip**, instrumented code: encrypting and decrypting a body of any length (in particular of
    more than 4096 bytes) reaches no panic site and returns the body -/
theorem long_body_roundtrip_checked (env : BeaconEnv) (h : EnvWF env) (d : Bytes) :
    decryptDataChk env (encryptData env d) = some (some d) := by
  rw [decryptDataChk_eq env h, VpnCloud.Proofs.C17.encrypt_decrypt env h d]

/-! ## 1b. the code before the counter fix (`Old.*`): it panicked on a candidate body of more than 4096 bytes

  Replayed on the real code of that time with begin marker + 5600 alphanumeric characters + end marker;
  `overflow_text_exists_old` and the examples of section 6 show the same inputs on the current code. -/

/-- **old_counter_overflows** (OLD code, overflow checks): the mask loop panics exactly when it is given 4096 bytes
    or more (`iter += 1` with `iter = 255` when the 256th block ends); below that it computes `mask` -/
theorem old_counter_overflows (env : BeaconEnv) (h : EnvWF env) (t s : Nat) (d : Bytes) :
    (maskFromOld env t s d 0 0 = none ↔ 4096 ≤ d.length) ∧
    (d.length < 4096 → maskFromOld env t s d 0 0 = some (mask env d t s)) := by
  rw [maskFromOld_eq env h t s d 0 0 (by omega) (by omega)]
  by_cases hc : 4096 ≤ 16 * 0 + 0 + d.length
  · rw [if_pos hc]; exact ⟨⟨fun _ => (by omega), fun _ => rfl⟩, fun h' => (by omega)⟩
  · rw [if_neg hc]; exact ⟨⟨fun e => (by cases e), fun h' => (by omega)⟩, fun _ => rfl⟩

theorem decryptDataOld_eq (env : BeaconEnv) (h : EnvWF env) (data : Bytes) :
    decryptDataOld env data = if 4096 < data.length then none else decryptDataChk env data := by
  unfold decryptDataOld decryptDataChk
  rcases List.eq_nil_or_concat data with rfl | ⟨body, last, rfl⟩
  · rfl
  · have hne : (body ++ [last]).isEmpty = false := by cases body <;> rfl
    simp only [List.concat_eq_append, hne, Bool.false_eq_true, if_false, List.getLast?_concat, List.dropLast_concat, List.length_append,
      List.length_singleton]
    rw [ks_idx env h _ _ _ _ (by omega)]
    simp only []
    rw [maskFromOld_eq env h _ _ body 0 0 (by omega) (by omega), maskFromChk_eq env h _ _ body 0 0 (by omega)]
    by_cases hl : 4096 < body.length + 1
    · rw [if_pos hl, if_pos (by omega)]
    · rw [if_neg hl, if_neg (by omega)]

theorem old_decrypt_overflows (env : BeaconEnv) (h : EnvWF env) (data : Bytes) :
    decryptDataOld env data = none ↔ 4096 < data.length := by
  rw [decryptDataOld_eq env h, decryptDataChk_eq env h]
  by_cases hl : 4096 < data.length
  · rw [if_pos hl]; exact ⟨fun _ => hl, fun _ => rfl⟩
  · rw [if_neg hl]; exact ⟨fun e => (by cases e), fun h' => absurd h' hl⟩

/-- (OLD code) a candidate text that denotes more than 4096 bytes made `peerlist_decode` panic -/
theorem peerlistDecode_overflow_panics_old (env : BeaconEnv) (h : EnvWF env) (text : List Char) (data : Bytes)
    (ttl : Option Nat) (now : Nat) (e : fromBase62 text = .ok data) (hl : 4096 < data.length) :
    peerlistDecodeOld env text ttl now = none := by
  unfold peerlistDecodeOld
  rw [e]
  simp only []
  rw [if_neg (by omega), (old_decrypt_overflows env h data).mpr hl]

/-- the witness of the finding: 4097 bytes of value 1 as base-62 text (alphanumeric, 4097 bytes after decoding) -/
theorem long_text_exists : ∃ text : List Char, (∀ c ∈ text, c.isAlphanum = true) ∧
    fromBase62 text = .ok (List.replicate 4097 1) := by
  have hwf : Bytes.WF (List.replicate 4097 1) := Bytes.wf_replicate _ _ (by omega)
  obtain ⟨cs, e1, e2⟩ := VpnCloud.Proofs.C18.from_to (List.replicate 4097 1) hwf
  have hhd : (List.replicate 4097 1).head? ≠ some 0 := by
    rw [show (4097 : Nat) = 4096 + 1 from rfl, List.replicate_succ, List.head?_cons]
    intro hc
    exact absurd (Option.some.inj hc) (by decide)
  rw [Base62Lemmas.dlz_id _ hhd] at e2
  exact ⟨cs, toBase62_alnum _ hwf cs e1, e2⟩

/-- **overflow_text_exists_old** (OLD code, overflow checks): for every key there is an alphanumeric text on which
    `peerlist_decode` panicked — the defect that was fixed — while the CURRENT code decodes the very same text
    without reaching a panic site -/
theorem overflow_text_exists_old (env : BeaconEnv) (h : EnvWF env) (ttl : Option Nat) (now : Nat) :
    ∃ text : List Char, (∀ c ∈ text, c.isAlphanum = true) ∧
      peerlistDecodeOld env text ttl now = none ∧
      peerlistDecodeChk env text ttl now = some (peerlistDecode env text ttl now) := by
  obtain ⟨cs, hal, e⟩ := long_text_exists
  exact ⟨cs, hal,
    peerlistDecode_overflow_panics_old env h cs _ ttl now e (by rw [List.length_replicate]; omega),
    peerlistDecodeChk_eq env h cs ttl now hal⟩

/-- on short candidates (at most 4096 bytes) the old code and the current code agree: the fix changed nothing else -/
theorem old_agrees_below (env : BeaconEnv) (h : EnvWF env) (data : Bytes) (hl : data.length ≤ 4096) :
    decryptDataOld env data = decryptDataChk env data := by
  rw [decryptDataOld_eq env h, if_neg (by omega)]

/-! ## 2. a beacon embedded in arbitrary text is found -/

/-- `sanitize` drops exactly the interleaved junk -/
theorem sanitize_interleave (text : List Char) (js : List (List Char))
    (hj : ∀ j ∈ js, ∀ c ∈ j, c.isAlphanum = false) : sanitize (interleave text js) = sanitize text :=
  C17MoreLemmas.sanitize_interleave text js hj

theorem beacon_alnum (env : BeaconEnv) (h : EnvWF env) (body : List Char)
    (hbody : ∀ c ∈ body, c.isAlphanum = true) :
    ∀ c ∈ beginMarker env ++ body ++ endMarker env, c.isAlphanum = true := by
  intro c hc
  simp only [List.mem_append] at hc
  rcases hc with (hc | hc) | hc
  · exact marker_alnum env h _ c hc
  · exact hbody c hc
  · exact marker_alnum env h _ c hc

theorem sanitize_host (env : BeaconEnv) (h : EnvWF env) (body pre post : List Char) (js : List (List Char))
    (hbody : ∀ c ∈ body, c.isAlphanum = true) (hjs : ∀ j ∈ js, ∀ c ∈ j, c.isAlphanum = false) :
    sanitize (pre ++ interleave (beginMarker env ++ body ++ endMarker env) js ++ post) =
      sanitize pre ++ (beginMarker env ++ (body ++ (endMarker env ++ sanitize post))) := by
  have hall := beacon_alnum env h body hbody
  rw [sanitize_append, sanitize_append, C17MoreLemmas.sanitize_interleave _ _ hjs, sanitize_id _ hall]
  simp only [List.append_assoc]

theorem hE_body (B T E : List Char)
    (hE : ∀ j, B.length ≤ j → j + E.length < (B ++ T ++ E).length → E.isPrefixOf ((B ++ T ++ E).drop j) = false) :
    ∀ j, j < T.length → E.isPrefixOf ((T ++ E).drop j) = false := by
  intro j hj
  have := hE (B.length + j) (by omega) (by simp only [List.length_append]; omega)
  rwa [List.append_assoc, ← List.drop_drop, List.drop_left] at this

theorem body_decodes (env : BeaconEnv) (h : EnvWF env) (peers : List SockAddr) (hour now : Nat) (ttl : Option Nat)
    (hp : ∀ a ∈ peers, sockWF a = true) (h4 : (peers.filter isV4).length ≤ 255) (hh : hour < 65536)
    (hz : (encryptData env (plainBody peers hour)).head? ≠ some 0) (bt : List Char)
    (hbt : encode env peers hour = some bt) :
    ∃ body, bt = beginMarker env ++ body ++ endMarker env ∧ (∀ c ∈ body, c.isAlphanum = true) ∧
      peerlistDecode env body ttl now = if ageOk now hour ttl then normPeers peers else [] := by
  obtain ⟨body, e1, e2⟩ := encoded_decodes env h peers hour now ttl hp h4 hh hz
  rw [encode_eq env peers hour body e1] at hbt
  exact ⟨body, (Option.some.inj hbt).symm, peerlistEncode_alnum env h peers hour hp body e1, e2⟩

/-- **embedded_found**: a beacon for `peers`, interleaved with arbitrary non-alphanumeric characters `js` and put
    between arbitrary texts `pre` and `post`, is found by a node with the same password: the decoded list
    contains the peers (IPv4 first) as a block.  Hypotheses, each necessary (counterexamples below): `hz` the
    recorded defect (the masked body must not begin with a zero byte), `hE` the beacon text does not contain its
    end marker before the final one, `hov` no begin marker that starts in the sanitised `pre` runs into the
    beacon's own begin marker (`pre` may contain complete begin markers and whole other beacons), `hB` the begin
    marker is not empty (it has 5 characters whenever `begin()` does not panic). -/
theorem embedded_found (env : BeaconEnv) (h : EnvWF env) (peers : List SockAddr) (hour now : Nat) (ttl : Option Nat)
    (hp : ∀ a ∈ peers, sockWF a = true) (h4 : (peers.filter isV4).length ≤ 255) (hh : hour < 65536)
    (hz : (encryptData env (plainBody peers hour)).head? ≠ some 0) (hage : ageOk now hour ttl = true)
    (bt : List Char) (hbt : encode env peers hour = some bt)
    (pre post : List Char) (js : List (List Char)) (hjs : ∀ j ∈ js, ∀ c ∈ j, c.isAlphanum = false)
    (hB : beginMarker env ≠ [])
    (hov : NoOverlap (sanitize pre) (beginMarker env))
    (hE : ∀ j, (beginMarker env).length ≤ j → j + (endMarker env).length < bt.length →
      (endMarker env).isPrefixOf (bt.drop j) = false) :
    ∃ before after, decode env (pre ++ interleave bt js ++ post) ttl now = before ++ normPeers peers ++ after := by
  obtain ⟨body, rfl, hal, e2⟩ := body_decodes env h peers hour now ttl hp h4 hh hz bt hbt
  rw [hage, if_pos rfl] at e2
  obtain ⟨before, e⟩ := run_reaches env ttl now body (sanitize post) hB (hE_body _ _ _ hE) _ (sanitize pre)
    (Nat.lt_succ_self _) hov
  exact ⟨before, _, by rw [decode_eq_run, sanitize_host env h body pre post js hal hjs, e, e2]⟩

/-- **embedded_found** for a key whose begin marker has no border (no proper prefix that is also a suffix — true
    of about 98 % of all markers): then `pre` and `post` are completely arbitrary -/
theorem embedded_found_unbordered (env : BeaconEnv) (h : EnvWF env) (peers : List SockAddr) (hour now : Nat)
    (ttl : Option Nat)
    (hp : ∀ a ∈ peers, sockWF a = true) (h4 : (peers.filter isV4).length ≤ 255) (hh : hour < 65536)
    (hz : (encryptData env (plainBody peers hour)).head? ≠ some 0) (hage : ageOk now hour ttl = true)
    (bt : List Char) (hbt : encode env peers hour = some bt)
    (pre post : List Char) (js : List (List Char)) (hjs : ∀ j ∈ js, ∀ c ∈ j, c.isAlphanum = false)
    (hB : beginMarker env ≠ []) (hub : Unbordered (beginMarker env))
    (hE : ∀ j, (beginMarker env).length ≤ j → j + (endMarker env).length < bt.length →
      (endMarker env).isPrefixOf (bt.drop j) = false) :
    ∃ before after, decode env (pre ++ interleave bt js ++ post) ttl now = before ++ normPeers peers ++ after :=
  embedded_found env h peers hour now ttl hp h4 hh hz hage bt hbt pre post js hjs hB
    (noOverlap_of_unbordered _ _ hub) hE

/-! ## 3. several beacons in one text -/

/-- **several_beacons**: a text with two beacons made with the same password, one behind the other (each
    interleaved with junk, arbitrary text before, between and behind), yields the peers of both, in this order:
    the loop of `decode` continues behind the first beacon.  Hypotheses as in `embedded_found`, for each beacon. -/
theorem several_beacons (env : BeaconEnv) (h : EnvWF env) (peers1 peers2 : List SockAddr) (hour1 hour2 now : Nat)
    (ttl : Option Nat)
    (hp1 : ∀ a ∈ peers1, sockWF a = true) (h41 : (peers1.filter isV4).length ≤ 255) (hh1 : hour1 < 65536)
    (hz1 : (encryptData env (plainBody peers1 hour1)).head? ≠ some 0) (hage1 : ageOk now hour1 ttl = true)
    (hp2 : ∀ a ∈ peers2, sockWF a = true) (h42 : (peers2.filter isV4).length ≤ 255) (hh2 : hour2 < 65536)
    (hz2 : (encryptData env (plainBody peers2 hour2)).head? ≠ some 0) (hage2 : ageOk now hour2 ttl = true)
    (bt1 bt2 : List Char) (hbt1 : encode env peers1 hour1 = some bt1) (hbt2 : encode env peers2 hour2 = some bt2)
    (pre mid post : List Char) (js1 js2 : List (List Char))
    (hjs1 : ∀ j ∈ js1, ∀ c ∈ j, c.isAlphanum = false) (hjs2 : ∀ j ∈ js2, ∀ c ∈ j, c.isAlphanum = false)
    (hB : beginMarker env ≠ [])
    (hov1 : NoOverlap (sanitize pre) (beginMarker env))
    (hov2 : NoOverlap (sanitize pre ++ bt1 ++ sanitize mid) (beginMarker env))
    (hE1 : ∀ j, (beginMarker env).length ≤ j → j + (endMarker env).length < bt1.length →
      (endMarker env).isPrefixOf (bt1.drop j) = false)
    (hE2 : ∀ j, (beginMarker env).length ≤ j → j + (endMarker env).length < bt2.length →
      (endMarker env).isPrefixOf (bt2.drop j) = false) :
    ∃ before between after,
      decode env (pre ++ interleave bt1 js1 ++ mid ++ interleave bt2 js2 ++ post) ttl now =
        before ++ normPeers peers1 ++ between ++ normPeers peers2 ++ after := by
  obtain ⟨body1, rfl, hal1, d1⟩ := body_decodes env h peers1 hour1 now ttl hp1 h41 hh1 hz1 bt1 hbt1
  obtain ⟨body2, rfl, hal2, d2⟩ := body_decodes env h peers2 hour2 now ttl hp2 h42 hh2 hz2 bt2 hbt2
  rw [hage1, if_pos rfl] at d1
  rw [hage2, if_pos rfl] at d2
  have hs : sanitize (pre ++ interleave (beginMarker env ++ body1 ++ endMarker env) js1 ++ mid ++
      interleave (beginMarker env ++ body2 ++ endMarker env) js2 ++ post) =
      sanitize pre ++ (beginMarker env ++ (body1 ++ (endMarker env ++
        (sanitize mid ++ (beginMarker env ++ (body2 ++ (endMarker env ++ sanitize post))))))) := by
    have := sanitize_host env h body2 (pre ++ interleave (beginMarker env ++ body1 ++ endMarker env) js1 ++ mid)
      post js2 hal2 hjs2
    rw [this, sanitize_host env h body1 pre mid js1 hal1 hjs1]
    simp only [List.append_assoc]
  have hov2' : NoOverlap (body1 ++ endMarker env ++ sanitize mid) (beginMarker env) := by
    have := noOverlap_drop _ _ ((sanitize pre).length + (beginMarker env).length) hov2
    simp only [List.append_assoc] at this
    rwa [← List.drop_drop, List.drop_left, List.drop_left, ← List.append_assoc] at this
  obtain ⟨before, _, e, between, after, e', _⟩ := all_found env ttl now hB (sanitize post)
    [(sanitize pre, body1), (sanitize mid, body2)] [] ⟨hov1, hE_body _ _ _ hE1, hov2', hE_body _ _ _ hE2, trivial⟩
  refine ⟨before, between, after, ?_⟩
  rw [decode_eq_run, hs]
  exact e.trans (by rw [e']; simp only [d1, d2, List.append_assoc])

/-- **several_beacons** for a key whose begin marker has no border: the texts before, between and behind the two
    beacons are arbitrary -/
theorem several_beacons_unbordered (env : BeaconEnv) (h : EnvWF env) (peers1 peers2 : List SockAddr)
    (hour1 hour2 now : Nat) (ttl : Option Nat)
    (hp1 : ∀ a ∈ peers1, sockWF a = true) (h41 : (peers1.filter isV4).length ≤ 255) (hh1 : hour1 < 65536)
    (hz1 : (encryptData env (plainBody peers1 hour1)).head? ≠ some 0) (hage1 : ageOk now hour1 ttl = true)
    (hp2 : ∀ a ∈ peers2, sockWF a = true) (h42 : (peers2.filter isV4).length ≤ 255) (hh2 : hour2 < 65536)
    (hz2 : (encryptData env (plainBody peers2 hour2)).head? ≠ some 0) (hage2 : ageOk now hour2 ttl = true)
    (bt1 bt2 : List Char) (hbt1 : encode env peers1 hour1 = some bt1) (hbt2 : encode env peers2 hour2 = some bt2)
    (pre mid post : List Char) (js1 js2 : List (List Char))
    (hjs1 : ∀ j ∈ js1, ∀ c ∈ j, c.isAlphanum = false) (hjs2 : ∀ j ∈ js2, ∀ c ∈ j, c.isAlphanum = false)
    (hB : beginMarker env ≠ []) (hub : Unbordered (beginMarker env))
    (hE1 : ∀ j, (beginMarker env).length ≤ j → j + (endMarker env).length < bt1.length →
      (endMarker env).isPrefixOf (bt1.drop j) = false)
    (hE2 : ∀ j, (beginMarker env).length ≤ j → j + (endMarker env).length < bt2.length →
      (endMarker env).isPrefixOf (bt2.drop j) = false) :
    ∃ before between after,
      decode env (pre ++ interleave bt1 js1 ++ mid ++ interleave bt2 js2 ++ post) ttl now =
        before ++ normPeers peers1 ++ between ++ normPeers peers2 ++ after :=
  several_beacons env h peers1 peers2 hour1 hour2 now ttl hp1 h41 hh1 hz1 hage1 hp2 h42 hh2 hz2 hage2 bt1 bt2
    hbt1 hbt2 pre mid post js1 js2 hjs1 hjs2 hB (noOverlap_of_unbordered _ _ hub)
    (noOverlap_of_unbordered _ _ hub) hE1 hE2

/-! ## 4. a beacon made with another password -/

/-- a beacon text standing alone (interleaved with junk only) is decoded as its body; `hE`: the end marker does not
    occur in the beacon text before the final one, `hBc`: the begin marker does not occur again behind the first -/
theorem clean_decode (env : BeaconEnv) (h : EnvWF env) (body : List Char) (js : List (List Char))
    (ttl : Option Nat) (now : Nat)
    (hbody : ∀ c ∈ body, c.isAlphanum = true) (hjs : ∀ j ∈ js, ∀ c ∈ j, c.isAlphanum = false)
    (hE : ∀ j, (beginMarker env).length ≤ j → j + (endMarker env).length < (beginMarker env ++ body ++ endMarker env).length →
      (endMarker env).isPrefixOf ((beginMarker env ++ body ++ endMarker env).drop j) = false)
    (hBc : ∀ j, (beginMarker env).length ≤ j →
      (beginMarker env).isPrefixOf ((beginMarker env ++ body ++ endMarker env).drop j) = false) :
    decode env (interleave (beginMarker env ++ body ++ endMarker env) js) ttl now = peerlistDecode env body ttl now := by
  rw [decode_eq_run, C17MoreLemmas.sanitize_interleave _ _ hjs, ← decode_eq_run]
  exact decode_single env body ttl now (beacon_alnum env h body hbody) (hE_body _ _ _ hE) (by
    intro j _
    have := hBc ((beginMarker env).length + j) (by omega)
    rwa [List.append_assoc, ← List.drop_drop, List.drop_left] at this)

/-- first line of defence: a text in which the begin marker of the reader's key does not occur yields nothing -/
theorem begin_absent_ignored (env : BeaconEnv) (text : List Char) (ttl : Option Nat) (now : Nat)
    (hB : ∀ j, (beginMarker env).isPrefixOf ((sanitize text).drop j) = false) : decode env text ttl now = [] :=
  run_absent env ttl now _ fun j _ => hB j

/-- … and so does a text in which the end marker of the reader's key does not occur -/
theorem end_absent_ignored (env : BeaconEnv) (text : List Char) (ttl : Option Nat) (now : Nat)
    (hE : ∀ j, (endMarker env).isPrefixOf ((sanitize text).drop j) = false) : decode env text ttl now = [] := by
  unfold decode
  rw [decodeLoop_succ]
  cases findSub ((sanitize text).drop 0) (beginMarker env) with
  | none => rfl
  | some f =>
    simp only []
    rw [findSub_absent _ _ (by intro j _; rw [List.drop_drop]; exact hE _)]

/-- anything a node extracts from a text shows that both markers of ITS key occur in the sanitised text: for a
    beacon made with another password this is a collision of the first 5 base-62 digits of two pairs of hashes -/
theorem extracted_needs_markers (env : BeaconEnv) (text : List Char) (ttl : Option Nat) (now : Nat)
    (hne : decode env text ttl now ≠ []) :
    (∃ j, (beginMarker env).isPrefixOf ((sanitize text).drop j) = true) ∧
    (∃ j, (endMarker env).isPrefixOf ((sanitize text).drop j) = true) :=
  ⟨(Classical.not_forall.mp fun hB => hne (begin_absent_ignored env text ttl now hB)).imp
      fun _ hj => (Bool.not_eq_false _).mp hj,
   (Classical.not_forall.mp fun hE => hne (end_absent_ignored env text ttl now hE)).imp
      fun _ hj => (Bool.not_eq_false _).mp hj⟩

/-- the seed a node with key `env2` computes from the last byte of data encrypted with key `env1` -/
def foreignSeed (env1 env2 : BeaconEnv) (d : Bytes) : Nat :=
  (env1.h0 d ^^^ (env1.ks TYPE_SEED 0 0).getD 0 0) ^^^ (env2.ks TYPE_SEED 0 0).getD 0 0

/-- the body it obtains by unmasking with its own key stream -/
def foreignBody (env1 env2 : BeaconEnv) (d : Bytes) : Bytes :=
  mask env2 (mask env1 d TYPE_DATA (env1.h0 d)) TYPE_DATA (foreignSeed env1 env2 d)

/-- the collision of hash outputs under which the one-byte seed check accepts foreign data: the first hash byte of
    the wrongly unmasked body equals the wrongly unmasked seed byte -/
def SeedCollision (env1 env2 : BeaconEnv) (d : Bytes) : Prop :=
  foreignSeed env1 env2 d = env2.h0 (foreignBody env1 env2 d)

instance (env1 env2 : BeaconEnv) (d : Bytes) : Decidable (SeedCollision env1 env2 d) := by
  unfold SeedCollision; infer_instance

/-- second line of defence, exactly: `decrypt_data` with key 2 accepts data encrypted with key 1 iff the seed
    collision holds (for one and the same key it always holds: `encrypt_decrypt`) -/
theorem foreign_seed_check (env1 env2 : BeaconEnv) (d : Bytes) :
    decryptData env2 (encryptData env1 d) =
      if SeedCollision env1 env2 d then some (foreignBody env1 env2 d) else none := by
  rw [encryptData_eq]
  unfold decryptData
  simp only [List.getLast?_append, List.getLast?_singleton, Option.some_or, List.dropLast_concat]
  rfl

theorem seedCollision_self (env : BeaconEnv) (d : Bytes) : SeedCollision env env d := by
  unfold SeedCollision foreignBody foreignSeed
  rw [xor_cancel]
  show env.h0 d = env.h0 (mask env (mask env d TYPE_DATA (env.h0 d)) TYPE_DATA (env.h0 d))
  rw [VpnCloud.Proofs.C17.mask_involutive]

/-- what a node with key `env2` extracts from a clean beacon text made with key `env1` whose markers coincide with
    its own: nothing, unless the seed collision holds — then whatever the wrongly unmasked bytes parse to -/
theorem foreign_clean_decode (env1 env2 : BeaconEnv) (h1 : EnvWF env1) (h2 : EnvWF env2) (peers : List SockAddr)
    (hour now : Nat) (ttl : Option Nat) (hp : ∀ a ∈ peers, sockWF a = true)
    (hz : (encryptData env1 (plainBody peers hour)).head? ≠ some 0)
    (bt : List Char) (hbt : encode env1 peers hour = some bt)
    (js : List (List Char)) (hjs : ∀ j ∈ js, ∀ c ∈ j, c.isAlphanum = false)
    (hmB : beginMarker env2 = beginMarker env1) (hmE : endMarker env2 = endMarker env1)
    (hE : ∀ j, (beginMarker env1).length ≤ j → j + (endMarker env1).length < bt.length →
      (endMarker env1).isPrefixOf (bt.drop j) = false)
    (hBc : ∀ j, (beginMarker env1).length ≤ j → (beginMarker env1).isPrefixOf (bt.drop j) = false) :
    decode env2 (interleave bt js) ttl now =
      if SeedCollision env1 env2 (plainBody peers hour)
      then bodyParse (foreignBody env1 env2 (plainBody peers hour)) ttl now else [] := by
  obtain ⟨body, e1, e2⟩ := encoded_read env1 env2 h1 peers hour hp hz
  rw [encode_eq env1 peers hour body e1] at hbt
  cases hbt
  have hal := peerlistEncode_alnum env1 h1 peers hour hp body e1
  rw [← hmB, ← hmE] at hE hBc ⊢
  rw [clean_decode env2 h2 body js ttl now hal hjs hE hBc, e2, foreign_seed_check]
  by_cases hc : SeedCollision env1 env2 (plainBody peers hour)
  · simp only [hc, if_true]
  · simp only [hc, if_false]

/-- **other_password_ignored**: a beacon made with key 1 is ignored by a node with key 2 — by `extracted_needs_markers`
    whenever the markers of key 2 do not occur in the text, and, when the markers of the two keys happen to
    coincide, by the seed byte UNLESS the hash collision `SeedCollision` holds (1 of 256 for a random hash; the
    code says so: "the 1 byte seed is only meant to protect from random changes") -/
theorem other_password_ignored (env1 env2 : BeaconEnv) (h1 : EnvWF env1) (h2 : EnvWF env2) (peers : List SockAddr)
    (hour now : Nat) (ttl : Option Nat) (hp : ∀ a ∈ peers, sockWF a = true)
    (hz : (encryptData env1 (plainBody peers hour)).head? ≠ some 0)
    (bt : List Char) (hbt : encode env1 peers hour = some bt)
    (js : List (List Char)) (hjs : ∀ j ∈ js, ∀ c ∈ j, c.isAlphanum = false)
    (hmB : beginMarker env2 = beginMarker env1) (hmE : endMarker env2 = endMarker env1)
    (hE : ∀ j, (beginMarker env1).length ≤ j → j + (endMarker env1).length < bt.length →
      (endMarker env1).isPrefixOf (bt.drop j) = false)
    (hBc : ∀ j, (beginMarker env1).length ≤ j → (beginMarker env1).isPrefixOf (bt.drop j) = false)
    (hnc : ¬ SeedCollision env1 env2 (plainBody peers hour)) :
    decode env2 (interleave bt js) ttl now = [] := by
  rw [foreign_clean_decode env1 env2 h1 h2 peers hour now ttl hp hz bt hbt js hjs hmB hmE hE hBc, if_neg hnc]

/-! ## 5. the age window -/

/-- **age_symmetric**: a beacon stamped `thn` is accepted at `now` iff `(now − thn) mod 2^16 ≤ ttl` or
    `(thn − now) mod 2^16 ≤ ttl` (differences of integers): the window is symmetric around `now` and wraps with
    the counter -/
theorem age_symmetric (now thn ttl : Nat) (hn : now < 65536) (ht : thn < 65536) :
    tooOld now thn ttl = false ↔
      ((now : Int) - (thn : Int)) % 65536 ≤ (ttl : Int) ∨ ((thn : Int) - (now : Int)) % 65536 ≤ (ttl : Int) := by
  rw [tooOld_false_iff]; omega

/-- too old ⇒ ignored (stamp in the past, no wrap of the counter in between) -/
theorem too_old (now thn ttl : Nat) (hn : now < 65536) (hle : thn ≤ now) (h1 : ttl < now - thn)
    (h2 : now - thn + ttl < 65536) : tooOld now thn ttl = true := by
  rw [← Bool.not_eq_false, tooOld_false_iff]; omega

/-- too far in the future ⇒ ignored -/
theorem too_new (now thn ttl : Nat) (ht : thn < 65536) (hle : now ≤ thn) (h1 : ttl < thn - now)
    (h2 : thn - now + ttl < 65536) : tooOld now thn ttl = true := by
  rw [← Bool.not_eq_false, tooOld_false_iff]; omega

/-- too old across the wrap of the hour counter (the stamp is numerically larger than `now`) ⇒ ignored -/
theorem too_old_wrapped (now thn ttl : Nat) (ht : thn < 65536) (hlt : now < thn)
    (h1 : ttl < now + 65536 - thn) (h2 : now + 65536 - thn + ttl < 65536) : tooOld now thn ttl = true := by
  rw [← Bool.not_eq_false, tooOld_false_iff]; omega

/-- a ttl of 32768 hours or more accepts every stamp: on a 16-bit counter every stamp is then "recent" in one
    of the two directions -/
theorem huge_ttl_accepts_all (now thn ttl : Nat) (hn : now < 65536) (ht : thn < 65536) (h : 32768 ≤ ttl) :
    tooOld now thn ttl = false := by
  rw [tooOld_false_iff]; omega

/-- concrete instances at the wrap 65535 / 0 with `ttl = 1`: one hour old and one hour ahead across the wrap are
    accepted, two hours old and two hours ahead across the wrap are ignored -/
theorem wrap_instances :
    tooOld 0 65535 1 = false ∧ tooOld 65535 0 1 = false ∧ tooOld 1 65535 1 = true ∧ tooOld 65535 1 1 = true ∧
    tooOld 0 65535 0 = true ∧ tooOld 0 0 0 = false := by decide

/-- **beacon_age**: a clean beacon text made with the same password is decoded to its peers iff its age is within
    `ttl` hours in either direction (on the wrapping counter), and to nothing otherwise; without a ttl always -/
theorem beacon_age (env : BeaconEnv) (h : EnvWF env) (peers : List SockAddr) (hour now : Nat) (ttl : Option Nat)
    (hp : ∀ a ∈ peers, sockWF a = true) (h4 : (peers.filter isV4).length ≤ 255) (hh : hour < 65536)
    (hz : (encryptData env (plainBody peers hour)).head? ≠ some 0)
    (bt : List Char) (hbt : encode env peers hour = some bt)
    (js : List (List Char)) (hjs : ∀ j ∈ js, ∀ c ∈ j, c.isAlphanum = false)
    (hE : ∀ j, (beginMarker env).length ≤ j → j + (endMarker env).length < bt.length →
      (endMarker env).isPrefixOf (bt.drop j) = false)
    (hBc : ∀ j, (beginMarker env).length ≤ j → (beginMarker env).isPrefixOf (bt.drop j) = false) :
    decode env (interleave bt js) ttl now = if ageOk now hour ttl then normPeers peers else [] := by
  obtain ⟨body, rfl, hal, e2⟩ := body_decodes env h peers hour now ttl hp h4 hh hz bt hbt
  rw [clean_decode env h body js ttl now hal hjs hE hBc, e2]

/-- `ttl = none` ⇒ every stamp is accepted -/
theorem no_ttl_accepts_all (now hour : Nat) : ageOk now hour none = true := rfl

/-- the accepted-age predicate of the specification in the symmetric form -/
theorem ageOk_iff (now thn ttl : Nat) (hn : now < 65536) (ht : thn < 65536) :
    ageOk now thn (some ttl) = true ↔
      ((now : Int) - (thn : Int)) % 65536 ≤ (ttl : Int) ∨ ((thn : Int) - (now : Int)) % 65536 ≤ (ttl : Int) := by
  rw [← age_symmetric now thn ttl hn ht, tooOld_eq now thn ttl ht]
  cases ageOk now thn (some ttl) <;> simp

/-! ## 6. non-vacuity and necessity of the hypotheses (toy hash of `Proofs/C17.lean`) -/

/-- `str::find` locates the markers of the beacon text `bt` where they belong: behind the begin marker the first end
    marker is the final one, and the begin marker does not occur again.  Stated as two runs of `findSub`, which the
    kernel evaluates in one pass over the text; the quantified forms that the theorems above take (`CleanBeacon.hE`,
    `CleanBeacon.hBc`) cost a fresh `drop j` for every `j` when they are evaluated directly. -/
def CleanBeacon (B E bt : List Char) : Prop :=
  findSub (bt.drop B.length) E = some (bt.length - B.length - E.length) ∧ findSub (bt.drop B.length) B = none

instance (B E bt : List Char) : Decidable (CleanBeacon B E bt) := by unfold CleanBeacon; infer_instance

theorem absent_of_find (B data : List Char) (k : Nat) (hB : B ≠ []) (h : findSub (data.drop k) B = none) :
    ∀ j, k ≤ j → B.isPrefixOf (data.drop j) = false := by
  intro j hk
  by_cases hj : j ≤ data.length
  · have := findSub_none' h (j - k) (by rw [List.length_drop]; omega)
    rwa [List.drop_drop, show k + (j - k) = j by omega] at this
  · rw [List.drop_of_length_le (by omega)]
    cases B with
    | nil => exact absurd rfl hB
    | cons _ _ => rfl

theorem CleanBeacon.hE {B E bt : List Char} (h : CleanBeacon B E bt) :
    ∀ j, B.length ≤ j → j + E.length < bt.length → E.isPrefixOf (bt.drop j) = false := by
  intro j h1 h2
  have := (findSub_some h.1).2.2 (j - B.length) (by omega)
  rwa [List.drop_drop, show B.length + (j - B.length) = j by omega] at this

theorem CleanBeacon.hBc {B E bt : List Char} (h : CleanBeacon B E bt) (hB : B ≠ []) :
    ∀ j, B.length ≤ j → B.isPrefixOf (bt.drop j) = false :=
  absent_of_find B bt _ hB h.2

theorem not_contains {α : Type} (l before after : List α) (hl : l ≠ []) : [] ≠ before ++ l ++ after := by
  intro e
  have := congrArg List.length e
  simp only [List.length_nil, List.length_append] at this
  cases l with
  | nil => exact hl rfl
  | cons _ _ => simp only [List.length_cons] at this; omega

theorem interleave_nil (t : List Char) : interleave t [] = t := by cases t <;> rfl

/-- the beacon of `toyPeers` stamped 1000 -/
def toyBeacon : List Char := "ERzuwDRPvoXOHri1VECYTSk9Vq2NrqabOphE1BoLssIKbnqgecO1rbzL".toList

theorem toyBeacon_eq : encode toyEnv toyPeers 1000 = some toyBeacon := by
  rw [encode_eq _ _ _ _ toyText_eq, toy_begin, toy_end]
  rw [show toyBeacon = _ from String.toList_ofList, show toyText = _ from String.toList_ofList]
  decide +kernel

theorem toy_begin_ne : beginMarker toyEnv ≠ [] := by rw [toy_begin]; decide
theorem toy_unbordered : Unbordered (beginMarker toyEnv) := by rw [toy_begin]; decide

theorem toy_nonzero : MarkerHashesNonzero toyEnv := ⟨⟨0, by decide, by decide⟩, ⟨0, by decide, by decide⟩⟩

theorem toy_markersOK : MarkersOK toyEnv := markersOK_of_nonzero toyEnv toyEnv_wf toy_nonzero

/-- all hypotheses of `decode_never_panics` hold for the toy key -/
example (text : List Char) (ttl : Option Nat) (now : Nat) :
    decodeChk toyEnv text ttl now = some (decode toyEnv text ttl now) :=
  decode_never_panics toyEnv toyEnv_wf toy_markersOK text ttl now

/-- … and so does the plain condition on the marker hashes -/
example (text : List Char) (ttl : Option Nat) (now : Nat) :
    decodeChk toyEnv text ttl now = some (decode toyEnv text ttl now) :=
  decode_never_panics_of_hash toyEnv toyEnv_wf toy_nonzero text ttl now

/-- the instrumented copy does compute something: text with a beacon, text with half a beacon, junk -/
example : decodeChk toyEnv ("x-".toList ++ toyBeacon ++ "ERzuw12".toList) (some 3) 1002 = some (normPeers toyPeers) ∧
    decodeChk toyEnv "ERzuw1rbzL ERzuwERzuw 1rbzL ERzuw".toList none 0 = some [] := by
  rw [decode_never_panics toyEnv toyEnv_wf toy_markersOK, decode_never_panics toyEnv toyEnv_wf toy_markersOK,
    decode_eq_scan toyEnv toy_begin toy_end (data := "x".toList ++ toyBeacon ++ "ERzuw12".toList)
      (by rw [show toyBeacon = _ from String.toList_ofList]
          decide +kernel),
    decode_eq_scan toyEnv toy_begin toy_end (data := "ERzuw1rbzLERzuwERzuw1rbzLERzuw".toList) (by decide +kernel),
    toy_pd]
  rw [show toyBeacon = _ from String.toList_ofList, show toyText = _ from String.toList_ofList]
  decide +kernel

/-- `MarkersOK` is needed: a key whose marker hash is all zero makes `begin()` panic (`""[0..5]`) -/
def zeroEnv : BeaconEnv := { ks := fun _ _ _ => List.replicate 64 0, h0 := fun _ => 0 }
theorem zeroEnv_wf : EnvWF zeroEnv :=
  ⟨fun _ _ _ => ⟨Bytes.wf_replicate 64 0 (by decide), List.length_replicate⟩, fun _ => Nat.zero_lt_succ _⟩
example : decodeChk zeroEnv [] none 0 = none := by decide +kernel

/-! ### the regression record on concrete data: 4096 bytes through the old and the current mask loop -/

example : maskFromOld toyEnv 2 9 (List.replicate 4095 0) 0 0 = some (mask toyEnv (List.replicate 4095 0) 2 9) ∧
    maskFromOld toyEnv 2 9 (List.replicate 4096 0) 0 0 = none ∧
    maskFromChk toyEnv 2 9 (List.replicate 4096 0) 0 0 = some (mask toyEnv (List.replicate 4096 0) 2 9) :=
  ⟨(old_counter_overflows toyEnv toyEnv_wf 2 9 _).2 (by rw [List.length_replicate]; omega),
   (old_counter_overflows toyEnv toyEnv_wf 2 9 _).1.mpr (by rw [List.length_replicate]; omega),
   mask_never_panics toyEnv toyEnv_wf 2 9 _⟩

/-- a body of 5000 bytes: the old code panicked in `decrypt_data`, the current code returns the body -/
example : decryptDataOld toyEnv (encryptData toyEnv (List.replicate 5000 0)) = none :=
  (old_decrypt_overflows toyEnv toyEnv_wf _).mpr (by rw [encryptData_length, List.length_replicate]; omega)
example : decryptDataChk toyEnv (encryptData toyEnv (List.replicate 5000 0)) = some (some (List.replicate 5000 0)) :=
  long_body_roundtrip_checked toyEnv toyEnv_wf _

/-- small closed instance of the old loop, evaluated: with the counter started at block 255 the second block
    boundary is the overflow -/
example : maskFromOld toyEnv 2 9 (List.replicate 15 0) 255 0 = some (maskFrom toyEnv 2 9 (List.replicate 15 0) 255 0) ∧
    maskFromOld toyEnv 2 9 (List.replicate 16 0) 255 0 = none ∧
    maskFromChk toyEnv 2 9 (List.replicate 17 0) 255 0 = some (maskFrom toyEnv 2 9 (List.replicate 17 0) 255 0) ∧
    (maskFrom toyEnv 2 9 (List.replicate 17 0) 255 0)[16]? = (mask toyEnv (List.replicate 1 0) 2 9)[0]? := by
  decide +kernel

def toyPre : List Char := "peers: ERzuw?1rbzL! (old) ".toList
def toyPost : List Char := " -- ERzuw".toList
def toyJunk : List (List Char) := [[' '], ['-', '-'], [], ['\n'], ['.', ' ', '/']]

theorem toy_clean : CleanBeacon "ERzuw".toList "1rbzL".toList toyBeacon := by
  rw [show toyBeacon = _ from String.toList_ofList]
  decide +kernel

theorem toy_hE : ∀ j, (beginMarker toyEnv).length ≤ j → j + (endMarker toyEnv).length < toyBeacon.length →
    (endMarker toyEnv).isPrefixOf (toyBeacon.drop j) = false := by
  rw [toy_begin, toy_end]; exact toy_clean.hE

/-- all hypotheses of `embedded_found` hold for the toy beacon inside a text that contains markers itself -/
example : ∃ before after,
    decode toyEnv (toyPre ++ interleave toyBeacon toyJunk ++ toyPost) (some 3) 1002 =
      before ++ normPeers toyPeers ++ after :=
  embedded_found_unbordered toyEnv toyEnv_wf toyPeers 1000 1002 (some 3) (by decide) (by decide) (by decide)
    toy_hz (by decide) toyBeacon toyBeacon_eq toyPre toyPost toyJunk (by decide) toy_begin_ne
    toy_unbordered toy_hE

example : interleave toyBeacon toyJunk =
    " E--Rz\nu. /wDRPvoXOHri1VECYTSk9Vq2NrqabOphE1BoLssIKbnqgecO1rbzL".toList := by
  rewrite [String.toList_ofList]
  rw [show toyBeacon = _ from String.toList_ofList]
  decide +kernel

/-! ### the hypotheses of `embedded_found` cannot be dropped -/

/-- `hz` (the recorded defect): the beacon of `lostPeers` stamped 510, standing alone, is not decoded -/
example : ∃ bt, encode toyEnv lostPeers 510 = some bt ∧ decode toyEnv bt none 510 = [] := by
  refine ⟨_, encode_eq _ _ _ _ (peerlistEncode_eq toyEnv toyEnv_wf lostPeers 510 (by decide)), ?_⟩
  rw [decode_eq_scan toyEnv toy_begin toy_end rfl, toy_begin, toy_end]
  decide +kernel

theorem toy_override_wf (t0 : Nat) (b : Bytes) (hb : Bytes.WF b ∧ b.length = 64) :
    EnvWF { toyEnv with ks := fun t s i => if t = t0 ∧ s = 0 ∧ i = 0 then b else toyEnv.ks t s i } where
  ks_wf := fun t s i => by
    show Bytes.WF (if t = t0 ∧ s = 0 ∧ i = 0 then b else toyEnv.ks t s i) ∧
      (if t = t0 ∧ s = 0 ∧ i = 0 then b else toyEnv.ks t s i).length = 64
    split
    · exact hb
    · exact toyEnv_wf.ks_wf t s i
  h0_lt := toyEnv_wf.h0_lt

/-- a key like the toy key whose END marker `ri1VE` occurs inside the body text of the toy beacon -/
def bytesE : Bytes :=
  [231, 84, 106, 226, 193, 22, 50, 179, 56, 9, 87, 35, 87, 193, 51, 42, 42, 96, 39, 9, 234, 96, 87, 161, 130, 1, 42, 234,
   176, 161, 90, 124, 136, 28, 170, 9, 71, 29, 74, 167, 145, 203, 141, 187, 21, 231, 236, 56, 210, 47, 105, 118, 214, 253,
   54, 142, 176, 67, 37, 197, 62, 243, 104, 235]
def envE : BeaconEnv :=
  { toyEnv with ks := fun t s i => if t = 1 ∧ s = 0 ∧ i = 0 then bytesE else toyEnv.ks t s i }

theorem envE_wf : EnvWF envE := toy_override_wf 1 bytesE (by decide)

def beaconE : List Char := "ERzuwDRPvoXOHri1VECYTSk9Vq2NrqabOphE1BoLssIKbnqgecOri1VE".toList

theorem envE_begin : beginMarker envE = "ERzuw".toList := by
  rw [beginMarker, marker_eq envE envE_wf]; decide +kernel

theorem envE_end : endMarker envE = "ri1VE".toList := by
  rw [endMarker, marker_eq envE envE_wf]; decide +kernel

theorem beaconE_eq : encode envE toyPeers 1000 = some beaconE := by
  rw [encode_eq _ _ _ _ (peerlistEncode_eq envE envE_wf toyPeers 1000 (by decide)), envE_begin, envE_end]
  rw [show beaconE = _ from String.toList_ofList]
  decide +kernel

/-- `hE` is needed: every other hypothesis of `embedded_found` holds (empty `pre`, `post`, no junk), the beacon is lost -/
example : ¬ ∀ (env : BeaconEnv) (_ : EnvWF env) (peers : List SockAddr) (hour now : Nat) (ttl : Option Nat)
    (_ : ∀ a ∈ peers, sockWF a = true) (_ : (peers.filter isV4).length ≤ 255) (_ : hour < 65536)
    (_ : (encryptData env (plainBody peers hour)).head? ≠ some 0) (_ : ageOk now hour ttl = true)
    (bt : List Char) (_ : encode env peers hour = some bt)
    (pre post : List Char) (js : List (List Char)) (_ : ∀ j ∈ js, ∀ c ∈ j, c.isAlphanum = false)
    (_ : beginMarker env ≠ []) (_ : NoOverlap (sanitize pre) (beginMarker env)),
    ∃ before after, decode env (pre ++ interleave bt js ++ post) ttl now = before ++ normPeers peers ++ after := by
  intro hall
  obtain ⟨before, after, e⟩ := hall envE envE_wf toyPeers 1000 1002 (some 3) (by decide) (by decide) (by decide)
    (by decide +kernel) (by decide) beaconE beaconE_eq [] [] [] (by decide) (by rw [envE_begin]; decide)
    (fun j hj => absurd hj (Nat.not_lt_zero _))
  have hd : decode envE ([] ++ interleave beaconE [] ++ []) (some 3) 1002 = [] := by
    rw [decode_eq_scan envE envE_begin envE_end (data := beaconE)
      (by rw [show beaconE = _ from String.toList_ofList]
          decide +kernel)]
    rw [show beaconE = _ from String.toList_ofList]
    decide +kernel
  rw [hd] at e
  exact not_contains _ _ _ (by decide) e

/-- a key like the toy key whose BEGIN marker `abcda` has a border -/
def bytesB : Bytes :=
  [157, 170, 122, 151, 67, 92, 81, 98, 42, 22, 31, 243, 61, 33, 228, 175, 191, 136, 137, 192, 112, 37, 209, 26, 100, 81,
   131, 188, 64, 117, 219, 43, 55, 1, 57, 79, 223, 176, 40, 66, 235, 140, 182, 4, 146, 189, 205, 7, 4, 183, 48, 151, 239,
   249, 54, 142, 176, 67, 37, 197, 62, 243, 104, 235]
def envB : BeaconEnv :=
  { toyEnv with ks := fun t s i => if t = 0 ∧ s = 0 ∧ i = 0 then bytesB else toyEnv.ks t s i }

theorem envB_wf : EnvWF envB := toy_override_wf 0 bytesB (by decide)

def beaconB : List Char := "abcdaDRPvoXOHri1VECYTSk9Vq2NrqabOphE1BoLssIKbnqgecO1rbzL".toList

theorem envB_begin : beginMarker envB = "abcda".toList := by
  rw [beginMarker, marker_eq envB envB_wf]; decide +kernel

theorem envB_end : endMarker envB = "1rbzL".toList := by
  rw [endMarker, marker_eq envB envB_wf]; decide +kernel

theorem envB_hz : (encryptData envB (plainBody toyPeers 1000)).head? ≠ some 0 := by decide +kernel

/-- the body is the one of the toy beacon: only the hash of the begin marker differs from the toy key -/
theorem envB_text : peerlistEncode envB toyPeers 1000 = some toyText := by
  rw [peerlistEncode_eq envB envB_wf _ _ (by decide)]
  rw [show toyText = _ from String.toList_ofList]
  decide +kernel

theorem beaconB_eq : encode envB toyPeers 1000 = some beaconB := by
  rw [encode_eq _ _ _ _ envB_text, envB_begin, envB_end]
  rw [show beaconB = _ from String.toList_ofList, show toyText = _ from String.toList_ofList]
  decide +kernel

theorem envB_hE : ∀ j, (beginMarker envB).length ≤ j → j + (endMarker envB).length < beaconB.length →
    (endMarker envB).isPrefixOf (beaconB.drop j) = false := by
  rw [envB_begin, envB_end]
  refine CleanBeacon.hE (?_ : CleanBeacon _ _ _)
  rw [show beaconB = _ from String.toList_ofList]
  decide +kernel

theorem envB_decode (pre : List Char) (hpre : sanitize pre = pre) :
    decode envB (pre ++ interleave beaconB [] ++ []) (some 3) 1002 =
      scan "abcda".toList "1rbzL".toList (peerlistDecode envB · (some 3) 1002) (pre ++ beaconB)
        ((pre ++ beaconB).length + 1) 0 := by
  refine decode_eq_scan envB envB_begin envB_end ?_ _ _
  rw [interleave_nil, List.append_nil, sanitize_append, hpre]
  rw [show beaconB = _ from String.toList_ofList]
  exact congrArg _ (by decide +kernel)

/-- `hov` is needed: with `pre = "abcd"` a begin marker starts in `pre` and runs into the beacon's own; every other
    hypothesis of `embedded_found` holds, the beacon is lost -/
example : ¬ ∀ (env : BeaconEnv) (_ : EnvWF env) (peers : List SockAddr) (hour now : Nat) (ttl : Option Nat)
    (_ : ∀ a ∈ peers, sockWF a = true) (_ : (peers.filter isV4).length ≤ 255) (_ : hour < 65536)
    (_ : (encryptData env (plainBody peers hour)).head? ≠ some 0) (_ : ageOk now hour ttl = true)
    (bt : List Char) (_ : encode env peers hour = some bt)
    (pre post : List Char) (js : List (List Char)) (_ : ∀ j ∈ js, ∀ c ∈ j, c.isAlphanum = false)
    (_ : beginMarker env ≠ [])
    (_ : ∀ j, (beginMarker env).length ≤ j → j + (endMarker env).length < bt.length →
      (endMarker env).isPrefixOf (bt.drop j) = false),
    ∃ before after, decode env (pre ++ interleave bt js ++ post) ttl now = before ++ normPeers peers ++ after := by
  intro hall
  obtain ⟨before, after, e⟩ := hall envB envB_wf toyPeers 1000 1002 (some 3) (by decide) (by decide) (by decide)
    envB_hz (by decide) beaconB beaconB_eq "abcd".toList [] [] (by decide) (by rw [envB_begin]; decide)
    envB_hE
  have hd : decode envB ("abcd".toList ++ interleave beaconB [] ++ []) (some 3) 1002 = [] := by
    rw [envB_decode _ (by decide +kernel)]
    rw [show beaconB = _ from String.toList_ofList]
    decide +kernel
  rw [hd] at e
  exact not_contains _ _ _ (by decide) e

/-- … while with `pre = "abc"` (no overlap) the same beacon is found -/
example : decode envB ("abc".toList ++ interleave beaconB [] ++ []) (some 3) 1002 = normPeers toyPeers := by
  rw [envB_decode _ (by decide +kernel),
    pd_lookup envB envB_wf toyPeers 1000 (by decide) (by decide) (by decide) envB_hz toyText envB_text]
  rw [show beaconB = _ from String.toList_ofList, show toyText = _ from String.toList_ofList]
  decide +kernel

def onev6 : List SockAddr := [.v6 [32, 1, 13, 184, 0, 0, 0, 0, 0, 0, 0, 0, 0, 0, 0, 1] 443]
def beaconV6 : List Char := (encode toyEnv onev6 1001).getD []

theorem v6_encode (hour : Nat) : encode toyEnv onev6 hour = some ("ERzuw".toList ++
    Base62Lemmas.natText (Bytes.beVal (encryptData toyEnv (plainBody onev6 hour))) ++ "1rbzL".toList) := by
  rw [encode_eq _ _ _ _ (peerlistEncode_eq toyEnv toyEnv_wf onev6 hour (by decide)), toy_begin, toy_end]

theorem beaconV6_val : beaconV6 = "ERzuw7qqpKwgF4K8tuspJtI806BKy7G4iSA1rbzL".toList := by
  rewrite [String.toList_ofList]
  rw [beaconV6, v6_encode]
  decide +kernel

theorem beaconV6_eq : encode toyEnv onev6 1001 = some beaconV6 := by rw [beaconV6, v6_encode]; rfl

theorem v6_hE : ∀ j, (beginMarker toyEnv).length ≤ j → j + (endMarker toyEnv).length < beaconV6.length →
    (endMarker toyEnv).isPrefixOf (beaconV6.drop j) = false := by
  rw [toy_begin, toy_end]
  refine CleanBeacon.hE (?_ : CleanBeacon _ _ _)
  rw [show beaconV6 = _ from beaconV6_val.trans String.toList_ofList]
  decide +kernel

/-- all hypotheses of `several_beacons` hold for two toy beacons in one text -/
example : ∃ before between after,
    decode toyEnv (toyPre ++ interleave toyBeacon toyJunk ++ " and ERzuw ".toList ++ interleave beaconV6 [['\n']] ++
      toyPost) (some 3) 1002 = before ++ normPeers toyPeers ++ between ++ normPeers onev6 ++ after :=
  several_beacons_unbordered toyEnv toyEnv_wf toyPeers onev6 1000 1001 1002 (some 3)
    (by decide) (by decide) (by decide) toy_hz (by decide)
    (by decide) (by decide) (by decide) (by decide +kernel) (by decide)
    toyBeacon beaconV6 toyBeacon_eq beaconV6_eq toyPre _ toyPost toyJunk [['\n']] (by decide) (by decide)
    toy_begin_ne toy_unbordered toy_hE v6_hE

example : decode toyEnv (toyBeacon ++ " and ".toList ++ beaconV6) (some 3) 1002 = normPeers toyPeers ++ onev6 := by
  have hv : beaconV6 = _ := beaconV6_val.trans String.toList_ofList
  have ht : toyBeacon = _ := String.toList_ofList
  rw [decode_eq_scan toyEnv toy_begin toy_end (data := toyBeacon ++ "and".toList ++ beaconV6)
    (by rw [hv, ht]; decide +kernel), toy_pd, hv, ht, show toyText = _ from String.toList_ofList]
  decide +kernel

/-- a second key: another data key stream and another check hash, the same marker and seed hashes as the toy key
    (i.e. the marker collision has already happened) -/
def envF (c k : Nat) : BeaconEnv :=
  { ks := fun t s i => if t = 2 then List.replicate 64 ((7 * t + 3 * s + i + 1 + c) % 256) else toyEnv.ks t s i,
    h0 := fun d => d.foldl (· + ·) k % 256 }

theorem envF_wf (c k : Nat) : EnvWF (envF c k) where
  ks_wf := fun t s i => by
    show Bytes.WF (if t = 2 then List.replicate 64 ((7 * t + 3 * s + i + 1 + c) % 256) else toyEnv.ks t s i) ∧
      (if t = 2 then List.replicate 64 ((7 * t + 3 * s + i + 1 + c) % 256) else toyEnv.ks t s i).length = 64
    split
    · exact ⟨Bytes.wf_replicate 64 _ (Nat.mod_lt _ (by decide)), List.length_replicate⟩
    · exact toyEnv_wf.ks_wf t s i
  h0_lt := fun d => Nat.mod_lt _ (by decide)

theorem envF_marker (c k t : Nat) (ht : t ≠ 2) : marker (envF c k) t = marker toyEnv t := by
  show ((toBase62 (if t = 2 then _ else toyEnv.ks t 0 0)).getD []).take 5 = _
  rw [if_neg ht]; rfl

def beaconV6' : List Char := (encode toyEnv onev6 1000).getD []

theorem beaconV6'_val : beaconV6' = "ERzuw7y86g4rD31DvWQzQuH7RL37how7xwb1rbzL".toList := by
  rewrite [String.toList_ofList]
  rw [beaconV6', v6_encode]
  decide +kernel

theorem beaconV6'_eq : encode toyEnv onev6 1000 = some beaconV6' := by rw [beaconV6', v6_encode]; rfl

theorem v6'_clean : CleanBeacon "ERzuw".toList "1rbzL".toList beaconV6' := by
  rw [show beaconV6' = _ from beaconV6'_val.trans String.toList_ofList]
  decide +kernel

theorem v6'_hE : ∀ j, (beginMarker toyEnv).length ≤ j → j + (endMarker toyEnv).length < beaconV6'.length →
    (endMarker toyEnv).isPrefixOf (beaconV6'.drop j) = false := by
  rw [toy_begin, toy_end]; exact v6'_clean.hE

theorem v6'_hBc : ∀ j, (beginMarker toyEnv).length ≤ j → (beginMarker toyEnv).isPrefixOf (beaconV6'.drop j) = false := by
  rw [toy_begin]; exact v6'_clean.hBc (by decide)

/-- all hypotheses of `other_password_ignored` hold for the key `envF 3 0`: same markers, no seed collision -/
example : decode (envF 3 0) (interleave beaconV6' [[' '], ['\n']]) none 0 = [] :=
  other_password_ignored toyEnv (envF 3 0) toyEnv_wf (envF_wf 3 0) onev6 1000 0 none (by decide) (by decide +kernel)
    beaconV6' beaconV6'_eq _ (by decide) (envF_marker 3 0 0 (by decide)) (envF_marker 3 0 1 (by decide)) v6'_hE v6'_hBc
    (by decide +kernel)

/-- the collision is the exact condition: for the key `envF 3 204` it holds, and the foreign beacon is accepted — the
    node obtains three addresses nobody announced -/
example : SeedCollision toyEnv (envF 3 204) (plainBody onev6 1000) := by decide +kernel

example : decode (envF 3 204) (interleave beaconV6' [[' '], ['\n']]) none 0 =
    [.v4 [35, 2, 14, 187] 771, .v4 [3, 3, 3, 3] 771, .v4 [3, 5, 5, 4] 1214] := by
  rw [foreign_clean_decode toyEnv (envF 3 204) toyEnv_wf (envF_wf 3 204) onev6 1000 0 none (by decide)
    (by decide +kernel) beaconV6' beaconV6'_eq _ (by decide) (envF_marker 3 204 0 (by decide))
    (envF_marker 3 204 1 (by decide)) v6'_hE v6'_hBc]
  decide +kernel

/-- a key with other marker hashes: first line of defence -/
def envG : BeaconEnv := { toyEnv with ks := fun t s i => toyEnv.ks (t + 10) s i }

theorem envG_wf : EnvWF envG := ⟨fun t s i => toyEnv_wf.ks_wf (t + 10) s i, toyEnv_wf.h0_lt⟩

theorem envG_begin : beginMarker envG = "GY3uC".toList := by
  rw [beginMarker, marker_eq envG envG_wf]; decide +kernel

theorem envG_end : endMarker envG = "IBDtd".toList := by
  rw [endMarker, marker_eq envG envG_wf]; decide +kernel

example : beginMarker envG ≠ beginMarker toyEnv ∧ endMarker envG ≠ endMarker toyEnv := by
  rw [envG_begin, envG_end, toy_begin, toy_end]; decide
example : decode envG (toyPre ++ interleave toyBeacon toyJunk ++ toyPost) none 0 = [] := by
  apply begin_absent_ignored
  rw [envG_begin]
  rw [show toyPre = _ from String.toList_ofList, show toyBeacon = _ from String.toList_ofList, show toyPost = _ from String.toList_ofList]
  exact (absent_of_find _ _ 0 (by decide) (by decide +kernel) · (Nat.zero_le _))

theorem toy_hBc : ∀ j, (beginMarker toyEnv).length ≤ j → (beginMarker toyEnv).isPrefixOf (toyBeacon.drop j) = false := by
  rw [toy_begin]; exact toy_clean.hBc (by decide)

/-- the toy beacon (stamped 1000, ttl 3): accepted from 997 to 1003, ignored at 996 and 1004 -/
example (now : Nat) : decode toyEnv (interleave toyBeacon toyJunk) (some 3) now =
    if ageOk now 1000 (some 3) then normPeers toyPeers else [] :=
  beacon_age toyEnv toyEnv_wf toyPeers 1000 now (some 3) (by decide) (by decide) (by decide) toy_hz
    toyBeacon toyBeacon_eq toyJunk (by decide) toy_hE toy_hBc

example : ageOk 997 1000 (some 3) = true ∧ ageOk 1003 1000 (some 3) = true ∧ ageOk 996 1000 (some 3) = false ∧
    ageOk 1004 1000 (some 3) = false ∧ ageOk 40000 1000 none = true := by decide

def wrapBeacon : List Char := "ERzuwGIat2bIiNIlyT2zkMkhWctXXbr6KSy1G6Qd1RSbjOSMrsp1rbzL".toList

theorem wrapBeacon_eq : encode toyEnv toyPeers 65535 = some wrapBeacon := by
  rw [encode_eq _ _ _ _ (peerlistEncode_eq toyEnv toyEnv_wf toyPeers 65535 (by decide)), toy_begin, toy_end]
  rw [show wrapBeacon = _ from String.toList_ofList]
  decide +kernel

theorem wrap_clean : CleanBeacon "ERzuw".toList "1rbzL".toList wrapBeacon := by
  rw [show wrapBeacon = _ from String.toList_ofList]
  decide +kernel

theorem wrapBeacon_decode (ttl : Option Nat) (now : Nat) :
    decode toyEnv wrapBeacon ttl now = if ageOk now 65535 ttl then normPeers toyPeers else [] := by
  have h := beacon_age toyEnv toyEnv_wf toyPeers 65535 now ttl (by decide) (by decide) (by decide) (by decide +kernel)
    _ wrapBeacon_eq [] (by decide)
    (by rw [toy_begin, toy_end]; exact wrap_clean.hE) (by rw [toy_begin]; exact wrap_clean.hBc (by decide))
  rwa [interleave_nil] at h

/-- across the wrap: a beacon stamped 65535 is accepted at hour 0 and hour 1 with ttl 2, ignored at hour 2 with ttl 1 -/
example : ∃ bt, encode toyEnv toyPeers 65535 = some bt ∧
    decode toyEnv bt (some 2) 0 = normPeers toyPeers ∧ decode toyEnv bt (some 2) 1 = normPeers toyPeers ∧
    decode toyEnv bt (some 1) 2 = [] ∧ decode toyEnv bt none 30000 = normPeers toyPeers := by
  exact ⟨_, wrapBeacon_eq, wrapBeacon_decode _ _, wrapBeacon_decode _ _, wrapBeacon_decode _ _, wrapBeacon_decode _ _⟩

end VpnCloud.Proofs.C17More
