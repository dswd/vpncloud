import VpnCloud.Proofs.Lemmas.Handshake.C01MutualLemmas
/-
  C01, the two-party half — "two nodes become peers exactly when each trusts the other's key".

  System: the two-party system `Sys` / `Step` / `Reach` of `Proofs/C05Agree.lean`.  Two handshake objects `a`, `b` with
  ARBITRARY trust sets `a.trusted`, `b.trusted` (nothing in `Init0`, `Step` or `Inv` of `C05Agree` relates them to the keys: `Inv`
  identifies the author of a signed message by the salted node-id hash in it).  Keys that exist: each object signs with its own
  `ownKey` and nothing else is ever signed (`signatures_only_by_parties`); the network is the adversary and may deliver any bytes,
  restricted only by (I1), the ideal-signature side condition of the delivery steps (as in `C05Agree`): what verifies under a key
  the receiver trusts was signed, exactly these bytes, by one of the two objects.
  Both parties may hold the SAME key pair (`a.ownKey = b.ownKey`, the "shared key pairs" scenario): nothing below assumes the keys
  to differ; "each trusts the other's key" then reads "each trusts the shared key" (`shared_key_pair`).  Own messages are not
  recognised by the key but by the salted node-id hash (`Init0.hashNe`: two different nodes; the self check of `handle_init`).

  1. `completion_needs_mutual_trust` (all schedules; `_A`, `_B`), `signatures_only_by_parties`, `shared_key_pair`,
     `ping_answered_needs_trust`, `reply_needs_acceptance`, `no_reply_without_trust` (`_A`: mirror image), `untrusting_side_inert`.
  2. `mutual_trust_completes` (loss-free schedule; `Finds` of `C05Lockstep` from trust + `NoCollision`: `finds_of_trust`),
     `first_match_decides`, `hash_collision_rejects`.
  3. the lock-step schedule as a run of `Sys` (`run1 … run4`, `run_reach`, `run_completes`), `mutual_trust_iff`.
  4. `trusted_ping_is_answered`, `one_sided_trust_is_silent`, `retransmit_until_give_up`.
  Non-vacuity: `Toy` — (i) mutual trust, (ii) one-sided trust incl. the 121 timer ticks, (iii) no trust, a shared key pair, colliding
  salted key hashes; every hypothesis of every theorem is exhibited on one of these instances.
  Assumed: (I1) and `RandOK` as side conditions of `Step`, `Init0`, and for the lock-step run `NoCollision` and the non-trust
  hypotheses of `lockstep_completes`; distinctness of the two keys is NOT needed anywhere.
-/
namespace VpnCloud.Proofs.C01Mutual

open VpnCloud.Init VpnCloud.InitMsg
open VpnCloud.Proofs.InitLemmas VpnCloud.Proofs.C05AgreeLemmas VpnCloud.Proofs.C05Agree VpnCloud.Proofs.C01MutualLemmas
open VpnCloud.Proofs.LockstepLemmas
open VpnCloud.Proofs.C16Init (algosWF)

/-! ## 1. completion needs mutual trust (all schedules) -/

/-- **completion_needs_mutual_trust** (only-if direction, ALL schedules, arbitrary trust sets): in the two-party system with an
    adversarial network restricted only by ideal signatures (I1), if either handshake object ever reports success then A trusts B's
    public key AND B trusts A's: a node adds a peer only when the trust is mutual.
    (A succeeds only on a pong / peng verified under a key in `a.trusted`; by (I1) one of the two objects signed it, and it was not A
    itself — own messages are refused by the self check — so the key is B's; and B signs a pong / peng only after accepting a message
    under a key in `b.trusted`, which is A's by the same argument.) -/
theorem completion_needs_mutual_trust (P : Params) (s0 s : Sys) (h0 : Init0 s0) (hr : Reach P s0 s)
    (hd : s.doneA ≠ [] ∨ s.doneB ≠ []) :
    s0.b.ownKey ∈ s0.a.trusted ∧ s0.a.ownKey ∈ s0.b.trusted := by
  obtain ⟨_, t⟩ := ti_reach P s0 s h0 hr
  obtain ⟨sa, sb⟩ := static_reach P s0 s hr
  have hm : Mutual s.a s.b := by
    rcases hd with hd | hd
    · exact t.donex hd
    · exact t.doney hd
  obtain ⟨h1, h2⟩ := hm
  rw [sa.2.2.2.2.1, sb.2.2.2.1] at h1
  rw [sb.2.2.2.2.1, sa.2.2.2.1] at h2
  exact ⟨h1, h2⟩

/-- the same for a reported success of A: `(pa, ia) ∈ s.doneA` -/
theorem completion_needs_mutual_trust_A (P : Params) (s0 s : Sys) (h0 : Init0 s0) (hr : Reach P s0 s) (pa : Bytes) (ia : Bool)
    (hA : (pa, ia) ∈ s.doneA) : s0.b.ownKey ∈ s0.a.trusted ∧ s0.a.ownKey ∈ s0.b.trusted :=
  completion_needs_mutual_trust P s0 s h0 hr (Or.inl (List.ne_nil_of_mem hA))

/-- the same for a reported success of B -/
theorem completion_needs_mutual_trust_B (P : Params) (s0 s : Sys) (h0 : Init0 s0) (hr : Reach P s0 s) (pb : Bytes) (ib : Bool)
    (hB : (pb, ib) ∈ s.doneB) : s0.b.ownKey ∈ s0.a.trusted ∧ s0.a.ownKey ∈ s0.b.trusted :=
  completion_needs_mutual_trust P s0 s h0 hr (Or.inr (List.ne_nil_of_mem hB))

/-- **which keys exist**: in the closed two-party system every signature ever made is under the key of A or under the key of B (each
    party holds exactly its own key pair; the adversary holds none and can only replay, cut and reorder) -/
theorem signatures_only_by_parties (P : Params) (s0 s : Sys) (h0 : Init0 s0) (hr : Reach P s0 s) (k r : Bytes)
    (hk : (k, r) ∈ s.sigs) : k = s0.a.ownKey ∨ k = s0.b.ownKey := by
  obtain ⟨_, t⟩ := ti_reach P s0 s h0 hr
  obtain ⟨sa, sb⟩ := static_reach P s0 s hr
  obtain ⟨m, salt, kh, _, _, _, _, h5⟩ := t.key k r hk
  rcases h5 with ⟨_, h, _⟩ | ⟨_, h, _⟩
  · exact Or.inl (by rw [h, sa.2.2.2.1])
  · exact Or.inr (by rw [h, sb.2.2.2.1])

/-- **shared key pairs**: if both parties hold the same key pair, completion at either end implies that each of them trusts that
    (its own) key; nothing else changes — the two nodes are told apart by their salted node-id hashes, not by their keys -/
theorem shared_key_pair (P : Params) (s0 s : Sys) (h0 : Init0 s0) (hr : Reach P s0 s) (hsame : s0.a.ownKey = s0.b.ownKey)
    (hd : s.doneA ≠ [] ∨ s.doneB ≠ []) : s0.a.ownKey ∈ s0.a.trusted ∧ s0.b.ownKey ∈ s0.b.trusted := by
  obtain ⟨h1, h2⟩ := completion_needs_mutual_trust P s0 s h0 hr hd
  exact ⟨hsame ▸ h1, hsame ▸ h2⟩

/-- **ping_answered_needs_trust** ("without any reply"): whenever `handle_init` does not fail — in particular whenever it writes ANY
    handshake datagram `out` in reply to a delivered datagram, or changes its state by a role switch, or completes — the delivered
    window was accepted by `read_from` under the object's own trusted keys: it starts with bytes that verify under a key in `trusted`.
    (The failing outcomes `Outcome.err` / `Outcome.panic` carry no output at all.) -/
theorem ping_answered_needs_trust (env : CryptoEnv) (bodyOf : BodyOf) (ok : Bytes → Bool) (st st' : InitSt) (w : Bytes) (rnd : Rand)
    (out : Bytes) (res : InitResult) (log : SealLog)
    (h : handleInit env bodyOf ok st w rnd = .ok st' (out, res, log)) :
    ∃ m k, readFrom env w st.trusted = .ok (m, k) ∧ k ∈ st.trusted ∧
      ∃ signed sig rest, w = signed ++ [sig.length] ++ sig ++ rest ∧ env.sigVerify k signed sig = true := by
  rw [handleInit_eq] at h
  cases hr : readFrom env w st.trusted with
  | error e => rw [hr] at h; cases h
  | ok mk =>
    obtain ⟨m, k⟩ := mk
    obtain ⟨hk, _, hs⟩ := VpnCloud.Proofs.C01.readFrom_accept_genuine env w st.trusted m k hr
    exact ⟨m, k, rfl, hk, hs⟩

/-- in the system: a delivery adds a datagram to `sent` only if the receiver accepted the delivered window under its trusted keys -/
theorem reply_needs_acceptance (P : Params) (s : Sys) (x : Who) (w : Bytes) (rnd : Rand)
    (hsent : (deliverTo P s x w rnd).sent ≠ s.sent) :
    ∃ m k, readFrom P.env w (s.obj x).trusted = .ok (m, k) ∧ k ∈ (s.obj x).trusted := by
  unfold deliverTo at hsent
  cases h : handleInit P.env P.bodyOf P.ok (s.obj x) w rnd with
  | ok st' r =>
    obtain ⟨out, res, log⟩ := r
    obtain ⟨m, k, h1, h2, _⟩ := ping_answered_needs_trust _ _ _ _ _ _ _ _ _ _ h
    exact ⟨m, k, h1, h2⟩
  | err st' e =>
    rw [h] at hsent
    cases x <;> exact absurd rfl hsent
  | panic =>
    rw [h] at hsent
    exact absurd rfl hsent

/-- `o` is the datagram of some handshake message of object `x` (it carries the salted node-id hash of `x`) -/
def IsMsgOf (x : InitSt) (o : Bytes) : Prop := ∃ m salt kh sig, o = writeTo m salt kh sig ∧ m.hash = x.hash

/-- `o` is the datagram of a ping of object `x` -/
def IsPingOf (x : InitSt) (o : Bytes) : Prop := ∃ e al salt kh sig, o = writeTo (.ping x.hash e al) salt kh sig

theorem sent_only_pings {bodyOf : BodyOf} {x y : InitSt} {gx gy : Ghost} {dx dy : List (Bytes × Bool)} {sigs : List (Bytes × Bytes)}
    {seals : SealLog} {sent : List Bytes} (h : Inv2 bodyOf x y gx gy dx dy sigs seals) (t : TInv x y dx dy sigs sent)
    (hnt : x.ownKey ∉ y.trusted) : ∀ o ∈ sent, IsMsgOf x o ∨ IsPingOf y o := by
  intro o ho
  rcases t.sent o ho with ⟨m, salt, kh, sig, e, _, _, _, hh, _⟩ | ⟨m, salt, kh, sig, e, hs, hk, hwf, hh, hmem⟩
  · exact Or.inl ⟨m, salt, kh, sig, e, hh⟩
  · obtain ⟨m', salt', kh', e', hs', hk', hwf', hor⟩ := t.key _ _ hmem
    have := (InitMsgLemmas.signedRegion_inj hwf hwf' hs hk hs' hk' e').1
    subst this
    rcases hor with ⟨h1, _, _⟩ | ⟨_, _, h3⟩
    · exact absurd (by rw [← h1, hh]) h.hne
    · cases m with
      | ping hb eb al =>
        have hh' : hb = y.hash := hh
        exact Or.inr ⟨eb, al, salt, kh, sig, by rw [e, hh']⟩
      | pong hb eb al pl => exact absurd (h3 (by show Generated.STAGE_PONG ≠ Generated.STAGE_PING; decide)) hnt
      | peng hb pl => exact absurd (h3 (by show Generated.STAGE_PENG ≠ Generated.STAGE_PING; decide)) hnt

/-- **no_reply_without_trust**: if B does not trust A's key then, whatever the network does, in every reachable state neither end
    has completed, and everything ever sent is a message of A or a PING of B (B's own initiation and its retransmissions): B never
    emits a pong or a peng, i.e. nothing addressed as a reply to A. -/
theorem no_reply_without_trust (P : Params) (s0 s : Sys) (h0 : Init0 s0) (hr : Reach P s0 s) (hnt : s0.a.ownKey ∉ s0.b.trusted) :
    s.doneA = [] ∧ s.doneB = [] ∧ ∀ o ∈ s.sent, IsMsgOf s0.a o ∨ IsPingOf s0.b o := by
  have hnd : ¬ (s.doneA ≠ [] ∨ s.doneB ≠ []) := fun hd => hnt (completion_needs_mutual_trust P s0 s h0 hr hd).2
  refine ⟨Classical.not_not.1 (fun h => hnd (Or.inl h)), Classical.not_not.1 (fun h => hnd (Or.inr h)), ?_⟩
  obtain ⟨⟨ga, gb, h⟩, t⟩ := ti_reach P s0 s h0 hr
  obtain ⟨sa, sb⟩ := static_reach P s0 s hr
  have := sent_only_pings h t (by rw [sa.2.2.2.1, sb.2.2.2.2.1]; exact hnt)
  unfold IsMsgOf IsPingOf at this ⊢
  rw [sa.2.1, sb.2.1] at this
  exact this

/-- the mirror image: if A does not trust B's key, neither end ever completes and everything ever sent is a PING of A or a message
    of B -/
theorem no_reply_without_trust_A (P : Params) (s0 s : Sys) (h0 : Init0 s0) (hr : Reach P s0 s) (hnt : s0.b.ownKey ∉ s0.a.trusted) :
    s.doneA = [] ∧ s.doneB = [] ∧ ∀ o ∈ s.sent, IsPingOf s0.a o ∨ IsMsgOf s0.b o := by
  have hnd : ¬ (s.doneA ≠ [] ∨ s.doneB ≠ []) := fun hd => hnt (completion_needs_mutual_trust P s0 s h0 hr hd).1
  refine ⟨Classical.not_not.1 (fun h => hnd (Or.inl h)), Classical.not_not.1 (fun h => hnd (Or.inr h)), ?_⟩
  obtain ⟨⟨ga, gb, h⟩, t⟩ := ti_reach P s0 s h0 hr
  obtain ⟨sa, sb⟩ := static_reach P s0 s hr
  have := sent_only_pings h.swap t.swap (by rw [sb.2.2.2.1, sa.2.2.2.2.1]; exact hnt)
  unfold IsMsgOf IsPingOf at this ⊢
  rw [sa.2.1, sb.2.1] at this
  exact fun o ho => (this o ho).symm

/-- **untrusting_side_inert**: if A does not trust B's key then, in every reachable state, EVERY window the network delivers to A (under
    (I1)) is refused with an error that leaves A's handshake object exactly as it was and produces no reply: A's object changes only by
    its own `send_ping` and its timer. -/
theorem untrusting_side_inert (P : Params) (s0 s : Sys) (h0 : Init0 s0) (hr : Reach P s0 s) (hnt : s0.b.ownKey ∉ s0.a.trusted)
    (w : Bytes) (rnd : Rand) (hI : I1 P.env s.sigs s.a.trusted w) :
    ∃ e, handleInit P.env P.bodyOf P.ok s.a w rnd = .err s.a e := by
  obtain ⟨_, t⟩ := ti_reach P s0 s h0 hr
  obtain ⟨sa, sb⟩ := static_reach P s0 s hr
  rw [handleInit_eq]
  cases hrd : readFrom P.env w s.a.trusted with
  | error e => exact ⟨e, rfl⟩
  | ok mk =>
    obtain ⟨m, k⟩ := mk
    simp only
    by_cases hc : (s.a.hash = m.hash || checkSaltedNodeIdHash P.env m.hash s.a.nodeId) = true
    · rw [if_pos hc]; exact ⟨_, rfl⟩
    · exfalso
      have hne : s.a.hash ≠ m.hash := by
        intro e; apply hc; simp [e]
      obtain ⟨_, _, htrust, _⟩ := t.key.bridge P.env hI hrd hne
      rw [sa.2.2.2.2.1, sb.2.2.2.1] at htrust
      exact hnt htrust

/-! ## 2. mutual trust completes (loss-free schedule) -/

open VpnCloud.Proofs.C05Lockstep (Finds Hyps HypsS Fresh RandWF EcdhWF SigOk Opens pingMsg pongMsg pengMsg pongMsgS pengMsgS sealLog
  negotiated wire log2 log3 Agreement lockstep_completes)

/-- **the salted-key-hash hypothesis**: among the trusted keys `T` no key other than `k` has the 4-byte salted hash of `k` for this
    salt.  (`read_from` takes the FIRST trusted key whose salted hash matches and verifies the signature under that key only.) -/
def NoCollision (env : CryptoEnv) (T : List Bytes) (k salt : Bytes) : Prop :=
  ∀ tk ∈ T, env.keyHash tk salt = env.keyHash k salt → tk = k

/-- the trust hypothesis `Finds` of `C05Lockstep` follows from "the receiver trusts the sender's key" and collision-freeness -/
theorem finds_of_trust (env : CryptoEnv) (receiver sender : InitSt) (r : Rand) (ht : sender.ownKey ∈ receiver.trusted)
    (hc : NoCollision env receiver.trusted sender.ownKey r.salt) : Finds env receiver sender r := by
  unfold Finds
  apply CoreLemmas.find?_unique ht
  · simp
  · intro b hb hp
    exact hc b hb (by simpa using hp)

/-- and `Finds` implies that the receiver trusts the sender's key -/
theorem finds_trusts (env : CryptoEnv) (receiver sender : InitSt) (r : Rand) (h : Finds env receiver sender r) :
    sender.ownKey ∈ receiver.trusted :=
  List.mem_of_find?_eq_some h

/-- the hypotheses of `C05Lockstep.lockstep_completes` WITHOUT its three trust hypotheses `Finds` (kinds (i), (ii), (iv), (v), (vi) of
    `C05Lockstep`: widths, the three signatures of the run verify, ideal AEAD on the two ciphertexts of the run, two different nodes,
    the negotiation does not fail) -/
structure RunHyps (env : CryptoEnv) (bodyOf : BodyOf) (ok : Bytes → Bool) (a b : InitSt) (r1 r2 r3 : Rand) : Prop where
  freshA : Fresh a
  freshB : Fresh b
  hashA : a.hash.length = 20
  hashB : b.hash.length = 20
  rand1 : RandWF env a r1
  rand2 : RandWF env b r2
  rand3 : RandWF env a r3
  ecdh1 : EcdhWF r1.ecdhPub
  ecdh2 : EcdhWF r2.ecdhPub
  payloadA : a.payload.length < 65536 - 24
  payloadB : b.payload.length < 65536 - 24
  payloadOkA : ok a.payload = true
  payloadOkB : ok b.payload = true
  ct2 : r2.ct.length ≤ b.payload.length + Generated.TAG_LEN
  ct3 : r3.ct.length ≤ a.payload.length + Generated.TAG_LEN
  algosA : algosWF a.algos
  algosB : algosWF b.algos
  nodupA : VpnCloud.Spec.C06.NoDup a.algos
  nodupB : VpnCloud.Spec.C06.NoDup b.algos
  start2 : r2.start < 2 ^ 48
  start3 : r3.start < 2 ^ 48
  sig1 : SigOk env a (pingMsg a r1) r1
  sig2 : SigOk env b (pongMsg a b r2) r2
  sig3 : SigOk env a (pengMsg a b r3) r3
  opens2 : Opens bodyOf (log2 a b r1 r2)
  opens3 : Opens bodyOf (log3 a b r1 r2 r3)
  hashNe : Bytes.beVal a.hash ≠ Bytes.beVal b.hash
  notSelfA : checkSaltedNodeIdHash env b.hash a.nodeId = false
  notSelfB : checkSaltedNodeIdHash env a.hash b.nodeId = false
  nego : ∀ e, selectAlgorithm a.algos b.algos ≠ .error e

theorem RunHyps.toHyps {env : CryptoEnv} {bodyOf : BodyOf} {ok : Bytes → Bool} {a b : InitSt} {r1 r2 r3 : Rand}
    (R : RunHyps env bodyOf ok a b r1 r2 r3) (f1 : Finds env b a r1) (f2 : Finds env a b r2) (f3 : Finds env b a r3) :
    Hyps env bodyOf ok a b r1 r2 r3 :=
  { R with finds1 := f1, finds2 := f2, finds3 := f3 }

/-- **mutual_trust_completes** (if direction, loss-free schedule): two fresh objects of two different nodes, each trusting the other's
    key, no trusted key colliding with the sender's key under the salted 4-byte hash for the three salts used (`NoCollision`), and the
    remaining hypotheses of `lockstep_completes` (`RunHyps`): A's ping is answered by B's pong, A completes on it and sends the peng,
    B completes on the peng, and the two ends agree (`C05Lockstep.Agreement`). -/
theorem mutual_trust_completes (env : CryptoEnv) (bodyOf : BodyOf) (ok : Bytes → Bool) (a b : InitSt) (r1 r2 r3 r4 : Rand)
    (R : RunHyps env bodyOf ok a b r1 r2 r3)
    (hab : a.ownKey ∈ b.trusted) (hba : b.ownKey ∈ a.trusted)
    (hc1 : NoCollision env b.trusted a.ownKey r1.salt) (hc2 : NoCollision env a.trusted b.ownKey r2.salt)
    (hc3 : NoCollision env b.trusted a.ownKey r3.salt) :
    ∃ b1 a2 b2 : InitSt,
      handleInit env bodyOf ok b (sendPing env a r1).2 r2 =
        .ok b1 (wire env b (pongMsg a b r2) r2, .continue, log2 a b r1 r2) ∧
      b1.stage = Generated.STAGE_PENG ∧
      handleInit env bodyOf ok (sendPing env a r1).1 (wire env b (pongMsg a b r2) r2) r3 =
        .ok a2 (wire env a (pengMsg a b r3) r3, .success b.payload true, log3 a b r1 r2 r3) ∧
      a2.stage = Generated.WAITING_TO_CLOSE ∧
      handleInit env bodyOf ok b1 (wire env a (pengMsg a b r3) r3) r4 = .ok b2 ([], .success a.payload false, []) ∧
      b2.stage = Generated.CLOSING ∧
      Agreement a b r1 r2 r3 a2 b2 :=
  lockstep_completes env bodyOf ok a b r1 r2 r3 r4
    (R.toHyps (finds_of_trust env b a r1 hab hc1) (finds_of_trust env a b r2 hba hc2) (finds_of_trust env b a r3 hab hc3))

/-- the key that `read_from` finds first under the salted hash decides: if that key verifies no prefix of the window, the window is
    rejected — whatever other trusted keys would verify -/
theorem first_match_decides (env : CryptoEnv) (w : Bytes) (T : List Bytes) (k' : Bytes)
    (hf : T.find? (fun tk => env.keyHash tk (w.take 4) = (w.drop 4).take 4) = some k')
    (hbad : ∀ signed sig rest, w = signed ++ [sig.length] ++ sig ++ rest → env.sigVerify k' signed sig = false) :
    ∃ e, readFrom env w T = .error e := by
  cases h : readFrom env w T with
  | error e => exact ⟨e, rfl⟩
  | ok mk =>
    obtain ⟨m, k⟩ := mk
    obtain ⟨hf', signed, sig, rest, hw, hv⟩ := readFrom_ok_inv env w T m k h
    rw [hf] at hf'
    simp only [Option.some.injEq] at hf'
    subst hf'
    rw [hbad signed sig rest hw] at hv
    cases hv

/-- **hash_collision_rejects**: a genuine message of the trusted key `k` (any signature `sig`, even a valid one) is REJECTED when a
    different trusted key `k'` with the same salted 4-byte hash stands earlier in the list of trusted keys and does not verify the
    datagram: `read_from` tries only the first match.  This is why `NoCollision` is a hypothesis of `mutual_trust_completes`. -/
theorem hash_collision_rejects (env : CryptoEnv) (m : InitMsg) (salt sig tail k k' : Bytes) (T : List Bytes)
    (hsalt : salt.length = 4) (hkh : (env.keyHash k salt).length = 4)
    (hfind : T.find? (fun tk => env.keyHash tk salt = env.keyHash k salt) = some k')
    (hbad : ∀ signed sg rest, writeTo m salt (env.keyHash k salt) sig ++ tail = signed ++ [sg.length] ++ sg ++ rest →
      env.sigVerify k' signed sg = false) :
    ∃ e, readFrom env (writeTo m salt (env.keyHash k salt) sig ++ tail) T = .error e := by
  have e0 : ∃ rest, writeTo m salt (env.keyHash k salt) sig ++ tail = salt ++ (env.keyHash k salt ++ rest) := by
    unfold writeTo
    rw [VpnCloud.Proofs.InitMsgLemmas.signedRegion_eq]
    refine ⟨(VpnCloud.Proofs.C16More.partList m).flatten ++ ([Generated.PART_END] ++ ([sig.length % 256] ++ (sig ++ tail))), ?_⟩
    simp only [List.append_assoc]
  obtain ⟨rest, e0⟩ := e0
  apply first_match_decides env _ T k' _ hbad
  rw [e0, List.take_left' hsalt, List.drop_left' hsalt, List.take_left' hkh]
  exact hfind

/-! ## 3. the loss-free lock-step schedule in the two-party system -/

/-- the datagram sent last (the empty datagram if nothing was sent yet; `read_from` rejects it) -/
def lastSent (s : Sys) : Bytes := s.sent.getLast?.getD []

/-- the loss-free lock-step schedule: A initiates; then three times the network delivers the datagram sent last to the other party
    (to B, to A, to B) -/
def run1 (P : Params) (s0 : Sys) (r1 : Rand) : Sys := pingBy P s0 .A r1
def run2 (P : Params) (s0 : Sys) (r1 r2 : Rand) : Sys := deliverTo P (run1 P s0 r1) .B (lastSent (run1 P s0 r1)) r2
def run3 (P : Params) (s0 : Sys) (r1 r2 r3 : Rand) : Sys := deliverTo P (run2 P s0 r1 r2) .A (lastSent (run2 P s0 r1 r2)) r3
def run4 (P : Params) (s0 : Sys) (r1 r2 r3 r4 : Rand) : Sys :=
  deliverTo P (run3 P s0 r1 r2 r3) .B (lastSent (run3 P s0 r1 r2 r3)) r4

/-- the ideal hypotheses on the lock-step run: the side conditions of the four steps in `C05Agree.Step` — (I1), ideal signatures, for
    the three delivered windows, and (I3') `RandOK` for the random parts -/
structure RunIdeal (P : Params) (s0 : Sys) (r1 r2 r3 r4 : Rand) : Prop where
  rnd1 : RandOK P.env s0.a r1
  rnd2 : RandOK P.env (run1 P s0 r1).b r2
  sig2 : I1 P.env (run1 P s0 r1).sigs (run1 P s0 r1).b.trusted (lastSent (run1 P s0 r1))
  rnd3 : RandOK P.env (run2 P s0 r1 r2).a r3
  sig3 : I1 P.env (run2 P s0 r1 r2).sigs (run2 P s0 r1 r2).a.trusted (lastSent (run2 P s0 r1 r2))
  rnd4 : RandOK P.env (run3 P s0 r1 r2 r3).b r4
  sig4 : I1 P.env (run3 P s0 r1 r2 r3).sigs (run3 P s0 r1 r2 r3).b.trusted (lastSent (run3 P s0 r1 r2 r3))

theorem run_reach (P : Params) (s0 : Sys) (r1 r2 r3 r4 : Rand) (h0 : Init0 s0) (I : RunIdeal P s0 r1 r2 r3 r4) :
    Reach P s0 (run4 P s0 r1 r2 r3 r4) := by
  -- `reach_deliver` with `s.obj x` spelt `s.a` / `s.b` as in `RunIdeal`, stated for a variable `s`: unifying the two spellings on
  -- the states `run1 … run3` themselves makes the elaborator unfold the runs
  have toA : ∀ {s w rnd}, Reach P s0 s → I1 P.env s.sigs s.a.trusted w → RandOK P.env s.a rnd → Reach P s0 (deliverTo P s .A w rnd) :=
    fun hr hI hrnd => reach_deliver hr .A _ _ hI hrnd
  have toB : ∀ {s w rnd}, Reach P s0 s → I1 P.env s.sigs s.b.trusted w → RandOK P.env s.b rnd → Reach P s0 (deliverTo P s .B w rnd) :=
    fun hr hI hrnd => reach_deliver hr .B _ _ hI hrnd
  exact toB (toA (toB (reach_ping .refl .A r1 h0.a.stage I.rnd1) I.sig2 I.rnd2) I.sig3 I.rnd3) I.sig4 I.rnd4

/-- the parts of a system state that the lock-step argument follows -/
structure View (s : Sys) (a b : InitSt) (snt : List Bytes) (dA dB : List (Bytes × Bool)) : Prop where
  a : s.a = a
  b : s.b = b
  sent : s.sent = snt
  doneA : s.doneA = dA
  doneB : s.doneB = dB

theorem view_deliverB {P : Params} {s : Sys} {a b : InitSt} {snt : List Bytes} {dA dB : List (Bytes × Bool)} {w : Bytes} {rnd : Rand}
    {b' : InitSt} {out : Bytes} {res : InitResult} {log : SealLog} (hv : View s a b snt dA dB)
    (h : handleInit P.env P.bodyOf P.ok b w rnd = .ok b' (out, res, log)) :
    View (deliverTo P s .B w rnd) a b' (if out = [] then snt else snt ++ [out]) dA (doneOf res ++ dB) := by
  have hb : s.obj .B = b := hv.b
  unfold deliverTo
  rw [hb, h]
  exact ⟨hv.a, rfl, by show (if out = [] then s.sent else s.sent ++ [out]) = _; rw [hv.sent], hv.doneA,
    by show doneOf res ++ s.doneB = _; rw [hv.doneB]⟩

theorem view_deliverA {P : Params} {s : Sys} {a b : InitSt} {snt : List Bytes} {dA dB : List (Bytes × Bool)} {w : Bytes} {rnd : Rand}
    {a' : InitSt} {out : Bytes} {res : InitResult} {log : SealLog} (hv : View s a b snt dA dB)
    (h : handleInit P.env P.bodyOf P.ok a w rnd = .ok a' (out, res, log)) :
    View (deliverTo P s .A w rnd) a' b (if out = [] then snt else snt ++ [out]) (doneOf res ++ dA) dB := by
  have ha : s.obj .A = a := hv.a
  unfold deliverTo
  rw [ha, h]
  exact ⟨rfl, hv.b, by show (if out = [] then s.sent else s.sent ++ [out]) = _; rw [hv.sent],
    by show doneOf res ++ s.doneA = _; rw [hv.doneA], hv.doneB⟩

theorem wire_ne_nil (env : CryptoEnv) (st : InitSt) (m : InitMsg) (r : Rand) : wire env st m r ≠ [] := by
  intro h
  have := congrArg List.length h
  simp [wire, writeTo] at this

theorem run1_sent (P : Params) (s0 : Sys) (r1 : Rand) :
    (run1 P s0 r1).sent = s0.sent ++ [wire P.env s0.a (pingMsg s0.a r1) r1] :=
  if_neg (wire_ne_nil _ _ _ _)

theorem lastSent_of {s : Sys} {l : List Bytes} {o : Bytes} (h : s.sent = l ++ [o]) : lastSent s = o := by
  unfold lastSent
  rw [h, List.getLast?_concat]
  rfl

theorem deliverTo_sent (P : Params) (s : Sys) (x : Who) (w : Bytes) (rnd : Rand) :
    (deliverTo P s x w rnd).sent = s.sent ∨ ∃ o, (deliverTo P s x w rnd).sent = s.sent ++ [o] := by
  unfold deliverTo
  cases handleInit P.env P.bodyOf P.ok (s.obj x) w rnd with
  | ok st' r =>
    obtain ⟨out, res, log⟩ := r
    by_cases ho : out = []
    · left; cases x <;> exact if_pos ho
    · right; exact ⟨out, by cases x <;> exact if_neg ho⟩
  | err st' e => left; cases x <;> rfl
  | panic => exact Or.inl rfl

theorem lastSent_mem {s : Sys} (h : s.sent ≠ []) : lastSent s ∈ s.sent := by
  unfold lastSent
  cases hl : s.sent.getLast? with
  | none => exact absurd (List.getLast?_eq_none_iff.1 hl) h
  | some o => exact List.mem_of_getLast? hl

/-- the default of `lastSent` (the empty datagram) is never used on the lock-step schedule: each of the three deliveries hands over a
    datagram that was really sent (A's ping is not empty, and `sent` never shrinks) -/
theorem lockstep_delivers_sent (P : Params) (s0 : Sys) (r1 r2 r3 : Rand) :
    lastSent (run1 P s0 r1) ∈ (run1 P s0 r1).sent ∧ lastSent (run2 P s0 r1 r2) ∈ (run2 P s0 r1 r2).sent ∧
    lastSent (run3 P s0 r1 r2 r3) ∈ (run3 P s0 r1 r2 r3).sent := by
  have h1 : (run1 P s0 r1).sent ≠ [] := by
    rw [run1_sent]
    simp
  have grow : ∀ (s : Sys) (x : Who) (w : Bytes) (rnd : Rand), s.sent ≠ [] → (deliverTo P s x w rnd).sent ≠ [] := by
    intro s x w rnd hs
    rcases deliverTo_sent P s x w rnd with h | ⟨o, h⟩
    · rw [h]; exact hs
    · rw [h]; simp
  have h2 : (run2 P s0 r1 r2).sent ≠ [] := grow _ _ _ _ h1
  have h3 : (run3 P s0 r1 r2 r3).sent ≠ [] := grow _ _ _ _ h2
  exact ⟨lastSent_mem h1, lastSent_mem h2, lastSent_mem h3⟩

theorem run_completes (P : Params) (s0 : Sys) (r1 r2 r3 r4 : Rand) (h0 : Init0 s0)
    (R : RunHyps P.env P.bodyOf P.ok s0.a s0.b r1 r2 r3)
    (hab : s0.a.ownKey ∈ s0.b.trusted) (hba : s0.b.ownKey ∈ s0.a.trusted)
    (hc1 : NoCollision P.env s0.b.trusted s0.a.ownKey r1.salt) (hc2 : NoCollision P.env s0.a.trusted s0.b.ownKey r2.salt)
    (hc3 : NoCollision P.env s0.b.trusted s0.a.ownKey r3.salt) :
    (run4 P s0 r1 r2 r3 r4).doneA = [(s0.b.payload, true)] ∧ (run4 P s0 r1 r2 r3 r4).doneB = [(s0.a.payload, false)] ∧
    (run4 P s0 r1 r2 r3 r4).sent = [wire P.env s0.a (pingMsg s0.a r1) r1, wire P.env s0.b (pongMsg s0.a s0.b r2) r2,
      wire P.env s0.a (pengMsg s0.a s0.b r3) r3] := by
  obtain ⟨b1, a2, b2, h1, _, h2, _, h3, _, _⟩ :=
    mutual_trust_completes P.env P.bodyOf P.ok s0.a s0.b r1 r2 r3 r4 R hab hba hc1 hc2 hc3
  have hping : (sendPing P.env s0.a r1).2 = wire P.env s0.a (pingMsg s0.a r1) r1 := rfl
  rw [hping] at h1
  have v1 : View (run1 P s0 r1) (sendPing P.env s0.a r1).1 s0.b ([] ++ [wire P.env s0.a (pingMsg s0.a r1) r1]) [] [] := by
    refine ⟨rfl, rfl, ?_, h0.doneA, h0.doneB⟩
    rw [run1_sent, h0.sent]
  have v2 : View (run2 P s0 r1 r2) _ _ _ _ _ :=
    view_deliverB (P := P) (w := lastSent (run1 P s0 r1)) (rnd := r2) v1 (by rw [lastSent_of v1.sent]; exact h1)
  rw [if_neg (wire_ne_nil _ _ _ _)] at v2
  have v3 : View (run3 P s0 r1 r2 r3) _ _ _ _ _ :=
    view_deliverA (P := P) (w := lastSent (run2 P s0 r1 r2)) (rnd := r3) v2 (by rw [lastSent_of v2.sent]; exact h2)
  rw [if_neg (wire_ne_nil _ _ _ _)] at v3
  have v4 : View (run4 P s0 r1 r2 r3 r4) _ _ _ _ _ :=
    view_deliverB (P := P) (w := lastSent (run3 P s0 r1 r2 r3)) (rnd := r4) v3 (by rw [lastSent_of v3.sent]; exact h3)
  exact ⟨v4.doneA, v4.doneB, v4.sent⟩

/-- **mutual_trust_iff**: two fresh handshake objects of two different nodes with ARBITRARY trust sets and keys (equal or not).
    (1) On the loss-free lock-step schedule — under the hypotheses of `lockstep_completes` other than trust (`RunHyps`), collision-freeness
    of the salted key hashes for the three salts (`NoCollision`) and the ideal hypotheses on the run (`RunIdeal`) — the handshake
    completes at both ends IF AND ONLY IF each end trusts the other's public key.
    (2) For ANY schedule of the adversarial network (restricted only by ideal signatures), completion at either end implies mutual
    trust.  So two nodes become peers exactly when each trusts the other's key. -/
theorem mutual_trust_iff (P : Params) (s0 : Sys) (r1 r2 r3 r4 : Rand) (h0 : Init0 s0)
    (R : RunHyps P.env P.bodyOf P.ok s0.a s0.b r1 r2 r3)
    (hc1 : NoCollision P.env s0.b.trusted s0.a.ownKey r1.salt) (hc2 : NoCollision P.env s0.a.trusted s0.b.ownKey r2.salt)
    (hc3 : NoCollision P.env s0.b.trusted s0.a.ownKey r3.salt) (I : RunIdeal P s0 r1 r2 r3 r4) :
    (((run4 P s0 r1 r2 r3 r4).doneA ≠ [] ∧ (run4 P s0 r1 r2 r3 r4).doneB ≠ []) ↔
      (s0.b.ownKey ∈ s0.a.trusted ∧ s0.a.ownKey ∈ s0.b.trusted)) ∧
    (∀ s, Reach P s0 s → (s.doneA ≠ [] ∨ s.doneB ≠ []) → s0.b.ownKey ∈ s0.a.trusted ∧ s0.a.ownKey ∈ s0.b.trusted) := by
  refine ⟨⟨?_, ?_⟩, fun s hr hd => completion_needs_mutual_trust P s0 s h0 hr hd⟩
  · intro hd
    exact completion_needs_mutual_trust P s0 _ h0 (run_reach P s0 r1 r2 r3 r4 h0 I) (Or.inl hd.1)
  · intro ht
    obtain ⟨h1, h2, _⟩ := run_completes P s0 r1 r2 r3 r4 h0 R ht.2 ht.1 hc1 hc2 hc3
    rw [h1, h2]
    exact ⟨by simp, by simp⟩

/-! ## 4. one-sided trust -/

/-- **a trusted ping is answered** ("B must answer — it cannot know"): a fresh object `b` that trusts the key of `a` (and finds it under
    the salted key hash) answers the genuine ping of `a` with a pong and moves to stage PENG — whatever `a.trusted` is: the trust set of
    the initiator is no input of the responder's `handle_init`. -/
theorem trusted_ping_is_answered (env : CryptoEnv) (bodyOf : BodyOf) (ok : Bytes → Bool) (a b : InitSt) (r1 r2 : Rand)
    (hstage : b.stage = Generated.STAGE_PING) (hashA : a.hash.length = 20) (rand1 : RandWF env a r1) (ecdh1 : EcdhWF r1.ecdhPub)
    (algosA : algosWF a.algos) (sig1 : SigOk env a (pingMsg a r1) r1) (hashNe : Bytes.beVal a.hash ≠ Bytes.beVal b.hash)
    (notSelfB : checkSaltedNodeIdHash env a.hash b.nodeId = false) (nego : ∀ e, selectAlgorithm b.algos a.algos ≠ .error e)
    (hab : a.ownKey ∈ b.trusted) (hc1 : NoCollision env b.trusted a.ownKey r1.salt) :
    ∃ b1 pl log, handleInit env bodyOf ok b (sendPing env a r1).2 r2 =
        .ok b1 (writeTo (.pong b.hash r2.ecdhPub b.algos pl) r2.salt (env.keyHash b.ownKey r2.salt) r2.sig, .continue, log) ∧
      b1.stage = Generated.STAGE_PENG := by
  rw [show (sendPing env a r1).2 = wire env a (pingMsg a r1) r1 from rfl,
    C05Lockstep.accept_wire bodyOf ok r2 (m := pingMsg a r1) ⟨hashA, by rw [ecdh1.1]; decide, algosA⟩ rand1
      (finds_of_trust env b a r1 hab hc1) sig1 (fun e => hash_ne_of_beVal hashNe e.symm) notSelfB (by rw [hstage]; rfl)]
  cases hsel : selectAlgorithm b.algos a.algos with
  | error e => exact absurd hsel (nego e)
  | ok sel =>
    rw [pingMsg, handleMsg_ping_ok env bodyOf ok b _ _ _ r2 sel hsel, pingRes, sendMessage_pong]
    cases sel with
    | none => exact ⟨_, _, _, rfl, rfl⟩
    | some c => exact ⟨_, _, _, rfl, rfl⟩

/-- **one_sided_trust_is_silent** (all schedules): if A does not trust B's key — in particular when B does trust A's, so that B
    answers A's ping with a pong: it cannot know — then in every reachable state neither end has completed, everything sent is a
    PING of A (its initiation and the retransmissions) or a message of B, and every window delivered to A (B's pong, its
    retransmissions, anything else) is refused with an error, leaving A's object unchanged and without reply. -/
theorem one_sided_trust_is_silent (P : Params) (s0 s : Sys) (h0 : Init0 s0) (hr : Reach P s0 s) (hba : s0.b.ownKey ∉ s0.a.trusted) :
    s.doneA = [] ∧ s.doneB = [] ∧ (∀ o ∈ s.sent, IsPingOf s0.a o ∨ IsMsgOf s0.b o) ∧
    ∀ w rnd, I1 P.env s.sigs s.a.trusted w → ∃ e, handleInit P.env P.bodyOf P.ok s.a w rnd = .err s.a e := by
  obtain ⟨h1, h2, h3⟩ := no_reply_without_trust_A P s0 s h0 hr hba
  exact ⟨h1, h2, h3, fun w rnd hI => untrusting_side_inert P s0 s h0 hr hba w rnd hI⟩

/-- `n` timer ticks of a handshake object -/
def tickN : Nat → InitSt → InitSt
  | 0, st => st
  | n + 1, st => tickN n (everySecond st).1

theorem tickN_retries (n : Nat) : ∀ (st : InitSt), st.stage ≠ Generated.WAITING_TO_CLOSE → st.stage ≠ Generated.CLOSING →
    st.retries + n ≤ Generated.MAX_FAILED_RETRIES → tickN n st = { st with retries := st.retries + n } := by
  induction n with
  | zero => intro st _ _ _; rfl
  | succ n ih =>
    intro st h1 h2 h3
    have e := everySecond_retry st h1 h2 (by omega)
    have e' : tickN (n + 1) st = tickN n { st with retries := st.retries + 1 } := by
      show tickN n (everySecond st).1 = _
      rw [e]
    rw [e', ih { st with retries := st.retries + 1 } h1 h2 (by show st.retries + 1 + n ≤ _; omega)]
    show ({ st with retries := st.retries + 1 + n } : InitSt) = { st with retries := st.retries + (n + 1) }
    rw [Nat.add_assoc, Nat.add_comm 1 n]

theorem retry_ticks (st : InitSt) (h1 : st.stage ≠ Generated.WAITING_TO_CLOSE) (h2 : st.stage ≠ Generated.CLOSING) (hr : st.retries = 0) :
    (∀ i, i < Generated.MAX_FAILED_RETRIES → everySecond (tickN i st) = ({ st with retries := i + 1 }, .ok (st.last.getD []))) ∧
    everySecond (tickN Generated.MAX_FAILED_RETRIES st) =
      ({ st with retries := Generated.MAX_FAILED_RETRIES, stage := Generated.CLOSING }, .error .cryptoInitFatal) := by
  refine ⟨?_, ?_⟩
  · intro i hi
    have e1 := tickN_retries i st h1 h2 (by omega)
    have e2 := everySecond_retry { st with retries := st.retries + i } h1 h2 (by show st.retries + i < _; omega)
    rw [e1, e2]
    show (({ st with retries := st.retries + i + 1 } : InitSt), (Except.ok (st.last.getD []) : Except InitErr Bytes)) = _
    rw [hr, Nat.zero_add]
  · have e1 := tickN_retries Generated.MAX_FAILED_RETRIES st h1 h2 (by omega)
    have e2 := everySecond_give_up { st with retries := st.retries + Generated.MAX_FAILED_RETRIES } h1 h2
      (by show ¬ st.retries + Generated.MAX_FAILED_RETRIES < _; omega)
    rw [e1, e2]
    show (({ st with retries := st.retries + Generated.MAX_FAILED_RETRIES, stage := Generated.CLOSING } : InitSt),
      (Except.error InitErr.cryptoInitFatal : Except InitErr Bytes)) = _
    rw [hr, Nat.zero_add]

/-- **retransmit_until_give_up**: a handshake object that waits for an answer (any stage but WAITING_TO_CLOSE / CLOSING; e.g. the
    initiator after its ping, stage PONG) and gets none that it accepts sends its last message again at each of the next
    `MAX_FAILED_RETRIES` = 120 timer ticks, and at the tick after that gives the attempt up: fatal error, stage CLOSING, nothing sent. -/
theorem retransmit_until_give_up (st : InitSt) (l : Bytes) (h1 : st.stage ≠ Generated.WAITING_TO_CLOSE)
    (h2 : st.stage ≠ Generated.CLOSING) (hr : st.retries = 0) (hl : st.last = some l) :
    (∀ i, i < Generated.MAX_FAILED_RETRIES → everySecond (tickN i st) = ({ st with retries := i + 1 }, .ok l)) ∧
    everySecond (tickN Generated.MAX_FAILED_RETRIES st) =
      ({ st with retries := Generated.MAX_FAILED_RETRIES, stage := Generated.CLOSING }, .error .cryptoInitFatal) := by
  obtain ⟨a, b⟩ := retry_ticks st h1 h2 hr
  refine ⟨fun i hi => ?_, b⟩
  rw [a i hi, hl]
  rfl

/-- a timer tick at party `x` in the two-party system -/
def tickAt (s : Sys) (x : Who) : Sys :=
  s.upd x (everySecond (s.obj x)).1 (match (everySecond (s.obj x)).2 with | .ok o => o | .error _ => []) [] [] []

/-- `n` timer ticks at A -/
def ticksA : Nat → Sys → Sys
  | 0, s => s
  | n + 1, s => ticksA n (tickAt s .A)

theorem reach_ticksA {P : Params} {s0 : Sys} (n : Nat) : ∀ {s : Sys}, Reach P s0 s → Reach P s0 (ticksA n s) := by
  induction n with
  | zero => intro s hr; exact hr
  | succ n ih => intro s hr; exact ih (.step hr (.tick s .A))

/-! ## non-vacuity: toy runs (evaluated by `decide`) -/

theorem freshObj_keys {st : InitSt} (h : FreshObj st) (k : Bytes) (T : List Bytes) :
    FreshObj { st with ownKey := k, trusted := T } := ⟨h.1, h.2, h.3, h.4, h.5, h.6, h.7⟩

open VpnCloud.Proofs.C05Agree.Toy (SigsKnown randOK_toy env0)

/-- what `randOK_toy` asks of the random parts of a step -/
def RandChk (r : Rand) : Prop :=
  r.salt.length = 4 ∧ (r.ecdhPub.length = 32 ∧ Bytes.WF r.ecdhPub) ∧ r.dummy < 2816 ∧ r.ct.length + 8 < 65536

instance (r : Rand) : Decidable (RandChk r) := by unfold RandChk; infer_instance

instance (st : InitSt) : Decidable (Fresh st) :=
  decidable_of_iff (st.stage = Generated.STAGE_PING ∧ st.ecdh = none ∧ st.last = none ∧ st.crypto = none ∧ st.retries = 0)
    ⟨fun ⟨h1, h2, h3, h4, h5⟩ => ⟨h1, h2, h3, h4, h5⟩, fun ⟨h1, h2, h3, h4, h5⟩ => ⟨h1, h2, h3, h4, h5⟩⟩

instance (env : CryptoEnv) (st : InitSt) (r : Rand) : Decidable (RandWF env st r) :=
  decidable_of_iff (r.salt.length = 4 ∧ r.sig.length < 256 ∧ (env.keyHash st.ownKey r.salt).length = 4)
    ⟨fun ⟨h1, h2, h3⟩ => ⟨h1, h2, h3⟩, fun ⟨h1, h2, h3⟩ => ⟨h1, h2, h3⟩⟩

instance (k : Bytes) : Decidable (EcdhWF k) := by unfold EcdhWF; infer_instance
instance (a : Algos) : Decidable (algosWF a) := by unfold algosWF; infer_instance
instance (a : Algos) : Decidable (VpnCloud.Spec.C06.NoDup a) := by unfold VpnCloud.Spec.C06.NoDup; infer_instance
instance (env : CryptoEnv) (st : InitSt) (m : InitMsg) (r : Rand) : Decidable (SigOk env st m r) := by unfold SigOk; infer_instance
instance (bodyOf : BodyOf) (l : SealLog) : Decidable (Opens bodyOf l) := by unfold Opens; infer_instance

theorem nego_of_ok {a b : Algos} {s : Option Cipher} (h : selectAlgorithm a b = .ok s) : ∀ e, selectAlgorithm a b ≠ .error e := by
  intro e h'
  rw [h] at h'
  cases h'

/-- `RunHyps` from its fields as one conjunction that evaluates, and the negotiation result -/
theorem RunHyps.of_chk {env : CryptoEnv} {bodyOf : BodyOf} {ok : Bytes → Bool} {a b : InitSt} {r1 r2 r3 : Rand} {sel : Option Cipher}
    (hsel : selectAlgorithm a.algos b.algos = .ok sel)
    (h : Fresh a ∧ Fresh b ∧ a.hash.length = 20 ∧ b.hash.length = 20 ∧ RandWF env a r1 ∧ RandWF env b r2 ∧ RandWF env a r3 ∧
      EcdhWF r1.ecdhPub ∧ EcdhWF r2.ecdhPub ∧ a.payload.length < 65536 - 24 ∧ b.payload.length < 65536 - 24 ∧
      ok a.payload = true ∧ ok b.payload = true ∧ r2.ct.length ≤ b.payload.length + Generated.TAG_LEN ∧
      r3.ct.length ≤ a.payload.length + Generated.TAG_LEN ∧ algosWF a.algos ∧ algosWF b.algos ∧
      VpnCloud.Spec.C06.NoDup a.algos ∧ VpnCloud.Spec.C06.NoDup b.algos ∧ r2.start < 2 ^ 48 ∧ r3.start < 2 ^ 48 ∧
      SigOk env a (pingMsg a r1) r1 ∧ SigOk env b (pongMsg a b r2) r2 ∧ SigOk env a (pengMsg a b r3) r3 ∧
      Opens bodyOf (log2 a b r1 r2) ∧ Opens bodyOf (log3 a b r1 r2 r3) ∧ Bytes.beVal a.hash ≠ Bytes.beVal b.hash ∧
      checkSaltedNodeIdHash env b.hash a.nodeId = false ∧ checkSaltedNodeIdHash env a.hash b.nodeId = false) :
    RunHyps env bodyOf ok a b r1 r2 r3 :=
  -- every field but `nego` is one of the conjuncts of `h`
  by constructor <;> first | exact nego_of_ok hsel | simp only [h, ne_eq, not_false_eq_true]

/-- `RunIdeal` in an environment that verifies exactly the signatures of `L` and has the toy key hash (one evaluation of the run) -/
theorem RunIdeal.of_chk {P : Params} {L : List (Bytes × Bytes × Bytes)} (hv : ∀ k m sg, P.env.sigVerify k m sg = decide ((k, m, sg) ∈ L))
    (hk : P.env.keyHash = env0.keyHash) {s0 : Sys} {r1 r2 r3 r4 : Rand} (hr : RandChk r1 ∧ RandChk r2 ∧ RandChk r3 ∧ RandChk r4)
    (hs : SigsKnown L (run1 P s0 r1) .B (lastSent (run1 P s0 r1)) ∧ SigsKnown L (run2 P s0 r1 r2) .A (lastSent (run2 P s0 r1 r2)) ∧
      SigsKnown L (run3 P s0 r1 r2 r3) .B (lastSent (run3 P s0 r1 r2 r3))) :
    RunIdeal P s0 r1 r2 r3 r4 := by
  -- stated for a variable `s`, as in `run_reach`
  have toA : ∀ {s w}, SigsKnown L s .A w → I1 P.env s.sigs s.a.trusted w := fun h => toy_I1 _ L hv _ _ _ h
  have toB : ∀ {s w}, SigsKnown L s .B w → I1 P.env s.sigs s.b.trusted w := fun h => toy_I1 _ L hv _ _ _ h
  exact ⟨randOK_toy hk _ _ hr.1, randOK_toy hk _ _ hr.2.1, toB hs.1, randOK_toy hk _ _ hr.2.2.1, toA hs.2.1,
    randOK_toy hk _ _ hr.2.2.2, toB hs.2.2⟩

namespace Toy
open VpnCloud.Proofs.C05Agree.Toy

/-! ### (i) mutual trust: the run of `C05Agree.Toy` (`Toy.both_completed`) -/

theorem trust_mutual : s0.b.ownKey ∈ s0.a.trusted ∧ s0.a.ownKey ∈ s0.b.trusted := by decide

theorem hyps_mutual : RunHyps P.env P.bodyOf P.ok s0.a s0.b R1 R2 R3 := RunHyps.of_chk (sel := some .chacha) rfl (by decide +kernel)

/-- the lock-step schedule from `s0` is the run `s1 … s4` of `C05Agree.Toy` (`run_eval` knows what was sent last at each state) -/
theorem run_eq : run1 P s0 R1 = s1 ∧ lastSent s1 = w1 ∧ run2 P s0 R1 R2 = s2 ∧ lastSent s2 = w2 ∧ run3 P s0 R1 R2 R3 = s3 ∧
    lastSent s3 = w3 ∧ run4 P s0 R1 R2 R3 R4 = s4 := by
  have e1 : run1 P s0 R1 = s1 := rfl
  have l1 : lastSent s1 = w1 := lastSent_of (l := []) run_eval.1.1
  have e2 : run2 P s0 R1 R2 = s2 := by rw [run2, e1, l1]; rfl
  have l2 : lastSent s2 = w2 := lastSent_of (l := [w1]) run_eval.1.2.1
  have e3 : run3 P s0 R1 R2 R3 = s3 := by rw [run3, e2, l2]; rfl
  have l3 : lastSent s3 = w3 := lastSent_of (l := [w1, w2]) run_eval.1.2.2
  have e4 : run4 P s0 R1 R2 R3 R4 = s4 := by rw [run4, e3, l3]; rfl
  exact ⟨e1, l1, e2, l2, e3, l3, e4⟩

theorem ideal_mutual : RunIdeal P s0 R1 R2 R3 R4 := by
  refine RunIdeal.of_chk (L := L) (fun _ _ _ => rfl) rfl (by decide) ?_
  obtain ⟨e1, l1, e2, l2, e3, l3, _⟩ := run_eq
  rw [e1, l1, e2, l2, e3, l3]
  exact ⟨run_eval.2.1, run_eval.2.2.1, run_eval.2.2.2.1⟩

theorem nocoll_mutual : NoCollision P.env s0.b.trusted s0.a.ownKey R1.salt ∧ NoCollision P.env s0.a.trusted s0.b.ownKey R2.salt ∧
    NoCollision P.env s0.b.trusted s0.a.ownKey R3.salt := by
  unfold NoCollision; decide

/-- all hypotheses of `mutual_trust_iff` hold for the toy instance with mutual trust, and its lock-step run is the run of
    `C05Agree.Toy.both_completed`: both ends complete -/
theorem mutual_completes : (run4 P s0 R1 R2 R3 R4).doneA = [([20], true)] ∧ (run4 P s0 R1 R2 R3 R4).doneB = [([10, 11], false)] ∧
    (run4 P s0 R1 R2 R3 R4).sent = [w1, w2, w3] ∧ (run4 P s0 R1 R2 R3 R4).sent = s4.sent := by
  rw [run_eq.2.2.2.2.2.2]
  exact ⟨both_completed.2.2.2.1, both_completed.2.2.2.2.1, both_completed.2.2.2.2.2.2.2.1, rfl⟩

example : (run4 P s0 R1 R2 R3 R4).doneA ≠ [] ∧ (run4 P s0 R1 R2 R3 R4).doneB ≠ [] :=
  (mutual_trust_iff P s0 R1 R2 R3 R4 init0 hyps_mutual nocoll_mutual.1 nocoll_mutual.2.1 nocoll_mutual.2.2 ideal_mutual).1.2 trust_mutual

/-- `completion_needs_mutual_trust` applies to the reachable state `s4` of `C05Agree.Toy.both_completed`, where both ends have completed -/
example : s0.b.ownKey ∈ s0.a.trusted ∧ s0.a.ownKey ∈ s0.b.trusted :=
  completion_needs_mutual_trust P s0 s4 init0 reach4 (Or.inl (by rw [both_completed.2.2.2.1]; simp))

/-! ### (ii) one-sided trust: B trusts A's key, A does not trust B's -/

/-- A without B's key `[9, 9, 9, 9]` among its trusted keys -/
def aU : InitSt := { a0 with trusted := [[8, 8, 8, 8]] }
def sU : Sys := { a := aU, b := b0 }

theorem one_sided : sU.a.ownKey ∈ sU.b.trusted ∧ sU.b.ownKey ∉ sU.a.trusted := by decide

theorem init0U : Init0 sU := ⟨freshObj_keys init0.a _ _, freshObj_keys init0.b _ _, init0.hashNe, rfl, rfl, rfl, rfl, rfl⟩

theorem hyps_one_sided : RunHyps P.env P.bodyOf P.ok sU.a sU.b R1 R2 R3 := RunHyps.of_chk (sel := some .chacha) rfl (by decide +kernel)


theorem ideal_one_sided : RunIdeal P sU R1 R2 R3 R4 := RunIdeal.of_chk (L := L) (fun _ _ _ => rfl) rfl (by decide) (by decide +kernel)

theorem nocoll_one_sided : NoCollision P.env sU.b.trusted sU.a.ownKey R1.salt ∧ NoCollision P.env sU.a.trusted sU.b.ownKey R2.salt ∧
    NoCollision P.env sU.b.trusted sU.a.ownKey R3.salt := by
  unfold NoCollision; decide

/-- the state after the lock-step schedule, and then `n` timer ticks at A -/
def uN (n : Nat) : Sys := ticksA n (run4 P sU R1 R2 R3 R4)

theorem reachU (n : Nat) : Reach P sU (uN n) := reach_ticksA n (run_reach P sU R1 R2 R3 R4 init0U ideal_one_sided)

/-- **the concrete run with one-sided trust**: A's ping `w1` is answered by B with the pong `w2` (B reaches stage PENG);
    `read_from` at A rejects the pong (`Error::Crypto`: no trusted key with that salted hash), so by `handleInit_reject_pure` A's object
    is unchanged and nothing is sent; the pong delivered again (to B) changes nothing either; then A retransmits its ping at each of
    120 timer ticks and gives up at the 121st (stage CLOSING, nothing sent); nobody ever completes. -/
theorem one_sided_run :
    (run2 P sU R1 R2).sent = [w1, w2] ∧ (run2 P sU R1 R2).b.stage = Generated.STAGE_PENG ∧
    readFrom P.env w2 (run2 P sU R1 R2).a.trusted = .error .crypto ∧
    (run3 P sU R1 R2 R3).sent = [w1, w2] ∧ (run3 P sU R1 R2 R3).a.stage = Generated.STAGE_PONG ∧
    (run3 P sU R1 R2 R3).a.last = some w1 ∧ (run3 P sU R1 R2 R3).a.retries = 0 ∧
    (run4 P sU R1 R2 R3 R4).sent = [w1, w2] ∧ (run4 P sU R1 R2 R3 R4).doneA = [] ∧ (run4 P sU R1 R2 R3 R4).doneB = [] ∧
    (uN 120).sent = [w1, w2] ++ List.replicate 120 w1 ∧ (uN 120).a.stage = Generated.STAGE_PONG ∧
    (uN 121).sent = [w1, w2] ++ List.replicate 120 w1 ∧ (uN 121).a.stage = Generated.CLOSING ∧
    (uN 121).doneA = [] ∧ (uN 121).doneB = [] :=
  by decide +kernel

/-- `trusted_ping_is_answered` applies to B in that run (although A does not trust B) -/
example : ∃ b1 pl log, handleInit P.env P.bodyOf P.ok sU.b (sendPing P.env sU.a R1).2 R2 =
      .ok b1 (writeTo (.pong sU.b.hash R2.ecdhPub sU.b.algos pl) R2.salt (P.env.keyHash sU.b.ownKey R2.salt) R2.sig, .continue, log) ∧
    b1.stage = Generated.STAGE_PENG :=
  trusted_ping_is_answered P.env P.bodyOf P.ok sU.a sU.b R1 R2 rfl hyps_one_sided.hashA hyps_one_sided.rand1 hyps_one_sided.ecdh1
    hyps_one_sided.algosA hyps_one_sided.sig1 hyps_one_sided.hashNe hyps_one_sided.notSelfB
    (nego_of_ok (s := some Cipher.chacha) rfl) one_sided.1 nocoll_one_sided.1

/-- `handleInit_reject_pure` on that pong: A's object is returned unchanged, with the recoverable error, no reply -/
example : (match handleInit P.env P.bodyOf P.ok (run2 P sU R1 R2).a w2 R3 with
    | .err st' e' => st' = (run2 P sU R1 R2).a ∧ e' = .crypto | _ => False) :=
  (VpnCloud.Proofs.C01.handleInit_reject_pure P.env P.bodyOf P.ok (run2 P sU R1 R2).a w2 R3 .crypto one_sided_run.2.2.1).1

/-- the all-schedules theorems apply to every state of that run -/
example (n : Nat) : (uN n).doneA = [] ∧ (uN n).doneB = [] ∧ (∀ o ∈ (uN n).sent, IsPingOf sU.a o ∨ IsMsgOf sU.b o) ∧
    ∀ w rnd, I1 P.env (uN n).sigs (uN n).a.trusted w → ∃ e, handleInit P.env P.bodyOf P.ok (uN n).a w rnd = .err (uN n).a e :=
  one_sided_trust_is_silent P sU (uN n) init0U (reachU n) one_sided.2

/-- and `mutual_trust_iff` (all its hypotheses hold here): the lock-step run does not complete -/
example : ¬ ((run4 P sU R1 R2 R3 R4).doneA ≠ [] ∧ (run4 P sU R1 R2 R3 R4).doneB ≠ []) := fun h =>
  one_sided.2 ((mutual_trust_iff P sU R1 R2 R3 R4 init0U hyps_one_sided nocoll_one_sided.1 nocoll_one_sided.2.1
    nocoll_one_sided.2.2 ideal_one_sided).1.1 h).1

/-- `retransmit_until_give_up` applies to A's object after the rejected pong -/
example : (∀ i, i < Generated.MAX_FAILED_RETRIES →
      everySecond (tickN i (run3 P sU R1 R2 R3).a) = ({ (run3 P sU R1 R2 R3).a with retries := i + 1 }, .ok w1)) ∧
    everySecond (tickN Generated.MAX_FAILED_RETRIES (run3 P sU R1 R2 R3).a) =
      ({ (run3 P sU R1 R2 R3).a with retries := Generated.MAX_FAILED_RETRIES, stage := Generated.CLOSING }, .error .cryptoInitFatal) :=
  retransmit_until_give_up _ w1 (by rw [one_sided_run.2.2.2.2.1]; decide) (by rw [one_sided_run.2.2.2.2.1]; decide)
    one_sided_run.2.2.2.2.2.2.1 one_sided_run.2.2.2.2.2.1

/-! ### (iii) no trust at all -/

def bN : InitSt := { b0 with trusted := [] }
def sN : Sys := { a := aU, b := bN }

theorem no_trust : sN.a.ownKey ∉ sN.b.trusted ∧ sN.b.ownKey ∉ sN.a.trusted := by decide

theorem init0N : Init0 sN := ⟨freshObj_keys init0.a _ _, freshObj_keys init0.b _ _, init0.hashNe, rfl, rfl, rfl, rfl, rfl⟩

theorem ideal_no_trust : RunIdeal P sN R1 R2 R3 R4 := RunIdeal.of_chk (L := L) (fun _ _ _ => rfl) rfl (by decide) (by decide +kernel)

/-- **the concrete run without trust**: B rejects A's ping (`Error::Crypto`), stays in stage PING and sends nothing; the schedule
    delivers A's own ping back to A (refused) and to B again (rejected again); nobody completes; only the ping was ever sent -/
theorem no_trust_run :
    readFrom P.env w1 sN.b.trusted = .error .crypto ∧
    (run2 P sN R1 R2).sent = [w1] ∧ (run2 P sN R1 R2).b.stage = Generated.STAGE_PING ∧
    (run4 P sN R1 R2 R3 R4).sent = [w1] ∧ (run4 P sN R1 R2 R3 R4).b.stage = Generated.STAGE_PING ∧
    (run4 P sN R1 R2 R3 R4).a.stage = Generated.STAGE_PONG ∧
    (run4 P sN R1 R2 R3 R4).doneA = [] ∧ (run4 P sN R1 R2 R3 R4).doneB = [] :=
  by decide +kernel

/-- the all-schedules theorem applies to that run -/
example : (run4 P sN R1 R2 R3 R4).doneA = [] ∧ (run4 P sN R1 R2 R3 R4).doneB = [] ∧
    ∀ o ∈ (run4 P sN R1 R2 R3 R4).sent, IsMsgOf sN.a o ∨ IsPingOf sN.b o :=
  no_reply_without_trust P sN _ init0N (run_reach P sN R1 R2 R3 R4 init0N ideal_no_trust) no_trust.1

/-! ### shared key pair: both parties hold the key `[9, 9, 9, 9]` and trust it -/

def aS : InitSt := { a0 with ownKey := [9, 9, 9, 9], trusted := [[9, 9, 9, 9]] }
def bS : InitSt := { b0 with trusted := [[9, 9, 9, 9]] }
def sS : Sys := { a := aS, b := bS }
/-- (every signature verifies in this environment: `run_completes` needs no ideal-signature hypothesis) -/
def PS : Params := ⟨C05Lockstep.Toy.env, C05Lockstep.Toy.body aS bS, C05Lockstep.Toy.okP⟩

theorem init0S : Init0 sS := ⟨freshObj_keys init0.a _ _, freshObj_keys init0.b _ _, init0.hashNe, rfl, rfl, rfl, rfl, rfl⟩

theorem hyps_shared : RunHyps PS.env PS.bodyOf PS.ok sS.a sS.b R1 R2 R3 := RunHyps.of_chk (sel := some .chacha) rfl (by decide +kernel)

/-- with a shared key pair that both trust the handshake completes as usual (the nodes differ in their node-id hashes) -/
example : sS.a.ownKey = sS.b.ownKey ∧ (run4 PS sS R1 R2 R3 R4).doneA = [([20], true)] ∧
    (run4 PS sS R1 R2 R3 R4).doneB = [([10, 11], false)] := by
  obtain ⟨h1, h2, _⟩ := run_completes PS sS R1 R2 R3 R4 init0S hyps_shared (by decide) (by decide)
    (by unfold NoCollision; decide) (by unfold NoCollision; decide) (by unfold NoCollision; decide)
  exact ⟨rfl, h1, h2⟩

/-! ### colliding salted key hashes -/

/-- toy cryptography in which only the key `kA` verifies anything; the salted key hash is the first 4 bytes of key ++ salt, so the
    5-byte keys `kA` and `kC` collide for every salt -/
def kA : Bytes := [7, 7, 7, 7, 1]
def kC : Bytes := [7, 7, 7, 7, 2]
def envC : CryptoEnv :=
  { keyHash := fun k s => (k ++ s).take 4, nodeHash := fun s i => (s ++ i).take 16, sigVerify := fun k _ _ => k == kA }
def pingC : InitMsg := .ping (List.replicate 20 1) (List.replicate 32 5) C05Lockstep.Toy.algosA
def wC : Bytes := writeTo pingC [0, 0, 0, 1] (envC.keyHash kA [0, 0, 0, 1]) [1, 2, 3]

/-- **toy witness for `hash_collision_rejects`**: the genuine ping of `kA` is accepted when `kA` is the only or the first trusted key
    with that salted hash, and rejected (`Error::Crypto`, invalid signature) when the colliding key `kC` stands before it — although
    `kA` is trusted and its signature is valid -/
theorem collision_witness :
    readFrom envC wC [kA] = .ok (pingC, kA) ∧ readFrom envC wC [kA, kC] = .ok (pingC, kA) ∧
    readFrom envC wC [kC, kA] = .error .crypto ∧ kA ∈ [kC, kA] ∧ ¬ NoCollision envC [kC, kA] kA [0, 0, 0, 1] :=
  ⟨by decide +kernel, by decide +kernel, by decide +kernel, by decide, by unfold NoCollision; decide⟩

/-- the hypotheses of `hash_collision_rejects` hold for that witness -/
example : ∃ e, readFrom envC (writeTo pingC [0, 0, 0, 1] (envC.keyHash kA [0, 0, 0, 1]) [1, 2, 3] ++ []) [kC, kA] = .error e :=
  hash_collision_rejects envC pingC [0, 0, 0, 1] [1, 2, 3] [] kA kC [kC, kA] (by decide) (by decide) (by decide)
    (fun _ _ _ _ => rfl)

end Toy

end VpnCloud.Proofs.C01Mutual
