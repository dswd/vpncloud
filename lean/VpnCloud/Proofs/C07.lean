import VpnCloud.Model.Rotation
/-
  C07 — Key rotation never strands traffic.  The inductive invariant `Ahead` and the property theorem
  `rotation_sync`: in every reachable state of the two-party system, for every loss, duplication,
  reordering and delay of rotation messages and any relative timing of the two ends, the key an end
  currently seals with is held by its peer under the same key id with identical key material.

  The invariant does not use that new key pairs are numbered by a counter, so it is proved for the system
  taken one end at a time with arbitrary numbers (`ROp` / `StepF`, which the session layer of
  `C07Session.lean` refines); `Step` is the special case.
-/
namespace VpnCloud.Rot

/-- `X` is the end that is ahead: its id is one above `Y`'s (`idrel`; an end's id grows by 2 when it advances, so the two alternate).
    `X` has a proposal outstanding and nothing stored (`xprop`, `xpend`) and, unless its id is 1, a confirmation under its current id
    (`xconf`).  Of what `X` has sent, nothing is above its id, what carries its id is the one message its state determines, older
    messages are at least 2 below (`sxle`, `sxeq`, `sxpar`); everything `Y` has sent is below `X.id`, so `X` ignores it (`syle`,
    `ahead_delivX`).  `Y` either has not stored `X`'s current proposal (then, except at the very start, it has a proposal of its own
    outstanding) or holds the reply key `K e p` to it and overtakes at its next cycle (`ysub`).  `xcur`, `ycur`: the sealing slots in
    closed form; `sync1`, `sync2` are the property: what either end seals with, the other holds in the same slot.  `ready` is what
    keeps `sync2` when `Y` switches slots: under its own id `X` already holds `K c q`, the key `Y` installs and starts to seal with
    when `X`'s confirmation `c` of `Y`'s proposal `q` arrives.  `yconf`: a confirmation `Y` has stored carries `Y`'s id. -/
structure Ahead (X Y : Side) (sx sy : List Msg) : Prop where
  idrel : Y.id + 1 = X.id
  xprop : ∃ p, X.proposed = some p
  xpend : X.pending = none
  xconf : (X.id = 1 ∧ X.confirmed = none) ∨ (X.id > 1 ∧ ∃ c, X.confirmed = some (c, X.id))
  sxle : ∀ m ∈ sx, m.id ≤ X.id
  sxeq : ∀ m ∈ sx, m.id = X.id → ∀ p, X.proposed = some p → m = ⟨X.id, p, X.confirmed.map Prod.fst⟩
  sxpar : ∀ m ∈ sx, m.id < X.id → m.id + 2 ≤ X.id
  syle : ∀ m ∈ sy, m.id + 1 ≤ X.id
  ysub : (Y.pending = none ∧ (Y.proposed = none ↔ X.id = 1)) ∨
         (Y.proposed = none ∧ ∃ e p, X.proposed = some p ∧ Y.pending = some (K e p, e))
  xcur : X.cur = if X.id ≤ 2 then 0 else (X.id - 1) % 4
  ycur : Y.cur = if Y.proposed = none ∧ X.id > 1 then X.id % 4 else if X.id ≤ 3 then 0 else (X.id - 2) % 4
  sync1 : X.slots X.cur = Y.slots X.cur
  sync2 : Y.slots Y.cur = X.slots Y.cur
  ready : X.id > 1 → ∀ q, Y.proposed = some q → ∀ c, X.confirmed = some (c, X.id) → X.slots (X.id % 4) = K c q
  yconf : (Y.confirmed = none → Y.id ≤ 1) ∧ ∀ c i, Y.confirmed = some (c, i) → i = Y.id

def Inv (s : Sys) : Prop := Ahead s.x s.y s.sentX s.sentY ∨ Ahead s.y s.x s.sentY s.sentX

/-- the end has stored the peer's proposal and has no own proposal outstanding: its next cycle advances its id -/
def Waiting (s : Side) : Prop := s.proposed = none ∧ ∃ ke, s.pending = some ke

/-- the state right after the handshake: the responder `X` has proposed `p` and sent it; only slot 0 matters -/
theorem ahead_start (p : Nat) (sl sl' : Nat → Key) (h0 : sl 0 = sl' 0) :
    Ahead ⟨none, none, some p, 1, false, sl, 0⟩ ⟨none, none, none, 0, false, sl', 0⟩ [⟨1, p, none⟩] [] := by
  refine ⟨rfl, ⟨p, rfl⟩, rfl, Or.inl ⟨rfl, rfl⟩, ?_, ?_, ?_, ?_, Or.inl ⟨rfl, Iff.intro (fun _ => rfl) (fun _ => rfl)⟩,
    rfl, rfl, h0, h0.symm, fun h => absurd h (Nat.lt_irrefl 1), ⟨fun _ => Nat.zero_le 1, fun _ _ h => by cases h⟩⟩
  · intro m hm; rw [List.mem_singleton.1 hm]; exact Nat.le_refl 1
  · intro m hm _ q hq; cases hq; exact List.mem_singleton.1 hm
  · intro m hm hlt; rw [List.mem_singleton.1 hm] at hlt; exact absurd hlt (Nat.lt_irrefl 1)
  · intro m hm; cases hm

theorem inv_init : Inv initSys := Or.inl (ahead_start 0 _ _ rfl)

theorem cycle_proposed_timeout {s : Side} {p : Nat} (hp : s.proposed = some p) (ht : s.timeout = true) (f : Nat) :
    cycle s f = (s, some ⟨(s.confirmed.map Prod.snd).getD 1, p, s.confirmed.map Prod.fst⟩) := by
  unfold cycle; rw [hp]; simp only [ht, if_true]; cases s.confirmed with
  | none => rfl
  | some ci => rfl

theorem cycle_proposed_notimeout {s : Side} {p : Nat} (hp : s.proposed = some p) (ht : s.timeout = false) (f : Nat) :
    cycle s f = ({ s with timeout := true }, none) := by
  unfold cycle; rw [hp]; simp [ht]

theorem cycle_idle {s : Side} (hp : s.proposed = none) (hq : s.pending = none) (f : Nat) :
    cycle s f = (s, none) := by
  unfold cycle; rw [hp, hq]

theorem cycle_advance {s : Side} {key : Key} {e : Nat} (hp : s.proposed = none) (hq : s.pending = some (key, e)) (f : Nat) :
    cycle s f = ({ s with pending := none, id := s.id + 2, proposed := some f, confirmed := some (e, s.id + 2),
                          slots := install s.slots key (s.id + 2) }, some ⟨s.id + 2, f, some e⟩) := by
  unfold cycle; rw [hp, hq]

theorem cycle_not_waiting {s : Side} (h : ¬ Waiting s) (f : Nat) :
    (∃ b, cycle s f = ({ s with timeout := b }, none)) ∨
    ∃ p, s.proposed = some p ∧
      cycle s f = (s, some ⟨(s.confirmed.map Prod.snd).getD 1, p, s.confirmed.map Prod.fst⟩) := by
  rcases Option.eq_none_or_eq_some s.proposed with hp | ⟨p, hp⟩
  · rcases Option.eq_none_or_eq_some s.pending with hq | ⟨ke, hq⟩
    · exact Or.inl ⟨s.timeout, cycle_idle hp hq f⟩
    · exact absurd ⟨hp, ke, hq⟩ h
  · cases ht : s.timeout
    · exact Or.inl ⟨true, cycle_proposed_notimeout hp ht f⟩
    · exact Or.inr ⟨p, hp, cycle_proposed_timeout hp ht f⟩

theorem cycle_waiting {s : Side} (h : Waiting s) (f : Nat) :
    ∃ key e, s.pending = some (key, e) ∧
      cycle s f = ({ s with pending := none, id := s.id + 2, proposed := some f, confirmed := some (e, s.id + 2),
                            slots := install s.slots key (s.id + 2) }, some ⟨s.id + 2, f, some e⟩) := by
  obtain ⟨hp, ⟨key, e⟩, hk⟩ := h
  exact ⟨key, e, hk, cycle_advance hp hk f⟩

/-- an end that is not waiting changes at most its timeout flag in a cycle -/
theorem cycle_fst_of_not_waiting {s : Side} (h : ¬ Waiting s) (f : Nat) : ∃ b, (cycle s f).1 = { s with timeout := b } := by
  rcases cycle_not_waiting h f with ⟨b, e⟩ | ⟨p, _, e⟩ <;> rw [e]
  · exact ⟨b, rfl⟩
  · exact ⟨s.timeout, rfl⟩

theorem cycle_id_of_not_waiting {s : Side} (h : ¬ Waiting s) (f : Nat) : (cycle s f).1.id = s.id := by
  obtain ⟨b, e⟩ := cycle_fst_of_not_waiting h f
  rw [e]

theorem process_ignore {s : Side} {m : Msg} (f : Nat) (h : m.id ≤ s.id) : process s m f = s := by
  simp [process, h]

theorem process_store {s : Side} {m : Msg} (f : Nat) (hle : ¬ m.id ≤ s.id)
    (h : m.confirm = none ∨ s.proposed = none) :
    process s m f = { s with timeout := false, pending := some (K f m.propose, f) } := by
  unfold process
  simp only [hle, if_false]
  rcases h with h | h
  · rw [h]
  · rw [h]; cases m.confirm <;> rfl

theorem process_install {s : Side} {m : Msg} {c p : Nat} (f : Nat) (hle : ¬ m.id ≤ s.id)
    (hc : m.confirm = some c) (hp : s.proposed = some p) :
    process s m f = { s with timeout := false, pending := some (K f m.propose, f), proposed := none,
                             slots := install s.slots (K p c) m.id, cur := m.id % 4 } := by
  simp [process, hle, hc, hp]

theorem process_cases (s : Side) (m : Msg) (f : Nat) :
    (m.id ≤ s.id ∧ process s m f = s) ∨
    (¬ m.id ≤ s.id ∧ (m.confirm = none ∨ s.proposed = none) ∧
      process s m f = { s with timeout := false, pending := some (K f m.propose, f) }) ∨
    (¬ m.id ≤ s.id ∧ ∃ c p, m.confirm = some c ∧ s.proposed = some p ∧
      process s m f = { s with timeout := false, pending := some (K f m.propose, f), proposed := none,
                               slots := install s.slots (K p c) m.id, cur := m.id % 4 }) := by
  by_cases hle : m.id ≤ s.id
  · exact Or.inl ⟨hle, process_ignore f hle⟩
  · rcases Option.eq_none_or_eq_some m.confirm with hc | ⟨c, hc⟩
    · exact Or.inr (Or.inl ⟨hle, Or.inl hc, process_store f hle (Or.inl hc)⟩)
    · rcases Option.eq_none_or_eq_some s.proposed with hp | ⟨p, hp⟩
      · exact Or.inr (Or.inl ⟨hle, Or.inr hp, process_store f hle (Or.inr hp)⟩)
      · exact Or.inr (Or.inr ⟨hle, c, p, hc, hp, process_install f hle hc hp⟩)

theorem ahead_delivX {X Y : Side} {sx sy : List Msg} (h : Ahead X Y sx sy) {m : Msg} (hm : m ∈ sy) (f : Nat) :
    process X m f = X := process_ignore f (by have := h.syle m hm; omega)

theorem Ahead.conf_id {X Y : Side} {sx sy : List Msg} (h : Ahead X Y sx sy) :
    (X.confirmed.map Prod.snd).getD 1 = X.id := by
  rcases h.xconf with ⟨h1, hc⟩ | ⟨_, c, hc⟩
  · rw [hc, h1]; rfl
  · rw [hc]; rfl

theorem Ahead.accepted {X Y : Side} {sx sy : List Msg} (h : Ahead X Y sx sy) {m : Msg} (hm : m ∈ sx)
    (hacc : ¬ m.id ≤ Y.id) : ∃ p, X.proposed = some p ∧ m = ⟨X.id, p, X.confirmed.map Prod.fst⟩ := by
  have hmid : m.id = X.id := by
    have := h.sxle m hm
    have := h.idrel
    by_cases hlt : m.id < X.id
    · have := h.sxpar m hm hlt; omega
    · omega
  obtain ⟨p, hp⟩ := h.xprop
  exact ⟨p, hp, h.sxeq m hm hmid p hp⟩

theorem Ahead.confirmed_of {X Y : Side} {sx sy : List Msg} (h : Ahead X Y sx sy) {c : Nat}
    (hc : X.confirmed.map Prod.fst = some c) : X.id > 1 ∧ X.confirmed = some (c, X.id) := by
  rcases h.xconf with ⟨_, hn⟩ | ⟨h1, c', hc'⟩
  · rw [hn] at hc; cases hc
  · rw [hc'] at hc; cases hc; exact ⟨h1, hc'⟩

theorem ahead_timeout {X Y : Side} {sx sy : List Msg} (h : Ahead X Y sx sy) (b b' : Bool) :
    Ahead { X with timeout := b } { Y with timeout := b' } sx sy :=
  ⟨h.idrel, h.xprop, h.xpend, h.xconf, h.sxle, h.sxeq, h.sxpar, h.syle, h.ysub, h.xcur, h.ycur,
      h.sync1, h.sync2, h.ready, h.yconf⟩

theorem ahead_addX {X Y : Side} {sx sy : List Msg} (h : Ahead X Y sx sy) {p : Nat} (hp : X.proposed = some p) :
    Ahead X Y (⟨X.id, p, X.confirmed.map Prod.fst⟩ :: sx) sy := by
  refine { h with sxle := ?_, sxeq := ?_, sxpar := ?_ }
  · intro m hm; rcases List.mem_cons.1 hm with rfl | hm
    · exact Nat.le_refl _
    · exact h.sxle m hm
  · intro m hm hid q hq; rcases List.mem_cons.1 hm with rfl | hm
    · rw [hp] at hq; cases hq; rfl
    · exact h.sxeq m hm hid q hq
  · intro m hm hlt; rcases List.mem_cons.1 hm with rfl | hm
    · exact absurd hlt (Nat.lt_irrefl _)
    · exact h.sxpar m hm hlt

theorem ahead_not_waiting {X Y : Side} {sx sy : List Msg} (h : Ahead X Y sx sy) : ¬ Waiting X := by
  intro hw
  obtain ⟨p, hp⟩ := h.xprop
  rw [hw.1] at hp; cases hp

theorem ahead_cycleX {X Y : Side} {sx sy : List Msg} (h : Ahead X Y sx sy) (f : Nat) :
    Ahead (cycle X f).1 Y (addMsg sx (cycle X f).2) sy := by
  rcases cycle_not_waiting (ahead_not_waiting h) f with ⟨b, e⟩ | ⟨p, hp, e⟩
  · rw [e]; exact ahead_timeout h b Y.timeout
  · rw [e, h.conf_id]; exact ahead_addX h hp

theorem ahead_delivY {X Y : Side} {sx sy : List Msg} (h : Ahead X Y sx sy) {m : Msg} (hm : m ∈ sx) (f : Nat) :
    Ahead X (process Y m f) sx sy := by
  rcases process_cases Y m f with ⟨_, e⟩ | ⟨hacc, hn, e⟩ | ⟨hacc, c, q, hc, hyp, e⟩
  · rw [e]; exact h
  · -- Y only stores the pending reply; it has no proposal of its own outstanding
    obtain ⟨p, hp, rfl⟩ := h.accepted hm hacc
    have hyp : Y.proposed = none := by
      rcases hn with hn | hn
      · rcases h.xconf with ⟨h1, _⟩ | ⟨_, c, hc⟩
        · rcases h.ysub with ⟨_, hiff⟩ | ⟨hn', _⟩
          · exact hiff.2 h1
          · exact hn'
        · rw [hc] at hn; cases hn
      · exact hn
    rw [e]
    exact { h with ysub := Or.inr ⟨hyp, f, p, hp, rfl⟩ }
  · -- Y's proposal is confirmed: Y installs the key X holds ready under its id and switches to it
    obtain ⟨p, hp, rfl⟩ := h.accepted hm hacc
    obtain ⟨h1, hc'⟩ := h.confirmed_of hc
    have hne : X.cur ≠ X.id % 4 := by rw [h.xcur]; split <;> omega
    rw [e]
    refine { h with ysub := Or.inr ⟨rfl, f, p, hp, rfl⟩, ycur := (if_pos ⟨rfl, h1⟩).symm, sync1 := ?_, sync2 := ?_,
                    ready := fun _ q' hq' => by cases hq' }
    · simp only [install, if_neg hne]; exact h.sync1
    · simp only [install, if_true]; rw [h.ready h1 q hyp c hc', K_comm]

/-- Y still waits for its own confirmation (toggle timeout or re-send) or has nothing to do: it stays behind -/
theorem ahead_cycleY_not_waiting {X Y : Side} {sx sy : List Msg} (h : Ahead X Y sx sy) (hw : ¬ Waiting Y) (f : Nat) :
    Ahead X (cycle Y f).1 sx (addMsg sy (cycle Y f).2) := by
  rcases cycle_not_waiting hw f with ⟨b, e⟩ | ⟨q, hyp, e⟩
  · rw [e]; exact ahead_timeout h X.timeout b
  · rw [e]
    refine { h with syle := ?_ }
    intro m hm; rcases List.mem_cons.1 hm with rfl | hm
    · have hid := h.idrel
      show (Y.confirmed.map Prod.snd).getD 1 + 1 ≤ X.id
      cases hyc : Y.confirmed with
      | none =>
        have hx1 : X.id ≠ 1 := by
          intro h1
          rcases h.ysub with ⟨_, hiff⟩ | ⟨hn, _⟩
          · have := hiff.2 h1; rw [hyp] at this; cases this
          · rw [hyp] at hn; cases hn
        show 1 + 1 ≤ X.id
        omega
      | some ci =>
        show ci.2 + 1 ≤ X.id
        rw [h.yconf.2 ci.1 ci.2 hyc]
        exact Nat.le_of_eq hid
    · exact h.syle m hm

/-- the cycle in which `Y` overtakes: what it has stored is its reply to the proposal `X` has outstanding -/
theorem Ahead.overtake {X Y : Side} {sx sy : List Msg} (h : Ahead X Y sx sy) (hw : Waiting Y) (f : Nat) :
    ∃ e p, X.proposed = some p ∧ Y.pending = some (K e p, e) ∧
      cycle Y f = ({ Y with pending := none, id := Y.id + 2, proposed := some f, confirmed := some (e, Y.id + 2),
                            slots := install Y.slots (K e p) (Y.id + 2) }, some ⟨Y.id + 2, f, some e⟩) := by
  rcases h.ysub with ⟨hn, _⟩ | ⟨_, e, p, hp, hpe⟩
  · obtain ⟨_, ke, hk⟩ := hw; rw [hn] at hk; cases hk
  · exact ⟨e, p, hp, hpe, cycle_advance hw.1 hpe f⟩

/-- slot arithmetic for the cycle in which Y overtakes X: the slot `(Y.id + 2) % 4` it installs into is neither end's sealing
    slot, and both sealing slots are what the invariant with the roles exchanged says -/
theorem Ahead.cur_overtake {X Y : Side} {sx sy : List Msg} (h : Ahead X Y sx sy) (hyp : Y.proposed = none) :
    Y.cur ≠ (Y.id + 2) % 4 ∧ X.cur ≠ (Y.id + 2) % 4 ∧ (Y.cur = if Y.id + 2 ≤ 2 then 0 else (Y.id + 2 - 1) % 4) ∧
      X.cur = if Y.id + 2 ≤ 3 then 0 else (Y.id + 2 - 2) % 4 := by
  rw [h.ycur, h.xcur, ← h.idrel, hyp]
  -- up to id 1 the sealing slots are still slot 0; from then on they are `id`-derived
  rcases (by omega : Y.id = 0 ∨ Y.id = 1 ∨ 2 ≤ Y.id) with e | e | e
  · rw [e]; decide
  · rw [e]; decide
  · rw [if_pos ⟨rfl, by omega⟩, if_neg (by omega), if_neg (by omega), if_neg (by omega)]
    exact ⟨by omega, by omega, rfl, rfl⟩

/-- Y has stored X's latest proposal: it advances by 2, installs the pending key and is now the end that is ahead -/
theorem ahead_cycleY_waiting {X Y : Side} {sx sy : List Msg} (h : Ahead X Y sx sy) (hw : Waiting Y) (f : Nat) :
    Ahead (cycle Y f).1 X (addMsg sy (cycle Y f).2) sx := by
  have hyp := hw.1
  obtain ⟨e, p, hp, _, hc⟩ := h.overtake hw f
  rw [hc]
  have hid := h.idrel
  refine ⟨by show X.id + 1 = Y.id + 2; omega, ⟨f, rfl⟩, rfl, Or.inr ⟨by show Y.id + 2 > 1; omega, e, rfl⟩,
    ?_, ?_, ?_, ?_, Or.inl ⟨h.xpend, ?_⟩, ?_, ?_, ?_, ?_, ?_, ?_⟩
  · intro m hm; rcases List.mem_cons.1 hm with rfl | hm
    · exact Nat.le_refl _
    · have := h.syle m hm; show m.id ≤ Y.id + 2; omega
  · intro m hm hmid q hq; rcases List.mem_cons.1 hm with rfl | hm
    · cases hq; rfl
    · have := h.syle m hm; have : m.id = Y.id + 2 := hmid; omega
  · intro m hm hlt; rcases List.mem_cons.1 hm with rfl | hm
    · exact absurd hlt (Nat.lt_irrefl _)
    · have := h.syle m hm; show m.id + 2 ≤ Y.id + 2; omega
  · intro m hm; have := h.sxle m hm; show m.id + 1 ≤ Y.id + 2; omega
  · rw [hp]; show some p = none ↔ Y.id + 2 = 1
    exact ⟨fun h => (by cases h), fun h => by omega⟩
  · exact (h.cur_overtake hyp).2.2.1
  · show X.cur = if X.proposed = none ∧ Y.id + 2 > 1 then (Y.id + 2) % 4 else if Y.id + 2 ≤ 3 then 0 else (Y.id + 2 - 2) % 4
    have hn : ¬ (some p = none ∧ Y.id + 2 > 1) := fun h => by cases h.1
    rw [hp, if_neg hn]; exact (h.cur_overtake hyp).2.2.2
  · simp only [install, if_neg (h.cur_overtake hyp).1]; exact h.sync2
  · simp only [install, if_neg (h.cur_overtake hyp).2.1]; exact h.sync1
  · intro _ q hq c hc
    rw [hp] at hq; cases hq
    cases hc
    simp only [install, if_true]
  · rcases h.xconf with ⟨h1, hc⟩ | ⟨h1, c, hc⟩
    · refine ⟨fun _ => by omega, fun c i hci => ?_⟩
      rw [hc] at hci; cases hci
    · refine ⟨fun hn => ?_, fun c' i hci => ?_⟩
      · rw [hc] at hn; cases hn
      · rw [hc] at hci; cases hci; rfl

theorem ahead_cycleY {X Y : Side} {sx sy : List Msg} (h : Ahead X Y sx sy) (f : Nat) :
    Ahead X (cycle Y f).1 sx (addMsg sy (cycle Y f).2) ∨ Ahead (cycle Y f).1 X (addMsg sy (cycle Y f).2) sx := by
  by_cases hw : Waiting Y
  · exact Or.inr (ahead_cycleY_waiting h hw f)
  · exact Or.inl (ahead_cycleY_not_waiting h hw f)

end VpnCloud.Rot

namespace VpnCloud.Proofs.C07SessionLemmas
open VpnCloud.Rot

/-- one operation of end `A` (own state, messages it has sent `sa`, messages the peer has sent `sb`): nothing, a rotation cycle that
    draws key pair `f`, or the delivery of any message the peer ever sent (drawing key pair `f` for the reply) -/
inductive ROp (A : Side) (sa sb : List Msg) : Side → List Msg → Prop
  | stutter : ROp A sa sb A sa
  | cycle (f : Nat) : ROp A sa sb (cycle A f).1 (addMsg sa (cycle A f).2)
  | deliver (m : Msg) (h : m ∈ sb) (f : Nat) : ROp A sa sb (process A m f) sa

/-- a step of the two-party system with arbitrary numbers for new key pairs (the `fresh` component is not constrained) -/
def StepF (s t : Sys) : Prop :=
  (ROp s.x s.sentX s.sentY t.x t.sentX ∧ t.y = s.y ∧ t.sentY = s.sentY) ∨
  (ROp s.y s.sentY s.sentX t.y t.sentY ∧ t.x = s.x ∧ t.sentX = s.sentX)

theorem step_stepF {s t : Sys} (h : Step s t) : StepF s t := by
  cases h with
  | cycleX => exact Or.inl ⟨ROp.cycle s.fresh, rfl, rfl⟩
  | cycleY => exact Or.inr ⟨ROp.cycle s.fresh, rfl, rfl⟩
  | delivX m hm => exact Or.inl ⟨ROp.deliver m hm s.fresh, rfl, rfl⟩
  | delivY m hm => exact Or.inr ⟨ROp.deliver m hm s.fresh, rfl, rfl⟩

theorem stepF_lift {P : Side → Side → List Msg → List Msg → Prop}
    (symm : ∀ {X Y sx sy}, P X Y sx sy → P Y X sy sx)
    (rop : ∀ {X Y X' sx sy sx'}, P X Y sx sy → ROp X sx sy X' sx' → P X' Y sx' sy)
    {s t : Sys} (h : P s.x s.y s.sentX s.sentY) (st : StepF s t) : P t.x t.y t.sentX t.sentY := by
  rcases st with ⟨r, hy, hsy⟩ | ⟨r, hx, hsx⟩
  · rw [hy, hsy]; exact rop h r
  · rw [hx, hsx]; exact symm (rop (symm h) r)

theorem reachable_lift {P : Side → Side → List Msg → List Msg → Prop} (init : P initSys.x initSys.y initSys.sentX initSys.sentY)
    (symm : ∀ {X Y sx sy}, P X Y sx sy → P Y X sy sx)
    (rop : ∀ {X Y X' sx sy sx'}, P X Y sx sy → ROp X sx sy X' sx' → P X' Y sx' sy)
    {s : Sys} (h : Reachable s) : P s.x s.y s.sentX s.sentY := by
  induction h with
  | init => exact init
  | step _ st ih => exact stepF_lift symm rop ih (step_stepF st)

/-- the invariant `Inv` on the four components it talks about -/
def Inv4 (X Y : Side) (sx sy : List Msg) : Prop := Ahead X Y sx sy ∨ Ahead Y X sy sx

theorem inv4_symm {X Y : Side} {sx sy : List Msg} (h : Inv4 X Y sx sy) : Inv4 Y X sy sx := h.symm

theorem inv4_rop {X Y X' : Side} {sx sy sx' : List Msg} (h : Inv4 X Y sx sy) (r : ROp X sx sy X' sx') : Inv4 X' Y sx' sy := by
  cases r with
  | stutter => exact h
  | cycle f =>
    rcases h with h | h
    · exact Or.inl (ahead_cycleX h f)
    · exact (ahead_cycleY h f).symm
  | deliver m hm f =>
    rcases h with h | h
    · rw [ahead_delivX h hm f]; exact Or.inl h
    · exact Or.inr (ahead_delivY h hm f)

theorem inv_stepF {s t : Sys} (h : Inv s) (st : StepF s t) : Inv t := stepF_lift inv4_symm inv4_rop h st

theorem inv4_sync {X Y : Side} {sx sy : List Msg} (h : Inv4 X Y sx sy) :
    X.slots X.cur = Y.slots X.cur ∧ Y.slots Y.cur = X.slots Y.cur := by
  rcases h with h | h
  · exact ⟨h.sync1, h.sync2⟩
  · exact ⟨h.sync2, h.sync1⟩

end VpnCloud.Proofs.C07SessionLemmas

namespace VpnCloud.Rot
open VpnCloud.Proofs.C07SessionLemmas

theorem inv_sync {s : Sys} (h : Inv s) : Sync s := inv4_sync h

theorem inv_step {s t : Sys} (h : Inv s) (st : Step s t) : Inv t := inv_stepF h (step_stepF st)

/-- **C07 (model level)**: in every reachable state — any loss, duplication, reordering, delay and any
relative timing of the two ends' cycles — each end's current sealing key is held by its peer in the same slot. -/
theorem rotation_sync {s : Sys} (h : Reachable s) : Sync s :=
  inv_sync (reachable_lift inv_init inv4_symm inv4_rop h)

end VpnCloud.Rot
