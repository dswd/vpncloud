import VpnCloud.Proofs.Lemmas.Codec.BeaconLemmas
/-
  C17 — the beacon text codec (`mask_with_keystream`, `encrypt_data` / `decrypt_data`,
  `peerlist_encode` / `peerlist_decode`, `decode`), with the hash as a parameter (`BeaconEnv`).
  All statements are proved as given (no hypothesis added).  `EnvWF` is declared in
  `VpnCloud/Proofs/Lemmas/Codec/BeaconLemmas.lean` (in this namespace) because the lemmas need it.
  The hypothesis `hz` of the round trip (masked body does not begin with a zero byte) is part of the
  given statement; the `example`s at the end show that it cannot be dropped.

  The block counter of `mask_with_keystream` is a wrapping `u8` (`iter = iter.wrapping_add(1)`):
  all theorems hold for data of every length; `keystream_period` and `long_body_roundtrip` describe what
  happens beyond 4096 bytes.
-/
namespace VpnCloud.Proofs.C17

open VpnCloud.Beacon VpnCloud.Codec VpnCloud.Spec.C17
open VpnCloud.Proofs.BeaconLemmas

/- The statements are kept exactly as specified; some of their hypotheses are not needed by the proofs
   (`h` in `encrypt_decrypt`, `hn` in `age_window` / `peerlist_roundtrip_partial` / `too_old_ignored`,
   `hbm` in `decode_clean`).  The lemma file has the versions without them. -/
set_option linter.unusedVariables false

theorem mask_length (env : BeaconEnv) (d : Bytes) (t s : Nat) : (mask env d t s).length = d.length :=
  by rw [mask_eq_mapIdx, List.length_mapIdx]

/-- masking twice with the same key stream is the identity -/
theorem mask_involutive (env : BeaconEnv) (d : Bytes) (t s : Nat) : mask env (mask env d t s) t s = d :=
  mask_mask env d t s

theorem mask_wf (env : BeaconEnv) (h : EnvWF env) (d : Bytes) (hd : Bytes.WF d) (t s : Nat) : Bytes.WF (mask env d t s) :=
  mask_bytes env h d hd t s

/-- the seed byte protects the body: what was encrypted decrypts to itself -/
theorem encrypt_decrypt (env : BeaconEnv) (h : EnvWF env) (d : Bytes) : decryptData env (encryptData env d) = some d :=
  decrypt_encrypt env d

/-! ## data of more than 4096 bytes: the block counter wraps, the key stream repeats -/

/-- closed form of `mask_with_keystream` for data of any length: the byte at index `j` is xored with byte
    `j % 16` of key stream block `(j / 16) % 256` -/
theorem mask_getElem? (env : BeaconEnv) (d : Bytes) (t s j : Nat) :
    (mask env d t s)[j]? = d[j]?.map (fun b => b ^^^ (env.ks t s ((j / 16) % 256)).getD (j % 16) 0) := by
  rw [mask_eq_mapIdx, List.getElem?_mapIdx]; rfl

/-- **keystream_period**: the block counter is a `u8` that wraps, so block `i + 256` of the data is masked with the
    same 16 key stream bytes as block `i` (byte `p` of the hash of `[type, seed, i mod 256] ++ key`) — for data of
    more than 4096 bytes the key stream repeats, in every build profile (`wrapping_add`). -/
theorem keystream_period (env : BeaconEnv) (d : Bytes) (t s i p b b' : Nat) (hp : p < 16)
    (h1 : d[16 * i + p]? = some b) (h2 : d[16 * (i + 256) + p]? = some b') :
    (mask env d t s)[16 * i + p]? = some (b ^^^ (env.ks t s (i % 256)).getD p 0) ∧
    (mask env d t s)[16 * (i + 256) + p]? = some (b' ^^^ (env.ks t s (i % 256)).getD p 0) := by
  rw [mask_eq_mapIdx, List.getElem?_mapIdx, List.getElem?_mapIdx, h1, h2,
    ksByte_block env t s i p hp, ksByte_block env t s (i + 256) p hp, Nat.add_mod_right]
  exact ⟨rfl, rfl⟩

/-- the same fact for whole chunks: behind a multiple of 4096 bytes the masking starts again with block 0 -/
theorem mask_append_period (env : BeaconEnv) (a b : Bytes) (t s k : Nat) (ha : a.length = 4096 * k) :
    mask env (a ++ b) t s = mask env a t s ++ mask env b t s := by
  rw [mask_eq_mapIdx, mask_eq_mapIdx, mask_eq_mapIdx, List.mapIdx_append, ha]
  simp only [ksByte_period_mul]

/-- **long_body_roundtrip**: masking is length preserving and an involution, and what was encrypted decrypts to
    itself, for data of ANY length — in particular beyond the 4096 bytes after which the `u8` block counter wraps
    (no hypothesis on the length, none on the hash) -/
theorem long_body_roundtrip (env : BeaconEnv) (d : Bytes) (t s : Nat) :
    (mask env d t s).length = d.length ∧ mask env (mask env d t s) t s = d ∧
    decryptData env (encryptData env d) = some d :=
  ⟨mask_length env d t s, mask_involutive env d t s, decrypt_encrypt env d⟩

/-- `long_body_roundtrip` spelled out for bodies of more than 4096 bytes, where the `u8` counter has wrapped -/
theorem long_body_roundtrip_beyond (env : BeaconEnv) (d : Bytes) (t s : Nat) (_hl : 4096 < d.length) :
    (mask env d t s).length = d.length ∧ mask env (mask env d t s) t s = d ∧
    decryptData env (encryptData env d) = some d :=
  long_body_roundtrip env d t s

/-- the wrapping 16-bit age test is exactly "within ttl hours in either direction" -/
theorem age_window (now thn ttl : Nat) (hn : now < 65536) (ht : thn < 65536) :
    tooOld now thn ttl = !ageOk now thn (some ttl) :=
  tooOld_eq now thn ttl ht

/-- **peerlist_roundtrip_partial**: for every key (hash), hour stamp, at most 255 IPv4 and any IPv6 addresses, *if the masked body does not begin with a
    zero byte*, decoding what was encoded returns the addresses (IPv4 first), provided the age is within the accepted range.
    The hypothesis is forced: base-62 cannot express leading zero bytes (that failure is a recorded finding of the implementation). -/
theorem peerlist_roundtrip_partial (env : BeaconEnv) (h : EnvWF env) (peers : List SockAddr) (hour now : Nat) (ttl : Option Nat)
    (hp : ∀ a ∈ peers, sockWF a = true) (h4 : (peers.filter isV4).length ≤ 255) (hh : hour < 65536) (hn : now < 65536)
    (hz : (encryptData env (plainBody peers hour)).head? ≠ some 0) (hage : ageOk now hour ttl = true) :
    ∃ text, peerlistEncode env peers hour = some text ∧ peerlistDecode env text ttl now = normPeers peers := by
  obtain ⟨text, e1, e2⟩ := encoded_decodes env h peers hour now ttl hp h4 hh hz
  exact ⟨text, e1, by rw [e2, hage, if_pos rfl]⟩

/-- a beacon whose age exceeds the accepted range in both directions is ignored -/
theorem too_old_ignored (env : BeaconEnv) (h : EnvWF env) (peers : List SockAddr) (hour now ttl : Nat)
    (hp : ∀ a ∈ peers, sockWF a = true) (h4 : (peers.filter isV4).length ≤ 255) (hh : hour < 65536) (hn : now < 65536)
    (hz : (encryptData env (plainBody peers hour)).head? ≠ some 0) (hage : ageOk now hour (some ttl) = false) :
    ∃ text, peerlistEncode env peers hour = some text ∧ peerlistDecode env text (some ttl) now = [] := by
  obtain ⟨text, e1, e2⟩ := encoded_decodes env h peers hour now (some ttl) hp h4 hh hz
  exact ⟨text, e1, by rw [e2, hage]; rfl⟩

/-- `findSub` returns the first occurrence -/
theorem findSub_sound (hay needle : List Char) (i : Nat) (h : findSub hay needle = some i) :
    needle.isPrefixOf (hay.drop i) = true ∧ ∀ j, j < i → needle.isPrefixOf (hay.drop j) = false :=
  (findSub_some h).2

theorem findSub_none (hay needle : List Char) (h : findSub hay needle = none) : ∀ j, j ≤ hay.length → needle.isPrefixOf (hay.drop j) = false :=
  findSub_none' h

/-- the clean case of `C17More.embedded_found` (`embedded_found_partial` in DESIGN.md section 5): a beacon standing alone in an alphanumeric text is decoded as its body, if the end marker does not occur
    earlier inside `body ++ end` and the begin marker does not occur again behind the first one -/
theorem decode_clean (env : BeaconEnv) (body : List Char) (ttl : Option Nat) (now : Nat)
    (hal : ∀ c ∈ beginMarker env ++ body ++ endMarker env, c.isAlphanum = true)
    (hbm : (beginMarker env).length = 5)
    (hE : ∀ j, j < body.length → (endMarker env).isPrefixOf ((body ++ endMarker env).drop j) = false)
    (hB : ∀ j, j ≤ (body ++ endMarker env).length → (beginMarker env).isPrefixOf ((body ++ endMarker env).drop j) = false) :
    decode env (beginMarker env ++ body ++ endMarker env) ttl now = peerlistDecode env body ttl now :=
  decode_single env body ttl now hal hE hB

/-! ## non-vacuity: a toy environment -/

def toyEnv : BeaconEnv :=
  { ks := fun t s i => List.replicate 64 ((7 * t + 3 * s + i + 1) % 256), h0 := fun d => d.foldl (· + ·) 5 % 256 }

theorem toyEnv_wf : EnvWF toyEnv where
  ks_wf := fun t s i =>
    ⟨Bytes.wf_replicate 64 _ (Nat.mod_lt _ (by decide)), List.length_replicate⟩
  h0_lt := fun d => Nat.mod_lt _ (by decide)

def toyPeers : List SockAddr :=
  [.v6 [32, 1, 13, 184, 0, 0, 0, 0, 0, 0, 0, 0, 0, 0, 0, 1] 443, .v4 [10, 0, 0, 1] 3210, .v4 [192, 168, 1, 77] 65535]

def toyText : List Char := "DRPvoXOHri1VECYTSk9Vq2NrqabOphE1BoLssIKbnqgecO".toList

/-! The closed facts about the toy key are evaluated once, through `marker_eq` / `peerlistEncode_eq`; long string
  literals are first turned into character lists by `String.toList_ofList` (see `alphabet_getD`). -/

theorem toy_begin : beginMarker toyEnv = "ERzuw".toList := by
  rw [beginMarker, marker_eq toyEnv toyEnv_wf]; decide +kernel

theorem toy_end : endMarker toyEnv = "1rbzL".toList := by
  rw [endMarker, marker_eq toyEnv toyEnv_wf]; decide +kernel

theorem toyText_eq : peerlistEncode toyEnv toyPeers 1000 = some toyText := by
  rw [peerlistEncode_eq toyEnv toyEnv_wf _ _ (by decide)]
  rw [show toyText = _ from String.toList_ofList]
  decide +kernel

theorem toy_hz : (encryptData toyEnv (plainBody toyPeers 1000)).head? ≠ some 0 := by decide +kernel

theorem toy_pd (ttl : Option Nat) (now : Nat) :
    (peerlistDecode toyEnv · ttl now) = fun t =>
      if t = toyText then (if ageOk now 1000 ttl then normPeers toyPeers else [])
      else peerlistDecode toyEnv t ttl now :=
  pd_lookup toyEnv toyEnv_wf toyPeers 1000 (by decide) (by decide) (by decide) toy_hz toyText toyText_eq ttl now

theorem toyText_decodes (ttl : Option Nat) (now : Nat) :
    peerlistDecode toyEnv toyText ttl now = if ageOk now 1000 ttl then normPeers toyPeers else [] :=
  (congrFun (toy_pd ttl now) toyText).trans (if_pos rfl)

/-- the markers stand where they belong, as two runs of `findSub` (one pass each over the text; the quantified forms that
    `decode_clean` takes are read off them by `findSub_some` / `findSub_none'`) -/
theorem toyText_clean : (∀ c ∈ "ERzuw".toList ++ toyText ++ "1rbzL".toList, c.isAlphanum = true) ∧
    findSub (toyText ++ "1rbzL".toList) "1rbzL".toList = some toyText.length ∧
    findSub (toyText ++ "1rbzL".toList) "ERzuw".toList = none := by
  rw [show toyText = _ from String.toList_ofList]
  decide +kernel

example : mask toyEnv [1, 2, 3] 2 9 = [43, 40, 41] := by decide +kernel
example : decryptData toyEnv (encryptData toyEnv [1, 2, 3]) = some [1, 2, 3] := encrypt_decrypt toyEnv toyEnv_wf _
/-- a body of 5000 bytes: the key stream of block 256 (bytes 4096 …) is the one of block 0, the one of block 1 is
    another one; the body survives encryption and decryption -/
def longBody : Bytes := List.replicate 5000 0

theorem longBody_long : 4096 < longBody.length := by rw [longBody, List.length_replicate]; decide

theorem longBody_get (j : Nat) (h : j < 5000) : longBody[j]? = some 0 := by
  rw [longBody, List.getElem?_replicate, if_pos h]

example : 4096 < longBody.length := longBody_long
example : (mask toyEnv longBody 2 9)[4096]? = (mask toyEnv longBody 2 9)[0]? ∧
    (mask toyEnv longBody 2 9)[4096 + 16]? = (mask toyEnv longBody 2 9)[16]? ∧
    (mask toyEnv longBody 2 9)[16]? ≠ (mask toyEnv longBody 2 9)[0]? := by
  simp only [mask_getElem?, longBody_get _ (show 4096 < 5000 by decide), longBody_get _ (show 0 < 5000 by decide),
    longBody_get _ (show 4096 + 16 < 5000 by decide), longBody_get _ (show 16 < 5000 by decide)]
  decide +kernel
example : (mask toyEnv longBody 2 9)[16 * 0 + 3]? = some (0 ^^^ (toyEnv.ks 2 9 (0 % 256)).getD 3 0) ∧
    (mask toyEnv longBody 2 9)[16 * (0 + 256) + 3]? = some (0 ^^^ (toyEnv.ks 2 9 (0 % 256)).getD 3 0) :=
  keystream_period toyEnv longBody 2 9 0 3 0 0 (by decide) (longBody_get _ (by decide)) (longBody_get _ (by decide))
example : decryptData toyEnv (encryptData toyEnv longBody) = some longBody :=
  (long_body_roundtrip_beyond toyEnv longBody TYPE_DATA 0 longBody_long).2.2
/-- the seed byte does detect a change of the body -/
example : decryptData toyEnv ((encryptData toyEnv [1, 2, 3]).set 0 7) = none := by decide +kernel
example : tooOld 2 65535 3 = false ∧ tooOld 65535 2 3 = false ∧ tooOld 10 2 3 = true := by decide
/-- all hypotheses of the round trip hold for the toy instance -/
example : ∃ text, peerlistEncode toyEnv toyPeers 1000 = some text ∧
    peerlistDecode toyEnv text (some 3) 1002 = normPeers toyPeers :=
  peerlist_roundtrip_partial toyEnv toyEnv_wf toyPeers 1000 1002 (some 3) (by decide) (by decide) (by decide) (by decide)
    toy_hz (by decide)
example : peerlistEncode toyEnv toyPeers 1000 = some toyText := toyText_eq
example : peerlistDecode toyEnv toyText (some 3) 1002 =
    [.v4 [10, 0, 0, 1] 3210, .v4 [192, 168, 1, 77] 65535, .v6 [32, 1, 13, 184, 0, 0, 0, 0, 0, 0, 0, 0, 0, 0, 0, 1] 443] :=
  toyText_decodes (some 3) 1002
example : ∃ text, peerlistEncode toyEnv toyPeers 1000 = some text ∧ peerlistDecode toyEnv text (some 3) 1005 = [] :=
  too_old_ignored toyEnv toyEnv_wf toyPeers 1000 1005 3 (by decide) (by decide) (by decide) (by decide)
    toy_hz (by decide)
example : peerlistDecode toyEnv toyText (some 3) 1005 = [] := toyText_decodes (some 3) 1005
example : findSub "abcabd".toList "abd".toList = some 3 ∧ findSub "abcabd".toList "abe".toList = none ∧
    findSub "abc".toList [] = some 0 := by decide +kernel
/-- all hypotheses of `decode_clean` hold for the toy beacon -/
example : decode toyEnv (beginMarker toyEnv ++ toyText ++ endMarker toyEnv) (some 3) 1002 =
    peerlistDecode toyEnv toyText (some 3) 1002 := by
  have h := toyText_clean
  rw [← toy_begin, ← toy_end] at h
  exact decode_clean toyEnv toyText (some 3) 1002 h.1 (by rw [toy_begin]; rfl) (findSub_some h.2.1).2.2 (findSub_none' h.2.2)
example : beginMarker toyEnv = "ERzuw".toList ∧ endMarker toyEnv = "1rbzL".toList := ⟨toy_begin, toy_end⟩
example : encode toyEnv toyPeers 1000 = some ("ERzuw".toList ++ toyText ++ "1rbzL".toList) := by
  rw [encode_eq _ _ _ _ toyText_eq, toy_begin, toy_end]
/-- the surrounding text is sanitised and skipped -/
example : decode toyEnv ("see: ".toList ++ "ERzuw".toList ++ toyText ++ "1rbzL".toList ++ " -- ".toList) (some 3) 1002 =
    normPeers toyPeers := by
  rw [decode_eq_scan toyEnv toy_begin toy_end (data := "seeERzuw".toList ++ toyText ++ "1rbzL".toList)
    (by rw [show toyText = _ from String.toList_ofList]
        decide +kernel), toy_pd]
  rw [show toyText = _ from String.toList_ofList]
  decide +kernel

/-! ## the recorded finding: a masked body that begins with a zero byte is lost

  `hz` cannot be dropped from `peerlist_roundtrip_partial`: with the toy environment, the single peer
  below and hour stamp 510 the masked body is `[0, …]`; base-62 drops the zero byte, the decoder then
  applies the seed check to a shifted string and returns nothing. -/

def lostPeers : List SockAddr := [.v4 [10, 0, 0, 1] 3210]

example : (encryptData toyEnv (plainBody lostPeers 510)).head? = some 0 := by decide +kernel
example : ∀ a ∈ lostPeers, sockWF a = true := by decide
theorem lost_decodes : ∃ text, peerlistEncode toyEnv lostPeers 510 = some text ∧
    peerlistDecode toyEnv text none 510 = [] := by
  refine ⟨_, peerlistEncode_eq toyEnv toyEnv_wf _ _ (by decide), ?_⟩
  decide +kernel

example : ∃ text, peerlistEncode toyEnv lostPeers 510 = some text ∧
    peerlistDecode toyEnv text none 510 = [] ∧ peerlistDecode toyEnv text none 510 ≠ normPeers lostPeers := by
  obtain ⟨text, e, d⟩ := lost_decodes
  exact ⟨text, e, d, by rw [d]; decide⟩
/-- the statement of the round trip without `hz` is false -/
example : ¬ ∀ (env : BeaconEnv) (_ : EnvWF env) (peers : List SockAddr) (hour now : Nat) (ttl : Option Nat)
    (_ : ∀ a ∈ peers, sockWF a = true) (_ : (peers.filter isV4).length ≤ 255) (_ : hour < 65536) (_ : now < 65536)
    (_ : ageOk now hour ttl = true),
    ∃ text, peerlistEncode env peers hour = some text ∧ peerlistDecode env text ttl now = normPeers peers := by
  intro hall
  obtain ⟨text, e1, e2⟩ := hall toyEnv toyEnv_wf lostPeers 510 510 none (by decide) (by decide) (by decide) (by decide) rfl
  obtain ⟨text', e, d⟩ := lost_decodes
  rw [e1, Option.some.injEq] at e
  rw [e, d] at e2
  exact absurd e2 (by decide)

end VpnCloud.Proofs.C17
