import VpnCloud.Model.Node
/-
  C13 at node level: the forwarding table learns from traffic exactly when the `learning` flag of the
  mode is set (switch mode); hub and router modes never do.  Both statements proved as given.
-/
namespace VpnCloud.Proofs.C13Node
open VpnCloud.Node

/-- hub and router modes never learn from traffic -/
theorem no_learning_unless_flag (env : CryptoEnv) (o : Oracle) (c : Ctx) (now : Int) (src : NAddr) (data out : Bytes) (hl : c.node.cfg.learning = false) :
    (handleResult env o c now src (.message Generated.MESSAGE_TYPE_DATA data) out).1.node.table = c.node.table := by
  simp only [handleResult, if_true]
  cases parseAddrs c.node data with
  | none => rfl
  | some r =>
    rcases r with ⟨s, d⟩
    simp only [hl, Bool.false_eq_true, if_false]

/-- in learning mode a payload from peer `src` with source address `s` makes `src` the next hop for `s` -/
theorem learning_records_source (env : CryptoEnv) (o : Oracle) (c : Ctx) (now : Int) (src : NAddr) (data out : Bytes) (s d : Addr)
    (hl : c.node.cfg.learning = true) (hp : parseAddrs c.node data = some (s, d)) :
    (handleResult env o c now src (.message Generated.MESSAGE_TYPE_DATA data) out).1.node.table = c.node.table.learn now s (addrId src) := by
  simp only [handleResult, if_true, hp, hl]

end VpnCloud.Proofs.C13Node
