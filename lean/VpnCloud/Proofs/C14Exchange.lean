import VpnCloud.Proofs.Lemmas.Node.C14ExchangeLemmas
import VpnCloud.Proofs.C01More
import VpnCloud.Proofs.C05Lockstep
/-
  C14, first half: ONE peer-exchange round of the node model realises the abstract mesh step `C14.Graph.step`
  ("every node learns its neighbours' neighbours").

  1. `announcement_lists_every_peer` / `announcement_roundtrip`: what `create_node_info` lists, and what the receiver decodes.
  2. `listed_stranger_is_dialled`: an entry about an unknown node in a node information message from an established peer is dialled
     (exact side condition about the earlier entries of the list: `NoInterference`; stateful version
     `C14ExchangeLemmas.connectToPeers_entry_dialled`).
  3. `listed_known_not_dialled` (+ `_entry`, `all_known_nothing_dialled`): entries under the node's own id, under the id of a peer, or
     with the address of a peer cause no datagram and no pending attempt.
  4. `exchange_realises_step`: A's due announcement, delivered over a session in sync, makes B dial C; `exchange_then_handshake`:
     composed with `C05Lockstep.lockstep_completes_run`.
  5. `bounded_rounds` / `bounded_rounds_nodes`: `mesh_closure` for a run whose rounds realise at least `Graph.step`.

  Auxiliary definitions used in the statements (namespace `C14ExchangeLemmas`): `attemptSt` (the handshake state of
  `Crypto::peer_instance(create_node_info())`, = the `init` field of `newAttempt` by `rfl`) and `Unknown` (in
  `Lemmas/Node/ConnectLemmas.lean`), `Dialled`, `NoInterference`, `AnnounceWF`
  (in `Lemmas/Node/C14ExchangeLemmas.lean`); `entryN` (the entry a receiver decodes for a peer record) stands below.
-/
namespace VpnCloud.Proofs.C14Exchange

open VpnCloud.Node
open VpnCloud.Proofs.AssocLemmas
open VpnCloud.Proofs.C14ExchangeLemmas
open VpnCloud.Proofs.C15More (FromPeer)
open VpnCloud.Proofs.C15MoreLemmas (preAnnounce refreshed refreshed_nodeId)
open VpnCloud.Spec.C16 (normAddrs normalise)

/-! ## 1. what the announcement lists -/

/-- **announcement_lists_every_peer**: the node information a node announces (and puts into every handshake) lists EVERY peer record,
    in the order of the peer list, as an entry with the peer's node id and the addresses recorded for it — the model has no cut at
    20 entries (the real `create_node_info` sends a random 20-subset when there are more than 20 peers; meshes here are smaller) —,
    and carries the node's id, its configured claims, `peer_timeout_publish` as advertised timeout and its own addresses. -/
theorem announcement_lists_every_peer (n : Node) :
    (createNodeInfo n).peers = n.peers.map (fun x => ({ nodeId := some x.2.nodeId, addrs := x.2.addrs } : PeerInfo)) ∧
    (∀ a p, (a, p) ∈ n.peers → ({ nodeId := some p.nodeId, addrs := p.addrs } : PeerInfo) ∈ (createNodeInfo n).peers) ∧
    (createNodeInfo n).peers.length = n.peers.length ∧
    (createNodeInfo n).nodeId = n.nodeId ∧ (createNodeInfo n).claims = n.cfg.claims ∧
    (createNodeInfo n).peerTimeout = some n.cfg.peerTimeoutPublish ∧ (createNodeInfo n).addrs = n.own := by
  refine ⟨rfl, fun a p h => ?_, ?_, rfl, rfl, rfl, rfl⟩
  · exact List.mem_map.2 ⟨(a, p), h, rfl⟩
  · show (n.peers.map _).length = _
    rw [List.length_map]

/-- **announcement_roundtrip**: under the guard `AnnounceWF` (field widths; at most 243 peers and 3640 claims so that the two list parts
    fit their 16-bit length fields) the announced bytes — also with stale bytes behind them — decode to the announced information
    in normal form: every peer record is still listed, with its node id, and of its addresses the IPv6 ones first and at most seven per
    family (`normAddrs`); the same for the node's own addresses; id, claims and advertised timeout unchanged. -/
theorem announcement_roundtrip (n : Node) (h : AnnounceWF n) (tail : Bytes) :
    Codec.decodeNodeInfo (Codec.encodeNodeInfo (createNodeInfo n) ++ tail) = some (normalise (createNodeInfo n)) ∧
    (normalise (createNodeInfo n)).peers =
      n.peers.map (fun x => ({ nodeId := some x.2.nodeId, addrs := normAddrs x.2.addrs } : PeerInfo)) ∧
    (∀ a p, (a, p) ∈ n.peers →
      ({ nodeId := some p.nodeId, addrs := normAddrs p.addrs } : PeerInfo) ∈ (normalise (createNodeInfo n)).peers) ∧
    (normalise (createNodeInfo n)).nodeId = n.nodeId ∧ (normalise (createNodeInfo n)).claims = n.cfg.claims ∧
    (normalise (createNodeInfo n)).peerTimeout = some n.cfg.peerTimeoutPublish ∧
    (normalise (createNodeInfo n)).addrs = normAddrs n.own := by
  refine ⟨C16.nodeinfo_roundtrip _ (createNodeInfo_WF n h) tail, normalise_createNodeInfo_peers n, fun a p hm => ?_, rfl, rfl, rfl, rfl⟩
  rw [normalise_createNodeInfo_peers]
  exact List.mem_map.2 ⟨(a, p), hm, rfl⟩

/-- `announcement_lists_every_peer` for the announcement of a housekeeping tick (`C15More.announced_info` gives its id, claims, timeout and own addresses):
    every peer that is left after the removal of the expired ones and the per-second session housekeeping (`preAnnounce`) is listed -/
theorem tick_announcement_lists_every_peer (env : CryptoEnv) (o : Oracle) (n : Node) (now : Int) (a : NAddr) (p : Peer)
    (h : (a, p) ∈ (preAnnounce env o n now).node.peers) :
    ({ nodeId := some p.nodeId, addrs := p.addrs } : PeerInfo) ∈ (createNodeInfo (preAnnounce env o n now).node).peers :=
  (announcement_lists_every_peer _).2.1 a p h

/-- nothing is lost in the round trip when the recorded addresses are already in normal form (IPv6 first, at most seven per family) —
    e.g. the usual record `[seen address (mapped, IPv6)] ++ announced addresses` of `update_peer_info` with few addresses -/
theorem announcement_roundtrip_exact (l6 l4 : List SockAddr) (h6 : ∀ a ∈ l6, Codec.isV4 a = false) (h4 : ∀ a ∈ l4, Codec.isV4 a = true)
    (n6 : l6.length ≤ 7) (n4 : l4.length ≤ 7) : normAddrs (l6 ++ l4) = l6 ++ l4 :=
  normAddrs_id l6 l4 h6 h4 n6 n4

/-! ## 2. a listed stranger is dialled -/

theorem afterInfo_keys {n : Node} {s : NAddr} {p : Peer} (hp : lookupA n.peers s = some p) (now : Int) (pc : PeerCrypto) (info : NodeInfo)
    (log : Init.SealLog) : (afterInfo n now s p pc info log).node.peers.map (·.1) = n.peers.map (·.1) :=
  insertA_keys_of_some _ _ _ _ hp

theorem afterInfo_unknown {n : Node} {s : NAddr} {p : Peer} (hp : lookupA n.peers s = some p) (now : Int) (pc : PeerCrypto) (info : NodeInfo)
    (log : Init.SealLog) {e : PeerInfo} (hu : Unknown n e) : Unknown (afterInfo n now s p pc info log).node e := by
  obtain ⟨h1, h2, h3⟩ := hu
  refine ⟨h1, ?_, ?_⟩
  · intro id hid x hx
    rcases mem_insertA hx with rfl | hx
    · show (refreshed { p with crypto := pc } _ s (some info)).nodeId ≠ id
      rw [refreshed_nodeId]
      exact h2 id hid (s, p) (lookupA_some_mem hp)
    · exact h2 id hid x hx
  · intro a ha
    rw [afterInfo_keys hp]
    exact h3 a ha

theorem afterInfo_has {n : Node} {s : NAddr} {p : Peer} (hp : lookupA n.peers s = some p) (now : Int) (pc : PeerCrypto) (info : NodeInfo)
    (log : Init.SealLog) {a : NAddr} {q : Peer} (hq : lookupA n.peers a = some q) :
    ∃ q', (a, q') ∈ (afterInfo n now s p pc info log).node.peers ∧ q'.nodeId = q.nodeId := by
  by_cases ha : a = s
  · subst ha
    rw [hp] at hq
    cases hq
    exact ⟨_, lookupA_some_mem (lookupA_insertA_self _ _ _), refreshed_nodeId _ _ _ _⟩
  · exact ⟨q, lookupA_some_mem ((lookupA_insertA_ne _ _ ha).trans hq), rfl⟩

/-- **listed_stranger_is_dialled**: node B (`n`) receives from the established peer A (`src`) a datagram that A's session opens as a
    node information message (`FromPeer`), which decodes to `info`; its peer list is `pre ++ e :: post`, where the entry `e`
    * is about a node B knows nothing of (`Unknown`: not B's own id, no peer record of B carries its id — or it has none —, none of
      its addresses as listed is a peer address),
    * none of its addresses in mapped form is a peer address, an own address or pending at B, and
    * the entries before it do not interfere (`NoInterference`: none of the mapped addresses of `e` is listed as it is in an earlier
      entry under B's own id — it would be adopted as own address first — or in mapped form in an earlier entry under another id — it
      might be dialled for that entry first; `connect` does nothing at all if ANY of the addresses is known).
    Then the step reports no error and B has dialled EVERY address of `e`: a handshake datagram `0xff :: ping` to the mapped address
    is among the outputs of the step and the pending attempt stored for it is the handshake object of B (B's id, key, trust list,
    algorithms, B's current node information as payload) that has sent exactly this ping. -/
theorem listed_stranger_is_dialled {env : CryptoEnv} {bodyOf : Init.BodyOf} {o : Oracle} {n : Node} {src : NAddr} {data tail : Bytes}
    {p : Peer} {pc : PeerCrypto} {body : Bytes}
    (h : FromPeer env bodyOf o n src data tail p pc Generated.MESSAGE_TYPE_NODE_INFO body) (now : Int)
    (info : NodeInfo) (hdec : Codec.decodeNodeInfo body = some info)
    (pre post : List PeerInfo) (e : PeerInfo) (hsplit : info.peers = pre ++ e :: post)
    (hu : Unknown n e)
    (haddr : ∀ a ∈ e.addrs, mappedAddr a ∉ n.peers.map (·.1) ∧ mappedAddr a ∉ n.own ∧ mappedAddr a ∉ n.pending.map (·.1))
    (hpre : NoInterference n.nodeId pre e) :
    (handleNet env bodyOf o n now src data tail).2 = none ∧
    ∀ a ∈ e.addrs, Dialled env (mappedAddr a) (handleNet env bodyOf o n now src data tail).1 := by
  obtain ⟨log, hn⟩ := handleNet_nodeinfo h now info hdec
  rw [hn, hsplit]
  refine ⟨rfl, ?_⟩
  apply connectToPeers_entry_dialled_static env o _ pre post e (afterInfo_unknown h.peer now pc info log hu)
  · intro a ha
    obtain ⟨h1, h2, h3⟩ := haddr a ha
    exact ⟨by rw [afterInfo_keys h.peer]; exact h1, h2, h3⟩
  · exact hpre

/-! ## 3. known entries are not dialled -/

/-- **listed_known_not_dialled** (one entry, any state `c` of the node): an entry
    (i) under the node's own id whose addresses are no peer addresses (`C01More.own_addresses_adopted_not_dialled`: the addresses are
        adopted as own addresses), (ii) under the node id of a peer record (other than the node's own id), or (iii) one of whose
        addresses, as listed, is the address of a peer,
    causes no datagram and no pending attempt; in the cases (ii) and (iii) nothing changes at all. -/
theorem listed_known_not_dialled_entry (env : CryptoEnv) (o : Oracle) (c : Ctx) (pi : PeerInfo) :
    (pi.nodeId = some c.node.nodeId → (∀ a ∈ pi.addrs, a ∉ c.node.peers.map (·.1)) →
      (connectToPeers env o c [pi]).outs = c.outs ∧ (connectToPeers env o c [pi]).node.pending = c.node.pending ∧
      (connectToPeers env o c [pi]).node.peers = c.node.peers ∧
      ∀ a, a ∈ (connectToPeers env o c [pi]).node.own ↔ a ∈ c.node.own ∨ a ∈ pi.addrs) ∧
    (∀ id, pi.nodeId = some id → id ≠ c.node.nodeId → (∃ x ∈ c.node.peers, x.2.nodeId = id) → connectToPeers env o c [pi] = c) ∧
    ((∃ a ∈ pi.addrs, a ∈ c.node.peers.map (·.1)) → connectToPeers env o c [pi] = c) := by
  refine ⟨fun hid hnp => ?_, fun id hid hne hx => NodeLemmas.connectToPeers_known_id env o c pi id hid hne hx,
    fun hk => NodeLemmas.connectToPeers_known_addr env o c pi hk⟩
  obtain ⟨h1, h2, h3, _, h5⟩ := C01More.own_addresses_adopted_not_dialled env o c pi hid hnp
  exact ⟨h1, h2, h3, h5⟩

/-- why the step dialled `d`: `d` was neither an own address nor a peer address, and it is the mapped form of an address of an entry of
    the announced list that does not carry the node's own id, does not carry the id of a peer (a record found under some address), and
    none of whose addresses as listed is a peer address -/
def Cause (n : Node) (info : NodeInfo) (d : NAddr) : Prop :=
  d ∉ n.own ∧ d ∉ n.peers.map (·.1) ∧ ∃ pi ∈ info.peers, pi.nodeId ≠ some n.nodeId ∧
    (∀ a q, lookupA n.peers a = some q → pi.nodeId ≠ some q.nodeId) ∧ (∀ a ∈ pi.addrs, a ∉ n.peers.map (·.1)) ∧
    d ∈ pi.addrs.map mappedAddr

/-- **listed_known_not_dialled** (the whole step): when B (`n`) handles a node information message of an established peer, EVERYTHING
    the step emits is a handshake datagram to, and every new pending attempt is for, an address with a `Cause`: the mapped address
    of an entry that is not under B's own id, not under the id of a current peer, has no peer address among its addresses, and the
    address itself is neither an own address nor a peer address.  Entries under B's own id, under a known node id, or with a known
    address therefore cause no datagram and no pending attempt, wherever they stand in the list. -/
theorem listed_known_not_dialled {env : CryptoEnv} {bodyOf : Init.BodyOf} {o : Oracle} {n : Node} {src : NAddr} {data tail : Bytes}
    {p : Peer} {pc : PeerCrypto} {body : Bytes}
    (h : FromPeer env bodyOf o n src data tail p pc Generated.MESSAGE_TYPE_NODE_INFO body) (now : Int)
    (info : NodeInfo) (hdec : Codec.decodeNodeInfo body = some info) :
    (∀ x ∈ (handleNet env bodyOf o n now src data tail).1.outs,
      ∃ d b, x = .dgram d (Generated.INIT_MESSAGE_FIRST_BYTE :: b) ∧ Cause n info d) ∧
    (∀ d, d ∈ (handleNet env bodyOf o n now src data tail).1.node.pending.map (·.1) → d ∈ n.pending.map (·.1) ∨ Cause n info d) := by
  obtain ⟨log, hn⟩ := handleNet_nodeinfo h now info hdec
  rw [hn]
  have hd := (C01MoreLemmas.connectToPeers_dials_unknown env o info.peers (afterInfo n now (mappedAddr src) p pc info log)).mono (D' := Cause n info) (by
    rintro d ⟨h1, h2, pi, hpi, ⟨u1, u2, u3⟩, hm⟩
    rw [afterInfo_keys h.peer] at h2
    refine ⟨h1, h2, pi, hpi, u1, ?_, ?_, hm⟩
    · intro a q hq hid
      obtain ⟨q', hm', hn'⟩ := afterInfo_has h.peer now pc info log hq
      exact u2 q.nodeId hid (a, q') hm' hn'
    · intro a ha
      have := u3 a ha
      rwa [afterInfo_keys h.peer] at this)
  refine ⟨?_, fun d hdm => hd.pending d hdm⟩
  obtain ⟨ex, he, hex⟩ := hd.outs
  intro x hx
  rw [he] at hx
  exact hex x (by simpa [afterInfo] using hx)

/-- if every entry of the announced list is known to B — it carries B's own id, or the id of a peer, or one of its addresses is a peer
    address — the step emits nothing and creates no pending attempt -/
theorem all_known_nothing_dialled {env : CryptoEnv} {bodyOf : Init.BodyOf} {o : Oracle} {n : Node} {src : NAddr} {data tail : Bytes}
    {p : Peer} {pc : PeerCrypto} {body : Bytes}
    (h : FromPeer env bodyOf o n src data tail p pc Generated.MESSAGE_TYPE_NODE_INFO body) (now : Int)
    (info : NodeInfo) (hdec : Codec.decodeNodeInfo body = some info)
    (hall : ∀ pi ∈ info.peers, pi.nodeId = some n.nodeId ∨ (∃ a q, lookupA n.peers a = some q ∧ pi.nodeId = some q.nodeId) ∨
      ∃ a ∈ pi.addrs, a ∈ n.peers.map (·.1)) :
    (handleNet env bodyOf o n now src data tail).1.outs = [] ∧
    ∀ d, d ∈ (handleNet env bodyOf o n now src data tail).1.node.pending.map (·.1) → d ∈ n.pending.map (·.1) := by
  obtain ⟨h1, h2⟩ := listed_known_not_dialled h now info hdec
  have hno : ∀ d, ¬ Cause n info d := by
    rintro d ⟨_, _, pi, hpi, c1, c2, c3, _⟩
    rcases hall pi hpi with k | ⟨a, q, hq, hid⟩ | ⟨a, ha, hk⟩
    · exact c1 k
    · exact c2 a q hq hid
    · exact c3 a ha hk
  refine ⟨?_, fun d hd => (h2 d hd).resolve_right (hno d)⟩
  cases hl : (handleNet env bodyOf o n now src data tail).1.outs with
  | nil => rfl
  | cons x xs =>
    obtain ⟨d, _, _, hc⟩ := h1 x (by rw [hl]; exact List.mem_cons_self)
    exact absurd hc (hno d)

/-! ## 4. one exchange realises the step: A announces C to B, B dials C -/

/-- the entry a receiver decodes for a peer record of the announcer -/
def entryN (p : Peer) : PeerInfo := { nodeId := some p.nodeId, addrs := normAddrs p.addrs }

open VpnCloud.Proofs.C10NetLemmas (InSync LogOK) in
/-- **exchange_realises_step** (the edge B–C of `Graph.step` is being established).  Three nodes: A (`nA`), B (`nB`) and C.
    * A's housekeeping tick at `nowA` finds the announcement due; A's peer addresses are pairwise distinct; after the removal of
      expired peers and the per-second session housekeeping of this tick (`preAnnounce`) A's peer list is `l1 ++ (ck, pC) :: l2` — `pC`
      is A's record of C — and A's record of B under the address `b` is `p3`; `c` is one of the addresses recorded for C that the
      encoding keeps (`normAddrs`: at most seven per family); the announced information meets the guard of the encoder.
    * B's record of A (under the mapped form of A's address `a`) is `pA`, and A's session for B is in sync with B's session for A
      for the direction A → B (`InSync`, as in `C10Net`); the ideal AEAD views the ciphertexts A emits in this tick as what A sealed
      (`LogOK`; vacuous for an unencrypted link).
    * B knows nothing of C yet (`Unknown`, no mapped address of C's entry is a peer address, own address or pending at B), and the
      records A lists before C do not interfere (`NoInterference`; in a three-node mesh `l1` is empty or A's record of B itself,
      which B adopts as own addresses).
    Then A's tick puts a datagram for `b` on the wire such that B's step on that datagram (arriving from `a`, at any time `nowB`,
    with any stale bytes `tail` behind it) reports no error and B has dialled `c`: the ping to `mappedAddr c` is among the outputs of
    B's step and B holds the pending attempt that sent it. -/
theorem exchange_realises_step (env : CryptoEnv) (bodyOf : Init.BodyOf) (oA oB : Oracle) (nA nB : Node) (nowA nowB : Int)
    (a b ck c : NAddr) (tail : Bytes) (room : Nat)
    (hdue : nA.nextPeers ≤ nowA) (hnd : (nA.peers.map (·.1)).Nodup)
    (l1 l2 : List (NAddr × Peer)) (pC : Peer)
    (hpeers : (preAnnounce env oA nA nowA).node.peers = l1 ++ (ck, pC) :: l2)
    (hc : c ∈ normAddrs pC.addrs)
    (hwf : VpnCloud.Spec.C16.WF (createNodeInfo (preAnnounce env oA nA nowA).node) = true)
    (p3 pA : Peer) (hp3 : lookupA (preAnnounce env oA nA nowA).node.peers b = some p3)
    (hpA : lookupA nB.peers (mappedAddr a) = some pA)
    (hsync : InSync (room + 1) p3.crypto pA.crypto)
    (hlog : LogOK bodyOf (housekeep env oA nA nowA).log)
    (hu : Unknown nB (entryN pC))
    (haddr : ∀ x ∈ normAddrs pC.addrs, mappedAddr x ∉ nB.peers.map (·.1) ∧ mappedAddr x ∉ nB.own ∧ mappedAddr x ∉ nB.pending.map (·.1))
    (hpre : NoInterference nB.nodeId (l1.map (fun x => entryN x.2)) (entryN pC)) :
    ∃ bytes, Out.dgram b bytes ∈ (housekeep env oA nA nowA).outs ∧
      (handleNet env bodyOf oB nB nowB a bytes tail).2 = none ∧
      Dialled env (mappedAddr c) (handleNet env bodyOf oB nB nowB a bytes tail).1 := by
  -- A's tick seals the announcement for B
  obtain ⟨p', _, ct, pc', bytes, lg, hsend, _, hout, hlg⟩ :=
    (C15MoreLemmas.housekeep_announces env oA nA nowA hdue hnd b p3 hp3).1 (InSync.canSeal hsync)
  refine ⟨bytes, hout, ?_⟩
  -- B's session opens it
  obtain ⟨hplain, sb', hopen⟩ := sync_opens env bodyOf payloadOk hsync Generated.MESSAGE_TYPE_NODE_INFO _ ct tail
    (rndFor oB { node := nB } (mappedAddr a)).1 (rndFor oB { node := nB } (mappedAddr a)).2.1 (by decide) (by decide)
    pc' bytes lg hsend (fun e he => hlog e (hlg e he))
  have hfp : FromPeer env bodyOf oB nB a bytes tail pA sb' Generated.MESSAGE_TYPE_NODE_INFO
      (Codec.encodeNodeInfo (createNodeInfo (preAnnounce env oA nA nowA).node)) := ⟨hpA, hplain, [], [], hopen⟩
  -- … and decodes the announced list
  have hdec : Codec.decodeNodeInfo (Codec.encodeNodeInfo (createNodeInfo (preAnnounce env oA nA nowA).node)) =
      some (normalise (createNodeInfo (preAnnounce env oA nA nowA).node)) := by
    have := C16.nodeinfo_roundtrip _ hwf []
    rwa [List.append_nil] at this
  have hsplit : (normalise (createNodeInfo (preAnnounce env oA nA nowA).node)).peers =
      l1.map (fun x => entryN x.2) ++ entryN pC :: l2.map (fun x => entryN x.2) := by
    rw [normalise_createNodeInfo_peers, hpeers, List.map_append, List.map_cons]
    rfl
  obtain ⟨h1, h2⟩ := listed_stranger_is_dialled hfp nowB _ hdec _ _ (entryN pC) hsplit hu haddr hpre
  exact ⟨h1, h2 c hc⟩

open VpnCloud.Proofs.C05Lockstep in
/-- the handshake state a dial starts from is fresh (the `Fresh` part of `C05Lockstep.Hyps` holds by construction) -/
theorem attemptSt_fresh (m : Node) (hash : Bytes) : Fresh (attemptSt m hash) := ⟨rfl, rfl, rfl, rfl, rfl⟩

open VpnCloud.Proofs.C05Lockstep in
/-- **a dial completes on reliable delivery** (composition with `C05Lockstep.lockstep_completes_run`, cited, not re-proved).  If `a` has
    been dialled, there are the fresh handshake state `ist` of the dialling node (its id, key, trust list and algorithms; payload = its
    encoded node information), the random parts `r1`, and `sendPing env ist r1 = (a1, ping)` such that `0xff :: ping` is on the wire
    for `a` and `a1` is the pending attempt stored for `a`; and for EVERY fresh responder state `b` (the handshake object C creates
    for the ping, `attemptSt nC hashC`), AEAD view and random parts that satisfy the hypotheses `C05Lockstep.Hyps` of the loss-free
    run — (i) widths, (ii) the three signatures verify, (iii) each side finds the other's key among its trusted keys, (iv) ideal AEAD
    on the two sealed payloads, (v) two different nodes, (vi) the negotiation does not fail — the three deliveries ping → C, pong → B,
    peng → C succeed, both ends report success with the other's payload and agree on cipher and keys (`Agreement`). -/
theorem dialled_handshake_completes {env : CryptoEnv} {a : NAddr} {c : Ctx} (h : Dialled env a c) :
    ∃ (m : Node) (hash : Bytes) (r1 : Rand) (a1 : InitSt) (ping : Bytes),
      Init.sendPing env (attemptSt m hash) r1 = (a1, ping) ∧
      m.nodeId = c.node.nodeId ∧ m.cfg = c.node.cfg ∧ m.peers = c.node.peers ∧ (∀ x ∈ m.own, x ∈ c.node.own) ∧
      Out.dgram a (Generated.INIT_MESSAGE_FIRST_BYTE :: ping) ∈ c.outs ∧
      lookupA c.node.pending a = some { init := some a1 } ∧
      ∀ (bodyOf : Init.BodyOf) (ok : Bytes → Bool) (b : InitSt) (r2 r3 r4 : Rand),
        Hyps env bodyOf ok (attemptSt m hash) b r1 r2 r3 →
        ∃ b1 pong l2, Init.handleInit env bodyOf ok b ping r2 = .ok b1 (pong, .continue, l2) ∧ b1.stage = Generated.STAGE_PENG ∧
        ∃ a2 peng l3, Init.handleInit env bodyOf ok a1 pong r3 = .ok a2 (peng, .success b.payload true, l3) ∧
          a2.stage = Generated.WAITING_TO_CLOSE ∧
        ∃ b2, Init.handleInit env bodyOf ok b1 peng r4 = .ok b2 ([], .success (attemptSt m hash).payload false, []) ∧
          b2.stage = Generated.CLOSING ∧
          Opens bodyOf l2 ∧ Opens bodyOf l3 ∧ Agreement (attemptSt m hash) b r1 r2 r3 a2 b2 := by
  obtain ⟨m, hash, r1, h1, h2, h3, h4, h5, h6⟩ := h
  refine ⟨m, hash, r1, _, _, rfl, h1, h2, h3, h4, h5, h6, ?_⟩
  intro bodyOf ok b r2 r3 r4 H
  exact lockstep_completes_run env bodyOf ok (attemptSt m hash) b r1 r2 r3 r4 H _ _ rfl

open VpnCloud.Proofs.C10NetLemmas (InSync LogOK) in
open VpnCloud.Proofs.C05Lockstep in
/-- **exchange_then_handshake** (the composed corollary): under the hypotheses of `exchange_realises_step`, A's tick emits a datagram for
    B whose handling at B dials `c`, and that dial — under the hypotheses `C05Lockstep.Hyps` of the loss-free run between B's fresh
    handshake state and the responder state `b` of whoever answers at `c` — completes in three deliveries (one and a half round
    trips: within two reliable rounds) with agreement.  What is NOT covered here: that C's node hands the ping to a fresh
    `attemptSt nC hashC` and turns `.success` into a peer record (`C09More.pending_handles_handshake`, `C09More.newPeerRecord`,
    `C01More.peer_added_only_after_success`), and recovery from losses (`C05Recover.reliable_rounds_complete`). -/
theorem exchange_then_handshake (env : CryptoEnv) (bodyOf : Init.BodyOf) (oA oB : Oracle) (nA nB : Node) (nowA nowB : Int)
    (a b ck c : NAddr) (tail : Bytes) (room : Nat)
    (hdue : nA.nextPeers ≤ nowA) (hnd : (nA.peers.map (·.1)).Nodup)
    (l1 l2 : List (NAddr × Peer)) (pC : Peer)
    (hpeers : (preAnnounce env oA nA nowA).node.peers = l1 ++ (ck, pC) :: l2)
    (hc : c ∈ normAddrs pC.addrs)
    (hwf : VpnCloud.Spec.C16.WF (createNodeInfo (preAnnounce env oA nA nowA).node) = true)
    (p3 pA : Peer) (hp3 : lookupA (preAnnounce env oA nA nowA).node.peers b = some p3)
    (hpA : lookupA nB.peers (mappedAddr a) = some pA)
    (hsync : InSync (room + 1) p3.crypto pA.crypto)
    (hlog : LogOK bodyOf (housekeep env oA nA nowA).log)
    (hu : Unknown nB (entryN pC))
    (haddr : ∀ x ∈ normAddrs pC.addrs, mappedAddr x ∉ nB.peers.map (·.1) ∧ mappedAddr x ∉ nB.own ∧ mappedAddr x ∉ nB.pending.map (·.1))
    (hpre : NoInterference nB.nodeId (l1.map (fun x => entryN x.2)) (entryN pC)) :
    ∃ bytes, Out.dgram b bytes ∈ (housekeep env oA nA nowA).outs ∧
    ∃ (m : Node) (hash : Bytes) (r1 : Rand) (a1 : InitSt) (ping : Bytes),
      Init.sendPing env (attemptSt m hash) r1 = (a1, ping) ∧ m.nodeId = nB.nodeId ∧ m.cfg = nB.cfg ∧
      Out.dgram (mappedAddr c) (Generated.INIT_MESSAGE_FIRST_BYTE :: ping) ∈ (handleNet env bodyOf oB nB nowB a bytes tail).1.outs ∧
      lookupA (handleNet env bodyOf oB nB nowB a bytes tail).1.node.pending (mappedAddr c) = some { init := some a1 } ∧
      ∀ (bodyOf' : Init.BodyOf) (ok : Bytes → Bool) (stC : InitSt) (r2 r3 r4 : Rand),
        Hyps env bodyOf' ok (attemptSt m hash) stC r1 r2 r3 →
        ∃ b1 pong l2, Init.handleInit env bodyOf' ok stC ping r2 = .ok b1 (pong, .continue, l2) ∧ b1.stage = Generated.STAGE_PENG ∧
        ∃ a2 peng l3, Init.handleInit env bodyOf' ok a1 pong r3 = .ok a2 (peng, .success stC.payload true, l3) ∧
          a2.stage = Generated.WAITING_TO_CLOSE ∧
        ∃ b2, Init.handleInit env bodyOf' ok b1 peng r4 = .ok b2 ([], .success (attemptSt m hash).payload false, []) ∧
          b2.stage = Generated.CLOSING ∧
          Opens bodyOf' l2 ∧ Opens bodyOf' l3 ∧ Agreement (attemptSt m hash) stC r1 r2 r3 a2 b2 := by
  obtain ⟨bytes, hout, _, hd⟩ := exchange_realises_step env bodyOf oA oB nA nB nowA nowB a b ck c tail room hdue hnd l1 l2 pC hpeers hc hwf
    p3 pA hp3 hpA hsync hlog hu haddr hpre
  obtain ⟨m, hash, r1, a1, ping, e1, e2, e3, _, _, e6, e7, e8⟩ := dialled_handshake_completes hd
  have hid : (handleNet env bodyOf oB nB nowB a bytes tail).1.node.nodeId = nB.nodeId ∧
      (handleNet env bodyOf oB nB nowB a bytes tail).1.node.cfg = nB.cfg := by
    obtain ⟨h1, h2, _⟩ := C01More.cfg_const_step (C08Node.StepAny.net env bodyOf oB nB nowB a bytes tail)
    exact ⟨h2, h1⟩
  exact ⟨bytes, hout, m, hash, r1, a1, ping, e1, e2.trans hid.1, e3.trans hid.2, e6, e7, e8⟩

/-! ## 5. bounded number of rounds -/

section Rounds
open VpnCloud.Proofs.C14

/-- `g'` has at least the edges of `g` -/
def Graph.le {n : Nat} (g g' : Graph n) : Prop := ∀ a c, g.adj a c = true → g'.adj a c = true

theorem Graph.le_refl {n : Nat} (g : Graph n) : Graph.le g g := fun _ _ h => h

theorem Graph.le_trans {n : Nat} {g1 g2 g3 : Graph n} (h1 : Graph.le g1 g2) (h2 : Graph.le g2 g3) : Graph.le g1 g3 :=
  fun a c h => h2 a c (h1 a c h)

theorem Graph.step_mono {n : Nat} {g g' : Graph n} (h : Graph.le g g') : Graph.le g.step g'.step := by
  intro a c hac
  rw [Graph.step_adj] at hac ⊢
  obtain ⟨hne, hh⟩ := hac
  refine ⟨hne, ?_⟩
  rcases hh with hh | ⟨b, h1, h2⟩
  · exact Or.inl (h a c hh)
  · exact Or.inr ⟨b, h a b h1, h b c h2⟩

theorem iterate_step_mono {n : Nat} (k : Nat) : ∀ {g g' : Graph n}, Graph.le g g' →
    Graph.le (C14.Nat.iterate Graph.step k g) (C14.Nat.iterate Graph.step k g') := by
  induction k with
  | zero => intro g g' h; exact h
  | succ k ih => intro g g' h; exact ih (Graph.step_mono h)

/-- **the hypothesis that is validated, not proved**: `G t` is the connectivity graph of the real system at the end of round `t`
    (an edge = the two nodes are mutually connected), and every round realises at least the abstract step: whenever `a ≠ c` were
    connected at the end of round `t`, or both connected to some `b`, they are connected at the end of round `t + 1`.
    Per edge and per direction the first half of a round is `exchange_realises_step` (b announces c to a, a dials c) and the second
    `exchange_then_handshake` (the dial completes on reliable delivery).  What `RealisesStep` assumes ON TOP of these theorems is
    timing and the environment:
    * a round is long enough to contain, for every node, one due announcement (`housekeep` schedules the next one at most
      `min update_freq (max (peer_timeout / 2 - 60) 1)` seconds ahead: `C15More.housekeep_schedules_safe`) followed by a complete
      handshake (three deliveries; with losses two reliable rounds of retransmission: `C05Recover.reliable_rounds_complete`);
    * the network delivers these datagrams within the round (reliable network; the NAT filter windows of the mock network let the
      ping and the pong through — both ends dial each other within the same round, so a filter entry exists when the answer arrives);
    * sessions stay in sync and nobody expires meanwhile (`C10Net`, `C15More.healthy_never_expires`), so established edges persist;
    * the side conditions of `exchange_realises_step` hold at every node in every round (the announcer's list is not cut to a random
      20-subset: fewer than 20 peers; entries listed before the new neighbour do not share addresses with it: `NoInterference`;
      the mutual trust of the keys, the AEAD and signature assumptions of `C05Lockstep.Hyps`). -/
def RealisesStep {n : Nat} (G : Nat → Graph n) : Prop := ∀ t, Graph.le (G t).step (G (t + 1))

theorem realises_iterate {n : Nat} (G : Nat → Graph n) (h : RealisesStep G) (k : Nat) :
    ∀ t, Graph.le (C14.Nat.iterate Graph.step k (G t)) (G (t + k)) := by
  induction k with
  | zero => intro t; exact Graph.le_refl _
  | succ k ih =>
    intro t
    have h1 : Graph.le (C14.Nat.iterate Graph.step k (G t).step) (C14.Nat.iterate Graph.step k (G (t + 1))) :=
      iterate_step_mono k (h t)
    have h2 := ih (t + 1)
    have e : t + 1 + k = t + (k + 1) := by omega
    rw [e] at h2
    exact Graph.le_trans h1 h2

/-- **bounded_rounds** (abstract + local): if every round of the real system realises at least `Graph.step` on the connectivity graph
    (`RealisesStep`, discharged per edge by `exchange_realises_step` / `exchange_then_handshake` under their hypotheses and the timing
    assumptions listed there) and the graph of the initial connect instructions is connected, then after `k` rounds with `2^k ≥ n` —
    `⌈log2 n⌉` rounds — every pair of distinct nodes is mutually connected. -/
theorem bounded_rounds {n : Nat} (G : Nat → Graph n) (hreal : RealisesStep G) (hconn : ∀ a c, (G 0).reach n a c)
    (k : Nat) (hk : n ≤ 2 ^ k) (a c : Fin n) (hne : a ≠ c) : (G k).adj a c = true := by
  have h := realises_iterate G hreal k 0 a c (mesh_closure (G 0) hconn k hk a c hne)
  rwa [Nat.zero_add] at h

/-- … and stays so in all later rounds -/
theorem bounded_rounds_stable {n : Nat} (G : Nat → Graph n) (hreal : RealisesStep G) (hconn : ∀ a c, (G 0).reach n a c)
    (k : Nat) (hk : n ≤ 2 ^ k) (j : Nat) (a c : Fin n) (hne : a ≠ c) : (G (k + j)).adj a c = true := by
  induction j with
  | zero => exact bounded_rounds G hreal hconn k hk a c hne
  | succ j ih =>
    apply hreal (k + j) a c
    rw [Graph.step_adj]
    exact ⟨hne, Or.inl ih⟩

/-- the connectivity graph of a family of node states: `a` and `c` are adjacent when each holds a peer record under the other's address -/
def connGraph {n : Nat} (addr : Fin n → NAddr) (nodes : Fin n → Node) : Graph n :=
  { adj := fun a c => (lookupA (nodes a).peers (addr c)).isSome && (lookupA (nodes c).peers (addr a)).isSome,
    symm := fun _ _ => Bool.and_comm _ _ }

/-- **bounded_rounds_nodes**: the same for a run `S` of `n` node states (`S t i` = state of node `i` at the end of round `t`) with the
    connectivity graph read off the peer lists -/
theorem bounded_rounds_nodes {n : Nat} (addr : Fin n → NAddr) (S : Nat → Fin n → Node)
    (hreal : RealisesStep (fun t => connGraph addr (S t))) (hconn : ∀ a c, (connGraph addr (S 0)).reach n a c)
    (k : Nat) (hk : n ≤ 2 ^ k) (a c : Fin n) (hne : a ≠ c) :
    (lookupA (S k a).peers (addr c)).isSome = true ∧ (lookupA (S k c).peers (addr a)).isSome = true := by
  have h := bounded_rounds (fun t => connGraph addr (S t)) hreal hconn k hk a c hne
  simpa [connGraph] using h

end Rounds

/-! ## non-vacuity: three concrete nodes (toy cryptography of `InitLemmas.Toy`, unencrypted sessions), and the witnesses that the
    side conditions are needed -/
section NonVacuity
open VpnCloud.Proofs.InitLemmas VpnCloud.Proofs.C14

private def sA : NAddr := .v6 (List.replicate 16 0) 1
private def sB : NAddr := .v6 (List.replicate 16 0) 2
private def sC : NAddr := .v6 (List.replicate 16 0) 3
private def sD : NAddr := .v6 (List.replicate 16 0) 4
private def cfg0 : NodeCfg :=
  { tap := false, learning := false, broadcast := false, peerTimeout := 300, peerTimeoutPublish := 300, updateFreq := 10,
    claims := [], key := [7, 7, 7, 7], trusted := [[9, 9, 9, 9]], algos := Toy.algosPlain }
private def o0 : Oracle := { emitted := fun _ _ => [], rotProp := fun _ => 0, rotPend := fun _ => 0, starts := fun _ => [] }
private def idOf (k : Nat) : Bytes := List.replicate 16 k
/-- a peer record: one recorded address, node id `k…k`, an established session in unencrypted mode -/
private def peerRec (s : NAddr) (k : Nat) : Peer :=
  { addrs := [s], timeout := 1000, peerTimeout := 300, nodeId := idOf k, crypto := { init := none, unencrypted := true } }
private def tbl0 : Table := { cacheTimeout := 300, claimTimeout := 300 }
/-- A: connected to B and C, announcement due since second 50 -/
private def nA : Node :=
  { nodeId := idOf 1, addr := sA, cfg := cfg0, table := tbl0, peers := [(sB, peerRec sB 2), (sC, peerRec sC 3)], nextPeers := 50 }
/-- B: connected to A only -/
private def nB : Node := { nodeId := idOf 2, addr := sB, cfg := cfg0, table := tbl0, peers := [(sA, peerRec sA 1)], nextPeers := 170 }
/-- C: connected to A only -/
private def nC : Node := { nodeId := idOf 3, addr := sC, cfg := cfg0, table := tbl0, peers := [(sA, peerRec sA 1)], nextPeers := 170 }
private def bodyG : Init.BodyOf := fun _ => .garbage 0

/-- 1. the guard of `announcement_roundtrip` holds of what A announces at second 100, and the list has both peers -/
example : AnnounceWF (preAnnounce Toy.env o0 nA 100).node :=
  { nodeId := by decide, peerIds := by decide, peerAddrs := by decide, claims := by decide, own := by decide, timeout := by decide,
    peerCount := by decide, claimCount := by decide }
example : (createNodeInfo (preAnnounce Toy.env o0 nA 100).node).peers =
    [{ nodeId := some (idOf 2), addrs := [sB] }, { nodeId := some (idOf 3), addrs := [sC] }] := rfl
/-- "at most seven addresses per family per entry are preserved": the eighth IPv6 address of a record does not survive the round trip -/
example : (normAddrs ((List.range 8).map (fun k => SockAddr.v6 (List.replicate 16 0) k))).length = 7 := by decide

private def bodyA : Bytes := Codec.encodeNodeInfo (createNodeInfo (preAnnounce Toy.env o0 nA 100).node)

/-- 2. the hypotheses of `listed_stranger_is_dialled` hold at B for A's announcement (entry of C behind the entry of B itself) … -/
example : FromPeer Toy.env bodyG o0 nB sA (Generated.MESSAGE_TYPE_NODE_INFO :: bodyA) [] (peerRec sA 1) (peerRec sA 1).crypto
    Generated.MESSAGE_TYPE_NODE_INFO bodyA := ⟨rfl, by decide, [], [], rfl⟩
private def infoA : NodeInfo :=
  { nodeId := idOf 1, peers := [{ nodeId := some (idOf 2), addrs := [sB] }, { nodeId := some (idOf 3), addrs := [sC] }], claims := [],
    peerTimeout := some 300, addrs := [] }
example : Codec.decodeNodeInfo bodyA = some infoA := by decide +kernel
private theorem unknownC : Unknown nB { nodeId := some (idOf 3), addrs := [sC] } := by
  refine ⟨by decide, ?_, by decide⟩
  intro id hid x hx
  cases hid
  have : x = (sA, peerRec sA 1) := List.mem_singleton.1 hx
  rw [this]; decide
example : Unknown nB { nodeId := some (idOf 3), addrs := [sC] } ∧
    (∀ a ∈ [sC], mappedAddr a ∉ nB.peers.map (·.1) ∧ mappedAddr a ∉ nB.own ∧ mappedAddr a ∉ nB.pending.map (·.1)) ∧
    NoInterference nB.nodeId [{ nodeId := some (idOf 2), addrs := [sB] }] { nodeId := some (idOf 3), addrs := [sC] } :=
  ⟨unknownC, by decide, by unfold NoInterference; decide⟩
/-- … and B dials C and adopts its own address: one handshake datagram, to `sC` -/
example : (handleNet Toy.env bodyG o0 nB 105 sA (Generated.MESSAGE_TYPE_NODE_INFO :: bodyA) []).1.node.pending.map (·.1) = [sC] ∧
    (handleNet Toy.env bodyG o0 nB 105 sA (Generated.MESSAGE_TYPE_NODE_INFO :: bodyA) []).1.node.own = [sB] ∧
    (handleNet Toy.env bodyG o0 nB 105 sA (Generated.MESSAGE_TYPE_NODE_INFO :: bodyA) []).1.outs.map
      (fun x => match x with | .dgram d b => (some d, b.head?) | .iface _ => (none, none)) = [(some sC, some Generated.INIT_MESSAGE_FIRST_BYTE)] := by
  decide +kernel

/-- 3. `all_known_nothing_dialled`: the same announcement at a node that already knows C (and B) causes nothing -/
private def nB' : Node := { nB with peers := [(sA, peerRec sA 1), (sC, peerRec sC 3)] }
example : (∀ pi ∈ infoA.peers, pi.nodeId = some nB'.nodeId ∨ (∃ a q, lookupA nB'.peers a = some q ∧ pi.nodeId = some q.nodeId) ∨
      ∃ a ∈ pi.addrs, a ∈ nB'.peers.map (·.1)) ∧
    (handleNet Toy.env bodyG o0 nB' 105 sA (Generated.MESSAGE_TYPE_NODE_INFO :: bodyA) []).1.outs = [] := by
  refine ⟨?_, by decide +kernel⟩
  intro pi hpi
  simp only [infoA, List.mem_cons, List.not_mem_nil, or_false] at hpi
  rcases hpi with rfl | rfl
  · exact Or.inl rfl
  · exact Or.inr (Or.inl ⟨sC, peerRec sC 3, rfl, rfl⟩)

/-- 4. ALL hypotheses of `exchange_realises_step` (and `exchange_then_handshake`) hold of A, B and C's record at A -/
example : ∃ bytes, Out.dgram sB bytes ∈ (housekeep Toy.env o0 nA 100).outs ∧
      (handleNet Toy.env bodyG o0 nB 105 sA bytes []).2 = none ∧
      Dialled Toy.env (mappedAddr sC) (handleNet Toy.env bodyG o0 nB 105 sA bytes []).1 :=
  exchange_realises_step Toy.env bodyG o0 o0 nA nB 100 105 sA sB sC sC [] 0 (by decide) (by decide)
    [(sB, peerRec sB 2)] [] (peerRec sC 3) rfl (by decide) (by decide) (peerRec sB 2) (peerRec sA 1) rfl rfl (.plain rfl rfl)
    (fun e he => by have h : (housekeep Toy.env o0 nA 100).log = [] := rfl
                    rw [h] at he; cases he)
    unknownC (by decide) (by unfold NoInterference; decide)

/-- the entry of C is processed AFTER the entry of B itself, which B adopts: `l1` is not empty in this instance -/
example : (preAnnounce Toy.env o0 nA 100).node.peers = [(sB, peerRec sB 2)] ++ (sC, peerRec sC 3) :: [] := rfl

/-- `NoInterference` is needed (a): an earlier entry under another id lists `sC` too and is dialled first; the entry of the stranger
    `{id 3, [sC, sD]}` is then skipped AS A WHOLE (`connect` returns when any address is pending), so `sD` is never dialled although
    every other hypothesis of `connectToPeers_entry_dialled_static` holds -/
theorem noInterference_needed :
    ¬ (∀ (env : CryptoEnv) (o : Oracle) (c : Ctx) (pre post : List PeerInfo) (e : PeerInfo), Unknown c.node e →
        (∀ a ∈ e.addrs, mappedAddr a ∉ c.node.peers.map (·.1) ∧ mappedAddr a ∉ c.node.own ∧ mappedAddr a ∉ c.node.pending.map (·.1)) →
        ∀ a ∈ e.addrs, mappedAddr a ∈ (connectToPeers env o c (pre ++ e :: post)).node.pending.map (·.1)) := by
  intro h
  have hu : Unknown nB { nodeId := some (idOf 3), addrs := [sC, sD] } := by
    refine ⟨by decide, ?_, by decide⟩
    intro id hid x hx
    cases hid
    have : x = (sA, peerRec sA 1) := List.mem_singleton.1 hx
    rw [this]; decide
  have := h Toy.env o0 { node := nB } [{ nodeId := some (idOf 5), addrs := [sC] }] [] { nodeId := some (idOf 3), addrs := [sC, sD] } hu
    (by decide) sD (by decide)
  revert this
  decide +kernel

/-- `NoInterference` is needed (b): an earlier entry under B's OWN id lists `sC`: it is adopted as own address and the stranger's
    entry is skipped as a whole -/
example : (connectToPeers Toy.env o0 { node := nB } [{ nodeId := some (idOf 2), addrs := [sC] }, { nodeId := some (idOf 3), addrs := [sC, sD] }]).node.pending = [] ∧
    (connectToPeers Toy.env o0 { node := nB } [{ nodeId := some (idOf 2), addrs := [sC] }, { nodeId := some (idOf 3), addrs := [sC, sD] }]).node.own = [sC] := by
  decide +kernel

/-- 5. `bounded_rounds`: a run on three nodes that starts from the line 0 – 1 – 2 and applies exactly the abstract step each round
    meets the hypotheses; two rounds suffice (`3 ≤ 2^2`) -/
private def line3 : Graph 3 :=
  { adj := fun a c => decide (a.val + 1 = c.val) || decide (c.val + 1 = a.val), symm := fun _ _ => Bool.or_comm _ _ }
private def run3 : Nat → Graph 3
  | 0 => line3
  | t + 1 => (run3 t).step
example : RealisesStep run3 ∧ (∀ a c, (run3 0).reach 3 a c) ∧ 3 ≤ 2 ^ 2 := by
  refine ⟨fun t => Graph.le_refl _, ?_, by decide⟩
  show ∀ a c, line3.reach 3 a c
  simp only [Graph.reach]
  decide

/-- the connectivity graph of the three concrete nodes is the star around A: A–B and A–C are edges, B–C is not (yet) -/
private def addr3 : Fin 3 → NAddr := fun i => match i with | 0 => sA | 1 => sB | 2 => sC
private def nodes3 : Fin 3 → Node := fun i => match i with | 0 => nA | 1 => nB | 2 => nC
example : (connGraph addr3 nodes3).adj 0 1 = true ∧ (connGraph addr3 nodes3).adj 0 2 = true ∧ (connGraph addr3 nodes3).adj 1 2 = false ∧
    (connGraph addr3 nodes3).step.adj 1 2 = true := by decide

end NonVacuity

end VpnCloud.Proofs.C14Exchange
