import VpnCloud.Model.PeerCrypto
/-
  C02 at the level of the session object (`PeerCrypto`): what an established, non-plain session puts
  on the wire is header ++ ciphertext, the cleartext enters only as the argument of the seal; a session
  whose handshake is still pending neither sends nor accepts payload.
  `wire_is_sealed` and `pending_session_carries_nothing` are proved as given (no hypothesis added);
  `pending_session_cannot_send` is the sending half.
-/
namespace VpnCloud.Proofs.C02Node

/-- **wire_is_sealed**: what an established, non-plain session puts on the wire for a message is header ++ ciphertext, and the cleartext (type byte and body) enters only as the
    argument of the seal under the current key of the session -/
theorem wire_is_sealed (pc pc' : PeerCrypto) (ty : Nat) (body ct bytes : Bytes) (log : Init.SealLog) (c : Core) (k : SlotKey)
    (hu : pc.unencrypted = false) (hc : pc.core = some c) (hk : c.slots[c.cur]? = some k)
    (h : PeerCrypto.sendMessage pc ty body ct = (pc', .ok (bytes, log))) :
    bytes = (c.cur :: Bytes.ofBE 7 ((k.send + 1) % NONCE_MOD)) ++ ct ∧
    log = [(ct, .sealed k.key ((k.send + 1) % NONCE_MOD) (ty :: body))] := by
  simp only [PeerCrypto.sendMessage, PeerCrypto.sealMsg, hu, Bool.false_eq_true, if_false, hc, Core.encrypt, hk,
    Prod.mk.injEq, Except.ok.injEq] at h
  obtain ⟨_, hb, hl⟩ := h
  exact ⟨hb.symm, hl.symm⟩

/-- a session without a crypto core that is not plain (handshake still pending) refuses every datagram that is not a handshake datagram:
    it receives no payload (that it cannot send either is `pending_session_cannot_send`) -/
theorem pending_session_carries_nothing (env : CryptoEnv) (bodyOf : Init.BodyOf) (ok : Bytes → Bool) (pc : PeerCrypto) (d tail : Bytes) (rnd : Rand) (rr : RotRand)
    (hu : pc.unencrypted = false) (hc : pc.core = none) (hne : d ≠ []) (hinit : d.head? ≠ some Generated.INIT_MESSAGE_FIRST_BYTE) :
    PeerCrypto.handleMessage env bodyOf ok pc d tail rnd rr = .err pc .state := by
  cases d with
  | nil => exact absurd rfl hne
  | cons b0 rest =>
    have hb : ¬ b0 = Generated.INIT_MESSAGE_FIRST_BYTE := by
      intro hb; apply hinit; rw [hb]; rfl
    simp only [PeerCrypto.handleMessage, hb, if_false, hu, Bool.false_eq_true, hc]

/-- the sending half: such a session refuses to send, whatever the message, and stays as it is -/
theorem pending_session_cannot_send (pc : PeerCrypto) (ty : Nat) (body ct : Bytes)
    (hu : pc.unencrypted = false) (hc : pc.core = none) :
    PeerCrypto.sendMessage pc ty body ct = (pc, .error .state) := by
  simp only [PeerCrypto.sendMessage, PeerCrypto.sealMsg, hu, Bool.false_eq_true, if_false, hc]

end VpnCloud.Proofs.C02Node
