import VpnCloud.Proofs.C16
import VpnCloud.Proofs.C16Init
/-
  C16 — the remaining decoders: (a) `readRotMsg` on arbitrary bytes (it fails exactly on input shorter than the lengths it announces and
  ignores what follows a message: the Rust hands `buffer.buffer()`, the message plus whatever is behind it, to the parser); (b) the field
  loop of `InitMsg::read_from` (the fuel `r.length + 1` is enough for every input, so `.error .parse` never means "out of fuel"; an unknown
  part before the END marker is skipped when the signature covers the region WITH that part); (c) every length taken from the wire is a
  u8 / u16 (≤ 65535 = MSG_BUFFER_SIZE) and the readers hand out exactly the requested bytes or fail.
-/
namespace VpnCloud.Proofs.C16More
open VpnCloud.Codec VpnCloud.InitMsg
open VpnCloud.Proofs.CodecLemmas VpnCloud.Proofs.InitMsgLemmas

/-! ## (a) rotation messages -/

/-- the number of bytes a rotation message announces: 8 id bytes, the length byte of the proposed key, that many bytes, the length byte of
    the confirmed key, that many bytes — as far as the length bytes are present -/
def rotNeed (r : Bytes) : Nat :=
  match r[8]? with
  | none => 9
  | some kl =>
    match r[9 + kl]? with
    | none => 10 + kl
    | some cl => 10 + kl + cl

/-- **`readRotMsg` is total and fails exactly on short input**: on arbitrary bytes it returns `none` if and only if the input is shorter
    than the lengths it announces -/
theorem readRotMsg_none_iff (r : Bytes) : readRotMsg r = none ↔ r.length < rotNeed r := by
  -- the reader needs 8 id bytes, the length byte `kl` at 8, `kl` key bytes, the length byte `cl` at 9 + kl, `cl` key bytes:
  -- it fails at the first of these that the input does not hold, and `rotNeed` is the count up to that point
  unfold readRotMsg rotNeed
  rw [take?_eq]
  by_cases h8 : 8 ≤ r.length
  · simp only [h8, if_true, Option.bind_eq_bind, Option.bind_some, readU8_drop]
    cases hk : r[8]? with
    | none =>
      have := List.getElem?_eq_none_iff.1 hk
      simp only [Option.map_none, Option.bind_none, true_iff]; omega
    | some kl =>
      have h9 := (List.getElem?_eq_some_iff.1 hk).1
      simp only [Option.map_some, Option.bind_some, take?_eq, List.length_drop]
      by_cases hkl : kl ≤ r.length - 9
      · simp only [hkl, if_true, Option.bind_some, List.drop_drop, readU8_drop]
        cases hc : r[9 + kl]? with
        | none =>
          have := List.getElem?_eq_none_iff.1 hc
          simp only [Option.map_none, Option.bind_none, true_iff]; omega
        | some cl =>
          have h10 := (List.getElem?_eq_some_iff.1 hc).1
          simp only [Option.map_some, Option.bind_some, List.length_drop]
          by_cases hcl : cl > 0
          · simp only [hcl, if_true]
            by_cases hcl2 : cl ≤ r.length - (9 + kl + 1)
            · simp only [hcl2, if_true, Option.bind_some, Option.pure_def, reduceCtorEq, false_iff]; omega
            · simp only [hcl2, if_false, Option.bind_none, true_iff]; omega
          · simp only [hcl, if_false, Option.pure_def, reduceCtorEq, false_iff]; omega
      · simp only [hkl, if_false, Option.bind_none, true_iff]
        cases hc : r[9 + kl]? with
        | none => simp only []; omega
        | some cl => have := (List.getElem?_eq_some_iff.1 hc).1; omega
  · simp only [h8, if_false, Option.bind_eq_bind, Option.bind_none, true_iff]
    rw [List.getElem?_eq_none (by omega)]
    simp only []; omega

/-- … equivalently: it returns a message exactly when the input holds the announced number of bytes -/
theorem readRotMsg_isSome_iff (r : Bytes) : (readRotMsg r).isSome = true ↔ rotNeed r ≤ r.length := by
  rw [Option.isSome_iff_ne_none, ne_eq, readRotMsg_none_iff]; omega

/-- **rotmsg_trailing_ignored**: whatever follows a readable rotation message in the buffer (stale bytes of an earlier, longer datagram)
    does not change what is read -/
theorem rotmsg_trailing_ignored (r t : Bytes) (m : RotMsg) (h : readRotMsg r = some m) : readRotMsg (r ++ t) = some m := by
  obtain ⟨idb, t0, h1, h2, h3, rfl⟩ := (readRotMsg_eq_some_iff r m).1 h
  refine (readRotMsg_eq_some_iff _ m).2 ⟨idb, t0 ++ t, h1, h2, h3, ?_⟩
  cases m.confirm <;> simp only [List.append_assoc, List.cons_append]

/-- what a successful read returns is bounded by the input: both keys are shorter than 256 bytes and the message lies within the input -/
theorem readRotMsg_bounded (r : Bytes) (m : RotMsg) (hr : Bytes.WF r) (h : readRotMsg r = some m) :
    m.propose.length < 256 ∧ (∀ c, m.confirm = some c → 0 < c.length ∧ c.length < 256) ∧
    10 + m.propose.length + (m.confirm.map List.length).getD 0 ≤ r.length := by
  -- both length bytes are bytes of the input
  obtain ⟨idb, t, h1, -, h3, rfl⟩ := (readRotMsg_eq_some_iff r m).1 h
  rw [Bytes.wf_append, Bytes.wf_cons, Bytes.wf_append] at hr
  obtain ⟨-, hk, -, hc⟩ := hr
  cases hcf : m.confirm with
  | none =>
    refine ⟨hk, nofun, ?_⟩
    simp only [List.length_append, List.length_cons, Option.map_none, Option.getD_none]; omega
  | some c =>
    rw [hcf, Bytes.wf_cons] at hc
    refine ⟨hk, fun c' e => by cases e; exact ⟨h3 c hcf, hc.1⟩, ?_⟩
    simp only [List.length_append, List.length_cons, Option.map_some, Option.getD_some]; omega

/-! ## (b) handshake messages -/

/-- **the fuel of the field loop never runs out**: with any two amounts of fuel above the input length the loop gives the same answer
    (each iteration consumes at least the tag byte) -/
theorem readFields_fuel (f1 f2 : Nat) (r : Bytes) (acc : Fields) (h1 : r.length + 1 ≤ f1) (h2 : r.length + 1 ≤ f2) :
    readFields f1 r acc = readFields f2 r acc :=
  readFields_tlv.fuel fieldStep_le f1 f2 r acc h1 h2

/-- **init_decode_total**: `readFrom` passes the fuel `r.length + 1` to the field loop; any larger amount gives the same result — so
    an `.error .parse` of the loop always means "malformed input" (missing tag, length or body bytes), never "out of fuel", on every input.
    Together with the structural recursion on the fuel: the decoder ends with a value or an error on arbitrary bytes. -/
theorem init_decode_total (r : Bytes) (acc : Fields) (extra : Nat) :
    readFields (r.length + 1 + extra) r acc = readFields (r.length + 1) r acc :=
  readFields_fuel _ _ r acc (by omega) (by omega)

/-- the loop with the fuel of `readFrom` is the loop "with unbounded fuel": no run with more fuel ever succeeds or fails differently -/
theorem init_decode_total' (r : Bytes) (acc : Fields) (fuel : Nat) (h : r.length + 1 ≤ fuel) :
    readFields fuel r acc = readFields (r.length + 1) r acc :=
  readFields_fuel _ _ r acc h (by omega)

/-- the parts of a written message with an unknown part (tag ≥ 6) inserted in front of the `k`-th part (`k = length`: directly
    before the END marker) -/
def withUnknown (m : InitMsg) (k tag : Nat) (body : Bytes) : Bytes :=
  ((partList m).take k ++ [part tag body] ++ (partList m).drop k).flatten

/-- the signed region of a message with an unknown part: salt, key hash, the parts with the unknown one, the END marker -/
def signedRegionWith (m : InitMsg) (k tag : Nat) (body salt khash : Bytes) : Bytes :=
  salt ++ (khash ++ (withUnknown m k tag body ++ [Generated.PART_END]))

open C16Init in
/-- **unknown_init_parts_skipped**: a handshake message with an unknown part (tag ≥ 6, any body that fits the 16-bit length) inserted
    at any part boundary before the END marker is decoded to exactly the original message — PROVIDED the signature verifies over the
    region that contains the unknown part (`hv`).  Compatibility: a newer peer that adds a part and signs what it sends is understood by
    this decoder; nobody else can add (or strip) a part on the way, see `unknown_part_changes_signed_region`. -/
theorem unknown_init_parts_skipped (env : CryptoEnv) (m : InitMsg) (salt sig tail k : Bytes) (T : List Bytes)
    (pos tag : Nat) (body : Bytes)
    (hm : msgWF m) (hsalt : salt.length = 4) (hkh : (env.keyHash k salt).length = 4) (hsig : sig.length < 256)
    (hk : T.find? (fun tk => env.keyHash tk salt = env.keyHash k salt) = some k)
    (hpos : pos ≤ (partList m).length) (htag : 6 ≤ tag) (hb : body.length < 65536)
    (hv : env.sigVerify k (signedRegionWith m pos tag body salt (env.keyHash k salt)) sig = true) :
    readFrom env (signedRegionWith m pos tag body salt (env.keyHash k salt) ++ [sig.length % 256] ++ sig ++ tail) T = .ok (m, k) := by
  unfold signedRegionWith withUnknown at hv ⊢
  rw [readFrom_chain env salt _ sig tail k T _ (fieldsOf m) hsalt hkh hsig hk
    ((chain_parts m hm).insert _ (fun x => InitMsgLemmas.step_unknown tag body htag hb x) pos hpos) hv, assemble_fieldsOf]

/-- **the unknown part is inside the signed region**: the region the signature must cover differs from the one of the original
    message (it is longer by the inserted part), so the signature of the original message is not a signature of the extended one and
    vice versa — an unknown part can only come from the signer -/
theorem unknown_part_changes_signed_region (m : InitMsg) (k tag : Nat) (body salt khash : Bytes) :
    (signedRegionWith m k tag body salt khash).length = (signedRegion m salt khash).length + body.length + 3 ∧
    signedRegionWith m k tag body salt khash ≠ signedRegion m salt khash := by
  have h : (signedRegionWith m k tag body salt khash).length = (signedRegion m salt khash).length + body.length + 3 := by
    rw [signedRegion_eq]
    unfold signedRegionWith withUnknown
    conv => rhs; rw [← List.take_append_drop k (partList m)]
    simp only [List.flatten_append, List.length_append, List.flatten_cons, List.flatten_nil, part_length, List.length_cons,
      List.length_nil]
    omega
  refine ⟨h, fun e => ?_⟩
  rw [e] at h
  omega

/-! ## (c) no oversized allocation, no read beyond the input -/

/-- `take?` (`read_exact`) hands out exactly the requested number of bytes from the front of the input, or fails — exactly when the
    input is shorter — and never looks beyond the input -/
theorem take?_spec (n : Nat) (r : Bytes) :
    (n ≤ r.length ∧ ∃ a r', take? n r = some (a, r') ∧ r = a ++ r' ∧ a.length = n) ∨ (r.length < n ∧ take? n r = none) := by
  by_cases h : n ≤ r.length
  · left
    refine ⟨h, r.take n, r.drop n, by simp [take?, h], (List.take_append_drop n r).symm, by rw [List.length_take]; omega⟩
  · right
    exact ⟨by omega, by simp [take?, h]⟩

/-- **decode_alloc_bounded**: on well-formed bytes (`< 256` each) `readU8` returns at most 255 and `readU16` at most
    `65535 = MSG_BUFFER_SIZE` (the size of the receive buffer), and `take?` / `takeLim` return exactly the requested number of bytes out
    of the input or fail.  The statement is about these four readers only; that the decoders of `Model/NodeInfo.lean` /
    `Model/InitMsg.lean` take every length from the wire and build every byte string through them is read off the model, and with it:
    no buffer larger than the largest datagram is requested and nothing behind the input is read. -/
theorem decode_alloc_bounded (r : Bytes) (hr : Bytes.WF r) :
    (∀ v rest, readU8 r = some (v, rest) → v ≤ 255 ∧ r = v :: rest) ∧
    (∀ v rest, readU16 r = some (v, rest) → v ≤ Generated.MSG_BUFFER_SIZE ∧ rest.length + 2 = r.length) ∧
    (∀ n a rest, take? n r = some (a, rest) → a.length = n ∧ n ≤ r.length ∧ r = a ++ rest) ∧
    (∀ n lim a lim' rest, takeLim n lim r = some (a, lim', rest) → a.length = n ∧ n ≤ lim ∧ n ≤ r.length ∧ r = a ++ rest ∧ lim' = lim - n) := by
  refine ⟨?_, ?_, ?_, ?_⟩
  · intro v rest h
    have := readU8_lt r hr v rest h
    exact ⟨by omega, readU8_some h⟩
  · intro v rest h
    have := C16.readU16_lt r hr v rest h
    obtain ⟨a, b, e⟩ := readU16_some h
    exact ⟨by simp only [Generated.MSG_BUFFER_SIZE]; omega, by rw [e]; rfl⟩
  · intro n a rest h
    obtain ⟨e, l⟩ := take?_some h
    refine ⟨l, ?_, e⟩
    have := congrArg List.length e
    rw [List.length_append] at this; omega
  · intro n lim a lim' rest h
    obtain ⟨rfl, rfl, rfl, h1, h2⟩ := takeLim_some h
    exact ⟨by rw [List.length_take]; omega, h1, h2, (List.take_append_drop n r).symm, rfl⟩

/-- the byte-string fields the handshake decoder returns lie within the input: hash, key and payload are no longer than any bound `B`
    on the input length that also bounds the fields collected before (none, when `readFrom` starts the loop) -/
theorem readFields_bounded : ∀ (fuel : Nat) (r : Bytes) (acc f : Fields) (r' : Bytes) (B : Nat),
    readFields fuel r acc = .ok (f, r') → r.length ≤ B →
    (∀ x, acc.hash = some x → x.length ≤ B) → (∀ x, acc.ecdh = some x → x.length ≤ B) → (∀ x, acc.payload = some x → x.length ≤ B) →
    (∀ x, f.hash = some x → x.length ≤ B) ∧ (∀ x, f.ecdh = some x → x.length ≤ B) ∧ (∀ x, f.payload = some x → x.length ≤ B) :=
  fun fuel r acc f r' B h hB a1 a2 a3 => ((readFields_spec fuel r acc).2 f r' h).2 B hB ⟨a1, a2, a3⟩

/-! ## non-vacuity and witnesses -/
section Examples
open C16Init

/-- a rotation message followed by stale bytes; a truncated one; one whose confirm length byte announces more than there is -/
example : readRotMsg (writeRotMsg ⟨5, [1, 2, 3], some [4, 5]⟩ ++ [9, 9, 9]) = some ⟨5, [1, 2, 3], some [4, 5]⟩ := by decide +kernel
example : rotNeed (writeRotMsg ⟨5, [1, 2, 3], some [4, 5]⟩ ++ [9, 9, 9]) = 15 ∧ (writeRotMsg ⟨5, [1, 2, 3], some [4, 5]⟩ ++ [9, 9, 9]).length = 18 := by
  decide +kernel
example : readRotMsg ((writeRotMsg ⟨5, [1, 2, 3], some [4, 5]⟩).take 14) = none ∧
    rotNeed ((writeRotMsg ⟨5, [1, 2, 3], some [4, 5]⟩).take 14) = 15 := by decide +kernel
example : readRotMsg [0, 0, 0, 0, 0, 0, 0, 1, 200] = none ∧ rotNeed [0, 0, 0, 0, 0, 0, 0, 1, 200] = 210 := by decide +kernel
/-- stale bytes are NOT ignored when the message itself is truncated: the parser then reads into them.  (In the Rust, `buffer.buffer()` also
    covers what lies behind the decrypted plaintext, so a truncated sealed rotation message would be completed from those bytes; the model's
    `handleRotate` gets only the plaintext in the encrypted case.  The two agree whenever the plaintext itself parses —
    `rotmsg_trailing_ignored`, `C07Session.handleRotate_tail_irrelevant` — in particular for everything `write_to` produces.) -/
example : readRotMsg ((writeRotMsg ⟨5, [1, 2, 3], some [4, 5]⟩).take 14 ++ [7]) = some ⟨5, [1, 2, 3], some [4, 7]⟩ := by decide +kernel

/-- toy cryptography with a signature that depends on the whole signed region (its length and byte sum) -/
private def toyEnv : CryptoEnv :=
  { keyHash := fun k s => (k ++ s).take 4, nodeHash := fun s i => (s ++ i).take 16,
    sigVerify := fun _ m s => s = [m.length % 256, (m.foldl (· + ·) 0) % 256] }

private def h20 : Bytes := List.replicate 20 7
private def toyPong : InitMsg := .pong h20 [1, 2, 3] ⟨[(.aes256, 1000)], true⟩ [9, 9]
private def key5 : Bytes := [1, 2, 3, 4, 5]
private def salt4 : Bytes := [5, 6, 7, 8]
private def sigOf (m : Bytes) : Bytes := [m.length % 256, (m.foldl (· + ·) 0) % 256]

private theorem toyPong_wf : msgWF toyPong := by
  refine ⟨by decide, by decide, ⟨?_, by decide⟩, by decide⟩
  intro p hp
  simp at hp
  subst hp
  decide

private def isOk (r : Except InitErr (InitMsg × Bytes)) (m : InitMsg) (k : Bytes) : Bool :=
  match r with
  | .ok (m', k') => m' = m ∧ k' = k
  | .error _ => false

private def isErr (r : Except InitErr (InitMsg × Bytes)) (e : InitErr) : Bool :=
  match r with
  | .ok _ => false
  | .error e' => e' = e

/-- `unknown_init_parts_skipped` applies: an unknown part (tag 77, three body bytes) in front of the third part of a pong, signed by the
    sender with the part included — all hypotheses hold -/
example : readFrom toyEnv (signedRegionWith toyPong 2 77 [1, 2, 3] salt4 (toyEnv.keyHash key5 salt4) ++
      [(sigOf (signedRegionWith toyPong 2 77 [1, 2, 3] salt4 (toyEnv.keyHash key5 salt4))).length % 256] ++
      sigOf (signedRegionWith toyPong 2 77 [1, 2, 3] salt4 (toyEnv.keyHash key5 salt4)) ++ [42]) [[8, 8, 8, 8], key5] = .ok (toyPong, key5) :=
  unknown_init_parts_skipped toyEnv toyPong salt4 _ [42] key5 [[8, 8, 8, 8], key5] 2 77 [1, 2, 3] toyPong_wf (by decide) (by decide)
    (by decide) (by decide +kernel) (by decide) (by decide) (by decide) rfl

/-- … and by evaluation, at every part boundary (0 … 5; 5 = directly before the END marker) -/
example : ∀ pos, pos ≤ 5 → isOk (readFrom toyEnv (signedRegionWith toyPong pos 77 [1, 2, 3] salt4 (toyEnv.keyHash key5 salt4) ++
      [2] ++ sigOf (signedRegionWith toyPong pos 77 [1, 2, 3] salt4 (toyEnv.keyHash key5 salt4)) ++ [42]) [[8, 8, 8, 8], key5]) toyPong key5 = true := by
  decide +kernel

/-- the signature of the ORIGINAL message does not cover the extended one: inserting a part on the way makes the message invalid -/
example : isErr (readFrom toyEnv (signedRegionWith toyPong 2 77 [1, 2, 3] salt4 (toyEnv.keyHash key5 salt4) ++
      [2] ++ sigOf (signedRegion toyPong salt4 (toyEnv.keyHash key5 salt4)) ++ [42]) [[8, 8, 8, 8], key5]) .crypto = true := by
  decide +kernel

/-- the original message with its own signature is of course accepted -/
example : isOk (readFrom toyEnv (writeTo toyPong salt4 (toyEnv.keyHash key5 salt4) (sigOf (signedRegion toyPong salt4 (toyEnv.keyHash key5 salt4))) ++ [42])
    [[8, 8, 8, 8], key5]) toyPong key5 = true := by decide +kernel

/-- a known tag is NOT skipped (the hypothesis `6 ≤ tag` is needed): a second PAYLOAD part replaces the payload -/
example : isOk (readFrom toyEnv (signedRegionWith toyPong 5 5 [1, 2, 3] salt4 (toyEnv.keyHash key5 salt4) ++
      [2] ++ sigOf (signedRegionWith toyPong 5 5 [1, 2, 3] salt4 (toyEnv.keyHash key5 salt4)) ++ [42]) [[8, 8, 8, 8], key5])
    (.pong h20 [1, 2, 3] ⟨[(.aes256, 1000)], true⟩ [1, 2, 3]) key5 = true := by decide +kernel

/-- fuel: the field loop on 40 arbitrary bytes gives the same answer with the fuel of `readFrom` and with ten times as much -/
example : readFields (40 + 1 + 400) (List.replicate 40 9) {} = readFields (40 + 1) (List.replicate 40 9) {} :=
  init_decode_total (List.replicate 40 9) {} 400

end Examples

end VpnCloud.Proofs.C16More
