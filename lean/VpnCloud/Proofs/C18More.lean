import VpnCloud.Proofs.C18
/-
  C18, second part — key pairs: derivation from a password, generation, parsing, and the choice of the key pair
  and of the trusted keys in `Crypto::new` (src/crypto/common.rs).

  The model has the text codec (`Model/Base62.lean`: `keyFromBase62`, `parsePublicKey`) and, in
  `Spec/C18.lean`, `generateKeypair` / `parsePrivateKey` on a given seed.  The functions around them are not in
  `Model/`; they are defined HERE, after the Rust, with the two cryptographic primitives as parameters
  (`KeyEnv`): PBKDF2-HMAC-SHA256 and the Ed25519 public key of a seed.
-/
namespace VpnCloud.Proofs.C18More

open VpnCloud.Base62 VpnCloud.Spec.C18 VpnCloud.Proofs.C18

/-- the cryptographic primitives, as parameters:
    `pbkdf2 iterations salt password` = the 32 bytes written by
    `pbkdf2::derive(PBKDF2_HMAC_SHA256, iterations, salt, password, &mut [0; 32])`;
    `pubOf seed` = `Ed25519KeyPair::from_seed_unchecked(seed).public_key()` -/
structure KeyEnv where
  pbkdf2 : Nat → Bytes → Bytes → Bytes
  pubOf : Bytes → Bytes

/-- `const SALT: &[u8; 32] = b"vpncloudVPNCLOUDvpncl0udVpnCloud"` (common.rs:21) — a constant of the program -/
def SALT : Bytes := "vpncloudVPNCLOUDvpncl0udVpnCloud".toList.map Char.toNat

/-- `NonZeroU32::new(4096).unwrap()` (common.rs:147 and 162) — a constant of the program -/
def ITERATIONS : Nat := 4096

/-- the seed derived from a password: the SAME call with the SAME constants in `generate_keypair` (common.rs:145-152)
    and in `keypair_from_password` (common.rs:161-162).  The password enters as `password.as_bytes()`: all bytes of
    the string as configured, no trimming, no normalisation, no truncation. -/
def seedOfPassword (ke : KeyEnv) (password : Bytes) : Bytes := ke.pbkdf2 ITERATIONS SALT password

/-- an `Ed25519KeyPair`: the seed (private key) and the public key it holds -/
structure KeyPair where
  seed : Bytes
  pub : Bytes
  deriving DecidableEq, Repr

/-- `Ed25519KeyPair::from_seed_unchecked` (ring): `none` = `KeyRejected` (the seed must have 32 bytes) -/
def fromSeedUnchecked (ke : KeyEnv) (seed : Bytes) : Option KeyPair :=
  if seed.length = 32 then some ⟨seed, ke.pubOf seed⟩ else none

/-- `Ed25519KeyPair::from_seed_and_public_key` (ring): also rejects a public key that is not the one of the seed -/
def fromSeedAndPublicKey (ke : KeyEnv) (seed pub : Bytes) : Option KeyPair :=
  if seed.length = 32 ∧ ke.pubOf seed = pub then some ⟨seed, pub⟩ else none

/-- `Crypto::keypair_from_password` (common.rs:160-165); `none` = the `unwrap()` panics -/
def keypairFromPassword (ke : KeyEnv) (password : Bytes) : Option KeyPair :=
  fromSeedUnchecked ke (seedOfPassword ke password)

/-- the `match password` of `generate_keypair` (common.rs:139-153): `random` are the bytes `SystemRandom` fills in when
    no password is given -/
def seedBytes (ke : KeyEnv) (password : Option Bytes) (random : Bytes) : Bytes :=
  match password with
  | none => random
  | some pw => seedOfPassword ke pw

/-- `Crypto::generate_keypair` (common.rs:137-158): the result are the two printed texts; `none` = panic (`unwrap()`,
    `to_base62`) -/
def generateKeypair (ke : KeyEnv) (password : Option Bytes) (random : Bytes) : Option (List Char × List Char) :=
  let bytes := seedBytes ke password random
  match fromSeedUnchecked ke bytes with
  | none => none
  | some kp =>
    match toBase62 bytes, toBase62 kp.pub with
    | some priv, some pub => some (priv, pub)
    | _, _ => none

/-- `Crypto::parse_private_key` (common.rs:183-188); `none` = `Err` -/
def parsePrivateKeyPair (ke : KeyEnv) (priv : List Char) : Option KeyPair :=
  match keyFromBase62 priv with
  | .ok k => fromSeedUnchecked ke k
  | .error _ => none

/-- `Crypto::parse_keypair` (common.rs:175-181); `none` = `Err` -/
def parseKeypair (ke : KeyEnv) (priv pub : List Char) : Option KeyPair :=
  match keyFromBase62 priv, keyFromBase62 pub with
  | .ok a, .ok b => fromSeedAndPublicKey ke a b
  | _, _ => none

/-- `Crypto::public_key_from_private_key` (common.rs:200-203) -/
def publicKeyFromPrivateKey (ke : KeyEnv) (priv : List Char) : Option (List Char) :=
  match parsePrivateKeyPair ke priv with
  | none => none
  | some kp => toBase62 kp.pub

/-- the key fields of `Config` (common.rs:52-58); the password as its bytes -/
structure KeyConfig where
  password : Option Bytes := none
  privateKey : Option (List Char) := none
  publicKey : Option (List Char) := none
  trustedKeys : List (List Char) := []

/-- the loop `for tn in &config.trusted_keys { trusted_keys.push(Self::parse_public_key(tn)?) }` (common.rs:102-104) -/
def parseTrusted : List (List Char) → Option (List Bytes)
  | [] => some []
  | t :: rest =>
    match parsePublicKey t with
    | none => none
    | some k => (parseTrusted rest).map (fun r => k :: r)

/-- `Crypto::new` (common.rs:89-110), the key pair and the trusted keys; `none` = `Err` (or the panic of
    `keypair_from_password`) -/
def cryptoNew (ke : KeyEnv) (cfg : KeyConfig) : Option (KeyPair × List Bytes) :=
  let kp? := match cfg.privateKey with
    | some priv =>
      match cfg.publicKey with
      | some pub => parseKeypair ke priv pub
      | none => parsePrivateKeyPair ke priv
    | none =>
      match cfg.password with
      | some pw => keypairFromPassword ke pw
      | none => none
  match kp? with
  | none => none
  | some kp =>
    match parseTrusted cfg.trustedKeys with
    | none => none
    | some tk => some (kp, if tk.isEmpty then [kp.pub] else tk)

/-- the primitives return what the libraries promise: 32 proper bytes -/
structure KeyEnvWF (ke : KeyEnv) : Prop where
  kdf_wf : ∀ it salt pw, Bytes.WF (ke.pbkdf2 it salt pw) ∧ (ke.pbkdf2 it salt pw).length = 32
  pub_wf : ∀ seed, seed.length = 32 → Bytes.WF (ke.pubOf seed) ∧ (ke.pubOf seed).length = 32

theorem seed_wf (ke : KeyEnv) (h : KeyEnvWF ke) (pw : Bytes) :
    Bytes.WF (seedOfPassword ke pw) ∧ (seedOfPassword ke pw).length = 32 := h.kdf_wf _ _ _

theorem keypairFromPassword_eq (ke : KeyEnv) (h : KeyEnvWF ke) (pw : Bytes) :
    keypairFromPassword ke pw = some ⟨seedOfPassword ke pw, ke.pubOf (seedOfPassword ke pw)⟩ := by
  unfold keypairFromPassword fromSeedUnchecked
  rw [if_pos (seed_wf ke h pw).2]

/-- on 32 bytes this `generateKeypair` is the one of `Spec/C18.lean` -/
theorem generateKeypair_spec (ke : KeyEnv) (password : Option Bytes) (random : Bytes)
    (hl : (seedBytes ke password random).length = 32) :
    generateKeypair ke password random = Spec.C18.generateKeypair ke.pubOf (seedBytes ke password random) := by
  unfold generateKeypair Spec.C18.generateKeypair fromSeedUnchecked
  simp only [hl, if_true]
  cases toBase62 (seedBytes ke password random) <;> cases toBase62 (ke.pubOf (seedBytes ke password random)) <;> rfl

theorem printed_parsed (ke : KeyEnv) (h : KeyEnvWF ke) (seed : Bytes) (hs : Bytes.WF seed) (hl : seed.length = 32) :
    ∃ priv pub, toBase62 seed = some priv ∧ toBase62 (ke.pubOf seed) = some pub ∧
      parsePrivateKeyPair ke priv = some ⟨seed, ke.pubOf seed⟩ ∧
      parseKeypair ke priv pub = some ⟨seed, ke.pubOf seed⟩ ∧
      parsePublicKey pub = some (ke.pubOf seed) ∧
      parsePrivateKey priv = some seed ∧
      publicKeyFromPrivateKey ke priv = some pub := by
  obtain ⟨priv, e1, k1, _, p1⟩ := generated_key_accepted seed hs hl
  obtain ⟨pub, e2, k2, p2, _⟩ := generated_key_accepted (ke.pubOf seed) (h.pub_wf seed hl).1 (h.pub_wf seed hl).2
  have hpp : parsePrivateKeyPair ke priv = some ⟨seed, ke.pubOf seed⟩ := by
    simp only [parsePrivateKeyPair, k1, fromSeedUnchecked, hl, if_true]
  refine ⟨priv, pub, e1, e2, hpp, ?_, p2, p1, ?_⟩
  · simp only [parseKeypair, k1, k2, fromSeedAndPublicKey, hl, true_and, if_true]
  · simp only [publicKeyFromPrivateKey, hpp, e2]

theorem fromSeedUnchecked_consistent (ke : KeyEnv) (s : Bytes) (k : KeyPair) (e : fromSeedUnchecked ke s = some k) :
    k.pub = ke.pubOf k.seed ∧ k.seed.length = 32 := by
  unfold fromSeedUnchecked at e
  split at e
  · cases e; exact ⟨rfl, by assumption⟩
  · cases e

theorem fromSeedAndPublicKey_consistent (ke : KeyEnv) (s p : Bytes) (k : KeyPair)
    (e : fromSeedAndPublicKey ke s p = some k) : k.pub = ke.pubOf k.seed ∧ k.seed.length = 32 := by
  unfold fromSeedAndPublicKey at e
  split at e
  · rename_i hc; cases e; exact ⟨hc.2.symm, hc.1⟩
  · cases e

/-- a configuration with a password and no private key: the pair of the password (the field `public_key` is not
    looked at), and the trusted keys as configured, or the own public key -/
theorem cryptoNew_password (ke : KeyEnv) (h : KeyEnvWF ke) (cfg : KeyConfig) (pw : Bytes)
    (hpriv : cfg.privateKey = none) (hpw : cfg.password = some pw) :
    cryptoNew ke cfg = (parseTrusted cfg.trustedKeys).map (fun tk =>
      (⟨seedOfPassword ke pw, ke.pubOf (seedOfPassword ke pw)⟩,
        if tk.isEmpty then [ke.pubOf (seedOfPassword ke pw)] else tk)) := by
  unfold cryptoNew
  rw [hpriv, hpw]
  simp only [keypairFromPassword_eq ke h pw]
  cases parseTrusted cfg.trustedKeys <;> rfl

theorem generateKeypair_printed (ke : KeyEnv) (password : Option Bytes) (random : Bytes) (priv pub : List Char)
    (hl : (seedBytes ke password random).length = 32)
    (e1 : toBase62 (seedBytes ke password random) = some priv)
    (e2 : toBase62 (ke.pubOf (seedBytes ke password random)) = some pub) :
    generateKeypair ke password random = some (priv, pub) := by
  unfold generateKeypair fromSeedUnchecked
  simp only [hl, if_true, e1, e2]

/-- **same_password_same_keys**: the key pair a node derives from a password is a function of the password bytes
    ONLY (salt and iteration count are constants of the program; node id, the `public_key` field, the trusted keys,
    the run do not enter): two nodes configured with the same password hold the same pair — the one written out
    in the statement — and, with no trusted keys configured, each trusts the other's public key. -/
theorem same_password_same_keys (ke : KeyEnv) (h : KeyEnvWF ke) (pw : Bytes) (cfgA cfgB : KeyConfig)
    (hA1 : cfgA.privateKey = none) (hA2 : cfgA.password = some pw)
    (hB1 : cfgB.privateKey = none) (hB2 : cfgB.password = some pw)
    (kpA kpB : KeyPair) (tA tB : List Bytes)
    (eA : cryptoNew ke cfgA = some (kpA, tA)) (eB : cryptoNew ke cfgB = some (kpB, tB)) :
    kpA = kpB ∧
    kpA = ⟨ke.pbkdf2 4096 SALT pw, ke.pubOf (ke.pbkdf2 4096 SALT pw)⟩ ∧
    (cfgA.trustedKeys = [] → kpB.pub ∈ tA) ∧ (cfgB.trustedKeys = [] → kpA.pub ∈ tB) := by
  rw [cryptoNew_password ke h cfgA pw hA1 hA2] at eA
  rw [cryptoNew_password ke h cfgB pw hB1 hB2] at eB
  cases hta : parseTrusted cfgA.trustedKeys with
  | none => rw [hta] at eA; cases eA
  | some ta =>
    cases htb : parseTrusted cfgB.trustedKeys with
    | none => rw [htb] at eB; cases eB
    | some tb =>
      rw [hta] at eA; rw [htb] at eB
      simp only [Option.map_some, Option.some.injEq, Prod.mk.injEq] at eA eB
      obtain ⟨a1, a2⟩ := eA
      obtain ⟨b1, b2⟩ := eB
      refine ⟨by rw [← a1, ← b1], a1.symm, ?_, ?_⟩
      · intro hn
        rw [hn] at hta
        cases hta
        rw [← a2, ← b1]; simp
      · intro hn
        rw [hn] at htb
        cases htb
        rw [← b2, ← a1]; simp

theorem password_config (ke : KeyEnv) (h : KeyEnvWF ke) (pw : Bytes) :
    cryptoNew ke { password := some pw } =
      some (⟨seedOfPassword ke pw, ke.pubOf (seedOfPassword ke pw)⟩, [ke.pubOf (seedOfPassword ke pw)]) := by
  rw [cryptoNew_password ke h _ pw rfl rfl]; rfl

/-- **different_password_different_keys** (hypothesis I4: the key derivation is injective on the class `P` of
    passwords considered): different password bytes — differing in anything, e.g. a trailing blank or newline,
    upper/lower case, a byte behind the 32nd — give different seeds: nothing is trimmed, normalised or cut off
    between the configured password and the key derivation. -/
theorem different_password_different_keys (ke : KeyEnv) (P : Bytes → Prop)
    (I4 : ∀ p q, P p → P q → seedOfPassword ke p = seedOfPassword ke q → p = q)
    (p q : Bytes) (hp : P p) (hq : P q) (hne : p ≠ q) : seedOfPassword ke p ≠ seedOfPassword ke q :=
  fun e => hne (I4 p q hp hq e)

/-- … and (I5: different seeds have different Ed25519 public keys) the two nodes do not trust each other when they
    trust only their own key -/
theorem different_password_no_trust (ke : KeyEnv) (h : KeyEnvWF ke) (P : Bytes → Prop)
    (I4 : ∀ p q, P p → P q → seedOfPassword ke p = seedOfPassword ke q → p = q)
    (I5 : ∀ s1 s2, s1.length = 32 → s2.length = 32 → ke.pubOf s1 = ke.pubOf s2 → s1 = s2)
    (p q : Bytes) (hp : P p) (hq : P q) (hne : p ≠ q) (kpA kpB : KeyPair) (tA tB : List Bytes)
    (eA : cryptoNew ke { password := some p } = some (kpA, tA))
    (eB : cryptoNew ke { password := some q } = some (kpB, tB)) :
    kpA.seed ≠ kpB.seed ∧ kpA.pub ≠ kpB.pub ∧ kpB.pub ∉ tA ∧ kpA.pub ∉ tB := by
  rw [password_config ke h p] at eA
  rw [password_config ke h q] at eB
  simp only [Option.some.injEq, Prod.mk.injEq] at eA eB
  obtain ⟨a1, a2⟩ := eA
  obtain ⟨b1, b2⟩ := eB
  have hs := different_password_different_keys ke P I4 p q hp hq hne
  have hpub : ke.pubOf (seedOfPassword ke p) ≠ ke.pubOf (seedOfPassword ke q) :=
    fun e => hs (I5 _ _ (seed_wf ke h p).2 (seed_wf ke h q).2 e)
  rw [← a1, ← b1, ← a2, ← b2]
  refine ⟨hs, hpub, ?_, ?_⟩
  · simp only [List.mem_singleton]; exact fun e => hpub e.symm
  · simp only [List.mem_singleton]; exact hpub

/-- **private_yields_public**: on every path by which `Crypto::new` obtains its key pair — private key alone,
    private and public key (the library rejects a public key that does not match), password — the public key the
    node uses is the Ed25519 public key of its private key (a 32-byte seed). -/
theorem private_yields_public (ke : KeyEnv) (cfg : KeyConfig) (kp : KeyPair) (t : List Bytes)
    (h : cryptoNew ke cfg = some (kp, t)) : kp.pub = ke.pubOf kp.seed ∧ kp.seed.length = 32 := by
  -- whichever fields of the configuration give the key pair, it comes out of one of ring's two constructors, and both hold the
  -- public key of the seed
  have key : ∀ o : Option KeyPair,
      (match o with
        | none => none
        | some kp => match parseTrusted cfg.trustedKeys with
          | none => none
          | some tk => some (kp, if tk.isEmpty then [kp.pub] else tk)) = some (kp, t) → o = some kp := by
    intro o e
    cases o with
    | none => cases e
    | some k =>
      cases ht : parseTrusted cfg.trustedKeys with
      | none => simp only [ht] at e; cases e
      | some tk => simp only [ht] at e; cases e; rfl
  unfold cryptoNew at h
  have hk := key _ h
  unfold parseKeypair parsePrivateKeyPair keypairFromPassword at hk
  split at hk
  · split at hk
    · split at hk
      · exact fromSeedAndPublicKey_consistent ke _ _ _ hk
      · cases hk
    · split at hk
      · exact fromSeedUnchecked_consistent ke _ _ hk
      · cases hk
  · split at hk
    · exact fromSeedUnchecked_consistent ke _ _ hk
    · cases hk

/-- … and for the texts: whatever key generation prints (from a password or from random bytes), the printed private
    key yields the printed public key (`public_key_from_private_key`), and both parse to the pair of the seed -/
theorem generated_private_yields_public (ke : KeyEnv) (h : KeyEnvWF ke) (password : Option Bytes) (random : Bytes)
    (hr : Bytes.WF random ∧ random.length = 32) :
    ∃ priv pub, generateKeypair ke password random = some (priv, pub) ∧
      publicKeyFromPrivateKey ke priv = some pub ∧
      parsePrivateKeyPair ke priv = some ⟨seedBytes ke password random, ke.pubOf (seedBytes ke password random)⟩ ∧
      parsePublicKey pub = some (ke.pubOf (seedBytes ke password random)) := by
  have hs : Bytes.WF (seedBytes ke password random) ∧ (seedBytes ke password random).length = 32 := by
    cases password with
    | none => exact hr
    | some pw => exact seed_wf ke h pw
  obtain ⟨priv, pub, e1, e2, p1, _, p3, _, p5⟩ := printed_parsed ke h _ hs.1 hs.2
  exact ⟨priv, pub, generateKeypair_printed ke password random priv pub hs.2 e1 e2, p5, p1, p3⟩

/-- **printed_pair_consistent**: what `generate_keypair` prints for a password is the pair `Crypto::new` derives
    from the same password: configuring the password, the printed private key, or both printed keys gives one and
    the same key pair, and the printed public key, configured as trusted key, is the public key of that pair. -/
theorem printed_pair_consistent (ke : KeyEnv) (h : KeyEnvWF ke) (pw random : Bytes) :
    ∃ priv pub kp, generateKeypair ke (some pw) random = some (priv, pub) ∧
      cryptoNew ke { password := some pw } = some (kp, [kp.pub]) ∧
      cryptoNew ke { privateKey := some priv } = some (kp, [kp.pub]) ∧
      cryptoNew ke { privateKey := some priv, publicKey := some pub } = some (kp, [kp.pub]) ∧
      cryptoNew ke { password := some pw, trustedKeys := [pub] } = some (kp, [kp.pub]) ∧
      parsePrivateKey priv = some kp.seed ∧ parsePublicKey pub = some kp.pub := by
  have hs := seed_wf ke h pw
  obtain ⟨priv, pub, e1, e2, p1, p2, p3, p4, _⟩ := printed_parsed ke h _ hs.1 hs.2
  refine ⟨priv, pub, ⟨seedOfPassword ke pw, ke.pubOf (seedOfPassword ke pw)⟩,
    generateKeypair_printed ke (some pw) random priv pub hs.2 e1 e2, password_config ke h pw, ?_, ?_, ?_, p4, p3⟩
  · simp only [cryptoNew, p1, parseTrusted]; rfl
  · simp only [cryptoNew, p2, parseTrusted]; rfl
  · rw [cryptoNew_password ke h _ pw rfl rfl]
    simp only [parseTrusted, p3]; rfl

/-- the same for a pair generated from random bytes -/
theorem random_pair_consistent (ke : KeyEnv) (h : KeyEnvWF ke) (random : Bytes)
    (hr : Bytes.WF random ∧ random.length = 32) :
    ∃ priv pub kp, generateKeypair ke none random = some (priv, pub) ∧ kp = ⟨random, ke.pubOf random⟩ ∧
      cryptoNew ke { privateKey := some priv } = some (kp, [kp.pub]) ∧
      cryptoNew ke { privateKey := some priv, publicKey := some pub } = some (kp, [kp.pub]) ∧
      parseTrusted [pub] = some [kp.pub] := by
  obtain ⟨priv, pub, e1, e2, p1, p2, p3, _, _⟩ := printed_parsed ke h random hr.1 hr.2
  refine ⟨priv, pub, ⟨random, ke.pubOf random⟩,
    generateKeypair_printed ke none random priv pub hr.2 e1 e2, rfl, ?_, ?_, ?_⟩
  · simp only [cryptoNew, p1, parseTrusted]; rfl
  · simp only [cryptoNew, p2, parseTrusted]; rfl
  · simp only [parseTrusted, p3]; rfl

/-- a public key that is not the one of the private key is refused (`Keys rejected by crypto library`) -/
theorem mismatched_pair_rejected (ke : KeyEnv) (priv pub : List Char) (a b : Bytes)
    (ha : keyFromBase62 priv = .ok a) (hb : keyFromBase62 pub = .ok b) (hne : ke.pubOf a ≠ b) (tr : List (List Char)) :
    cryptoNew ke { privateKey := some priv, publicKey := some pub, trustedKeys := tr } = none := by
  simp only [cryptoNew, parseKeypair, ha, hb, fromSeedAndPublicKey, hne, and_false, if_false]

/-! ## non-vacuity: a toy key environment -/

/-- toy primitives: the "PBKDF2" output is the length-prefixed password, padded; the "public key" the reversed seed -/
def toyKe : KeyEnv :=
  { pbkdf2 := fun it salt pw =>
      ((pw.length % 256) :: (pw.map (· % 256) ++ List.replicate 32 ((it + salt.length) % 256))).take 32,
    pubOf := fun s => (s.map (· % 256)).reverse }

theorem toyKe_wf : KeyEnvWF toyKe where
  kdf_wf := fun it salt pw => by
    constructor
    · apply Bytes.wf_take
      rw [Bytes.wf_cons, Bytes.wf_append]
      refine ⟨Nat.mod_lt _ (by decide), ?_, Bytes.wf_replicate _ _ (Nat.mod_lt _ (by decide))⟩
      intro b hb
      rw [List.mem_map] at hb
      obtain ⟨x, _, rfl⟩ := hb
      exact Nat.mod_lt _ (by decide)
    · show (List.take 32 _).length = 32
      rw [List.length_take]
      simp only [List.length_cons, List.length_append, List.length_map, List.length_replicate]
      omega
  pub_wf := fun seed hl => by
    constructor
    · intro b hb
      have hb' : b ∈ (seed.map (· % 256)).reverse := hb
      rw [List.mem_reverse, List.mem_map] at hb'
      obtain ⟨x, _, rfl⟩ := hb'
      exact Nat.mod_lt _ (by decide)
    · show ((seed.map (· % 256)).reverse).length = 32
      rw [List.length_reverse, List.length_map, hl]

theorem map_mod_wf (l : Bytes) (h : Bytes.WF l) : l.map (· % 256) = l := by
  induction l with
  | nil => rfl
  | cons x r ih =>
    rw [Bytes.wf_cons] at h
    rw [List.map_cons, ih h.2, Nat.mod_eq_of_lt h.1]

/-- the class of passwords on which the toy derivation is injective: proper bytes, at most 31 of them -/
def ToyPw (p : Bytes) : Prop := Bytes.WF p ∧ p.length ≤ 31

instance (p : Bytes) : Decidable (ToyPw p) := by unfold ToyPw; infer_instance

/-- I4 holds for the toy derivation on `ToyPw` -/
theorem toy_I4 : ∀ p q, ToyPw p → ToyPw q → seedOfPassword toyKe p = seedOfPassword toyKe q → p = q := by
  intro p q hp hq e
  have e' : (p.length % 256) :: (p ++ List.replicate 32 ((ITERATIONS + SALT.length) % 256)).take 31 =
      (q.length % 256) :: (q ++ List.replicate 32 ((ITERATIONS + SALT.length) % 256)).take 31 := by
    have := e
    simp only [seedOfPassword, toyKe, map_mod_wf p hp.1, map_mod_wf q hq.1] at this
    rwa [show (32 : Nat) = 31 + 1 from rfl, List.take_succ_cons, List.take_succ_cons] at this
  simp only [List.cons.injEq] at e'
  obtain ⟨el, et⟩ := e'
  have hlen : p.length = q.length := by have := hp.2; have := hq.2; omega
  have := congrArg (List.take p.length) et
  rw [List.take_take, List.take_take, Nat.min_eq_left hp.2, List.take_left, hlen, List.take_left] at this
  exact this

/-- I5 holds for the toy public key on proper bytes -/
theorem toy_I5_wf : ∀ s1 s2 : Bytes, Bytes.WF s1 → Bytes.WF s2 → toyKe.pubOf s1 = toyKe.pubOf s2 → s1 = s2 := by
  intro s1 s2 h1 h2 e
  simp only [toyKe, map_mod_wf s1 h1, map_mod_wf s2 h2] at e
  exact List.reverse_inj.mp e

def pwA : Bytes := "secret".toList.map Char.toNat
def pwB : Bytes := "secret ".toList.map Char.toNat   -- a trailing blank

example : ToyPw pwA ∧ ToyPw pwB ∧ pwA ≠ pwB := by decide
/-- the trailing blank changes the keys -/
example : seedOfPassword toyKe pwA ≠ seedOfPassword toyKe pwB :=
  different_password_different_keys toyKe ToyPw toy_I4 pwA pwB (by decide) (by decide) (by decide)
example : SALT.length = 32 ∧ Bytes.WF SALT := by decide +kernel
/-- all hypotheses of `same_password_same_keys` hold: two nodes, different other settings, same password -/
example (kpA kpB : KeyPair) (tA tB : List Bytes)
    (eA : cryptoNew toyKe { password := some pwA, publicKey := some "ignored".toList } = some (kpA, tA))
    (eB : cryptoNew toyKe { password := some pwA } = some (kpB, tB)) : kpA = kpB ∧ kpB.pub ∈ tA ∧ kpA.pub ∈ tB :=
  have := same_password_same_keys toyKe toyKe_wf pwA _ _ rfl rfl rfl rfl kpA kpB tA tB eA eB
  ⟨this.1, this.2.2.1 rfl, this.2.2.2 rfl⟩
example : cryptoNew toyKe { password := some pwA, publicKey := some "ignored".toList } =
      cryptoNew toyKe { password := some pwA } ∧
    (cryptoNew toyKe { password := some pwA }).isSome = true := by decide +kernel
example : ∃ priv pub kp, generateKeypair toyKe (some pwA) [] = some (priv, pub) ∧
    cryptoNew toyKe { password := some pwA } = some (kp, [kp.pub]) ∧
    cryptoNew toyKe { privateKey := some priv } = some (kp, [kp.pub]) ∧
    cryptoNew toyKe { privateKey := some priv, publicKey := some pub } = some (kp, [kp.pub]) ∧
    cryptoNew toyKe { password := some pwA, trustedKeys := [pub] } = some (kp, [kp.pub]) ∧
    parsePrivateKey priv = some kp.seed ∧ parsePublicKey pub = some kp.pub :=
  printed_pair_consistent toyKe toyKe_wf pwA []
/-- what key generation prints for a password under the toy primitives, as base-62 texts of two numbers
    (`toBase62_eq`): evaluated by a few divisions -/
theorem toy_printed (pw : Bytes) : generateKeypair toyKe (some pw) [] =
    some (Base62Lemmas.natText (Bytes.beVal (seedOfPassword toyKe pw)),
      Base62Lemmas.natText (Bytes.beVal (toyKe.pubOf (seedOfPassword toyKe pw)))) :=
  have hs := seed_wf toyKe toyKe_wf pw
  generateKeypair_printed toyKe (some pw) [] _ _ hs.2 (toBase62_eq _ hs.1) (toBase62_eq _ (toyKe_wf.pub_wf _ hs.2).1)

theorem ofList_eq {l : List Char} {s : String} (h : l = s.toList) : String.ofList l = s := h ▸ String.ofList_toList

/-- what is printed for the toy password -/
example : (generateKeypair toyKe (some pwA) []).map (fun x => (String.ofList x.1, String.ofList x.2)) =
    some ("1Wq4RY8roxOL7siPs7eZd28s9chyHTB5nF9JuqsTW4m", "7cJNA1WO7bqmHpVYkuAtW4a3eLxVe1swuEjjQ8lR7zC") := by
  rw [toy_printed]
  exact congrArg some (Prod.ext (ofList_eq (by rewrite [String.toList_ofList]; decide +kernel))
    (ofList_eq (by rewrite [String.toList_ofList]; decide +kernel)))
def printedA : List Char × List Char := (generateKeypair toyKe (some pwA) []).getD ([], [])
def printedB : List Char × List Char := (generateKeypair toyKe (some pwB) []).getD ([], [])
/-- a printed pair whose halves come from two different passwords is refused, the proper pair is accepted -/
example : generateKeypair toyKe (some pwA) [] = some printedA ∧ generateKeypair toyKe (some pwB) [] = some printedB ∧
    cryptoNew toyKe { privateKey := some printedA.1, publicKey := some printedB.2 } = none ∧
    (cryptoNew toyKe { privateKey := some printedA.1, publicKey := some printedA.2 }).isSome = true := by
  have eA : generateKeypair toyKe (some pwA) [] = some printedA := by rw [printedA, toy_printed]; rfl
  have eB : generateKeypair toyKe (some pwB) [] = some printedB := by rw [printedB, toy_printed]; rfl
  refine ⟨eA, eB, ?_⟩
  have sA := seed_wf toyKe toyKe_wf pwA
  have sB := seed_wf toyKe toyKe_wf pwB
  have pA := toyKe_wf.pub_wf _ sA.2
  have pB := toyKe_wf.pub_wf _ sB.2
  obtain ⟨privA, a1, ka, _⟩ := generated_key_accepted _ sA.1 sA.2
  obtain ⟨pubA, a2, kpa, _⟩ := generated_key_accepted _ pA.1 pA.2
  obtain ⟨privB, b1, _⟩ := generated_key_accepted _ sB.1 sB.2
  obtain ⟨pubB, b2, kpb, _⟩ := generated_key_accepted _ pB.1 pB.2
  rw [generateKeypair_printed toyKe (some pwA) [] _ _ sA.2 a1 a2, Option.some.injEq] at eA
  rw [generateKeypair_printed toyKe (some pwB) [] _ _ sB.2 b1 b2, Option.some.injEq] at eB
  rw [← eA, ← eB]
  -- the two seeds differ (`toy_I4`), so do their public keys (`toy_I5_wf`)
  refine ⟨mismatched_pair_rejected toyKe privA pubB _ _ ka kpb (fun e => ?_) [], ?_⟩
  · exact absurd (toy_I4 _ _ (by decide) (by decide) (toy_I5_wf _ _ sA.1 sB.1 e)) (by decide)
  · simp only [cryptoNew, parseKeypair, ka, kpa, fromSeedAndPublicKey, parseTrusted]
    rw [if_pos ⟨sA.2, trivial⟩]; rfl

end VpnCloud.Proofs.C18More
