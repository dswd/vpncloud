import VpnCloud.Proofs.Lemmas.Codec.InitMsgLemmas
/-
  C16 (handshake-message part): what `InitMsg::write_to` writes, `InitMsg::read_from` reads back exactly,
  whatever follows it in the buffer.
-/
namespace VpnCloud.Proofs.C16Init
open VpnCloud.InitMsg VpnCloud.Proofs.InitMsgLemmas

/-- **initmsg_roundtrip**: a written message is read back exactly, by the first trusted key whose salted hash matches, with arbitrary bytes behind it -/
theorem initmsg_roundtrip (env : CryptoEnv) (m : InitMsg) (salt sig tail : Bytes) (k : Bytes) (T : List Bytes)
    (hm : msgWF m) (hsalt : salt.length = 4) (hkh : (env.keyHash k salt).length = 4) (hsig : sig.length < 256)
    (hk : T.find? (fun tk => env.keyHash tk salt = env.keyHash k salt) = some k)
    (hv : env.sigVerify k (signedRegion m salt (env.keyHash k salt)) sig = true) :
    readFrom env (writeTo m salt (env.keyHash k salt) sig ++ tail) T = .ok (m, k) := by
  rw [signedRegion_eq] at hv
  unfold writeTo
  rw [signedRegion_eq, readFrom_chain env salt _ sig tail k T _ (fieldsOf m) hsalt hkh hsig hk
    (chain_parts m hm) hv, assemble_fieldsOf]

/-! ### non-vacuity -/

private def toyEnv : CryptoEnv :=
  { keyHash := fun k s => (k ++ s).take 4, nodeHash := fun s i => (s ++ i).take 16, sigVerify := fun k m s => s = k.take 2 ++ m.take 2 }

private def h20 : Bytes := List.replicate 20 7
private def toyPong : InitMsg := .pong h20 [1, 2, 3] ⟨[(.aes256, 1000), (.chacha, 4000000000)], true⟩ [9, 9]

private theorem toyPong_wf : msgWF toyPong := by
  refine ⟨by decide, by decide, ⟨?_, by decide⟩, by decide⟩
  intro p hp
  simp at hp
  rcases hp with rfl | rfl <;> decide

/-- core Lean gives `Except` no `DecidableEq` (the instance of `InitLemmas` is not imported here): compare results through this
    Boolean test -/
private def isOk (r : Except InitErr (InitMsg × Bytes)) (m : InitMsg) (k : Bytes) : Bool :=
  match r with
  | .ok (m', k') => m' = m ∧ k' = k
  | .error _ => false

private theorem isOk_iff (r : Except InitErr (InitMsg × Bytes)) (m : InitMsg) (k : Bytes) : isOk r m k = true ↔ r = .ok (m, k) := by
  unfold isOk
  split
  · simp
  · simp

/-- the conclusion of `initmsg_roundtrip` on a concrete instance, checked by evaluation -/
example : readFrom toyEnv (writeTo toyPong [5, 6, 7, 8] (toyEnv.keyHash [1, 2, 3, 4, 5] [5, 6, 7, 8]) [1, 2, 5, 6] ++ [42, 43]) [[8, 8, 8, 8], [1, 2, 3, 4, 5]]
    = .ok (toyPong, [1, 2, 3, 4, 5]) := (isOk_iff _ _ _).1 (by decide +kernel)

/-- all hypotheses of `initmsg_roundtrip` hold on that instance, so the theorem applies to it -/
example : readFrom toyEnv (writeTo toyPong [5, 6, 7, 8] (toyEnv.keyHash [1, 2, 3, 4, 5] [5, 6, 7, 8]) [1, 2, 5, 6] ++ [42, 43]) [[8, 8, 8, 8], [1, 2, 3, 4, 5]]
    = .ok (toyPong, [1, 2, 3, 4, 5]) :=
  initmsg_roundtrip toyEnv toyPong [5, 6, 7, 8] [1, 2, 5, 6] [42, 43] [1, 2, 3, 4, 5] [[8, 8, 8, 8], [1, 2, 3, 4, 5]]
    toyPong_wf (by decide) (by decide) (by decide) (by decide +kernel) (by decide +kernel)

example : toyEnv.sigVerify [1, 2, 3, 4, 5] (signedRegion toyPong [5, 6, 7, 8] (toyEnv.keyHash [1, 2, 3, 4, 5] [5, 6, 7, 8])) [1, 2, 5, 6] = true := by
  decide +kernel

/-- speeds that do not fit 32 bits are not read back (the reason for `algosWF`) -/
example : readFrom toyEnv (writeTo (.ping h20 [] ⟨[(.aes128, 2 ^ 32 + 1)], false⟩) [5, 6, 7, 8] (toyEnv.keyHash [1, 2, 3, 4, 5] [5, 6, 7, 8]) [1, 2, 5, 6]) [[1, 2, 3, 4, 5]]
    = .ok (.ping h20 [] ⟨[(.aes128, 1)], false⟩, [1, 2, 3, 4, 5]) := (isOk_iff _ _ _).1 (by decide +kernel)

end VpnCloud.Proofs.C16Init
