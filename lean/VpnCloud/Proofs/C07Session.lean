import VpnCloud.Proofs.Lemmas.Core.C07SessionLemmas
import VpnCloud.Proofs.C16More
/-
  C07 at the level of `PeerCrypto` sessions.

  The theorem `Rot.rotation_sync` (`C07.lean`) is about the symbolic two-party system `Rot.Sys`.  Here it is tied to the session
  layer (`Model/PeerCrypto.lean`): two established sessions, each with its rotation state (`rot = some sd`) and crypto core
  (`core = some c`), the datagrams each has emitted, and the session operations `every_second`, `handle_message`, `send_message`.

  * `abs`: the abstraction to `Rot.Sys`; `refinement`: every session-level step is a step `StepF` of the symbolic system (a `cycle` of
    one end, the delivery (`process`) of a message the other end has sent, or nothing) and keeps the coupling invariant `Good`;
    `core_slots_are_rot_slots`: the key slots of the core (`slots[id % 4]`) are the slots of the rotation state.
  * `session_rotation_sync`: in every state reachable from a completed handshake by ticks, deliveries (any order, any multiplicity, or
    never) and payload traffic, the slot a session seals with holds at the peer the same key reference under the same index;
    `fresh_payload_opens`: so `session_roundtrip` applies at every instant.
  * `completion_responder` / `completion_initiator`: `handle_init_message` at the end of the handshake creates the initial states.
  * `rotation_period`, `lockstep_session`, `lost_message_only_delays`.

  Hypotheses (all in `Op` / `InitPair`):
  - A1 (log consistency, ideal AEAD `L1`): the ciphertext bytes a session emitted are viewed by `bodyOf` as what was sealed;
  - the two sessions start with the same master key reference (`L2`: the handshake's key agreement commutes, `C05.masterKey_comm_wf`);
  - public keys are 32-byte numbers (`< 2^256`), rotation ids stay below `2^64`.
  Panics: the steps of the two-session system (`Op`) are the `.ok` / `.err` outcomes of the session operations; a panicking
  `handle_message` (`take_prefix` on an empty plaintext; `derive_key(..).unwrap()` on a rotation message whose keys are not 32 bytes
  long, `PeerCrypto.rotatePanics`) ends the run and is no step.  `RotPanic.honest_sessions_never_panic` shows that no datagram one of
  the two sessions has emitted makes the other panic, so nothing is lost.
  NOT needed: freshness / injectivity of key material (`I3`): synchronisation needs only that equal symbolic keys get equal
  references; commutativity of the rotation key agreement is built into `Rot.K` (`K_comm`).
-/
namespace VpnCloud.Proofs.C07Session

open VpnCloud.Rot VpnCloud.Codec
open VpnCloud.Proofs.SessionInvLemmas VpnCloud.Proofs.C07SessionLemmas

/-- two sessions (one at each node, for each other) and the sealed datagrams each has emitted so far -/
structure SSys where
  x : PeerCrypto
  y : PeerCrypto
  sentX : List Bytes
  sentY : List Bytes

section
variable (env : CryptoEnv) (bodyOf : Init.BodyOf) (payloadOk : Bytes → Bool)

/-- one operation of the session `pc` (`own`: datagrams it has emitted, `peer`: datagrams the other session has emitted):
    * `tick`: `every_second` (any randomness with a 32-byte public key); a sealed output is added to `own`;
    * `recv`: `handle_message` on ANY datagram the peer ever emitted (any number of times, any order; never = loss), any stale buffer tail;
    * `send`: `send_message` of a payload message (any type but ROTATION).
    Operations that end in an error still change the session (`tickErr`, `recvErr`). -/
inductive Op (pc : PeerCrypto) (own peer : List Bytes) : PeerCrypto → List Bytes → Prop
  | tick (rr : RotRand) (pc' : PeerCrypto) (out : Bytes) (res : MsgResult) (log : Init.SealLog)
      (hf : rr.freshProp < 2 ^ 256) (hid : ∀ sd, pc.rot = some sd → sd.id + 2 < 2 ^ 64)
      (h : PeerCrypto.everySecond pc rr = .ok pc' out res log) (hlog : ∀ e ∈ log, bodyOf e.1 = e.2) :
      Op pc own peer pc' (if log.isEmpty then own else out :: own)
  | tickErr (rr : RotRand) (pc' : PeerCrypto) (e : InitErr) (hf : rr.freshProp < 2 ^ 256)
      (h : PeerCrypto.everySecond pc rr = .err pc' e) : Op pc own peer pc' own
  | recv (d : Bytes) (hd : d ∈ peer) (tail : Bytes) (rnd : Rand) (rr : RotRand) (hf : rr.freshPend < 2 ^ 256)
      (pc' : PeerCrypto) (out : Bytes) (res : MsgResult) (log : Init.SealLog)
      (h : PeerCrypto.handleMessage env bodyOf payloadOk pc d tail rnd rr = .ok pc' out res log) : Op pc own peer pc' own
  | recvErr (d : Bytes) (hd : d ∈ peer) (tail : Bytes) (rnd : Rand) (rr : RotRand) (hf : rr.freshPend < 2 ^ 256)
      (pc' : PeerCrypto) (e : InitErr)
      (h : PeerCrypto.handleMessage env bodyOf payloadOk pc d tail rnd rr = .err pc' e) : Op pc own peer pc' own
  | send (ty : Nat) (body ct : Bytes) (pc' : PeerCrypto) (bytes : Bytes) (log : Init.SealLog)
      (hty : ty ≠ Generated.MESSAGE_TYPE_ROTATION)
      (h : PeerCrypto.sendMessage pc ty body ct = (pc', .ok (bytes, log))) (hlog : ∀ e ∈ log, bodyOf e.1 = e.2) :
      Op pc own peer pc' (bytes :: own)

inductive SStep : SSys → SSys → Prop
  | x (s : SSys) (pc' : PeerCrypto) (own' : List Bytes) (o : Op env bodyOf payloadOk s.x s.sentX s.sentY pc' own') :
      SStep s { s with x := pc', sentX := own' }
  | y (s : SSys) (pc' : PeerCrypto) (own' : List Bytes) (o : Op env bodyOf payloadOk s.y s.sentY s.sentX pc' own') :
      SStep s { s with y := pc', sentY := own' }

/-- the rotation state of a session (all statements below are about sessions with `rot = some _`, see `Good`) -/
def sideOf (pc : PeerCrypto) : Side := pc.rot.getD (PeerCrypto.initSide false 0)

/-- **the abstraction**: the two rotation states and the rotation messages among the emitted datagrams -/
def abs (s : SSys) : Sys :=
  { x := sideOf s.x, y := sideOf s.y, sentX := absSent bodyOf s.sentX, sentY := absSent bodyOf s.sentY, fresh := 0 }

theorem sideOf_sess {pc : PeerCrypto} {sd : Side} {c : Core} (h : Sess pc sd c) : sideOf pc = sd := by
  simp [sideOf, h.rot]

/-- emitted transport datagrams never carry the handshake marker -/
def NoMarker (l : List Bytes) : Prop := ∀ d ∈ l, d.head? ≠ some Generated.INIT_MESSAGE_FIRST_BYTE

/-- the coupling invariant: both sessions are established and encrypted with rotation state and core coupled (`Sess`), they agree on
    the master key reference, their cores use opposite halves of the nonce space, and the abstraction satisfies `InvL4` (`RotLemmas.lean`):
    the inductive invariant `Rot.Inv` of `C07.lean` (`Good.inv`) and "the end that is ahead has sent a message with its current id" -/
structure Good (s : SSys) : Prop where
  ex : ∃ cx cy, Sess s.x (sideOf s.x) cx ∧ Sess s.y (sideOf s.y) cy ∧ cy.half = !cx.half
  master : s.x.master = s.y.master
  hdrX : NoMarker s.sentX
  hdrY : NoMarker s.sentY
  invL : InvL4 (sideOf s.x) (sideOf s.y) (absSent bodyOf s.sentX) (absSent bodyOf s.sentY)

theorem Good.inv {s : SSys} (h : Good bodyOf s) : Inv (abs bodyOf s) := invL_inv h.invL

theorem head_ne_marker {hdr ct : Bytes} {cur : Nat} (hh : hdr.head? = some cur) (hc : cur < 4) :
    (hdr ++ ct).head? ≠ some Generated.INIT_MESSAGE_FIRST_BYTE := by
  cases hdr with
  | nil => cases hh
  | cons b r =>
    simp only [List.head?_cons, Option.some.injEq] at hh
    subst hh
    simp only [List.cons_append, List.head?_cons, Option.some.injEq, Generated.INIT_MESSAGE_FIRST_BYTE, ne_eq]
    omega

theorem absSent_cons (d : Bytes) (l : List Bytes) :
    absSent bodyOf (d :: l) = addMsg (absSent bodyOf l) (rotOf bodyOf d) := by
  unfold absSent
  rw [List.filterMap_cons]
  cases rotOf bodyOf d <;> rfl

theorem noMarker_cons {own : List Bytes} {hdr ct : Bytes} {cur : Nat} (hown : NoMarker own) (hh : hdr.head? = some cur) (hc : cur < 4) :
    NoMarker ((hdr ++ ct) :: own) := by
  intro d hd
  rcases List.mem_cons.1 hd with rfl | hd
  · exact head_ne_marker hh hc
  · exact hown d hd

theorem absSent_sealed (own : List Bytes) {hdr ct plain : Bytes} {key n : Nat} (hl : hdr.length = 8) (hb : bodyOf ct = .sealed key n plain) :
    absSent bodyOf ((hdr ++ ct) :: own) = addMsg (absSent bodyOf own) (match plain with
      | ty :: body => if ty = Generated.MESSAGE_TYPE_ROTATION then (readRotMsg body).map PeerCrypto.rotMsgOfBytes else none
      | [] => none) := by
  rw [absSent_cons, rotOf_sealed bodyOf _ key n plain ((List.drop_left' hl).symm ▸ hb)]
  cases plain <;> rfl

theorem op_eff {pc pc' : PeerCrypto} {own peer own' : List Bytes} {sd : Side} {c : Core} (h : Sess pc sd c)
    (hpeer : NoMarker peer) (o : Op env bodyOf payloadOk pc own peer pc' own') :
    ∃ sd' c', Sess pc' sd' c' ∧ pc'.master = pc.master ∧ c'.half = c.half ∧
      ((own' = own ∧ ROp sd (absSent bodyOf own) (absSent bodyOf peer) sd' (absSent bodyOf own)) ∨
       ∃ hdr ct key n plain, own' = (hdr ++ ct) :: own ∧ hdr.length = 8 ∧ hdr.head? = some sd.cur ∧ bodyOf ct = .sealed key n plain ∧
         ((∃ f m, (cycle sd f).2 = some m ∧ sd' = (cycle sd f).1 ∧
             plain = Generated.MESSAGE_TYPE_ROTATION :: writeRotMsg (PeerCrypto.rotMsgToBytes m) ∧
             (readRotMsg (writeRotMsg (PeerCrypto.rotMsgToBytes m))).map PeerCrypto.rotMsgOfBytes = some m) ∨
          (sd' = sd ∧ ∃ ty body, ty ≠ Generated.MESSAGE_TYPE_ROTATION ∧ plain = ty :: body))) := by
  cases o with
  | tick rr pc' out res log hf hid he hlog =>
    have := everySecond_eff h rr hf
    rw [he] at this
    obtain ⟨hm, c', hh, hcase⟩ := this
    rcases hcase with ⟨hs, hl⟩ | ⟨hs, hout⟩
    · subst hl
      exact ⟨sd, c', hs, hm, hh, Or.inl ⟨rfl, ROp.stutter⟩⟩
    · refine ⟨_, c', hs, hm, hh, ?_⟩
      cases hcy : (cycle sd rr.freshProp).2 with
      | none =>
        rw [hcy] at hout
        obtain ⟨hl, _⟩ := hout
        subst hl
        have := ROp.cycle (A := sd) (sa := absSent bodyOf own) (sb := absSent bodyOf peer) rr.freshProp
        rw [hcy] at this
        exact Or.inl ⟨rfl, this⟩
      | some m =>
        rw [hcy] at hout
        obtain ⟨hdr, key, n, hl8, hhd, ho, hl⟩ := hout
        subst hl ho
        obtain ⟨b1, b2, b3⟩ := cycle_msg_small h.ok hf (hid sd h.rot) hcy
        exact Or.inr ⟨hdr, rr.ct, key, n, _, rfl, hl8, hhd, hlog (rr.ct, _) (List.mem_singleton.2 rfl),
          Or.inl ⟨rr.freshProp, m, hcy, rfl, rfl, rotMsg_wire_roundtrip m b1 b2 b3⟩⟩
  | tickErr rr pc' e hf he =>
    have := everySecond_eff h rr hf
    rw [he] at this
    obtain ⟨c', hs, hm, hh⟩ := this
    exact ⟨sd, c', hs, hm, hh, Or.inl ⟨rfl, ROp.stutter⟩⟩
  | recv d hd tail rnd rr hf pc' out res log he =>
    have := handleMessage_eff h env bodyOf payloadOk d tail rnd rr hf (hpeer d hd)
    rw [he] at this
    obtain ⟨hm, c', hh, hcase⟩ := this
    rcases hcase with ⟨_, hs⟩ | ⟨_, m, hrot, hs⟩
    · exact ⟨sd, c', hs, hm, hh, Or.inl ⟨rfl, ROp.stutter⟩⟩
    · exact ⟨_, c', hs, hm, hh, Or.inl ⟨rfl, ROp.deliver m (List.mem_filterMap.2 ⟨d, hd, hrot⟩) rr.freshPend⟩⟩
  | recvErr d hd tail rnd rr hf pc' e he =>
    have := handleMessage_eff h env bodyOf payloadOk d tail rnd rr hf (hpeer d hd)
    rw [he] at this
    obtain ⟨c', hs, hm, hh⟩ := this
    exact ⟨sd, c', hs, hm, hh, Or.inl ⟨rfl, ROp.stutter⟩⟩
  | send ty body ct pc' bytes log hty he hlog =>
    obtain ⟨c', hdr, key, n, hs, hsame, hl8, hhd⟩ := sendMessage_eff h ty body ct
    rw [hs] at he
    simp only [Prod.mk.injEq, Except.ok.injEq] at he
    obtain ⟨rfl, rfl, rfl⟩ := he
    exact ⟨sd, c', h.withCore hsame, rfl, hsame.half, Or.inr ⟨hdr, ct, key, n, _, rfl, hl8, hhd,
      hlog (ct, _) (List.mem_singleton.2 rfl), Or.inr ⟨rfl, ty, body, hty, rfl⟩⟩⟩

theorem op_refines {pc pc' : PeerCrypto} {own peer own' : List Bytes} {sd : Side} {c : Core} (h : Sess pc sd c)
    (hpeer : NoMarker peer) (hown : NoMarker own) (o : Op env bodyOf payloadOk pc own peer pc' own') :
    ∃ sd' c', Sess pc' sd' c' ∧ pc'.master = pc.master ∧ c'.half = c.half ∧ NoMarker own' ∧
      ROp sd (absSent bodyOf own) (absSent bodyOf peer) sd' (absSent bodyOf own') := by
  obtain ⟨sd', c', hs, hm, hh, hcase⟩ := op_eff env bodyOf payloadOk h hpeer o
  refine ⟨sd', c', hs, hm, hh, ?_⟩
  rcases hcase with ⟨rfl, hr⟩ | ⟨hdr, ct, key, n, plain, rfl, hl8, hhd, hb, hplain⟩
  · exact ⟨hown, hr⟩
  · refine ⟨noMarker_cons hown hhd h.ok.curlt, ?_⟩
    rw [absSent_sealed bodyOf own hl8 hb]
    rcases hplain with ⟨f, m, hcy, rfl, rfl, hwire⟩ | ⟨rfl, ty, body, hty, rfl⟩
    · simp only [if_true, hwire, ← hcy]
      exact ROp.cycle f
    · simp only [hty, if_false]
      exact ROp.stutter

theorem op_good {pc other pc' : PeerCrypto} {own peer own' : List Bytes} {c : Core} (hs : Sess pc (sideOf pc) c)
    (hinv : InvL4 (sideOf pc) (sideOf other) (absSent bodyOf own) (absSent bodyOf peer))
    (hpeer : NoMarker peer) (hown : NoMarker own) (o : Op env bodyOf payloadOk pc own peer pc' own') :
    ∃ c', Sess pc' (sideOf pc') c' ∧ pc'.master = pc.master ∧ c'.half = c.half ∧ NoMarker own' ∧
      InvL4 (sideOf pc') (sideOf other) (absSent bodyOf own') (absSent bodyOf peer) ∧
      ROp (sideOf pc) (absSent bodyOf own) (absSent bodyOf peer) (sideOf pc') (absSent bodyOf own') := by
  obtain ⟨sd', c', hs', hm, hh, hno, hr⟩ := op_refines env bodyOf payloadOk hs hpeer hown o
  cases sideOf_sess hs'
  exact ⟨c', hs', hm, hh, hno, invL4_rop hinv hr, hr⟩

/-- **refinement `PeerCrypto` ⊑ `Rot`**: every step of the two-session system — a tick of either session (in particular the one on which
    the rotate counter reaches `ROTATE_INTERVAL` and a rotation message is sealed), the handling of any datagram the peer ever emitted (in
    particular a genuine sealed rotation message → `handle_rotate_message` → `rotate_key`), a payload send — is a step of the symbolic
    system on the abstraction (`cycle`, resp. `deliver`, resp. no change), and the coupling invariant is kept -/
theorem refinement {s t : SSys} (h : Good bodyOf s) (st : SStep env bodyOf payloadOk s t) :
    Good bodyOf t ∧ StepF (abs bodyOf s) (abs bodyOf t) := by
  obtain ⟨cx, cy, hx, hy, hhalf⟩ := h.ex
  cases st with
  | x pc' own' o =>
    obtain ⟨c', hs, hm, hh, hno, hinv, hr⟩ := op_good env bodyOf payloadOk hx h.invL h.hdrY h.hdrX o
    exact ⟨⟨⟨c', cy, hs, hy, by rw [hh]; exact hhalf⟩, hm.trans h.master, hno, h.hdrY, hinv⟩, Or.inl ⟨hr, rfl, rfl⟩⟩
  | y pc' own' o =>
    obtain ⟨c', hs, hm, hh, hno, hinv, hr⟩ := op_good env bodyOf payloadOk hy (invL4_symm h.invL) h.hdrX h.hdrY o
    exact ⟨⟨⟨cx, c', hx, hs, by rw [hh]; exact hhalf⟩, h.master.trans hm.symm, h.hdrX, hno, invL4_symm hinv⟩, Or.inr ⟨hr, rfl, rfl⟩⟩

/-- **the key slots of the `Core` are the `Rot` slots**: in a good state the core of a session has four slots, seals with the slot the
    rotation state names, and every slot `i = id % 4` in which the rotation state holds agreed key material holds the reference
    `keyRefOf master` of exactly that material -/
theorem core_slots_are_rot_slots {s : SSys} (h : Good bodyOf s) :
    ∃ cx cy, s.x.core = some cx ∧ s.y.core = some cy ∧ cx.slots.length = 4 ∧ cy.slots.length = 4 ∧
      cx.cur = (abs bodyOf s).x.cur ∧ cy.cur = (abs bodyOf s).y.cur ∧
      (∀ i, i < 4 → NonDummy ((abs bodyOf s).x.slots i) →
        cx.slots[i]?.map (·.key) = some (PeerCrypto.keyRefOf s.x.master ((abs bodyOf s).x.slots i))) ∧
      (∀ i, i < 4 → NonDummy ((abs bodyOf s).y.slots i) →
        cy.slots[i]?.map (·.key) = some (PeerCrypto.keyRefOf s.y.master ((abs bodyOf s).y.slots i))) := by
  obtain ⟨cx, cy, hx, hy, _⟩ := h.ex
  refine ⟨cx, cy, hx.core, hy.core, hx.cpl.len, hy.cpl.len, hx.cpl.cur, hy.cpl.cur, ?_, ?_⟩
  · intro i hi hn
    have := hx.cpl.keys i hi hn
    simpa [keysOf, abs] using this
  · intro i hi hn
    have := hy.cpl.keys i hi hn
    simpa [keysOf, abs] using this

/-- the pair of sessions right after a completed handshake (`completion_responder` / `completion_initiator` below show that
    `handle_init_message` produces them): `x` is the session of the handshake RESPONDER — it starts the rotation (`initSide true p`, having
    sealed the first rotation message `⟨1, p, none⟩`) — `y` the one of the handshake initiator; both cores hold the master key in slot 0
    and seal with it -/
structure InitPair (s : SSys) : Prop where
  ex : ∃ p cx cy, p < 2 ^ 256 ∧ Sess s.x (PeerCrypto.initSide true p) cx ∧ Sess s.y (PeerCrypto.initSide false 0) cy ∧
    cy.half = !cx.half ∧ absSent bodyOf s.sentX = [⟨1, p, none⟩]
  master : s.x.master = s.y.master
  hdrX : NoMarker s.sentX
  sentY : s.sentY = []

theorem good_init {s : SSys} (h : InitPair bodyOf s) : Good bodyOf s := by
  obtain ⟨p, cx, cy, _, hx, hy, hh, hsx⟩ := h.ex
  have ex : sideOf s.x = PeerCrypto.initSide true p := sideOf_sess hx
  have ey : sideOf s.y = PeerCrypto.initSide false 0 := sideOf_sess hy
  refine ⟨⟨cx, cy, by rw [ex]; exact hx, by rw [ey]; exact hy, hh⟩, h.master, h.hdrX, (by rw [h.sentY]; intro d hd; cases hd), ?_⟩
  rw [ex, ey, hsx, h.sentY]
  exact Or.inl ⟨ahead_start p _ _ rfl, _, List.mem_singleton.2 rfl, rfl⟩

/-- states reachable from a completed handshake by any sequence of session operations -/
inductive SReachable : SSys → Prop
  | init {s : SSys} (h : InitPair bodyOf s) : SReachable s
  | step {s t : SSys} (h : SReachable s) (st : SStep env bodyOf payloadOk s t) : SReachable t

theorem good_reachable {s : SSys} (h : SReachable env bodyOf payloadOk s) : Good bodyOf s := by
  induction h with
  | init h => exact good_init bodyOf h
  | step _ st ih => exact (refinement env bodyOf payloadOk ih st).1

theorem abs_sync {s : SSys} (h : SReachable env bodyOf payloadOk s) : Sync (abs bodyOf s) :=
  inv_sync (good_reachable env bodyOf payloadOk h).inv

theorem slot_of_keys {c : Core} {i : Nat} {r : KeyRef} (h : (keysOf c)[i]? = some r) : ∃ k, c.slots[i]? = some k ∧ k.key = r := by
  simp only [keysOf, List.getElem?_map, Option.map_eq_some_iff] at h
  exact h

/-- where the rotation states agree on the slot `x` seals with, the core of `y` holds under that index the key reference `x` seals with -/
theorem sess_peer_slot {x y : PeerCrypto} {sx sy : Side} {cx cy : Core} (hx : Sess x sx cx) (hy : Sess y sy cy)
    (hm : x.master = y.master) (hs : sx.slots sx.cur = sy.slots sx.cur) :
    cx.cur < 4 ∧ ∃ kx ky, cx.slots[cx.cur]? = some kx ∧ cy.slots[cx.cur]? = some ky ∧ ky.key = kx.key := by
  have nx := hx.ok.curnd
  obtain ⟨kx, hkx, ekx⟩ := slot_of_keys (hx.cpl.keys _ hx.ok.curlt nx)
  obtain ⟨ky, hky, eky⟩ := slot_of_keys (hy.cpl.keys _ hx.ok.curlt (hs ▸ nx))
  rw [hx.cpl.cur]
  exact ⟨hx.ok.curlt, kx, ky, hkx, hky, by rw [eky, ekx, ← hs, hm]⟩

/-- **session_rotation_sync** (C07 at session level): in every state of two sessions reachable from a completed handshake by ticks at
    either side, delivery — in any order, any number of times, or never — of the datagrams they sealed (rotation messages and payload),
    and payload sends, with any relative timing: both sessions are encrypted and have a core, and the slot a session currently seals with
    (`core.cur`) holds at the PEER a key with the same key reference (= identical key material) under the same slot index.  So the
    key-related hypotheses `hs hr hcur hkey hhalf` of `session_roundtrip` hold at every instant, in both directions. -/
theorem session_rotation_sync {s : SSys} (h : SReachable env bodyOf payloadOk s) :
    ∃ cx cy kx ky kx' ky', s.x.core = some cx ∧ s.y.core = some cy ∧ s.x.unencrypted = false ∧ s.y.unencrypted = false ∧
      cx.cur < 4 ∧ cy.cur < 4 ∧ cy.half = !cx.half ∧
      cx.slots[cx.cur]? = some kx ∧ cy.slots[cx.cur]? = some ky' ∧ ky'.key = kx.key ∧
      cy.slots[cy.cur]? = some ky ∧ cx.slots[cy.cur]? = some kx' ∧ kx'.key = ky.key := by
  have hg := good_reachable env bodyOf payloadOk h
  obtain ⟨cx, cy, hx, hy, hh⟩ := hg.ex
  obtain ⟨s1, s2⟩ := inv_sync hg.inv
  obtain ⟨lx, kx, ky', a1, a2, a3⟩ := sess_peer_slot hx hy hg.master s1
  obtain ⟨ly, ky, kx', b1, b2, b3⟩ := sess_peer_slot hy hx hg.master.symm s2
  exact ⟨cx, cy, kx, ky, kx', ky', hx.core, hy.core, hx.enc, hy.enc, lx, ly, hh, a1, a2, a3, b1, b2, b3⟩

open VpnCloud.Spec.C04 in
/-- **fresh payload is always decryptable by the peer**: in every reachable state, what `x` seals now (`send_message`, any type but
    ROTATION) is opened by `y` as exactly that message — provided the nonce is acceptable (`hsend hv hmin`: the counter of `x`'s sealing
    slot fits 56 bits and is not below the floor of the replay window of `y`'s slot; these are the subject of C02/C04, not of the
    rotation) and the AEAD view is consistent (`hbody`).  Which slot and which keys: supplied by `session_rotation_sync`. -/
theorem fresh_payload_opens {s : SSys} (h : SReachable env bodyOf payloadOk s) (ty : Nat) (data ct bytes tail : Bytes)
    (x' : PeerCrypto) (log : Init.SealLog) (rnd : Rand) (rr : RotRand) (hty : ty ≠ Generated.MESSAGE_TYPE_ROTATION)
    (hsm : PeerCrypto.sendMessage s.x ty data ct = (x', .ok (bytes, log))) (hbody : ∀ e ∈ log, bodyOf e.1 = e.2)
    (hnonce : ∀ cx cy kx ky, s.x.core = some cx → s.y.core = some cy → cx.slots[cx.cur]? = some kx → cy.slots[cx.cur]? = some ky →
      ∃ v, kx.send + 1 = base cx.half + v ∧ v < 2 ^ 56 ∧ ky.min ≤ kx.send + 1) :
    ∃ y', PeerCrypto.handleMessage env bodyOf payloadOk s.y bytes tail rnd rr = .ok y' [] (.message ty data) [] := by
  obtain ⟨cx, cy, kx, ky, kx', ky', hcx, hcy, hux, huy, hcur, _, hhalf, hkx, hky', hkey, _⟩ := session_rotation_sync env bodyOf payloadOk h
  obtain ⟨v, hsend, hv, hmin⟩ := hnonce cx cy kx ky' hcx hcy hkx hky'
  exact C10MoreLemmas.session_roundtrip env bodyOf payloadOk s.x s.y x' cx cy kx ky' v ty data ct bytes tail log rnd rr hux huy hcx hcy hkx hky'
    hcur hkey hhalf hsend hv hmin hty hsm hbody

theorem sess_success {pc : PeerCrypto} {ist' : InitSt} {c0 : Core} (b : Bool) (p : Nat) (hp : p < 2 ^ 256)
    (hc : ist'.crypto = some c0) (hlen : c0.slots.length = 4) (hcur : c0.cur = 0) :
    Sess { successPc pc ist' with rot := some (PeerCrypto.initSide b p) } (PeerCrypto.initSide b p) c0 ∧
      (successPc pc ist').master = (c0.slots[0]?.map (·.key)).getD 0 := by
  have hm : (successPc pc ist').master = (c0.slots[0]?.map (·.key)).getD 0 := by simp [successPc, hc]
  exact ⟨sess_initSide b p hp rfl (by simp [successPc, hc]) (by simp [successPc, hc]) hm hlen hcur, hm⟩

/-- **the handshake responder starts the rotation at completion**: when `handle_init_message` completes the handshake at the responder
    (`Init.handleInit` reports `success … false`, its core `c0` has four slots and seals with slot 0), the session becomes an established,
    coupled session with rotation state `initSide true p` (`p` = the public key of a new ephemeral pair) and the reply is the first rotation
    message `⟨1, p, none⟩`, sealed as type `MESSAGE_TYPE_ROTATION` -/
theorem completion_responder (pc : PeerCrypto) (ist ist' : InitSt) (w out payload : Bytes) (ilog : Init.SealLog) (rnd : Rand) (rr : RotRand)
    (c0 : Core) (hi : pc.init = some ist)
    (hh : Init.handleInit env bodyOf payloadOk ist w rnd = .ok ist' (out, .success payload false, ilog))
    (hc : ist'.crypto = some c0) (hlen : c0.slots.length = 4) (hcur : c0.cur = 0) (hp : rr.freshProp < 2 ^ 256) :
    ∃ pc2 c' bytes log, PeerCrypto.handleInitMessage env bodyOf payloadOk pc w rnd rr =
        .ok pc2 bytes (.initializedWithReply payload) (ilog ++ log) ∧
      Sess pc2 (PeerCrypto.initSide true rr.freshProp) c' ∧ c'.half = c0.half ∧
      pc2.master = (c0.slots[0]?.map (·.key)).getD 0 ∧ pc2.rotateCounter = pc.rotateCounter ∧ NoMarker [bytes] ∧
      ((∀ e ∈ log, bodyOf e.1 = e.2) → absSent bodyOf [bytes] = [⟨1, rr.freshProp, none⟩]) := by
  rw [handleInitMessage_eq]
  simp only [hi, hh]
  obtain ⟨hs0, hm0⟩ := sess_success (pc := pc) true rr.freshProp hp hc hlen hcur
  obtain ⟨c', hdr, key, n, hs, hsame, hl8, hhd⟩ := sealMsg_sess hs0
    (Generated.MESSAGE_TYPE_ROTATION :: writeRotMsg (PeerCrypto.rotMsgToBytes ⟨1, rr.freshProp, none⟩)) rr.ct
  unfold successOut
  simp only [hc, Option.isNone_some, Bool.false_eq_true, if_false, Bool.not_false, if_true, hs]
  refine ⟨_, c', _, _, rfl, hs0.withCore hsame, hsame.half, hm0, rfl,
    noMarker_cons (fun d hd => by cases hd) hhd (Nat.zero_lt_succ 3), fun hlog => ?_⟩
  rw [absSent_sealed bodyOf [] hl8 (hlog (rr.ct, _) (List.mem_singleton.2 rfl))]
  simp only [if_true]
  rw [rotMsg_wire_roundtrip _ (by simp only []; omega) hp (fun c hc' => by cases hc')]
  rfl

/-- **… and the handshake initiator waits for it**: at the initiator (`success … true`) the session becomes an established, coupled session
    with rotation state `initSide false 0` (no proposal of its own, id 0); no rotation message is emitted -/
theorem completion_initiator (pc : PeerCrypto) (ist ist' : InitSt) (w out payload : Bytes) (ilog : Init.SealLog) (rnd : Rand) (rr : RotRand)
    (c0 : Core) (hi : pc.init = some ist)
    (hh : Init.handleInit env bodyOf payloadOk ist w rnd = .ok ist' (out, .success payload true, ilog))
    (hc : ist'.crypto = some c0) (hlen : c0.slots.length = 4) (hcur : c0.cur = 0) :
    ∃ pc2 bytes, PeerCrypto.handleInitMessage env bodyOf payloadOk pc w rnd rr = .ok pc2 bytes (.initializedWithReply payload) ilog ∧
      Sess pc2 (PeerCrypto.initSide false 0) c0 ∧ pc2.master = (c0.slots[0]?.map (·.key)).getD 0 ∧
      pc2.rotateCounter = pc.rotateCounter := by
  rw [handleInitMessage_eq]
  simp only [hi, hh]
  unfold successOut
  simp only [hc, Option.isNone_some, Bool.false_eq_true, if_false, Bool.not_true]
  obtain ⟨hs0, hm0⟩ := sess_success (pc := pc) false 0 (by decide) hc hlen hcur
  exact ⟨_, _, rfl, hs0, hm0, rfl⟩

/-- in the encrypted case the model hands `handle_rotate_message` the decrypted plaintext only, the Rust `buffer.buffer()` (the plaintext
    and whatever lies behind it in the buffer).  Whenever the plaintext itself parses this makes no difference (`rotmsg_trailing_ignored`) -/
theorem handleRotate_tail_irrelevant (pc : PeerCrypto) (body t : Bytes) (rr : RotRand) (m : RotMsg) (h : readRotMsg body = some m) :
    PeerCrypto.handleRotate pc (body ++ t) rr = PeerCrypto.handleRotate pc body rr := by
  unfold PeerCrypto.handleRotate
  rw [C16More.rotmsg_trailing_ignored body t m h, h]

/-- `ticks l pc`: `every_second` once per element of `l` (the randomness of that tick); result: the session and the outputs, oldest first;
    `none` if a tick fails -/
def ticks : List RotRand → PeerCrypto → Option (PeerCrypto × List Bytes)
  | [], pc => some (pc, [])
  | rr :: l, pc =>
    match PeerCrypto.everySecond pc rr with
    | .ok pc' out _ _ => (ticks l pc').map (fun p => (p.1, out :: p.2))
    | _ => none

theorem quiet_ticks (l : List RotRand) : ∀ {pc : PeerCrypto} {sd : Side} {c : Core}, Sess pc sd c → Quiet pc →
    pc.rotateCounter + l.length < Generated.ROTATE_INTERVAL → (∀ rr ∈ l, rr.freshProp < 2 ^ 256) →
    ∃ pc' c', ticks l pc = some (pc', List.replicate l.length []) ∧ Sess pc' sd c' ∧ Quiet pc' ∧
      pc'.rotateCounter = pc.rotateCounter + l.length ∧ pc'.master = pc.master ∧ c'.half = c.half := by
  induction l with
  | nil => intro pc sd c h hq _ _; exact ⟨pc, c, rfl, h, hq, rfl, rfl, rfl⟩
  | cons rr l ih =>
    intro pc sd c h hq hc hf
    simp only [List.length_cons] at hc
    obtain ⟨pc1, out, res, log, c1, he, hq1, hm1, hh1, hif⟩ := quiet_tick h hq rr (hf rr List.mem_cons_self)
    rw [if_pos (by omega)] at hif
    obtain ⟨hs1, _, hout, hcnt⟩ := hif
    obtain ⟨pc', c', ht, hs', hq', hcnt', hm', hh'⟩ := ih hs1 hq1 (by omega) (fun r hr => hf r (List.mem_cons_of_mem _ hr))
    refine ⟨pc', c', ?_, hs', hq', by rw [hcnt', hcnt, List.length_cons]; omega, hm'.trans hm1, hh'.trans hh1⟩
    simp only [ticks, he, ht, Option.map_some, hout, List.length_cons, List.replicate_succ]

/-- **rotation_period**: a quiet established session whose rotate counter is 0 — as right after the handshake, and after every
    cycle — emits nothing and keeps its rotation state during the next `ROTATE_INTERVAL - 1` ticks; the `ROTATE_INTERVAL`-th tick
    performs exactly one `Rot.cycle` (with the public key drawn in that tick), emits the sealed rotation message of that cycle if there
    is one (`CycOut`), and resets the counter to 0 — so the statement applies again: one cycle exactly every `ROTATE_INTERVAL` ticks. -/
theorem rotation_period {pc : PeerCrypto} {sd : Side} {c : Core} (h : Sess pc sd c) (hq : Quiet pc) (h0 : pc.rotateCounter = 0)
    (l : List RotRand) (rr : RotRand) (hl : l.length + 1 = Generated.ROTATE_INTERVAL)
    (hf : ∀ r ∈ l, r.freshProp < 2 ^ 256) (hfr : rr.freshProp < 2 ^ 256) :
    ∃ pc1 c1, ticks l pc = some (pc1, List.replicate l.length []) ∧ Sess pc1 sd c1 ∧
      ∃ pc2 out res log c2, PeerCrypto.everySecond pc1 rr = .ok pc2 out res log ∧
        Sess pc2 (cycle sd rr.freshProp).1 c2 ∧ Quiet pc2 ∧ pc2.rotateCounter = 0 ∧ pc2.master = pc.master ∧ c2.half = c.half ∧
        CycOut sd rr (cycle sd rr.freshProp).2 out log := by
  obtain ⟨pc1, c1, ht, hs1, hq1, hcnt, hm1, hh1⟩ := quiet_ticks l h hq (by omega) hf
  obtain ⟨pc2, out, res, log, c2, he, hq2, hm2, hh2, hif⟩ := quiet_tick hs1 hq1 rr hfr
  rw [if_neg (by omega)] at hif
  exact ⟨pc1, c1, ht, hs1, pc2, out, res, log, c2, he, hif.2.1, hq2, hif.1, hm2.trans hm1, hh2.trans hh1, hif.2.2⟩

/-- **no deadlock (symbolic ends, arbitrary numbers for new key pairs)**: in any state of the invariant with `X` the end that is ahead —
    whatever messages were lost before — two further cycles of `X` (re-)send a message carrying `X`'s current id and leave `X`'s id
    unchanged; when that message reaches `Y`, the next cycle of `Y` advances `Y`'s id by 2 (a new key is installed, a new proposal made) -/
theorem ahead_progress {X Y : Side} {sx sy : List Msg} (h : Ahead X Y sx sy) (f g e f' : Nat) :
    ∃ m, m ∈ addMsg (addMsg sx (cycle X f).2) (cycle (cycle X f).1 g).2 ∧
      ((cycle X f).2 = some m ∨ (cycle (cycle X f).1 g).2 = some m) ∧ m.id = X.id ∧
      (cycle (cycle X f).1 g).1.id = X.id ∧ (cycle (process Y m e) f').1.id = Y.id + 2 := by
  have h1 := ahead_cycleX h f
  have h2 := ahead_cycleX h1 g
  have i1 : (cycle X f).1.id = X.id := cycle_id_of_not_waiting (ahead_not_waiting h) f
  have i2 : (cycle (cycle X f).1 g).1.id = X.id := (cycle_id_of_not_waiting (ahead_not_waiting h1) g).trans i1
  -- the message a re-sending cycle emits carries the current id
  have emit : ∀ {Z Y' : Side} {sz sy' : List Msg}, Ahead Z Y' sz sy' → Z.timeout = true →
      ∀ k, ∃ m, (cycle Z k).2 = some m ∧ m.id = Z.id := by
    intro Z Y' sz sy' hz ht k
    obtain ⟨q, hq⟩ := hz.xprop
    rw [cycle_proposed_timeout hq ht]
    exact ⟨_, rfl, hz.conf_id⟩
  have key : ∃ m, ((cycle X f).2 = some m ∨ (cycle (cycle X f).1 g).2 = some m) ∧ m.id = X.id := by
    obtain ⟨p, hp⟩ := h.xprop
    cases ht : X.timeout
    · have ht1 : (cycle X f).1.timeout = true := by rw [cycle_proposed_notimeout hp ht]
      obtain ⟨m, hm, hmid⟩ := emit h1 ht1 g
      exact ⟨m, Or.inr hm, hmid.trans i1⟩
    · obtain ⟨m, hm, hmid⟩ := emit h ht f
      exact ⟨m, Or.inl hm, hmid⟩
  obtain ⟨m, hm, hmid⟩ := key
  have hmem : m ∈ addMsg (addMsg sx (cycle X f).2) (cycle (cycle X f).1 g).2 := by
    rcases hm with hm | hm
    · exact mem_addMsg _ (by rw [hm]; exact List.mem_cons_self)
    · rw [hm]; exact List.mem_cons_self
  have hw : Waiting (process Y m e) := process_latest h2 hmem (hmid.trans i2.symm) e
  obtain ⟨key', e', _, hc⟩ := cycle_waiting hw f'
  exact ⟨m, hmem, hm, hmid, i2, by rw [hc]; simp only [process_id]⟩

/-- **lost_message_only_delays** (session level): take ANY reachable state of the two sessions — in particular one reached while rotation
    messages were dropped (never delivered), duplicated or reordered.  Then (1) the two sessions are in sync (`session_rotation_sync`: each
    seals with a key the peer holds under the same index), and stay so whatever happens next (every continuation is reachable); (2) the
    abstraction satisfies the invariant, one end is ahead, and for that end `ahead_progress` holds: its next two cycles — by
    `rotation_period` the ticks number `ROTATE_INTERVAL` and `2 * ROTATE_INTERVAL` from now at the latest, which by `refinement` are `cycle`
    steps whose sealed output is the datagram carrying that message — re-send its latest rotation message, and once that is delivered the
    other end's next cycle installs a new key and makes a new proposal.  A loss therefore costs at most two intervals; there is no deadlock. -/
theorem lost_message_only_delays {s : SSys} (h : SReachable env bodyOf payloadOk s) :
    Sync (abs bodyOf s) ∧
    ((Ahead (abs bodyOf s).x (abs bodyOf s).y (abs bodyOf s).sentX (abs bodyOf s).sentY ∧
        ∀ f g e f', ∃ m, ((cycle (abs bodyOf s).x f).2 = some m ∨ (cycle (cycle (abs bodyOf s).x f).1 g).2 = some m) ∧
          m.id = (abs bodyOf s).x.id ∧ (cycle (process (abs bodyOf s).y m e) f').1.id = (abs bodyOf s).y.id + 2) ∨
     (Ahead (abs bodyOf s).y (abs bodyOf s).x (abs bodyOf s).sentY (abs bodyOf s).sentX ∧
        ∀ f g e f', ∃ m, ((cycle (abs bodyOf s).y f).2 = some m ∨ (cycle (cycle (abs bodyOf s).y f).1 g).2 = some m) ∧
          m.id = (abs bodyOf s).y.id ∧ (cycle (process (abs bodyOf s).x m e) f').1.id = (abs bodyOf s).x.id + 2)) := by
  have hg := good_reachable env bodyOf payloadOk h
  refine ⟨inv_sync hg.inv, ?_⟩
  rcases hg.inv with ha | ha
  · left
    refine ⟨ha, fun f g e f' => ?_⟩
    obtain ⟨m, _, h1, h2, _, h3⟩ := ahead_progress ha f g e f'
    exact ⟨m, h1, h2, h3⟩
  · right
    refine ⟨ha, fun f g e f' => ?_⟩
    obtain ⟨m, _, h1, h2, _, h3⟩ := ahead_progress ha f g e f'
    exact ⟨m, h1, h2, h3⟩

/-- the same as `handleRotate_tail_irrelevant` for the panic check that precedes it (`derive_key(..).unwrap()`, `PeerCrypto.rotatePanics`) -/
theorem rotatePanics_tail_irrelevant (pc : PeerCrypto) (body t : Bytes) (m : RotMsg) (h : readRotMsg body = some m) :
    PeerCrypto.rotatePanics pc (body ++ t) = PeerCrypto.rotatePanics pc body := by
  unfold PeerCrypto.rotatePanics
  rw [C16More.rotmsg_trailing_ignored body t m h, h]

/-- **lockstep_session** (`C07More.lockstep_fresh` lifted to sessions, i.e. to arbitrary randomness): let `s` be reachable and let the
    sessions then run two rounds of the loss-free lock-step schedule — per round: the tick of `x` on which its rotate counter reaches
    `ROTATE_INTERVAL` (a `cycle`, by `rotation_period` / `refinement`), every rotation datagram `x` has emitted is handled by `y` (a `process`
    each, by `refinement`), the same with the roles exchanged; `t`, `u` are the states after the first and the second round, the schedule is
    expressed on the abstractions (`RoundF`, all numbers for new key pairs arbitrary, deliveries in any order and multiplicity).  Then each
    direction's rotation id has advanced: each end has installed a new key and made a new proposal — at least every second interval. -/
theorem lockstep_session {s t u : SSys} (h : SReachable env bodyOf payloadOk s)
    (r1 : RoundF (abs bodyOf s).x (abs bodyOf s).y (abs bodyOf s).sentX (abs bodyOf s).sentY
      (abs bodyOf t).x (abs bodyOf t).y (abs bodyOf t).sentX (abs bodyOf t).sentY)
    (r2 : RoundF (abs bodyOf t).x (abs bodyOf t).y (abs bodyOf t).sentX (abs bodyOf t).sentY
      (abs bodyOf u).x (abs bodyOf u).y (abs bodyOf u).sentX (abs bodyOf u).sentY) :
    (abs bodyOf u).x.id > (abs bodyOf s).x.id ∧ (abs bodyOf u).y.id > (abs bodyOf s).y.id :=
  lockstepF_fresh (good_reachable env bodyOf payloadOk h).invL r1 r2

/-- a `handle_message` call of a session on a datagram the peer emitted that is opened as a rotation message (`res = .none`): on the
    abstraction this is `procF` of the carried message with the public key drawn; a sequence of such calls is a delivery of `RoundF` -/
theorem recv_is_process {pc pc' : PeerCrypto} {sd : Side} {c : Core} (h : Sess pc sd c) (d tail : Bytes) (rnd : Rand) (rr : RotRand)
    (hf : rr.freshPend < 2 ^ 256) (hd : d.head? ≠ some Generated.INIT_MESSAGE_FIRST_BYTE) (out : Bytes) (log : Init.SealLog)
    (he : PeerCrypto.handleMessage env bodyOf payloadOk pc d tail rnd rr = .ok pc' out .none log) :
    ∃ m c', rotOf bodyOf d = some m ∧ Sess pc' (procF sd [(m, rr.freshPend)]) c' := by
  have := handleMessage_eff h env bodyOf payloadOk d tail rnd rr hf hd
  rw [he] at this
  obtain ⟨_, c', _, hcase⟩ := this
  rcases hcase with ⟨hne, _⟩ | ⟨_, m, hm, hs⟩
  · exact absurd rfl hne
  · exact ⟨m, c', hm, hs⟩

end

section NonVacuity
open VpnCloud.Proofs.InitLemmas

/-- the session of the handshake responder (it starts the rotation with public key 5) and the one of the initiator: master key reference 7
    in slot 0 of both cores, opposite halves -/
private def sX : PeerCrypto :=
  { init := none, rot := some (PeerCrypto.initSide true 5), core := some (Core.new 7 true 9 [1, 2, 3, 4]), master := 7 }
private def sY : PeerCrypto :=
  { init := none, rot := some (PeerCrypto.initSide false 0), core := some (Core.new 7 false 8 [0, 0, 0, 0]), master := 7 }
private def plain0 : Bytes := Generated.MESSAGE_TYPE_ROTATION :: writeRotMsg (PeerCrypto.rotMsgToBytes ⟨1, 5, none⟩)
/-- the first rotation datagram of `sX`: slot 0, counter `HALF + 2`, ciphertext bytes `[1, 2, 3]` -/
private def d0 : Bytes := 0 :: Bytes.ofBE 7 (HALF + 2) ++ [1, 2, 3]
/-- ideal AEAD view: the ciphertext `[1, 2, 3]` is the seal of that rotation message, everything else is garbage -/
private def bodyT : Init.BodyOf := fun ct => if ct = [1, 2, 3] then .sealed 7 (HALF + 2) plain0 else .garbage 0
private def s0 : SSys := ⟨sX, sY, [d0], []⟩
private def okT : Bytes → Bool := fun _ => true

private theorem sessX : Sess sX (PeerCrypto.initSide true 5) (Core.new 7 true 9 [1, 2, 3, 4]) :=
  sess_initSide true 5 (by decide) rfl rfl rfl rfl rfl rfl
private theorem sessY : Sess sY (PeerCrypto.initSide false 0) (Core.new 7 false 8 [0, 0, 0, 0]) :=
  sess_initSide false 0 (by decide) rfl rfl rfl rfl rfl rfl

/-- the hypotheses of `InitPair` (hence of `SReachable.init`, `session_rotation_sync`, …) are satisfiable -/
private theorem initPair0 : InitPair bodyT s0 := by
  refine ⟨⟨5, _, _, by decide, sessX, sessY, rfl, by decide +kernel⟩, rfl, ?_, rfl⟩
  intro d hd
  simp only [s0, List.mem_singleton] at hd
  subst hd
  decide

/-- … and so are those of the steps: `sY` receives `d0`, opens it as the rotation message and stores its reply — a reachable state that is
    not an initial one (the abstraction's `y` now has a pending key) -/
example : ∃ t, SReachable Toy.env bodyT okT t ∧ (abs bodyT t).y.pending.isSome = true ∧ (abs bodyT s0).y.pending.isSome = false := by
  have hev : (match PeerCrypto.handleMessage Toy.env bodyT okT sY d0 [] {} { freshPend := 6 } with
      | .ok pc' _ _ _ => (sideOf pc').pending.isSome
      | _ => false) = true := by decide +kernel
  cases hr : PeerCrypto.handleMessage Toy.env bodyT okT sY d0 [] {} { freshPend := 6 } with
  | ok pc' out res log =>
    rw [hr] at hev
    refine ⟨{ s0 with y := pc', sentY := [] }, SReachable.step (SReachable.init initPair0)
      (SStep.y s0 pc' [] (Op.recv d0 (List.mem_singleton.2 rfl) [] {} { freshPend := 6 } (by decide) pc' out res log hr)), hev, rfl⟩
  | err _ _ => rw [hr] at hev; cases hev
  | panic => rw [hr] at hev; cases hev

/-- the hypotheses of `rotation_period` / `quiet_ticks` hold of `sX` -/
example : Sess sX (PeerCrypto.initSide true 5) (Core.new 7 true 9 [1, 2, 3, 4]) ∧ Quiet sX ∧ sX.rotateCounter = 0 :=
  ⟨sessX, (fun _ h => by cases h), rfl⟩

/-- by evaluation: 240 ticks of `sX` (nothing is delivered): 119 silent ticks, tick 120 is the cycle that only arms the timeout, 119
    silent ticks, tick 240 re-sends the first rotation message (8 header bytes + 1 ciphertext byte) -/
example : (ticks (List.replicate 240 { freshProp := 9, ct := [4] }) sX).map (fun p => p.2.map List.length) =
    some (List.replicate 239 0 ++ [9]) := by decide +kernel

/-- test used below: the handshake step succeeded in the given role with a core of four slots that seals with slot 0 -/
private def chk (ini : Bool) : Outcome (Bytes × InitResult × Init.SealLog) → Bool
  | .ok ist' (_, .success _ i, _) =>
    i == ini && (match ist'.crypto with | some c0 => c0.slots.length == 4 && c0.cur == 0 | none => false)
  | _ => false

private theorem chk_elim {ini : Bool} {o : Outcome (Bytes × InitResult × Init.SealLog)} (h : chk ini o = true) :
    ∃ ist' out payload ilog c0, o = .ok ist' (out, .success payload ini, ilog) ∧ ist'.crypto = some c0 ∧ c0.slots.length = 4 ∧ c0.cur = 0 := by
  cases o with
  | ok ist' r =>
    obtain ⟨out, res, ilog⟩ := r
    cases res with
    | «continue» => simp [chk] at h
    | success payload i =>
      cases hc : ist'.crypto with
      | none => simp [chk, hc] at h
      | some c0 =>
        simp only [chk, hc, Bool.and_eq_true, beq_iff_eq] at h
        obtain ⟨rfl, h1, h2⟩ := h
        exact ⟨ist', out, payload, ilog, c0, rfl, hc, h1, h2⟩
  | err _ _ => simp [chk] at h
  | panic => simp [chk] at h

/-- the hypotheses of `completion_initiator` hold for the toy initiator `Toy.st` receiving the pong of its trusted peer -/
example : ∃ pc2 bytes payload ilog c0,
    PeerCrypto.handleInitMessage Toy.env (Toy.body (masterKey .aes128 [5] [6])) okT { init := some Toy.st } (Toy.pong Toy.algos 0) Toy.rnd {} =
      .ok pc2 bytes (.initializedWithReply payload) ilog ∧ Sess pc2 (PeerCrypto.initSide false 0) c0 := by
  have hev : chk true (Init.handleInit Toy.env (Toy.body (masterKey .aes128 [5] [6])) okT Toy.st (Toy.pong Toy.algos 0) Toy.rnd) = true := by
    decide +kernel
  obtain ⟨ist', out, payload, ilog, c0, hr, hc, h1, h2⟩ := chk_elim hev
  obtain ⟨pc2, bytes, e, hs, _⟩ := completion_initiator Toy.env (Toy.body (masterKey .aes128 [5] [6])) okT { init := some Toy.st } Toy.st ist'
    (Toy.pong Toy.algos 0) out payload ilog Toy.rnd {} c0 rfl hr hc h1 h2
  exact ⟨pc2, bytes, payload, ilog, c0, e, hs⟩

/-- a toy responder that has sent its pong (core with key 77) and the peng of its trusted peer -/
private def stR : InitSt := { Toy.st with stage := Generated.STAGE_PENG, ecdh := none, crypto := some (Core.new 77 false 1 [0, 0, 0, 0]) }
private def peng : Bytes := InitMsg.writeTo (.peng (List.replicate 20 2) (Toy.pl 0)) [0, 0, 0, 1] [9, 9, 9, 9] [9, 9, 0, 0]

/-- the hypotheses of `completion_responder` hold for it: the handshake completes, the session is established with rotation state
    `initSide true 5`, and the reply carries the first rotation message -/
example : ∃ pc2 c' bytes payload log,
    PeerCrypto.handleInitMessage Toy.env (Toy.body 77) okT { init := some stR } peng Toy.rnd { freshProp := 5, ct := [1, 2, 3] } =
      .ok pc2 bytes (.initializedWithReply payload) log ∧ Sess pc2 (PeerCrypto.initSide true 5) c' := by
  have hev : chk false (Init.handleInit Toy.env (Toy.body 77) okT stR peng Toy.rnd) = true := by decide +kernel
  obtain ⟨ist', out, payload, ilog, c0, hr, hc, h1, h2⟩ := chk_elim hev
  obtain ⟨pc2, c', bytes, log, e, hs, _⟩ := completion_responder Toy.env (Toy.body 77) okT { init := some stR } stR ist' peng out payload ilog
    Toy.rnd { freshProp := 5, ct := [1, 2, 3] } c0 rfl hr hc h1 h2 (by decide)
  exact ⟨pc2, c', bytes, payload, _, e, hs⟩

/-- WITNESS: "the key slots of the core are the slots of the rotation state" is false for the unused slots — the rotation state of the model
    names the throw-away key of slot 1 `.dummy 0 1` at BOTH ends (reference 3), the cores hold their own throw-away references (9 and 8);
    hence the restriction of `Cpl.keys` / `core_slots_are_rot_slots` to slots with agreed key material (`NonDummy`).  Harmless: a session
    never seals with such a slot (`SideOK.curnd`). -/
example : (keysOf (Core.new 7 true 9 [1, 2, 3, 4]))[1]? = some 9 ∧ (keysOf (Core.new 7 false 8 [0, 0, 0, 0]))[1]? = some 8 ∧
    PeerCrypto.keyRefOf 7 ((PeerCrypto.initSide true 5).slots 1) = 3 ∧ PeerCrypto.keyRefOf 7 ((PeerCrypto.initSide false 0).slots 1) = 3 := by
  decide

/-- WITNESS: the bounds in `Op.tick` / `SideOK` are needed — a public-key number that does not fit 32 bytes, or an id that does not fit a
    `u64`, is not read back from the wire -/
example : (readRotMsg (writeRotMsg (PeerCrypto.rotMsgToBytes ⟨1, 2 ^ 256, none⟩))).map PeerCrypto.rotMsgOfBytes = some ⟨1, 0, none⟩ ∧
    (readRotMsg (writeRotMsg (PeerCrypto.rotMsgToBytes ⟨2 ^ 64 + 3, 5, none⟩))).map PeerCrypto.rotMsgOfBytes = some ⟨3, 5, none⟩ := by
  decide +kernel

end NonVacuity

end VpnCloud.Proofs.C07Session
