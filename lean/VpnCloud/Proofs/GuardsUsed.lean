import VpnCloud.Proofs.C15More
import VpnCloud.Proofs.C09More
/-
  Twelve of the fourteen comparison guards regenerated from the Rust source (`Generated/Guards.lean`) are called by the model at the
  places that mirror the source lines; `rotMsgStale` and `retryAllowed` are not called (`Rot.process`, `derivePanics` and
  `Init.everySecond` write the comparison out), and their theorems state first that the guard is that comparison.  For each guard
  this file pins the comparison at its boundary value, as a statement about the MODEL function that makes it: what happens when the
  two compared quantities are equal, and what happens one step to the side.  When a comparison operator changes in the source (say
  `<` into `<=`), the regenerated guard changes and the theorem about it below fails to check.

  Two guards compute a clamp (`backoffCapped`: `min`; `seenAdvances`: `max`): for those `>` / `>=` (resp. `<` / `<=`) give the same
  function, so the boundary value itself cannot tell them apart; the theorems state the value at the boundary and on both sides.
-/
namespace VpnCloud.Proofs.GuardsUsed

open VpnCloud.Node
open VpnCloud.Proofs.AssocLemmas VpnCloud.Proofs.NodeLemmas VpnCloud.Proofs.SessionInvLemmas VpnCloud.Proofs.NodeInvLemmas
open VpnCloud.Proofs.C15MoreLemmas

/-! ## `src/crypto/rotate.rs` -/

/-- **rotMsgStale** (`msg.message_id <= self.message_id`): the guard regenerated from `RotationState::process_message` is the
    comparison the model's `Rot.process` and `derivePanics` make.  A rotation message whose id EQUALS the id of the last one handled is
    ignored (the state is untouched and no key is derived, so it cannot reach a panicking `derive_key`); one whose id is larger by one is
    processed (its proposal becomes the pending key).  For all sides, messages and fresh keys. -/
theorem rotMsgStale_boundary (s : Rot.Side) (m : Rot.Msg) (f : Nat) (bm : Codec.RotMsg) :
    (∀ a b, Generated.rotMsgStale a b = decide (a ≤ b)) ∧
    (Generated.rotMsgStale m.id s.id = true → Rot.process s m f = s) ∧
    (Generated.rotMsgStale m.id s.id = false → (Rot.process s m f).pending = some (Rot.K f m.propose, f)) ∧
    (m.id = s.id → Rot.process s m f = s) ∧
    (m.id = s.id + 1 → (Rot.process s m f).pending = some (Rot.K f m.propose, f)) ∧
    (Generated.rotMsgStale bm.id s.id = true → PeerCrypto.derivePanics s bm = false) := by
  have hproc : ¬ m.id ≤ s.id → (Rot.process s m f).pending = some (Rot.K f m.propose, f) := by
    intro h
    unfold Rot.process
    rw [if_neg h]
    dsimp only
    split <;> rfl
  refine ⟨fun _ _ => rfl, ?_, ?_, ?_, ?_, ?_⟩
  · intro h
    simp only [Generated.rotMsgStale, decide_eq_true_eq] at h
    unfold Rot.process; rw [if_pos h]
  · intro h
    simp only [Generated.rotMsgStale, decide_eq_false_iff_not] at h
    exact hproc h
  · intro h
    unfold Rot.process; rw [if_pos (by omega)]
  · intro h
    exact hproc (by omega)
  · intro h
    simp only [Generated.rotMsgStale, decide_eq_true_eq] at h
    unfold PeerCrypto.derivePanics; rw [if_pos h]

/-! ## `src/crypto/init.rs` -/

/-- **retryAllowed** (`self.failed_retries < MAX_FAILED_RETRIES`): the guard regenerated from `InitState::every_second` is the
    comparison the model's `everySecond` makes.  A handshake in progress whose stored message has been repeated `MAX_FAILED_RETRIES - 1`
    times repeats it once more; after `MAX_FAILED_RETRIES` repetitions the tick fails with the fatal timeout and the attempt is closing.
    For all handshake states. -/
theorem retryAllowed_boundary (st : InitSt)
    (h1 : st.stage ≠ Generated.WAITING_TO_CLOSE) (h2 : st.stage ≠ Generated.CLOSING) :
    (∀ r, Generated.retryAllowed r = decide (r < Generated.MAX_FAILED_RETRIES)) ∧
    (Generated.retryAllowed st.retries = true →
      (Init.everySecond st) = ({ st with retries := st.retries + 1 }, .ok (st.last.getD []))) ∧
    (Generated.retryAllowed st.retries = false →
      (Init.everySecond st) = ({ st with stage := Generated.CLOSING }, .error .cryptoInitFatal)) ∧
    (st.retries + 1 = Generated.MAX_FAILED_RETRIES → (Init.everySecond st).2 = .ok (st.last.getD [])) ∧
    (st.retries = Generated.MAX_FAILED_RETRIES → (Init.everySecond st).2 = .error .cryptoInitFatal) := by
  have hpos := InitLemmas.everySecond_retry st h1 h2
  have hneg := InitLemmas.everySecond_give_up st h1 h2
  refine ⟨fun _ => rfl, ?_, ?_, ?_, ?_⟩
  · intro h
    simp only [Generated.retryAllowed, decide_eq_true_eq] at h
    exact hpos h
  · intro h
    simp only [Generated.retryAllowed, decide_eq_false_iff_not] at h
    exact hneg h
  · intro h
    rw [hpos (by omega)]
  · intro h
    rw [hneg (by omega)]

/-! ## `src/crypto/core.rs` -/

/-- **datagramTooShort** (`buffer.len() < EXTRA_LEN + TAG_LEN`): an authentic datagram of exactly 24 bytes (header, empty plaintext,
    tag) is accepted; every datagram of 23 bytes is rejected as too short and the state is untouched -/
theorem datagramTooShort_boundary (c : Core) (d : Dgram) :
    (∀ k p, d.len = 24 → d.keyId < 4 → c.slots[d.keyId]? = some k → d.body = .sealed k.key (c.reconstruct d.counter) p →
        k.min ≤ c.reconstruct d.counter → (c.decrypt d).2 = .ok p) ∧
    (d.len = 23 → c.decrypt d = (c, .error .tooShort)) := by
  constructor
  · intro k p hlen hid hk hb hmin
    exact ((C03.decrypt_authentic c d k p (by omega) hid hk hb).1 hmin).1
  · intro hlen
    simp [Core.decrypt, Generated.datagramTooShort, Generated.EXTRA_LEN, Generated.TAG_LEN, hlen]

/-- **keyIdInvalid** (`key_id >= 4`): an authentic datagram addressed to key slot 3 is accepted, one addressed to slot 4 is rejected
    as a bad key id; and whenever the guard lets a datagram pass, its key id is an index into the four key slots (in the Rust the
    slot is read with `self.keys[key_id as usize]`, which panics out of range) -/
theorem keyIdInvalid_boundary (c : Core) (d : Dgram) :
    (∀ k p, d.len ≥ 24 → d.keyId = 3 → c.slots[d.keyId]? = some k → d.body = .sealed k.key (c.reconstruct d.counter) p →
        k.min ≤ c.reconstruct d.counter → (c.decrypt d).2 = .ok p) ∧
    (d.len ≥ 24 → d.keyId = 4 → c.decrypt d = (c, .error .badKeyId)) ∧
    (c.slots.length = Core.SLOTS → Generated.keyIdInvalid d.keyId = false → d.keyId < c.slots.length) := by
  refine ⟨?_, ?_, ?_⟩
  · intro k p hlen hid hk hb hmin
    exact ((C03.decrypt_authentic c d k p hlen (by omega) hk hb).1 hmin).1
  · intro hlen hid
    have h1 : ¬ d.len < 24 := by omega
    simp [Core.decrypt, Generated.datagramTooShort, Generated.keyIdInvalid, Generated.EXTRA_LEN, Generated.TAG_LEN, h1, hid]
  · intro hl hg
    simp only [Generated.keyIdInvalid, decide_eq_false_iff_not] at hg
    rw [hl, Core.SLOTS]; omega

/-- **nonceTooOld** (`nonce < key.min_nonce`): an authentic datagram whose counter equals the replay threshold of its slot is accepted;
    one whose counter is one below the threshold is rejected as old and the state is untouched -/
theorem nonceTooOld_boundary (c : Core) (d : Dgram) (k : SlotKey) (p : Bytes)
    (hlen : d.len ≥ 24) (hid : d.keyId < 4) (hk : c.slots[d.keyId]? = some k)
    (hb : d.body = .sealed k.key (c.reconstruct d.counter) p) :
    (c.reconstruct d.counter = k.min → (c.decrypt d).2 = .ok p) ∧
    (c.reconstruct d.counter + 1 = k.min → (c.decrypt d).2 = .error .oldNonce ∧ (c.decrypt d).1 = c) := by
  obtain ⟨h1, h2⟩ := C03.decrypt_authentic c d k p hlen hid hk hb
  exact ⟨fun h => (h1 (by omega)).1, fun h => h2 (by omega)⟩

/-- **seenAdvances** (`key.seen_nonce < nonce`): after an accepted datagram the highest accepted counter of the slot is the larger one
    of the old value and the counter of the datagram: it moves for `seen + 1`, stays for `seen` and for `seen - 1` -/
theorem seenAdvances_boundary (c : Core) (d : Dgram) (k : SlotKey) (p : Bytes)
    (hlen : d.len ≥ 24) (hid : d.keyId < 4) (hk : c.slots[d.keyId]? = some k)
    (hb : d.body = .sealed k.key (c.reconstruct d.counter) p) (hmin : k.min ≤ c.reconstruct d.counter) :
    ((c.decrypt d).1.slots[d.keyId]?).map (·.seen) = some (max k.seen (c.reconstruct d.counter)) ∧
    (c.reconstruct d.counter = k.seen + 1 → ((c.decrypt d).1.slots[d.keyId]?).map (·.seen) = some (k.seen + 1)) ∧
    (c.reconstruct d.counter = k.seen → ((c.decrypt d).1.slots[d.keyId]?).map (·.seen) = some k.seen) ∧
    (c.reconstruct d.counter + 1 = k.seen → ((c.decrypt d).1.slots[d.keyId]?).map (·.seen) = some k.seen) := by
  have hlt : d.keyId < c.slots.length := by
    rcases List.getElem?_eq_some_iff.1 hk with ⟨h, _⟩; exact h
  have hmain : ((c.decrypt d).1.slots[d.keyId]?).map (·.seen) = some (max k.seen (c.reconstruct d.counter)) := by
    rw [((C03.decrypt_authentic c d k p hlen hid hk hb).1 hmin).2]
    simp only [List.getElem?_set_self hlt, Option.map_some, Spec.C03.slotStep]
    split
    · simp only [Option.some.injEq]; omega
    · simp only [Option.some.injEq]; omega
  refine ⟨hmain, ?_, ?_, ?_⟩ <;> intro h <;> rw [hmain] <;> simp only [Option.some.injEq] <;> omega

/-- non-vacuity for the four guards of `decrypt`: slot 0 has threshold 3 and highest counter 5; the 24-byte datagram with counter 3 is
    accepted, counter 2 is old; counter 6 moves the highest counter, counter 5 and 4 leave it; 23 bytes are too short; slot 3 is read,
    slot 4 is not -/
example :
    let c : Core := { slots := [{ key := 7, send := 0, min := 3, seen := 5 }, { key := 8, send := 0 }, { key := 8, send := 0 },
                                { key := 9, send := 0 }], cur := 0, half := true }
    let dg (kid ctr : Nat) (key : KeyRef) : Dgram := { hdr := [kid, 0, 0, 0, 0, 0, 0, ctr], body := .sealed key ctr [] }
    (dg 0 3 7).len = 24 ∧ (c.decrypt (dg 0 3 7)).2 = .ok [] ∧ (c.decrypt (dg 0 2 7)).2 = .error .oldNonce ∧
    ((c.decrypt (dg 0 6 7)).1.slots[0]?).map (·.seen) = some 6 ∧ ((c.decrypt (dg 0 5 7)).1.slots[0]?).map (·.seen) = some 5 ∧
    ((c.decrypt (dg 0 4 7)).1.slots[0]?).map (·.seen) = some 5 ∧
    (c.decrypt { hdr := [0, 0, 0, 0, 0, 0, 0, 3], body := .garbage 15 }).2 = .error .tooShort ∧
    (c.decrypt (dg 3 0 9)).2 = .ok [] ∧ (c.decrypt (dg 4 0 9)).2 = .error .badKeyId := by
  decide

/-! ## `src/table.rs` -/

/-- **claimLive** (`e.timeout >= now`): a claim that expires exactly now survives this sweep; one that expired a second ago is gone -/
theorem claimLive_boundary (t : Table) (now : Int) (e : ClaimEntry) (he : e ∈ t.claims) :
    (e.timeout = now → e ∈ (t.housekeep now).claims) ∧
    (e.timeout + 1 = now → e ∉ (t.housekeep now).claims) := by
  constructor
  · intro h
    simp only [Table.housekeep, Generated.claimLive, List.mem_filter, decide_eq_true_eq]
    exact ⟨he, by omega⟩
  · intro h hm
    have := C12.claims_expire t now e hm
    omega

/-- **cacheLive** (`v.timeout >= now`): a learned / cached address that expires exactly now survives this sweep; one that expired a
    second ago is gone -/
theorem cacheLive_boundary (t : Table) (now : Int) (v : CacheEntry) (hv : v ∈ t.cache) :
    (v.timeout = now → v ∈ (t.housekeep now).cache) ∧
    (v.timeout + 1 = now → v ∉ (t.housekeep now).cache) := by
  constructor
  · intro h
    simp only [Table.housekeep, Generated.cacheLive, List.mem_filter, decide_eq_true_eq]
    exact ⟨hv, by omega⟩
  · intro h hm
    simp only [Table.housekeep, Generated.cacheLive, List.mem_filter, decide_eq_true_eq] at hm
    omega

/-- the same through the learning step (`C13.learn_expiry` has the strict side): an address learned at `now` with switch timeout
    `cacheTimeout` is still resolved by the cache after the sweep at `now + cacheTimeout` -/
theorem learned_survives_until_timeout (t : Table) (now : Int) (a : Addr) (p : PeerId) :
    ((t.learn now a p).housekeep (now + t.cacheTimeout)).cache.find? (fun v => v.addr = a) = some ⟨a, p, now + t.cacheTimeout⟩ := by
  have hc : (t.learn now a p).cache = ⟨a, p, now + t.cacheTimeout⟩ :: t.cache.filter (fun x => x.addr ≠ a) := rfl
  simp only [Table.housekeep, Generated.cacheLive, hc, List.filter_cons, ge_iff_le, Int.le_refl, decide_true, if_true,
    List.find?_cons_of_pos]

/-- non-vacuity: claims expiring at 100 and 99, cached addresses expiring at 100 and 99, swept at 100 -/
example :
    let t : Table := { cacheTimeout := 300, claimTimeout := 300,
                       claims := [⟨1, ⟨[10, 0, 0, 0], 8⟩, 100⟩, ⟨2, ⟨[10, 1, 0, 0], 16⟩, 99⟩],
                       cache := [⟨[10, 0, 0, 1], 1, 100⟩, ⟨[10, 1, 0, 1], 2, 99⟩] }
    (t.housekeep 100).claims = [⟨1, ⟨[10, 0, 0, 0], 8⟩, 100⟩] ∧ (t.housekeep 100).cache = [⟨[10, 0, 0, 1], 1, 100⟩] := by
  decide

/-! ## `src/cloud.rs`: `housekeep` -/

/-- **peerExpired** (`data.timeout < now`): an established peer (distinct peer addresses, healthy session) whose expiry is exactly
    `now` survives the tick with its expiry; one whose expiry was a second ago is gone after the tick -/
theorem peerExpired_boundary (env : CryptoEnv) (o : Oracle) (n : Node) (now : Int) (a : NAddr) (p : Peer)
    (hp : lookupA n.peers a = some p) (hnd : (n.peers.map (·.1)).Nodup) :
    (p.timeout = now → p.crypto.init = none → (p.crypto.unencrypted = true ∨ p.crypto.core.isSome = true) →
        (lookupA (housekeep env o n now).node.peers a).map (·.timeout) = some now) ∧
    (p.timeout + 1 = now → lookupA (housekeep env o n now).node.peers a = none) := by
  constructor
  · intro hto hi hs
    obtain ⟨p', h, ht⟩ := C09MoreLemmas.housekeep_keeps env o n now a p hp (by omega) hnd (everySecond_healthy p.crypto hi hs)
    rw [h, Option.map_some, ht, hto]
  · intro hto
    apply C15Node.expired_peer_removed
    intro p0 h0
    have := lookupA_of_mem_nodup hnd h0
    rw [hp] at this
    cases this
    omega

/-- **announceDue** (`self.next_peers <= now`): with an own announcement interval of at least one second, an announcement due exactly
    now is made in this tick (the next one is scheduled strictly later); one due in a second is not, the schedule stays -/
theorem announceDue_boundary (env : CryptoEnv) (o : Oracle) (n : Node) (now : Int) :
    (n.nextPeers = now → 1 ≤ n.cfg.updateFreq → (housekeep env o n now).node.nextPeers > now) ∧
    (n.nextPeers = now + 1 → (housekeep env o n now).node.nextPeers = now + 1) := by
  constructor
  · intro hdue hu
    obtain ⟨_, _, m, d, hd, _, hfr, _⟩ := housekeep_of_due env o n now (by omega)
    have := interval_pos _ _ _ hd hu
    rw [frame_proj hfr (·.node.nextPeers)]
    show now + (d : Int) > now
    omega
  · intro hnot
    rw [C15More.housekeep_keeps_schedule env o n now (by omega), hnot]

/-- **ownResetDue** (`self.next_own_address_reset <= now`): a reset of the own addresses due exactly now happens in this tick (the
    next one is 300 s later); one due in a second does not, the schedule stays -/
theorem ownResetDue_boundary (env : CryptoEnv) (o : Oracle) (n : Node) (now : Int) :
    (n.nextOwnReset = now → (housekeep env o n now).node.nextOwnReset = now + 300) ∧
    (n.nextOwnReset = now + 1 → (housekeep env o n now).node.nextOwnReset = now + 1) := by
  obtain ⟨c5, heq, h5⟩ := housekeep_own_step env o n now
  rw [heq]
  unfold hkOwn
  constructor
  · intro h
    rw [if_pos (by simp only [Generated.ownResetDue, decide_eq_true_eq]; omega)]
  · intro h
    rw [if_neg (by simp only [Generated.ownResetDue, decide_eq_true_eq]; omega)]
    omega

/-! ## `src/cloud.rs`: `reconnect_to_peers` -/

theorem reconnect_at (env : CryptoEnv) (o : Oracle) (c : Ctx) (now : Int) (i : Nat) :
    (reconnectToPeers env o c now).node.reconnect[i]? = (c.node.reconnect[i]?).map (rcUpdate c.node.peers now) := by
  rw [reconnectToPeers_reconnect, List.getElem?_map]

theorem reconnect_at_nopeer (env : CryptoEnv) (o : Oracle) (c : Ctx) (now : Int) (i : Nat) (e : Reconnect)
    (hi : c.node.reconnect[i]? = some e) (hnp : e.resolved.any (fun a => (lookupA c.node.peers a).isSome) = false) :
    (reconnectToPeers env o c now).node.reconnect[i]? = some (if e.next > now then e else backoff now e) := by
  rw [reconnect_at, hi, Option.map_some, rcUpdate_eq]
  simp only [hnp, Bool.false_eq_true, if_false, Generated.reconnectNotDue, decide_eq_true_eq]

theorem reconnect_silent (env : CryptoEnv) (o : Oracle) (c : Ctx) (now : Int)
    (h : ∀ e ∈ c.node.reconnect, Generated.reconnectNotDue e.next now = true) :
    (reconnectToPeers env o c now).outs = c.outs := by
  show (rcDial env o c now).outs = c.outs
  unfold rcDial
  generalize c.node.reconnect = l at h
  induction l generalizing c with
  | nil => rfl
  | cons e l ih =>
    rw [List.foldl_cons, dialStep, if_pos (h e (List.mem_cons_self ..))]
    exact ih c (fun e' he' => h e' (List.mem_cons_of_mem _ he'))

/-- **reconnectNotDue** (`entry.next > now`, both loops): an entry whose next attempt is due exactly now is dialled (a handshake
    datagram goes to each of its fresh addresses) and, if it has a positive back-off, is rescheduled strictly into the future;
    an entry due in a second is left as it is, and if all entries are due in a second nothing is sent -/
theorem reconnectNotDue_boundary (env : CryptoEnv) (o : Oracle) (c : Ctx) (now : Int) :
    (∀ pre post e, c.node.reconnect = pre ++ e :: post → e.next = now →
      (∀ a ∈ e.resolved, c.node.own.contains (mappedAddr a) = false ∧ lookupA c.node.peers (mappedAddr a) = none ∧
        lookupA c.node.pending (mappedAddr a) = none) →
      (∀ e' ∈ pre, e'.next ≤ now → ∀ a ∈ e.resolved, ∀ a' ∈ e'.resolved, mappedAddr a ≠ mappedAddr a') →
      ∃ ex, (reconnectToPeers env o c now).outs = c.outs ++ ex ∧ ∀ a ∈ e.resolved, HsTo (mappedAddr a) ex) ∧
    (∀ (i : Nat) (e : Reconnect), c.node.reconnect[i]? = some e → e.next = now → e.resolved.any (fun a => (lookupA c.node.peers a).isSome) = false →
      1 ≤ e.timeout → e.timeout ≤ Generated.MAX_RECONNECT_INTERVAL →
      ∃ e', (reconnectToPeers env o c now).node.reconnect[i]? = some e' ∧ e'.next > now) ∧
    (∀ (i : Nat) (e : Reconnect), c.node.reconnect[i]? = some e → e.next = now + 1 → e.resolved.any (fun a => (lookupA c.node.peers a).isSome) = false →
      (reconnectToPeers env o c now).node.reconnect[i]? = some e) ∧
    ((∀ e ∈ c.node.reconnect, e.next = now + 1) → (reconnectToPeers env o c now).outs = c.outs) := by
  refine ⟨?_, ?_, ?_, ?_⟩
  · intro pre post e hsplit hdue hfresh hpre
    exact C15More.reconnect_dials env o c now pre post e hsplit (by omega) hfresh hpre
  · intro i e hi hdue hnp h1 hM
    refine ⟨_, reconnect_at_nopeer env o c now i e hi hnp, ?_⟩
    rw [if_neg (by omega)]
    by_cases ht : e.tries + 1 ≤ 10
    · rw [backoff_of_tries_le now e ht]
      show now + ((min e.timeout Generated.MAX_RECONNECT_INTERVAL : Nat) : Int) > now
      omega
    · rw [backoff_of_tries_gt now e (by omega)]
      show now + ((min (e.timeout * 2) Generated.MAX_RECONNECT_INTERVAL : Nat) : Int) > now
      omega
  · intro i e hi hnd hnp
    rw [reconnect_at_nopeer env o c now i e hi hnp, if_pos (by omega)]
  · intro h
    apply reconnect_silent
    intro e he
    simp only [Generated.reconnectNotDue, decide_eq_true_eq]
    have := h e he
    omega

/-- **backoffDoubles** (`entry.tries > 10`): a due entry (none of its addresses a peer, back-off at most one hour) that has been
    tried 9 times is tried for the 10th time with the same back-off; one that has been tried 10 times starts over with the
    doubled back-off (capped at one hour) -/
theorem backoffDoubles_boundary (env : CryptoEnv) (o : Oracle) (c : Ctx) (now : Int) (i : Nat) (e : Reconnect)
    (hi : c.node.reconnect[i]? = some e) (hdue : e.next ≤ now)
    (hnp : e.resolved.any (fun a => (lookupA c.node.peers a).isSome) = false) (hM : e.timeout ≤ Generated.MAX_RECONNECT_INTERVAL) :
    (e.tries + 1 = 10 →
      (reconnectToPeers env o c now).node.reconnect[i]? = some { e with tries := 10, next := now + e.timeout }) ∧
    (e.tries = 10 →
      (reconnectToPeers env o c now).node.reconnect[i]? =
        some { e with tries := 0, timeout := min (e.timeout * 2) Generated.MAX_RECONNECT_INTERVAL,
                      next := now + (min (e.timeout * 2) Generated.MAX_RECONNECT_INTERVAL : Nat) }) := by
  rw [reconnect_at_nopeer env o c now i e hi hnp, if_neg (by omega)]
  constructor <;> intro ht
  · rw [backoff_of_tries_le now e (by omega), Nat.min_eq_left hM, ht]
  · rw [backoff_of_tries_gt now e (by omega)]

/-- **backoffCapped** (`entry.timeout > MAX_RECONNECT_INTERVAL`): for a due entry (none of its addresses a peer, fewer than ten tries)
    a back-off of exactly one hour stays, one second less stays, one second more is cut to one hour -/
theorem backoffCapped_boundary (env : CryptoEnv) (o : Oracle) (c : Ctx) (now : Int) (i : Nat) (e : Reconnect)
    (hi : c.node.reconnect[i]? = some e) (hdue : e.next ≤ now)
    (hnp : e.resolved.any (fun a => (lookupA c.node.peers a).isSome) = false) (ht : e.tries + 1 ≤ 10) :
    (e.timeout = Generated.MAX_RECONNECT_INTERVAL →
      (reconnectToPeers env o c now).node.reconnect[i]? =
        some { e with tries := e.tries + 1, next := now + Generated.MAX_RECONNECT_INTERVAL }) ∧
    (e.timeout + 1 = Generated.MAX_RECONNECT_INTERVAL →
      (reconnectToPeers env o c now).node.reconnect[i]? = some { e with tries := e.tries + 1, next := now + e.timeout }) ∧
    (e.timeout = Generated.MAX_RECONNECT_INTERVAL + 1 →
      (reconnectToPeers env o c now).node.reconnect[i]? =
        some { e with tries := e.tries + 1, timeout := Generated.MAX_RECONNECT_INTERVAL,
                      next := now + Generated.MAX_RECONNECT_INTERVAL }) := by
  rw [reconnect_at_nopeer env o c now i e hi hnp, if_neg (by omega), backoff_of_tries_le now e ht]
  refine ⟨?_, ?_, ?_⟩ <;> intro h
  · rw [h, Nat.min_self]
  · rw [Nat.min_eq_left (by omega)]
  · rw [Nat.min_eq_right (by omega)]

/-! ## non-vacuity for the node-level theorems -/
section Examples
open VpnCloud.Proofs.InitLemmas

private def s1 : NAddr := .v6 (List.replicate 16 0) 1
private def s2 : NAddr := .v6 (List.replicate 16 0) 2
private def cfg0 : NodeCfg :=
  { tap := false, learning := false, broadcast := false, peerTimeout := 300, peerTimeoutPublish := 300, updateFreq := 10,
    claims := [], key := [7, 7, 7, 7], trusted := [[9, 9, 9, 9]], algos := Toy.algos }
private def o0 : Oracle := { emitted := fun _ _ => [], rotProp := fun _ => 0, rotPend := fun _ => 0, starts := fun _ => [] }
private def p1 : Peer :=
  { addrs := [], timeout := 100, peerTimeout := 300, nodeId := List.replicate 16 1, crypto := { init := none, unencrypted := true } }
/-- a node at the boundary of every guard of `housekeep` at second 100: one established peer `s1` expiring at 100, announcement and
    reset of the own addresses due at 100, a configured peer `s2` tried 9 times with a back-off of one hour, due at 100 -/
private def nB : Node :=
  { nodeId := List.replicate 16 9, addr := .v6 (List.replicate 16 0) 3, cfg := cfg0, table := { cacheTimeout := 300, claimTimeout := 300 },
    peers := [(s1, p1)], nextPeers := 100, nextOwnReset := 100,
    reconnect := [{ resolved := [s2], tries := 9, timeout := 3600, next := 100 }] }

/-- at second 100 everything that is due happens and the peer stays; the hypotheses of the theorems above hold of `nB` -/
example :
    lookupA nB.peers s1 = some p1 ∧ (nB.peers.map (·.1)).Nodup ∧ p1.crypto.init = none ∧ p1.crypto.unencrypted = true ∧
    (lookupA (housekeep Toy.env o0 nB 100).node.peers s1).map (·.timeout) = some 100 ∧
    (housekeep Toy.env o0 nB 100).node.nextPeers = 110 ∧
    (housekeep Toy.env o0 nB 100).node.nextOwnReset = 400 ∧
    (housekeep Toy.env o0 nB 100).node.reconnect.map (fun e => (e.tries, e.timeout, e.next)) = [(10, 3600, 3700)] ∧
    (∃ b, Out.dgram s2 (Generated.INIT_MESSAGE_FIRST_BYTE :: b) ∈ (housekeep Toy.env o0 nB 100).outs) := by
  refine ⟨rfl, by decide, rfl, rfl, by decide, by decide, by decide, by decide, ?_⟩
  have h : ((housekeep Toy.env o0 nB 100).outs.any fun x => match x with
      | .dgram a (f :: _) => decide (a = s2) && decide (f = Generated.INIT_MESSAGE_FIRST_BYTE)
      | _ => false) = true := by decide
  obtain ⟨x, hx, hp⟩ := List.any_eq_true.1 h
  match x, hx, hp with
  | .dgram a (f :: b), hx, hp =>
    simp only [Bool.and_eq_true, decide_eq_true_eq] at hp
    exact ⟨b, by rw [← hp.1, ← hp.2]; exact hx⟩

/-- one second earlier nothing is due: no datagram, schedules and reconnect entry as before -/
example :
    (housekeep Toy.env o0 nB 99).node.nextPeers = 100 ∧ (housekeep Toy.env o0 nB 99).node.nextOwnReset = 100 ∧
    (housekeep Toy.env o0 nB 99).node.reconnect.map (fun e => (e.tries, e.timeout, e.next)) = [(9, 3600, 100)] ∧
    (housekeep Toy.env o0 nB 99).outs.length = 0 := by
  decide

/-- one second later the peer is gone; tried 10 times before, the entry starts over (back-off doubled, cut to one hour) -/
example :
    lookupA (housekeep Toy.env o0 nB 101).node.peers s1 = none ∧
    (housekeep Toy.env o0 { nB with reconnect := [{ resolved := [s2], tries := 10, timeout := 1800, next := 100 }] } 100).node.reconnect.map
      (fun e => (e.tries, e.timeout, e.next)) = [(0, 3600, 3700)] ∧
    (housekeep Toy.env o0 { nB with reconnect := [{ resolved := [s2], tries := 10, timeout := 1801, next := 100 }] } 100).node.reconnect.map
      (fun e => (e.tries, e.timeout, e.next)) = [(0, 3600, 3700)] := by
  decide

end Examples

end VpnCloud.Proofs.GuardsUsed
