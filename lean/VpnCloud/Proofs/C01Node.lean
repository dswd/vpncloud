import VpnCloud.Proofs.Lemmas.Node.NetStepLemmas
import VpnCloud.Proofs.Lemmas.Node.TickLemmas
/-
  C01 at node level: peers are created only by `add_new_peer`, i.e. by a completed handshake with the
  sender of the datagram being processed.  Both statements proved as given (no hypothesis added);
  `housekeep_creates_no_peer` is an additional theorem: the description of `iface_creates_no_peer` in the
  property list speaks of housekeeping as well.
-/
namespace VpnCloud.Proofs.C01Node
open VpnCloud.Node
open VpnCloud.Proofs.AssocLemmas VpnCloud.Proofs.NodeLemmas

/-- processing a datagram can make at most its sender a new peer -/
theorem only_sender_becomes_peer (env : CryptoEnv) (bodyOf : Init.BodyOf) (o : Oracle) (n : Node) (now : Int) (src : NAddr) (data tail : Bytes) :
    ∀ a, (lookupA (handleNet env bodyOf o n now src data tail).1.node.peers a).isSome → (lookupA n.peers a).isSome ∨ a = mappedAddr src := by
  intro a ha
  rw [lookupA_isSome_iff] at ha
  cases NetStepLemmas.handleNet_netStep env bodyOf o n now src data tail with
  | same h1 _ _ => exact Or.inl ((lookupA_isSome_iff _ _).2 (h1 ▸ ha))
  | join _ _ _ h2 _ _ => exact ((h2 a).1 ha).symm.imp_left (lookupA_isSome_iff _ _).2
  | leave _ _ _ _ _ _ _ _ h4 _ _ => exact Or.inl ((lookupA_isSome_iff _ _).2 (key_mem_eraseA (h4 ▸ ha)))

/-- a frame read from the interface never creates peers (housekeeping: `housekeep_creates_no_peer`) -/
theorem iface_creates_no_peer (o : Oracle) (n : Node) (now : Int) (data : Bytes) :
    (handleIface o n now data).node.peers.map (·.1) = n.peers.map (·.1) :=
  (handleIface_toPeers o n now data).2

/-- housekeeping never creates peers: every peer address after the tick was one before -/
theorem housekeep_creates_no_peer (env : CryptoEnv) (o : Oracle) (n : Node) (now : Int) :
    ∀ a, (lookupA (housekeep env o n now).node.peers a).isSome → (lookupA n.peers a).isSome := by
  obtain ⟨L, hL⟩ := TickLemmas.housekeep_tick env o n now
  intro a ha
  rw [lookupA_isSome_iff, hL.keys] at ha
  exact (lookupA_isSome_iff _ _).2 (List.mem_filter.1 ha).1

end VpnCloud.Proofs.C01Node
