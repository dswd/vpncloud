import VpnCloud.Proofs.Lemmas.Node.C10NetLemmas
import VpnCloud.Proofs.C10More
import VpnCloud.Proofs.C02More
/-
  C10 / C02 end to end: "each frame read from an interface is delivered byte-identical and exactly once" over whole traffic
  histories between two nodes.

  1. Session level (`PeerCrypto`): two sessions in sync (`InSync`, `Lemmas/Node/C10NetLemmas.lean`), histories of sends (each delivered at
     once: a loss-free, in-order, non-duplicating link) and housekeeping ticks at either end without a rotation falling due
     (`LOp`, `runL`, `RunOK`): `stream_delivered_exactly_once`.  What a duplicating network would do:
     `duplicate_within_window_accepted`, `duplicate_rejected_after_two_ticks` (via the trace lemmas of `C04Session`).
  2. Node level (`Node`): frames read at A for destinations routed to B: `frames_delivered_exactly_once`.
  3. `no_other_node`: the datagrams go to B only; misdelivered to a third node they never reach its interface.

  Key rotation is kept out by hypothesis (`TickOK`): that the two ends agree on the key of the sending slot at every instant of a
  rotation is `C07Session.session_rotation_sync` / `fresh_payload_opens`.
-/
namespace VpnCloud.Proofs.C10Net

open VpnCloud.Node
open VpnCloud.Proofs.AssocLemmas VpnCloud.Proofs.SessionInvLemmas
open VpnCloud.Proofs.C10NetLemmas VpnCloud.Proofs.C04Session

/-! ## 1. session level -/

section
variable (env : CryptoEnv) (bodyOf : Init.BodyOf) (ok : Bytes → Bool)

/-- **stream_delivered_exactly_once**: two sessions in sync with room for all the messages of the history; every operation is a send of
    a message of a type other than ROTATION, delivered at once, or a tick at A or B without a rotation falling due (`RunOK`); the
    ideal AEAD views every ciphertext A emitted as what A sealed (`LogOK`).  Then B's session answers the i-th delivered datagram
    with exactly `.message ty body` of the i-th send and nothing to send back — the sequence handed on at B equals the sequence sent
    at A: same bytes, same order, same multiplicity —, A put exactly one datagram per send on the wire, and the sessions are in sync
    again at the end.  For the real nodes: over a loss-free, in-order, non-duplicating link each message given to `send_message` at A
    comes out of `handle_message` at B byte-identical and exactly once, for as long as no rotation intervenes and the 56-bit
    counter lasts. -/
theorem stream_delivered_exactly_once (s : LSt) (room : Nat) (ops : List LOp)
    (hsync : InSync room s.a s.b) (hroom : numSends ops ≤ room)
    (hok : RunOK env bodyOf ok s ops) (hlog : LogOK bodyOf (runL env bodyOf ok s ops).log) :
    (runL env bodyOf ok s ops).got = s.got ++ (sent ops).map (fun m => some (MsgResult.message m.1 m.2, [])) ∧
    (runL env bodyOf ok s ops).wire.length = s.wire.length + numSends ops ∧
    InSync (room - numSends ops) (runL env bodyOf ok s ops).a (runL env bodyOf ok s ops).b :=
  have ⟨h1, h2, h3, _⟩ := runL_inv env bodyOf ok ops s (room - numSends ops) ((Nat.sub_add_cancel hroom).symm ▸ hsync) hok hlog
  ⟨h1, h2, h3⟩

/-- the datagram the duplicate theorems below talk about, `wireOf s.a ty body ct`, is the one the send put on the wire -/
theorem wireOf_is_wire {room : Nat} (s : LSt) (hs : InSync (room + 1) s.a s.b) (ty : Nat) (body ct tail : Bytes) (rnd : Rand) (rr : RotRand) :
    (stepL env bodyOf ok s (.send ty body ct tail rnd rr)).wire = s.wire ++ [wireOf s.a ty body ct] := by
  cases hs with
  | enc ca cb hua hub hca hcb hc => simp only [stepL, wireOf, sendMessage_enc hua hca ty body ct]
  | plain hua hub => simp only [stepL, wireOf, sendMessage_unenc hua ty body ct]

open VpnCloud.Proofs.C07SessionLemmas in
/-- **stream_delivered_exactly_once_quiet**: the same with hypotheses that can be read off the initial state and the list alone
    (`runOK_of_quiet`): both sessions are quiet (`C07SessionLemmas.Quiet`: the handshake object is gone or only waits to be dropped — the
    state of an established session once the handshake has ended), at each end the rotate counter plus the number of that end's
    ticks in the history stays below `ROTATE_INTERVAL` (= 120 s; or there is no rotation state: unencrypted mode), and every
    message has a type other than ROTATION (and other than 255 on an unencrypted link). -/
theorem stream_delivered_exactly_once_quiet (s : LSt) (room : Nat) (ops : List LOp)
    (hsync : InSync room s.a s.b) (hroom : numSends ops ≤ room) (hqa : Quiet s.a) (hqb : Quiet s.b)
    (hra : s.a.rot = none ∨ s.a.rotateCounter + numTicksA ops < Generated.ROTATE_INTERVAL)
    (hrb : s.b.rot = none ∨ s.b.rotateCounter + numTicksB ops < Generated.ROTATE_INTERVAL)
    (hty : ∀ m ∈ sent ops, m.1 ≠ Generated.MESSAGE_TYPE_ROTATION ∧
      (s.a.unencrypted = true → m.1 ≠ Generated.INIT_MESSAGE_FIRST_BYTE))
    (hlog : LogOK bodyOf (runL env bodyOf ok s ops).log) :
    (runL env bodyOf ok s ops).got = s.got ++ (sent ops).map (fun m => some (MsgResult.message m.1 m.2, [])) ∧
    (runL env bodyOf ok s ops).wire.length = s.wire.length + numSends ops ∧
    InSync (room - numSends ops) (runL env bodyOf ok s ops).a (runL env bodyOf ok s ops).b :=
  stream_delivered_exactly_once env bodyOf ok s room ops hsync hroom
    (runOK_of_quiet env bodyOf ok ops s (room - numSends ops) ((Nat.sub_add_cancel hroom).symm ▸ hsync) hqa hqb hra hrb hty hlog) hlog

/-- **duplicate_within_window_accepted**: on an encrypted link in sync, the datagram of a send is delivered (and accepted) and then,
    after any further history with AT MOST ONE tick at B, delivered a second time: B's session accepts it again and hands on the
    same message a second time.  This is the in-window duplicate the text of C09 allows: "exactly once" needs the non-duplicating
    network of the property text. -/
theorem duplicate_within_window_accepted (s : LSt) (room : Nat) (hs : InSync (room + 1) s.a s.b) (henc : s.a.unencrypted = false)
    (ty : Nat) (body ct tail : Bytes) (rnd : Rand) (rr : RotRand) (more : List LOp) (hroom : numSends more ≤ room)
    (hok : RunOK env bodyOf ok s (.send ty body ct tail rnd rr :: more))
    (hlog : LogOK bodyOf (runL env bodyOf ok s (.send ty body ct tail rnd rr :: more)).log)
    (h1 : numTicksB more ≤ 1) (tail' : Bytes) (rnd' : Rand) (rr' : RotRand) :
    ∃ b', PeerCrypto.handleMessage env bodyOf ok (runL env bodyOf ok s (.send ty body ct tail rnd rr :: more)).b
      (wireOf s.a ty body ct) tail' rnd' rr' = .ok b' [] (.message ty body) [] := by
  exact (replay_outcome env bodyOf ok hs henc ty body ct tail rnd rr more hroom hok hlog tail' rnd' rr').1 h1

/-- **duplicate_rejected_after_two_ticks**: … delivered a second time after a further history with AT LEAST TWO ticks at B: B's session
    rejects it (crypto error, nothing handed on), whatever else happened in between.  This is `C04Session.dies_in_two_ticks_session`
    (its core-level form `C04Session.replay_dies`, which holds from any core; `C10NetLemmas.coreSync_replay`) applied to the trace B's core
    undergoes during the history (last clause of `runL_inv`).  So a replay of a captured datagram is delivered a second time only inside the window of two housekeeping ticks. -/
theorem duplicate_rejected_after_two_ticks (s : LSt) (room : Nat) (hs : InSync (room + 1) s.a s.b) (henc : s.a.unencrypted = false)
    (ty : Nat) (body ct tail : Bytes) (rnd : Rand) (rr : RotRand) (more : List LOp) (hroom : numSends more ≤ room)
    (hok : RunOK env bodyOf ok s (.send ty body ct tail rnd rr :: more))
    (hlog : LogOK bodyOf (runL env bodyOf ok s (.send ty body ct tail rnd rr :: more)).log)
    (h2 : 2 ≤ numTicksB more) (tail' : Bytes) (rnd' : Rand) (rr' : RotRand) :
    ∃ b', PeerCrypto.handleMessage env bodyOf ok (runL env bodyOf ok s (.send ty body ct tail rnd rr :: more)).b
      (wireOf s.a ty body ct) tail' rnd' rr' = .err b' .crypto := by
  exact (replay_outcome env bodyOf ok hs henc ty body ct tail rnd rr more hroom hok hlog tail' rnd' rr').2 h2

end

/-! ## 2. node level -/

section
variable (env : CryptoEnv) (bodyOf : Init.BodyOf)

/-- **frames_delivered_exactly_once**: node A (address `a`) and node B (address `b`) hold established sessions for each other that are in
    sync with room for all the frames (`NodeSync`); every frame of the list, when it is read from A's interface, parses at A and A's
    table — carried along from frame to frame — names `b` as next hop (`FramesOK`); the network hands every datagram A emits for `b`
    to B, once, at once (`stepN`); the ideal AEAD views every ciphertext A emitted as what A sealed (`LogOK`).  Then
    * A emits exactly one datagram per frame, all of them to `b`, and nothing else;
    * ALL that B emits, in total, are the frames themselves, written to its interface byte-identical, in the order read at A, each
      exactly once — namely those frames that parse as a frame / packet of B's device type; for a frame that does not parse at B
      (possible only if the two nodes run different device types, see `frames_delivered_same_mode`) nothing is written: B drops
      it with a parse error; B sends no datagram to anybody;
    * the two nodes are in sync again afterwards. -/
theorem frames_delivered_exactly_once (a b : NAddr) (s : NSt) (room : Nat) (evs : List FrameEv)
    (hsync : NodeSync room a b s.nA s.nB) (hroom : evs.length ≤ room)
    (hok : FramesOK env bodyOf a b s evs) (hlog : LogOK bodyOf (runN env bodyOf a b s evs).log) :
    (∃ ws : List Bytes, ws.length = evs.length ∧ (runN env bodyOf a b s evs).wire = s.wire ++ ws.map (Out.dgram b)) ∧
    (runN env bodyOf a b s evs).outB =
      s.outB ++ ((evs.map (·.data)).filter (fun d => (parseAddrs s.nB d).isSome)).map Out.iface ∧
    NodeSync (room - evs.length) a b (runN env bodyOf a b s evs).nA (runN env bodyOf a b s evs).nB := by
  obtain ⟨h1, h2, h3, _⟩ := runN_inv env bodyOf a b evs s (room - evs.length) ((Nat.sub_add_cancel hroom).symm ▸ hsync) hok hlog
  exact ⟨h1, h2, h3⟩

/-- **frames_delivered_same_mode**: if both nodes run the same device type (both TAP or both TUN), every frame parses at B as well, and
    what B's interface gets is exactly the list of frames read at A: same bytes, same order, each once, nothing else. -/
theorem frames_delivered_same_mode (a b : NAddr) (s : NSt) (room : Nat) (evs : List FrameEv)
    (hsync : NodeSync room a b s.nA s.nB) (hroom : evs.length ≤ room)
    (hok : FramesOK env bodyOf a b s evs) (hlog : LogOK bodyOf (runN env bodyOf a b s evs).log)
    (hmode : s.nB.cfg.tap = s.nA.cfg.tap) :
    (runN env bodyOf a b s evs).outB = s.outB ++ evs.map (fun ev => Out.iface ev.data) := by
  obtain ⟨_, h2, _, h4⟩ := runN_inv env bodyOf a b evs s (room - evs.length) ((Nat.sub_add_cancel hroom).symm ▸ hsync) hok hlog
  rw [h2]
  have hall : ∀ d ∈ evs.map (·.data), (fun d => (parseAddrs s.nB d).isSome) d = true := by
    intro d hd
    obtain ⟨ev, hev, rfl⟩ := List.mem_map.1 hd
    have := h4 ev hev
    unfold parseAddrs at this ⊢
    rw [hmode]
    exact this
  rw [List.filter_eq_self.2 hall, List.map_map]
  rfl

end

/-! ## 3. no other node -/

open VpnCloud.Proofs.C10More in
/-- node C is a stranger to the traffic that the node with address `a` seals under key `K`: it has no established session for `a` — and
    then, if a handshake with `a` is pending, that session has no core yet (`PendFreshAt`, part of the invariant of `C12Node`) —, or
    the session it has for `a` is encrypted and none of its key slots holds `K` (a session with A of its own, under a different key) -/
def Stranger (a : NAddr) (K : KeyRef) (nC : Node) : Prop :=
  PendFreshAt nC (mappedAddr a) ∧
  ∀ pc, lookupA nC.peers (mappedAddr a) = some pc →
    pc.crypto.unencrypted = false ∧ ∀ cc, pc.crypto.core = some cc → ∀ (j : Nat) (k : SlotKey), cc.slots[j]? = some k → k.key ≠ K

/-- the key with which node `n` currently seals for its peer `b` -/
def sendKey (n : Node) (b : NAddr) : Option KeyRef :=
  (lookupA n.peers b).bind fun p => p.crypto.core.bind fun c => c.slots[c.cur]?.map (·.key)

section
variable (env : CryptoEnv) (bodyOf : Init.BodyOf)

open VpnCloud.Proofs.C10More in
/-- **misdelivered_never_reaches_iface**: a datagram whose body is a seal under key `K`, handed by the network to a node that is a
    stranger to `K`-traffic from `a` (no session for `a`, or one under other keys), never reaches that node's interface
    (`C10More.non_peer_never_reaches_iface` for the first case, `C02.cross_connection_rejected` for the second). -/
theorem misdelivered_never_reaches_iface (oC : Oracle) (nC : Node) (now : Int) (a : NAddr) (bytes tail : Bytes)
    (K : KeyRef) (n : Nat) (p : Bytes) (hb : bodyOf (bytes.drop 8) = .sealed K n p) (hs : Stranger a K nC) :
    ∀ x, Out.iface x ∉ (handleNet env bodyOf oC nC now a bytes tail).1.outs := by
  intro x hx
  obtain ⟨pc, hpc, hi, ⟨pc', out, log, hopen⟩, _⟩ := iface_write_only_from_peer_data env bodyOf oC nC now a bytes tail x hs.1 hx
  obtain ⟨hun, hkeys⟩ := hs.2 pc hpc
  have hrej : pc.crypto.core = none ∨ ∃ cc e, pc.crypto.core = some cc ∧ (cc.decrypt (C09MoreLemmas.dgramOf bodyOf bytes)).2 = .error e := by
    cases hcore : pc.crypto.core with
    | none => exact Or.inl rfl
    | some cc =>
      obtain ⟨e, he⟩ := CoreLemmas.decrypt_rejects_seal cc (C09MoreLemmas.dgramOf bodyOf bytes) K n p hb
        (fun k hk hkey => absurd hkey (hkeys cc hcore _ k hk))
      exact Or.inr ⟨cc, e, rfl, he⟩
  obtain ⟨e, he, _⟩ := C02More.session_rejects env bodyOf pc.crypto bytes tail _ _ hi hun hrej
  rw [he] at hopen
  cases hopen

/-- **no_other_node**: in the situation of `frames_delivered_exactly_once` with encrypted sessions, for each frame read at A:
    (1) every datagram A emits for it goes to `b` — no third node is sent anything;
    (2) the body of such a datagram is, for the ideal AEAD, a seal under the key of A's sending slot for `b` (`sendKey`);
    (3) hence if the network misdelivers it to any node C that is a stranger to that key (`Stranger`: C has no established session for
        A's address, or its session with A runs under other keys), C writes nothing to its interface. -/
theorem no_other_node {room : Nat} (a b : NAddr) (s : NSt) (ev : FrameEv) (hsync : NodeSync (room + 1) a b s.nA s.nB)
    (henc : ∀ pa, lookupA s.nA.peers b = some pa → pa.crypto.unencrypted = false)
    (hf : FrameOK b s.nA ev) (hlog : LogOK bodyOf (stepN env bodyOf a b s ev).log) :
    ∃ K, sendKey s.nA b = some K ∧
      ∀ c bytes, Out.dgram c bytes ∈ (handleIface ev.oA s.nA ev.nowA ev.data).outs →
        c = b ∧
        (∃ n, bodyOf (bytes.drop 8) = .sealed K n (Generated.MESSAGE_TYPE_DATA :: ev.data)) ∧
        ∀ (nC : Node) (oC : Oracle) (nowC : Int) (tail : Bytes), Stranger a K nC →
          ∀ x, Out.iface x ∉ (handleNet env bodyOf oC nC nowC a bytes tail).1.outs := by
  obtain ⟨hfind, pa, pb, hpa, hpb, hsy⟩ := hsync
  obtain ⟨sa, dst, hp, hl⟩ := hf
  cases hsy with
  | plain hua _ => rw [henc pa hpa] at hua; cases hua
  | enc ca cb hua hub hca hcb hc =>
    obtain ⟨ks, kr, hs, _, _, hlt, _, _, _, e1, _, _⟩ := coreSync_encrypt hc (Generated.MESSAGE_TYPE_DATA :: ev.data)
    have hsm := sendMessage_enc hua hca Generated.MESSAGE_TYPE_DATA ev.data (rndFor ev.oA { node := s.nA } b).2.1.ct
    obtain ⟨_, houts, hlg⟩ := handleIface_exact ev.oA s.nA ev.nowA ev.data sa dst (addrId b) b pa _ _ _ hp hl hfind hpa hsm
    have hbody : bodyOf (rndFor ev.oA { node := s.nA } b).2.1.ct = (ca.encrypt (Generated.MESSAGE_TYPE_DATA :: ev.data)).2.body := by
      apply hlog (_, _)
      show _ ∈ s.log ++ (handleIface ev.oA s.nA ev.nowA ev.data).log
      rw [hlg]
      exact List.mem_append_right _ (List.mem_singleton.2 rfl)
    obtain ⟨_, hdg, _⟩ := enc_deliver env bodyOf payloadOk hub hcb hs hlt hc.cur (coreSync_send hc _).1 _ [] {} {} (by decide) hbody
    have hdrop := (congrArg Dgram.body hdg).trans (congrArg Dgram.body e1)
    refine ⟨ks.key, by simp only [sendKey, hpa, hca, hs, Option.bind_some, Option.map_some], ?_⟩
    intro c bytes hm
    rw [houts] at hm
    simp only [List.mem_singleton, Out.dgram.injEq] at hm
    obtain ⟨rfl, rfl⟩ := hm
    exact ⟨rfl, ⟨_, hdrop⟩, fun nC oC nowC tail hst =>
      misdelivered_never_reaches_iface env bodyOf oC nC nowC a _ tail ks.key _ _ hdrop hst⟩

end

/-! ## non-vacuity (toy cryptography of `InitLemmas.Toy`) and counterexamples -/
section NonVacuity
open VpnCloud.Proofs.InitLemmas

/-- A's session for B and B's session for A after a handshake: key 7 in slot 0, opposite halves, A's counter starts at 5 -/
def sessA : PeerCrypto := { init := none, core := some (Core.new 7 true 9 [5, 6, 7, 8]) }
def sessB : PeerCrypto := { init := none, core := some (Core.new 7 false 8 [0, 0, 0, 0]) }
/-- two IPv4 packets 10.0.0.1 → 10.0.0.2 -/
def pkt1 : Bytes := 69 :: (List.replicate 11 0 ++ [10, 0, 0, 1, 10, 0, 0, 2])
def pkt2 : Bytes := 69 :: (List.replicate 11 1 ++ [10, 0, 0, 1, 10, 0, 0, 2])
/-- ideal AEAD: the three ciphertexts A emits below open as what A sealed (key 7, nonces HALF + 6, 7, 8), everything else is garbage -/
def bodyEx : Init.BodyOf := fun ct =>
  if ct = [1, 2, 3] then .sealed 7 (HALF + 6) (0 :: pkt1)
  else if ct = [4, 5, 6] then .sealed 7 (HALF + 7) (0 :: pkt2)
  else if ct = [7, 8, 9] then .sealed 7 (HALF + 8) [2] else .garbage 0
/-- a history: two DATA messages and a KEEPALIVE, with ticks at both ends in between (three at B) -/
def exOps : List LOp :=
  [.send 0 pkt1 [1, 2, 3] [] {} {}, .tickB {}, .send 0 pkt2 [4, 5, 6] [] {} {}, .tickA {}, .tickB {}, .tickB {},
   .send 2 [] [7, 8, 9] [] {} {}]

theorem coreSync_ex : CoreSync 3 (Core.new 7 true 9 [5, 6, 7, 8]) (Core.new 7 false 8 [0, 0, 0, 0]) :=
  ⟨by decide, rfl, SlotKey.new 7 true 5, SlotKey.new 7 false 0, 5, rfl, rfl, rfl, rfl, by decide, Nat.zero_le _, Nat.zero_le _, Nat.zero_le _⟩

theorem inSync_ex : InSync 3 sessA sessB := .enc _ _ rfl rfl rfl rfl coreSync_ex

theorem runOK_ex : RunOK Toy.env bodyEx payloadOk { a := sessA, b := sessB } exOps :=
  ⟨⟨by decide, fun _ => by decide⟩, ⟨Or.inl rfl, _, _, _, _, rfl⟩, ⟨by decide, fun _ => by decide⟩, ⟨Or.inl rfl, _, _, _, _, rfl⟩,
   ⟨Or.inl rfl, _, _, _, _, rfl⟩, ⟨Or.inl rfl, _, _, _, _, rfl⟩, ⟨by decide, fun _ => by decide⟩, trivial⟩

theorem logOK_ex : LogOK bodyEx (runL Toy.env bodyEx payloadOk { a := sessA, b := sessB } exOps).log := by
  unfold LogOK; decide

/-- `stream_delivered_exactly_once`: all hypotheses hold of the example history … -/
example : (runL Toy.env bodyEx payloadOk { a := sessA, b := sessB } exOps).got =
      [] ++ (sent exOps).map (fun m => some (MsgResult.message m.1 m.2, [])) ∧
    (runL Toy.env bodyEx payloadOk { a := sessA, b := sessB } exOps).wire.length = 0 + numSends exOps ∧
    InSync (3 - numSends exOps) (runL Toy.env bodyEx payloadOk { a := sessA, b := sessB } exOps).a
      (runL Toy.env bodyEx payloadOk { a := sessA, b := sessB } exOps).b :=
  stream_delivered_exactly_once Toy.env bodyEx payloadOk { a := sessA, b := sessB } 3 exOps inSync_ex (by decide) runOK_ex logOK_ex

/-- the same pair with rotation states (rotate counters 100 and 110) -/
def sessAR : PeerCrypto := { sessA with rot := some (PeerCrypto.initSide true 1), rotateCounter := 100 }
def sessBR : PeerCrypto := { sessB with rot := some (PeerCrypto.initSide false 0), rotateCounter := 110 }

/-- `stream_delivered_exactly_once_quiet`: the static hypotheses hold of that pair (handshake objects gone; one tick at A and three at B
    in the history, so the counters stay below 120) -/
example : InSync 3 sessAR sessBR ∧ C07SessionLemmas.Quiet sessAR ∧ C07SessionLemmas.Quiet sessBR ∧
    (sessAR.rot = none ∨ sessAR.rotateCounter + numTicksA exOps < Generated.ROTATE_INTERVAL) ∧
    (sessBR.rot = none ∨ sessBR.rotateCounter + numTicksB exOps < Generated.ROTATE_INTERVAL) ∧
    (∀ m ∈ sent exOps, m.1 ≠ Generated.MESSAGE_TYPE_ROTATION ∧ (sessAR.unencrypted = true → m.1 ≠ Generated.INIT_MESSAGE_FIRST_BYTE)) ∧
    LogOK bodyEx (runL Toy.env bodyEx payloadOk { a := sessAR, b := sessBR } exOps).log := by
  refine ⟨?_, fun _ h => (by cases h), fun _ h => (by cases h), Or.inr (by decide), Or.inr (by decide), ?_, (by unfold LogOK; decide)⟩
  · exact .enc _ _ rfl rfl rfl rfl coreSync_ex
  · intro m hm
    refine ⟨?_, fun h => (by cases h)⟩
    revert m
    decide

/-- … and the conclusion is what the model computes: the three messages, in order, once each -/
example : (runL Toy.env bodyEx payloadOk { a := sessA, b := sessB } exOps).got =
    [some (.message 0 pkt1, []), some (.message 0 pkt2, []), some (.message 2 [], [])] := by decide

/-- the same pair with a rotation state whose counter stays below `ROTATE_INTERVAL`: `TickOK` holds through its second disjunct -/
example : TickOK { sessA with rot := some (PeerCrypto.initSide true 1), rotateCounter := 17 } {} :=
  ⟨Or.inr (by decide), _, _, _, _, rfl⟩

/-- `duplicate_within_window_accepted`: the first datagram of the example, delivered again after one tick at B and one more send, is
    accepted a second time (hypotheses, then what the model computes) -/
example : ∃ b', PeerCrypto.handleMessage Toy.env bodyEx payloadOk
      (runL Toy.env bodyEx payloadOk { a := sessA, b := sessB } (exOps.take 3)).b (wireOf sessA 0 pkt1 [1, 2, 3]) [] {} {} =
    .ok b' [] (.message 0 pkt1) [] :=
  duplicate_within_window_accepted Toy.env bodyEx payloadOk { a := sessA, b := sessB } 2 inSync_ex rfl 0 pkt1 [1, 2, 3] [] {} {}
    [.tickB {}, .send 0 pkt2 [4, 5, 6] [] {} {}] (by decide)
    ⟨⟨by decide, fun _ => by decide⟩, ⟨Or.inl rfl, _, _, _, _, rfl⟩, ⟨by decide, fun _ => by decide⟩, trivial⟩
    (by unfold LogOK; decide) (by decide) [] {} {}

example : recvOf (PeerCrypto.handleMessage Toy.env bodyEx payloadOk
      (runL Toy.env bodyEx payloadOk { a := sessA, b := sessB } (exOps.take 3)).b (wireOf sessA 0 pkt1 [1, 2, 3]) [] {} {}) =
    some (.message 0 pkt1, []) := by decide

/-- `duplicate_rejected_after_two_ticks`: delivered again at the end of the example history (three ticks at B), it is rejected -/
example : ∃ b', PeerCrypto.handleMessage Toy.env bodyEx payloadOk
      (runL Toy.env bodyEx payloadOk { a := sessA, b := sessB } exOps).b (wireOf sessA 0 pkt1 [1, 2, 3]) [] {} {} = .err b' .crypto :=
  duplicate_rejected_after_two_ticks Toy.env bodyEx payloadOk { a := sessA, b := sessB } 2 inSync_ex rfl 0 pkt1 [1, 2, 3] [] {} {}
    exOps.tail (by decide) runOK_ex logOK_ex (by decide) [] {} {}

example : recvOf (PeerCrypto.handleMessage Toy.env bodyEx payloadOk
      (runL Toy.env bodyEx payloadOk { a := sessA, b := sessB } exOps).b (wireOf sessA 0 pkt1 [1, 2, 3]) [] {} {}) = none := by decide

/-- COUNTEREXAMPLE 1: with `InSync` as in the property text — of B's window only the floor `min` is required to lie at or below A's next
    nonce — the statement is false.  `cbBad1`: floor 0 but floor-to-be above A's next nonce: one tick at B and A's next message is
    rejected.  `cbBad2`: floor and floor-to-be 0 but a nonce above A's counter already seen: two ticks.  (Neither state is reachable
    with genuine traffic — B only ever sees nonces A has used —, but the invariant has to say so: the conjuncts `nextMin` and
    `seen` of `CoreSync`.) -/
def cbBad1 : Core :=
  { slots := [{ key := 7, send := 0, nextMin := HALF + 100 }, SlotKey.new 8 false 0, SlotKey.new 8 false 0, SlotKey.new 8 false 0],
    cur := 0, half := false }
def cbBad2 : Core :=
  { slots := [{ key := 7, send := 0, seen := HALF + 100 }, SlotKey.new 8 false 0, SlotKey.new 8 false 0, SlotKey.new 8 false 0],
    cur := 0, half := false }

example :
    -- the in-sync condition of the property text holds of both cores …
    (∀ cb ∈ [cbBad1, cbBad2], ∃ ks kr, (Core.new 7 true 9 [5, 6, 7, 8]).slots[0]? = some ks ∧ cb.slots[0]? = some kr ∧
      kr.key = ks.key ∧ cb.half = false ∧ kr.min ≤ ks.send + 1 ∧ ks.send + 3 < HALF + 2 ^ 56) ∧
    -- … but after one resp. two ticks at B the message is not delivered
    (runL Toy.env bodyEx payloadOk { a := sessA, b := { sessB with core := some cbBad1 } }
      [.tickB {}, .send 0 pkt1 [1, 2, 3] [] {} {}]).got = [none] ∧
    (runL Toy.env bodyEx payloadOk { a := sessA, b := { sessB with core := some cbBad2 } }
      [.tickB {}, .tickB {}, .send 0 pkt1 [1, 2, 3] [] {} {}]).got = [none] := by
  refine ⟨?_, by decide, by decide⟩
  intro cb hcb
  simp only [List.mem_cons, List.not_mem_nil, or_false] at hcb
  rcases hcb with rfl | rfl
  · exact ⟨_, _, rfl, rfl, rfl, rfl, by decide, by decide⟩
  · exact ⟨_, _, rfl, rfl, rfl, rfl, by decide, by decide⟩

/-- the `room` of `InSync` is tight: A's counter at `2^56 - 1` is in sync with room 0 (what was sent so far fits the 56 transmitted
    bits), but the next message gets nonce counter `2^56`, which B cannot reconstruct: it is not delivered -/
def sessAFull : PeerCrypto :=
  { init := none, core := some { (Core.new 7 true 9 [5, 6, 7, 8]) with
      slots := [{ key := 7, send := HALF + 2 ^ 56 - 1 }, SlotKey.new 9 true 6, SlotKey.new 9 true 7, SlotKey.new 9 true 8] } }

example : InSync 0 sessAFull sessB ∧
    (runL Toy.env (fun _ => .sealed 7 (HALF + 2 ^ 56) (0 :: pkt1)) payloadOk { a := sessAFull, b := sessB }
      [.send 0 pkt1 [1, 2, 3] [] {} {}]).got = [none] :=
  ⟨.enc _ _ rfl rfl rfl rfl ⟨by decide, rfl, _, SlotKey.new 7 false 0, 2 ^ 56 - 1, rfl, rfl, rfl, by decide, by decide,
    Nat.zero_le _, Nat.zero_le _, Nat.zero_le _⟩, by decide⟩

/-- COUNTEREXAMPLE 2 (why `OpOK` excludes type 255 in unencrypted mode): two sessions in unencrypted mode are `InSync`, but a message
    of type 255 (`MESSAGE_TYPE_CLOSE`) travels with its type byte in the clear, and 255 is the handshake marker: B's session takes the
    datagram for a handshake message and hands on nothing. -/
def sessU : PeerCrypto := { init := none, unencrypted := true }

example : InSync 5 sessU sessU ∧
    (runL Toy.env bodyEx payloadOk { a := sessU, b := sessU } [.send Generated.MESSAGE_TYPE_CLOSE [] [] [] {} {}]).got = [none] ∧
    (runL Toy.env bodyEx payloadOk { a := sessU, b := sessU } [.send 0 pkt1 [] [] {} {}]).got = [some (.message 0 pkt1, [])] :=
  ⟨.plain rfl rfl, by decide, by decide⟩

/-- remark: in unencrypted mode there is no replay window at all — a duplicate is accepted however many ticks have passed (so
    `duplicate_rejected_after_two_ticks` needs the encrypted mode) -/
example : recvOf (PeerCrypto.handleMessage Toy.env bodyEx payloadOk
      (runL Toy.env bodyEx payloadOk { a := sessU, b := sessU } [.send 0 pkt1 [] [] {} {}, .tickB {}, .tickB {}, .tickB {}]).b
      (wireOf sessU 0 pkt1 []) [] {} {}) = some (.message 0 pkt1, []) := by decide

/-! ### two nodes -/

def aA : NAddr := .v6 (List.replicate 16 0) 1
def aB : NAddr := .v6 (List.replicate 16 0) 2
def cfg0 (tap : Bool) : NodeCfg :=
  { tap := tap, learning := true, broadcast := false, peerTimeout := 300, peerTimeoutPublish := 300, updateFreq := 10,
    claims := [], key := [7, 7, 7, 7], trusted := [[9, 9, 9, 9]], algos := Toy.algos }
/-- the ciphertext bytes of every datagram emitted in the step are `ct` -/
def oWith (ct : Bytes) : Oracle :=
  { emitted := fun _ _ => List.replicate 8 0 ++ ct, rotProp := fun _ => 0, rotPend := fun _ => 0, starts := fun _ => [] }
def peerOf (pc : PeerCrypto) : Peer := { addrs := [], timeout := 1000, peerTimeout := 300, nodeId := List.replicate 16 1, crypto := pc }
def tbl0 : Table := { cacheTimeout := 300, claimTimeout := 300 }
/-- node A (TUN): one peer B (id 2) that claims 10.0.0.0/8 -/
def nA : Node :=
  { nodeId := List.replicate 16 8, addr := aA, cfg := cfg0 false, peers := [(aB, peerOf sessA)],
    table := { tbl0 with claims := [⟨2, ⟨[10, 0, 0, 0], 8⟩, 2000⟩] } }
/-- node B (TUN, learning): one peer A -/
def nB : Node := { nodeId := List.replicate 16 9, addr := aB, cfg := cfg0 false, peers := [(aA, peerOf sessB)], table := tbl0 }
/-- two frames read at A; the second finds its destination in the cache the first lookup filled -/
def ev1 : FrameEv := { data := pkt1, nowA := 100, oA := oWith [1, 2, 3], nowB := 101, oB := oWith [], tail := [] }
def ev2 : FrameEv := { data := pkt2, nowA := 102, oA := oWith [4, 5, 6], nowB := 103, oB := oWith [], tail := [9, 9] }
def evs : List FrameEv := [ev1, ev2]

theorem nodeSync_ex : NodeSync 2 aA aB nA nB :=
  ⟨by decide, peerOf sessA, peerOf sessB, rfl, rfl, inSync_ex.mono (by decide)⟩

theorem framesOK_ex : FramesOK Toy.env bodyEx aA aB { nA := nA, nB := nB } evs :=
  ⟨⟨[10, 0, 0, 1], [10, 0, 0, 2], by decide, by decide⟩, ⟨[10, 0, 0, 1], [10, 0, 0, 2], by decide, by decide⟩, trivial⟩

theorem logOKN_ex : LogOK bodyEx (runN Toy.env bodyEx aA aB { nA := nA, nB := nB } evs).log := by
  unfold LogOK; decide

/-- `frames_delivered_exactly_once` / `frames_delivered_same_mode`: all hypotheses hold of the two nodes and the two frames … -/
example : (runN Toy.env bodyEx aA aB { nA := nA, nB := nB } evs).outB = [] ++ evs.map (fun ev => Out.iface ev.data) :=
  frames_delivered_same_mode Toy.env bodyEx aA aB { nA := nA, nB := nB } 2 evs nodeSync_ex (by decide) framesOK_ex logOKN_ex rfl

/-- … and the conclusions are what the model computes: B's interface gets the two packets, A emitted two datagrams to B;
    the second lookup was answered from A's cache (the table was carried along) -/
example : (runN Toy.env bodyEx aA aB { nA := nA, nB := nB } evs).outB = [.iface pkt1, .iface pkt2] ∧
    (runN Toy.env bodyEx aA aB { nA := nA, nB := nB } evs).wire =
      [.dgram aB (0 :: Bytes.ofBE 7 (HALF + 6) ++ [1, 2, 3]), .dgram aB (0 :: Bytes.ofBE 7 (HALF + 7) ++ [4, 5, 6])] ∧
    (stepN Toy.env bodyEx aA aB { nA := nA, nB := nB } ev1).nA.table.cache.length = 1 := by decide

/-- "for the others nothing": A in TAP mode and B in TUN mode.  The Ethernet frame (destination MAC cached for peer 2) is sealed, sent,
    opened by B's session — and dropped by B, because it does not parse as an IP packet: nothing reaches B's interface. -/
def frameEth : Bytes := [1, 2, 3, 4, 5, 6, 7, 8, 9, 10, 11, 12, 8, 0, 42]
def nATap : Node :=
  { nA with cfg := cfg0 true, table := { tbl0 with cache := [{ addr := [1, 2, 3, 4, 5, 6], peer := 2, timeout := 2000 }] } }
def bodyEth : Init.BodyOf := fun _ => .sealed 7 (HALF + 6) (0 :: frameEth)
def evEth : FrameEv := { data := frameEth, nowA := 100, oA := oWith [1, 2, 3], nowB := 101, oB := oWith [], tail := [] }

example : NodeSync 1 aA aB nATap nB ∧ FramesOK Toy.env bodyEth aA aB { nA := nATap, nB := nB } [evEth] ∧
    LogOK bodyEth (runN Toy.env bodyEth aA aB { nA := nATap, nB := nB } [evEth]).log ∧
    (parseAddrs nB frameEth).isSome = false ∧
    (runN Toy.env bodyEth aA aB { nA := nATap, nB := nB } [evEth]).wire.length = 1 ∧
    (runN Toy.env bodyEth aA aB { nA := nATap, nB := nB } [evEth]).outB = [] :=
  ⟨⟨by decide, peerOf sessA, peerOf sessB, rfl, rfl, inSync_ex.mono (by decide)⟩,
   ⟨⟨[7, 8, 9, 10, 11, 12], [1, 2, 3, 4, 5, 6], by decide, by decide⟩, trivial⟩, by unfold LogOK; decide, by decide, by decide, by decide⟩

/-! ### a third node -/

def aC : NAddr := .v6 (List.replicate 16 0) 3
/-- node C without any session for A's address -/
def nC0 : Node := { nodeId := List.replicate 16 7, addr := aC, cfg := cfg0 false, table := tbl0 }
/-- node C with a session of its own with A, under key 11 -/
def sessC : PeerCrypto := { init := none, core := some (Core.new 11 false 12 [0, 0, 0, 0]) }
def nC1 : Node := { nC0 with peers := [(aA, peerOf sessC)] }

theorem stranger_nC0 : Stranger aA 7 nC0 :=
  ⟨fun _ _ hq => (by cases hq), fun _ hp => (by cases hp)⟩

theorem stranger_nC1 : Stranger aA 7 nC1 := by
  refine ⟨fun _ hp _ => absurd hp (by decide), fun pc hp => ?_⟩
  have : pc = peerOf sessC := by
    have := lookupA_some_mem hp
    simp only [nC1, List.mem_singleton, Prod.mk.injEq] at this
    exact this.2
  subst this
  refine ⟨rfl, fun cc hcc j k hk => ?_⟩
  cases hcc
  have hm := List.mem_of_getElem? hk
  clear hk
  revert k
  decide

/-- `no_other_node`: the hypotheses hold of A, B and the first frame; the key is 7; both third nodes are strangers to it … -/
example : ∃ K, sendKey nA aB = some K ∧
    ∀ c bytes, Out.dgram c bytes ∈ (handleIface (oWith [1, 2, 3]) nA 100 pkt1).outs →
      c = aB ∧ (∃ n, bodyEx (bytes.drop 8) = .sealed K n (Generated.MESSAGE_TYPE_DATA :: pkt1)) ∧
      ∀ (nC : Node) (oC : Oracle) (nowC : Int) (tail : Bytes), Stranger aA K nC →
        ∀ x, Out.iface x ∉ (handleNet Toy.env bodyEx oC nC nowC aA bytes tail).1.outs :=
  no_other_node Toy.env bodyEx aA aB { nA := nA, nB := nB } ev1 (room := 1) nodeSync_ex
    (fun pa hpa => by cases hpa; rfl) ⟨[10, 0, 0, 1], [10, 0, 0, 2], by decide, by decide⟩ (by unfold LogOK; decide)

example : sendKey nA aB = some 7 := by decide

/-- … and what the model computes when A's datagram is misdelivered to them: C without a session counts an invalid packet, C with its own
    session under key 11 gets a crypto error; neither writes to its interface (B, for comparison, does) -/
example :
    (handleNet Toy.env bodyEx (oWith []) nC0 100 aA (0 :: Bytes.ofBE 7 (HALF + 6) ++ [1, 2, 3]) []).1.outs = [] ∧
    (handleNet Toy.env bodyEx (oWith []) nC1 100 aA (0 :: Bytes.ofBE 7 (HALF + 6) ++ [1, 2, 3]) []).1.outs = [] ∧
    (handleNet Toy.env bodyEx (oWith []) nC1 100 aA (0 :: Bytes.ofBE 7 (HALF + 6) ++ [1, 2, 3]) []).2 = some .crypto ∧
    (handleNet Toy.env bodyEx (oWith []) nB 100 aA (0 :: Bytes.ofBE 7 (HALF + 6) ++ [1, 2, 3]) []).1.outs = [.iface pkt1] := by decide

end NonVacuity

end VpnCloud.Proofs.C10Net
