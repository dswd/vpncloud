import VpnCloud.Proofs.Lemmas.Core.C07KeysLemmas
/-
  C07 (keys) — rotated-in keys are separate keys.

  The model side of the correspondence check "different key exchanges install different key material, one
  exchange installs the same material at both ends".  The two-party rotation system `Sys`/`Step` of
  `Model/Rotation.lean` is instrumented with a ghost log per end (`GSys`, `GStep`, `GReach` in
  `Lemmas/Core/C07KeysLemmas.lean`): every `(message id, key)` handed to `rotate_key` is recorded.  The
  instrumentation is exact (`step_installs_logged`) and refines `Sys`/`Step` in both directions
  (`greach_sound`, `greach_complete`).

  A duplicate delivery does NOT re-install a key (the first delivery clears `proposed`, so the second one
  only replaces the pending reply), hence the plain `Nodup` statement of `installed_keys_fresh` holds.
-/
namespace VpnCloud.Rot

/-- Two ECDH results are the same key material exactly when they come from the same unordered pair of
ephemeral key pairs (idealisation I3). -/
theorem keys_K_inj (a b c d : Nat) : K a b = K c d ↔ (a = c ∧ b = d) ∨ (a = d ∧ b = c) := K_inj a b c d

/-- A rotated-in key is never the key of the handshake. -/
theorem keys_K_ne_init (a b : Nat) : K a b ≠ .init := K_ne_init a b

/-- A rotated-in key is never the filler of an unused slot. -/
theorem keys_K_ne_dummy (a b side slot : Nat) : K a b ≠ .dummy side slot := K_ne_dummy a b side slot

theorem gstep_sound {g g' : GSys} (st : GStep g g') : Step g.sys g'.sys := by
  cases st with
  | cycleX => exact Step.cycleX _
  | cycleY => exact Step.cycleY _
  | delivX m hm => exact Step.delivX _ m hm
  | delivY m hm => exact Step.delivY _ m hm

theorem gstep_complete {s t : Sys} (st : Step s t) (lx ly : List (Nat × Key)) :
    ∃ lx' ly', GStep ⟨s, lx, ly⟩ ⟨t, lx', ly'⟩ := by
  cases st with
  | cycleX => exact ⟨_, _, GStep.cycleX ⟨s, lx, ly⟩⟩
  | cycleY => exact ⟨_, _, GStep.cycleY ⟨s, lx, ly⟩⟩
  | delivX m hm => exact ⟨_, _, GStep.delivX ⟨s, lx, ly⟩ m hm⟩
  | delivY m hm => exact ⟨_, _, GStep.delivY ⟨s, lx, ly⟩ m hm⟩

/-- The projection of the instrumented runs is contained in the runs of `Rot.Reachable` … -/
theorem greach_sound {g : GSys} (h : GReach g) : Reachable g.sys := by
  induction h with
  | init => exact Reachable.init
  | step _ st ih => exact Reachable.step ih (gstep_sound st)

/-- … and every reachable state of `Sys` is the projection of an instrumented run:
the ghost logs restrict nothing. -/
theorem greach_complete {s : Sys} (h : Reachable s) : ∃ lx ly, GReach ⟨s, lx, ly⟩ := by
  induction h with
  | init => exact ⟨[], [], GReach.init⟩
  | step _ st ih =>
    obtain ⟨lx, ly, hg⟩ := ih
    obtain ⟨lx', ly', st'⟩ := gstep_complete st lx ly
    exact ⟨lx', ly', GReach.step hg st'⟩

/-- The ghost log is exact: in one step each end's log grows by a (possibly empty) list of new entries,
and the end's key slots after the step are the slots before with exactly these entries installed. -/
theorem step_installs_logged {g g' : GSys} (st : GStep g g') :
    ∃ nx ny, g'.logX = nx ++ g.logX ∧ g'.logY = ny ++ g.logY ∧
      g'.sys.x.slots = installAll g.sys.x.slots nx ∧ g'.sys.y.slots = installAll g.sys.y.slots ny := by
  cases st with
  | cycleX => exact ⟨_, [], rfl, rfl, cycle_slots _ _, rfl⟩
  | cycleY => exact ⟨[], _, rfl, rfl, rfl, cycle_slots _ _⟩
  | delivX m hm => exact ⟨_, [], rfl, rfl, process_slots _ _ _, rfl⟩
  | delivY m hm => exact ⟨[], _, rfl, rfl, rfl, process_slots _ _ _⟩

theorem slots_logged {g : GSys} (h : GReach g) :
    g.sys.x.slots = installAll initSys.x.slots g.logX ∧ g.sys.y.slots = installAll initSys.y.slots g.logY := by
  induction h with
  | init => exact ⟨rfl, rfl⟩
  | step _ st ih =>
    obtain ⟨nx, ny, ex, ey, sx, sy⟩ := step_installs_logged st
    rw [ex, ey, installAll_append, installAll_append, ← ih.1, ← ih.2]
    exact ⟨sx, sy⟩

/-- **Installed rotation keys never repeat.**  In every reachable state of the two-party system — cycles
at either end in any order, delivery of any message ever sent any number of times, or never — the
sequence of keys an end has installed by rotation (over all four slots) has no repetition: a node never
re-uses the key material of an earlier rotation, not even after duplicated or replayed rotation messages.
The ephemeral numbers are fresh as the system draws them (`Sys.fresh`). -/
theorem installed_keys_fresh {g : GSys} (h : GReach g) :
    (g.logX.map Prod.snd).Nodup ∧ (g.logY.map Prod.snd).Nodup := by
  obtain ⟨ox, oy, _, _, _, hx, hy⟩ := kinv_reach h
  exact ⟨hx.nodup, hy.nodup⟩

/-- The same per step: whatever a step installs into a slot of an end (`nx`/`ny` are exactly the installs of
the step, see `step_installs_logged`) differs from every key that end has installed before, and two installs
of the same step differ as well. -/
theorem installed_keys_fresh_step {g g' : GSys} (h : GReach g) (st : GStep g g')
    {nx ny : List (Nat × Key)} (hx : g'.logX = nx ++ g.logX) (hy : g'.logY = ny ++ g.logY) :
    (∀ r ∈ nx, ∀ r' ∈ g.logX, r.2 ≠ r'.2) ∧ (∀ r ∈ ny, ∀ r' ∈ g.logY, r.2 ≠ r'.2) ∧
    (nx.map Prod.snd).Nodup ∧ (ny.map Prod.snd).Nodup := by
  obtain ⟨h1, h2⟩ := installed_keys_fresh (GReach.step h st)
  rw [hx, List.map_append, List.nodup_append] at h1
  rw [hy, List.map_append, List.nodup_append] at h2
  refine ⟨?_, ?_, h1.1, h2.1⟩
  · intro r hr r' hr'
    exact h1.2.2 _ (List.mem_map_of_mem hr) _ (List.mem_map_of_mem hr')
  · intro r hr r' hr'
    exact h2.2.2 _ (List.mem_map_of_mem hr) _ (List.mem_map_of_mem hr')

/-- Every key installed by rotation is an ECDH result `.dh lo hi` of two different ephemeral key pairs
(never the handshake key, never a slot filler). -/
theorem installed_keys_dh {g : GSys} (h : GReach g) :
    (∀ r ∈ g.logX, ∃ lo hi, r.2 = .dh lo hi ∧ lo < hi) ∧ (∀ r ∈ g.logY, ∃ lo hi, r.2 = .dh lo hi ∧ lo < hi) := by
  obtain ⟨ox, oy, _, _, hd, hx, hy⟩ := kinv_reach h
  have key : ∀ a c : Nat, a ≠ c → ∃ lo hi, K a c = .dh lo hi ∧ lo < hi := fun a c hne => ⟨_, _, K_eq a c, by omega⟩
  constructor
  · intro r hr
    obtain ⟨a, c, h1, h2, h3, _, _⟩ := hx.logd r hr
    rw [h1]; exact key a c (fun heq => hd a h2 (heq ▸ h3))
  · intro r hr
    obtain ⟨a, c, h1, h2, h3, _, _⟩ := hy.logd r hr
    rw [h1]; exact key a c (fun heq => hd a (heq ▸ h3) h2)

/-- **One exchange, one key.**  Whatever the two ends ever installed for the same message id is the same
key material — for every schedule, loss, duplication and reordering. -/
theorem both_ends_same_exchange_log {g : GSys} (h : GReach g) {i : Nat} {k1 k2 : Key}
    (hx : (i, k1) ∈ g.logX) (hy : (i, k2) ∈ g.logY) : k1 = k2 := by
  rcases ginv_reach h with ⟨_, l⟩ | ⟨_, l⟩
  · exact l.agree i k1 k2 hx hy
  · exact (l.agree i k2 k1 hy hx).symm

/-- In terms of the slots: whenever both ends hold a `.dh` key under the same slot index which they
installed for the same message id, it is the same key: packets sealed under that key id by one end open at
the other. -/
theorem both_ends_same_exchange {g : GSys} (h : GReach g) {i lo1 hi1 lo2 hi2 : Nat}
    (hx : g.sys.x.slots (i % 4) = .dh lo1 hi1) (hy : g.sys.y.slots (i % 4) = .dh lo2 hi2)
    (lx : (i, g.sys.x.slots (i % 4)) ∈ g.logX) (ly : (i, g.sys.y.slots (i % 4)) ∈ g.logY) :
    g.sys.x.slots (i % 4) = g.sys.y.slots (i % 4) ∧ lo1 = lo2 ∧ hi1 = hi2 := by
  have := both_ends_same_exchange_log h lx ly
  refine ⟨this, ?_⟩
  rw [hx, hy] at this
  injection this with h1 h2
  exact ⟨h1, h2⟩

/-- Different exchanges install different keys at both ends: a key installed by `X` for id `i` and a key
installed by `Y` for a different id `j` differ, provided `X` itself also installed something for `j`
(the exchange `j` was completed at both ends). -/
theorem different_exchanges_different_keys {g : GSys} (h : GReach g) {i j : Nat} {k1 k2 k : Key}
    (hi : (i, k1) ∈ g.logX) (hj : (j, k2) ∈ g.logY) (hjx : (j, k) ∈ g.logX) (hij : i ≠ j) : k1 ≠ k2 := by
  have hk : k = k2 := both_ends_same_exchange_log h hjx hj
  subst hk
  intro heq
  subst heq
  have hnd := (installed_keys_fresh h).1
  -- two entries of `logX` with the same key are the same entry
  have : ∀ (l : List (Nat × Key)), (l.map Prod.snd).Nodup → ∀ a b : Nat, ∀ k : Key,
      (a, k) ∈ l → (b, k) ∈ l → a = b := by
    intro l
    induction l with
    | nil => intro _ a b k ha; cases ha
    | cons r l ih =>
      intro hn a b k ha hb
      rw [List.map_cons, List.nodup_cons] at hn
      rcases List.mem_cons.1 ha with ha1 | ha1 <;> rcases List.mem_cons.1 hb with hb1 | hb1
      · rw [← hb1] at ha1; cases ha1; rfl
      · subst ha1; exact absurd (List.mem_map_of_mem (f := Prod.snd) hb1) hn.1
      · subst hb1; exact absurd (List.mem_map_of_mem (f := Prod.snd) ha1) hn.1
      · exact ih hn.2 a b k ha1 hb1
  exact hij (this _ hnd i j k1 hi hjx)

/-! ### non-vacuity: a concrete schedule with two completed rotations -/

def gCycleX (g : GSys) : GSys :=
  ⟨{ g.sys with x := (cycle g.sys.x g.sys.fresh).1, sentX := addMsg g.sys.sentX (cycle g.sys.x g.sys.fresh).2,
                fresh := g.sys.fresh + 1 }, cycleLog g.sys.x ++ g.logX, g.logY⟩
def gCycleY (g : GSys) : GSys :=
  ⟨{ g.sys with y := (cycle g.sys.y g.sys.fresh).1, sentY := addMsg g.sys.sentY (cycle g.sys.y g.sys.fresh).2,
                fresh := g.sys.fresh + 1 }, g.logX, cycleLog g.sys.y ++ g.logY⟩
def gDelivX (g : GSys) (m : Msg) : GSys :=
  ⟨{ g.sys with x := process g.sys.x m g.sys.fresh, fresh := g.sys.fresh + 1 }, processLog g.sys.x m ++ g.logX, g.logY⟩
def gDelivY (g : GSys) (m : Msg) : GSys :=
  ⟨{ g.sys with y := process g.sys.y m g.sys.fresh, fresh := g.sys.fresh + 1 }, g.logX, processLog g.sys.y m ++ g.logY⟩

/-- init message to Y, Y rotates (id 2), X receives and rotates (id 3), Y receives; then the message of id 2
is delivered to X a second time (a duplicate), which installs nothing. -/
def demo : GSys :=
  gDelivX (gDelivY (gCycleX (gDelivX (gCycleY (gDelivY ginit ⟨1, 0, none⟩)) ⟨2, 2, some 1⟩)) ⟨3, 4, some 3⟩) ⟨2, 2, some 1⟩

theorem demo_reach : GReach demo := by
  refine GReach.step (GReach.step (GReach.step (GReach.step (GReach.step (GReach.step GReach.init
    (GStep.delivY _ ⟨1, 0, none⟩ ?_)) (GStep.cycleY _)) (GStep.delivX _ ⟨2, 2, some 1⟩ ?_)) (GStep.cycleX _))
    (GStep.delivY _ ⟨3, 4, some 3⟩ ?_)) (GStep.delivX _ ⟨2, 2, some 1⟩ ?_) <;> decide

/-- two completed rotations: two different keys at each end, the same ones at both ends -/
example : GReach demo ∧ demo.logX = [(3, .dh 2 3), (2, .dh 0 1)] ∧ demo.logY = [(3, .dh 2 3), (2, .dh 0 1)] ∧
    demo.sys.x.slots 2 = .dh 0 1 ∧ demo.sys.x.slots 3 = .dh 2 3 ∧
    demo.sys.y.slots 2 = .dh 0 1 ∧ demo.sys.y.slots 3 = .dh 2 3 :=
  ⟨demo_reach, by decide, by decide, by decide, by decide, by decide, by decide⟩

/-- the hypotheses of `both_ends_same_exchange` and of `different_exchanges_different_keys` are met in `demo` -/
example : demo.sys.x.slots (3 % 4) = .dh 2 3 ∧ demo.sys.y.slots (3 % 4) = .dh 2 3 ∧
    (3, demo.sys.x.slots (3 % 4)) ∈ demo.logX ∧ (3, demo.sys.y.slots (3 % 4)) ∈ demo.logY ∧
    (2, Key.dh 0 1) ∈ demo.logX ∧ (3, Key.dh 2 3) ∈ demo.logY ∧ (3, Key.dh 2 3) ∈ demo.logX :=
  ⟨by decide, by decide, by decide, by decide, by decide, by decide, by decide⟩

end VpnCloud.Rot
