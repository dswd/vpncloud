import VpnCloud.Proofs.Lemmas.Node.C02MoreLemmas
import VpnCloud.Proofs.C02Node
import VpnCloud.Proofs.C06
import VpnCloud.Proofs.C09More
import VpnCloud.Proofs.C01More
/-
  C02 / C06 at node level — "everything a node emits after the handshake is sealed unless BOTH ends enabled plain" — and C08 for
  sequences of rejected datagrams.

  Steps and histories are those of `C08Node` (`StepAny` / `ReachAny`: any cryptography, oracle, input, time).

  1. `node_wire_is_sealed` (any state, no hypothesis), `wi_step` with `wout_shape` (generic: the session the seal leaves satisfies every closed
     address-indexed session invariant), `wi_reach` / `wire_reach` (the same in all histories from a node without sessions, for an
     invariant given for every configuration), `node_wire_is_sealed_reach` / `no_plain_all_sealed_cur` (seal under the CURRENT slot key), `wire_sealed_if_session_encrypted` (the mode of the sessions held for the destination decides;
     `wire_sealed_if_session_encrypted_net` stands at the end of 2: it rests on `flipWS_msgClosed`),
     `iface_wire_is_sealed` (`handle_interface_data`: the sealing session is the record in `peers` before the step),
     `cleartext_not_on_wire` (non-interference of the frame contents with the wire bytes).
  2. `plain_only_if_both` (own side: invariant over all histories; peer side: `session_plain_needs_peer_flag`,
     `responder_plain_needs_ping_flag`, `plain_peer_only_by_plain_handshake`, `mode_kept_other_address`, `mode_kept_without_datagram`).
  3. `tampered_dropped_node` and its instances (`altered_ciphertext_dropped`, `truncated_dropped`, `bad_key_id_dropped`,
     `altered_counter_dropped`, `reflected_dropped`, `cross_connection_dropped`); `core_rejected_dropped`.
  4. `sequence_no_state` (+ `rejected_no_state`, `allRejected_of_forall`, `sequence_no_state_reach`, `nodup_reach`).

  Hypotheses added: `NodupKeys` (pairwise distinct addresses in `peers` / `pending`) wherever the WHOLE node state is claimed unchanged
  (`Ex3.needs_nodup`); it is an invariant of all histories (`nodup_reach`).  The conclusion of `node_wire_is_sealed` has the extra case
  "empty datagram" excluded by `bytes ≠ []`: the node does emit empty datagrams to peers (`Ex1.empty_datagram_emitted`).
-/
namespace VpnCloud.Proofs.C02More

open VpnCloud.Node
open VpnCloud.Proofs.AssocLemmas VpnCloud.Proofs.NodeLemmas VpnCloud.Proofs.SessionInvLemmas VpnCloud.Proofs.NodeInvLemmas VpnCloud.Proofs.InitLemmas
open VpnCloud.Proofs.C09MoreLemmas VpnCloud.Proofs.C02MoreLemmas
open VpnCloud.Proofs.C08 (Regular)
open VpnCloud.Proofs.C08Node (StepAny ReachAny)

/-! ## 1. what a node puts on the wire -/

theorem wi_step {K : NodeCfg} (S : WS K) (hmsg : ∀ env bodyOf src data tail, MsgClosed S.X env bodyOf src data tail)
    {n : Node} {c : Ctx} (hs : StepAny n c) (h : WI S { node := n }) : WI S c :=
  (wi_iff c).2 (C08Node.GI_stepAny S.si hs ((wi_iff _).1 h) id (fun env bodyOf a pc inPeers data tail => S.msgOK (hmsg env bodyOf a data tail) pc inPeers)
    (fun src hash => S.att n hash src h.cfg) S.tok)

/-- a closed session invariant given for every configuration holds, for the node's own configuration, in every state reachable from a
    node without sessions (the configuration does not change: `WI.cfg`) -/
theorem wi_reach (S : ∀ K : NodeCfg, WS K) (hmsg : ∀ K env bodyOf src data tail, MsgClosed (S K).X env bodyOf src data tail)
    {n0 n : Node} (h0 : n0.peers = [] ∧ n0.pending = []) (h : ReachAny n0 n) : WI (S n.cfg) { node := n } := by
  induction h with
  | init =>
    refine WI.init n0 rfl ?_ ?_ (fun _ => ?_) (fun _ => ?_)
    · rw [h0.2]; exact fun _ _ hm => nomatch hm
    · rw [h0.1]; exact fun _ _ hm => nomatch hm
    · rw [h0.1]; exact List.nodup_nil
    · rw [h0.2]; exact List.nodup_nil
  | step _ hs ih =>
    have hw := wi_step _ (hmsg _) hs ih
    rw [hw.cfg]
    exact WI.init _ hw.cfg hw.pend hw.peers hw.ndp hw.ndq

/-- `bytes` is what the ENCRYPTED session `pc` puts on the wire for the message `ty :: body` with the oracle ciphertext `ct`: the header
    of its crypto core followed by `ct`, with the seal of `ty :: body` recorded in `L`; if the core has a current key slot `k` (a
    well-formed core has, `CoreWF`; all cores of reachable states are, `coreWS`), the header is the 8 bytes key id ++ low 7 bytes of the incremented send counter, and the recorded seal is the
    ideal seal of exactly `ty :: body` under the key of that slot with that counter as nonce -/
def SealedBy (pc : PeerCrypto) (L : Init.SealLog) (bytes : Bytes) : Prop :=
  ∃ core ty body ct, pc.unencrypted = false ∧ pc.core = some core ∧
    bytes = (core.encrypt (ty :: body)).2.hdr ++ ct ∧ (ct, (core.encrypt (ty :: body)).2.body) ∈ L ∧
    ∀ k, core.slots[core.cur]? = some k →
      ∃ hdr, bytes = hdr ++ ct ∧ hdr.length = 8 ∧ hdr = core.cur :: Bytes.ofBE 7 ((k.send + 1) % NONCE_MOD) ∧
        (ct, Body.sealed k.key ((k.send + 1) % NONCE_MOD) (ty :: body)) ∈ L

/-- `bytes` is the cleartext message a session in plain mode puts on the wire -/
def PlainBy (pc : PeerCrypto) (bytes : Bytes) : Prop := pc.unencrypted = true ∧ ∃ ty body, bytes = ty :: body

theorem sealMsg_shape (pc pc' : PeerCrypto) (plain ct bytes : Bytes) (log : Init.SealLog) (L : Init.SealLog)
    (hs : PeerCrypto.sealMsg pc plain ct = (pc', .ok (bytes, log))) (hp : plain ≠ []) (hl : ∀ e ∈ log, e ∈ L) :
    pc'.unencrypted = pc.unencrypted ∧ (PlainBy pc bytes ∨ SealedBy pc L bytes) := by
  refine ⟨(congrArg (fun x => x.1.unencrypted) hs).symm.trans (sealMsg_iu pc plain ct).2, ?_⟩
  cases plain with
  | nil => exact absurd rfl hp
  | cons ty body =>
    rcases sealMsg_ok hs with ⟨hu, hb, _⟩ | ⟨core, hu, hc, hb, hlog⟩
    · exact Or.inl ⟨hu, ty, body, hb⟩
    · have hmem : (ct, (core.encrypt (ty :: body)).2.body) ∈ L := hl _ (by rw [hlog]; exact List.mem_singleton.2 rfl)
      refine Or.inr ⟨core, ty, body, ct, hu, hc, hb, hmem, fun k hk => ?_⟩
      rw [CoreLemmas.encrypt_eq core (ty :: body) k hk] at hb hmem
      exact ⟨_, hb, by simp only [List.length_cons, Bytes.ofBE_length], rfl, hmem⟩

/-- a datagram recorded by the step invariant (`wi_step`: any step, any closed address-indexed session invariant `X`) that is neither
    empty nor a handshake datagram is the product of `encrypt_message` of a session `pc`; the session `pc'` that results (the record stored
    for the destination at that moment) has the same mode and satisfies `X`; an encrypted `pc` emits header ++ oracle ciphertext with the
    cleartext only inside the ideal seal logged in the step (`SealedBy`), only a session in plain mode emits cleartext (`PlainBy`) -/
theorem wout_shape {X : NAddr → PeerCrypto → Prop} {L : Init.SealLog} {d : NAddr} {bytes : Bytes} (hw : WOut X L (.dgram d bytes))
    (hne : bytes ≠ []) (hnh : bytes.head? ≠ some Generated.INIT_MESSAGE_FIRST_BYTE) :
    ∃ pc pc' plain ct log, PeerCrypto.sealMsg pc plain ct = (pc', .ok (bytes, log)) ∧ X d pc' ∧ pc'.unencrypted = pc.unencrypted ∧
      (PlainBy pc bytes ∨ SealedBy pc L bytes) := by
  rcases hw with h0 | ⟨b, hb⟩ | ⟨pc, pc', plain, ct, log, hseal, hp, hl, hx⟩
  · exact absurd h0 hne
  · rw [hb] at hnh
    exact absurd rfl hnh
  · obtain ⟨h1, h2⟩ := sealMsg_shape pc pc' plain ct bytes log L hseal hp hl
    exact ⟨pc, pc', plain, ct, log, hseal, hx, h1, h2⟩

theorem wire_reach (S : ∀ K : NodeCfg, WS K) (hmsg : ∀ K env bodyOf src data tail, MsgClosed (S K).X env bodyOf src data tail)
    {n0 n : Node} {c : Ctx} (h0 : n0.peers = [] ∧ n0.pending = []) (h : ReachAny n0 n) (hs : StepAny n c)
    {d : NAddr} {bytes : Bytes} (hm : Out.dgram d bytes ∈ c.outs) (hne : bytes ≠ []) (hnh : bytes.head? ≠ some Generated.INIT_MESSAGE_FIRST_BYTE) :
    ∃ pc pc' plain ct log, PeerCrypto.sealMsg pc plain ct = (pc', .ok (bytes, log)) ∧ (S n.cfg).X d pc' ∧ pc'.unencrypted = pc.unencrypted ∧
      (PlainBy pc bytes ∨ SealedBy pc c.log bytes) :=
  wout_shape ((wi_step _ (hmsg _) hs (wi_reach S hmsg h0 h)).outs _ hm) hne hnh

def trivWS (K : NodeCfg) (N : Prop) : WS K where
  X := fun _ _ => True
  N := N
  att := fun _ _ _ _ => trivial
  ping := fun _ _ _ _ _ _ _ _ => trivial
  tick_ok := fun _ _ _ _ _ _ _ _ _ => trivial
  x_seal := fun _ _ _ _ _ _ => trivial

theorem trivWS_msgClosed (K : NodeCfg) (N : Prop) (env : CryptoEnv) (bodyOf : Init.BodyOf) (src : NAddr) (data tail : Bytes) :
    MsgClosed (trivWS K N).X env bodyOf src data tail :=
  fun _ _ _ _ => Leaves.of_forall (fun _ => trivial) _

/-- **node_wire_is_sealed**: from ANY node state, in every step, every emitted datagram that is neither empty nor a handshake datagram is
    the product of `encrypt_message` of a session `pc`: cleartext `ty :: body` if (and only if) `pc` is in plain mode, otherwise
    8 header bytes ++ oracle ciphertext, the cleartext being only the argument of the ideal seal under the current slot key of `pc`,
    recorded in the log of the step.  No hypothesis.  (The node CAN emit an empty datagram to a peer, also an encrypted one: `handle_init`
    clears the buffer and answers `Continue` when the stage does not match, and `handle_net_message` sends the empty buffer — see
    `Ex1.empty_datagram_emitted`; it carries no cleartext.) -/
theorem node_wire_is_sealed {n : Node} {c : Ctx} (hs : StepAny n c)
    (d : NAddr) (bytes : Bytes) (hm : Out.dgram d bytes ∈ c.outs) (hne : bytes ≠ [])
    (hnh : bytes.head? ≠ some Generated.INIT_MESSAGE_FIRST_BYTE) :
    ∃ pc, PlainBy pc bytes ∨ SealedBy pc c.log bytes := by
  obtain ⟨pc, _, _, _, _, _, _, _, h⟩ := wout_shape ((wi_step (trivWS n.cfg False) (trivWS_msgClosed n.cfg False) hs
    (WI.init n rfl (fun _ _ _ => trivial) (fun _ _ _ => trivial) (fun hf => hf.elim) (fun hf => hf.elim))).outs _ hm) hne hnh
  exact ⟨pc, h⟩

/-! ### the session "held for `d`": per-address mode -/

/-- the instance "a session stored under `s` is in plain mode only if `Φ`" -/
def flipWS (K : NodeCfg) (s : NAddr) (Φ : Prop) : WS K where
  X := fun a pc => a = s → pc.unencrypted = true → Φ
  N := False
  att := fun _ _ _ _ _ hu => by cases hu
  ping := fun _ _ _ _ _ _ _ _ _ hu => by cases hu
  tick_ok := by
    intro a pc rr pc' out res log hx h ha hu
    have := everySecond_unenc pc rr
    rw [h] at this
    exact hx ha (this ▸ hu)
  x_seal := fun _ pc ty body ct hx ha hu => hx ha ((sealMsg_iu pc (ty :: body) ct).2 ▸ hu)

theorem flipWS_init (n : Node) (d : NAddr) (Φ : Prop) (hp : ∀ p, (d, p) ∈ n.peers → p.crypto.unencrypted = false)
    (hq : ∀ pc, (d, pc) ∈ n.pending → pc.unencrypted = false) : WI (flipWS n.cfg d Φ) { node := n } :=
  WI.init n rfl (fun a pc hm ha hu => by rw [hq pc (ha ▸ hm)] at hu; cases hu)
    (fun a p hm ha hu => by rw [hp p (ha ▸ hm)] at hu; cases hu) (fun hf => hf.elim) (fun hf => hf.elim)

theorem flipWS_msgClosed_ne (K : NodeCfg) (env : CryptoEnv) (bodyOf : Init.BodyOf) {d s : NAddr} (hd : d ≠ s) (data tail : Bytes) (Φ : Prop) :
    MsgClosed (flipWS K d Φ).X env bodyOf s data tail :=
  fun _ _ _ _ => Leaves.of_forall (fun _ h => absurd h.symm hd) _

/-- the steps in which no datagram is received: `handle_interface_data`, `housekeep`, `connect` -/
inductive StepLocal : Node → Ctx → Prop
  | iface (o : Oracle) (n : Node) (now : Int) (data : Bytes) : StepLocal n (Node.handleIface o n now data)
  | tick (env : CryptoEnv) (o : Oracle) (n : Node) (now : Int) : StepLocal n (Node.housekeep env o n now)
  | dial (env : CryptoEnv) (o : Oracle) (n : Node) (addrs : List NAddr) : StepLocal n (Node.connect env o { node := n } addrs)

theorem StepLocal.stepAny {n : Node} {c : Ctx} (h : StepLocal n c) : StepAny n c := by
  cases h with
  | iface o _ now data => exact .iface o n now data
  | tick env o _ now => exact .tick env o n now
  | dial env o _ addrs => exact .dial env o n addrs

theorem wi_stepLocal {K : NodeCfg} (S : WS K) {n : Node} {c : Ctx} (hs : StepLocal n c) (h : WI S { node := n }) : WI S c := by
  rw [wi_iff] at h ⊢
  cases hs with
  | iface o _ now data => exact handleIface_GI S.si o n now data h
  | tick env o _ now => exact housekeep_GI S.si env o n now h S.tok nofun
  | dial env o _ addrs => exact connect_GI S.si env o _ addrs h

/-- **the session held for `d` decides** (steps without a received datagram): in a step of `handle_interface_data`, `housekeep` or
    `connect`, if every session the node stores under `d` before the step — in `peers` or in `pending` — is encrypted, then every
    non-empty non-handshake datagram emitted to `d` is sealed (`SealedBy`): header ++ oracle ciphertext, cleartext only inside the logged
    ideal seal. -/
theorem wire_sealed_if_session_encrypted {n : Node} {c : Ctx} (hs : StepLocal n c)
    (d : NAddr) (hp : ∀ p, (d, p) ∈ n.peers → p.crypto.unencrypted = false) (hq : ∀ pc, (d, pc) ∈ n.pending → pc.unencrypted = false)
    (bytes : Bytes) (hm : Out.dgram d bytes ∈ c.outs) (hne : bytes ≠ [])
    (hnh : bytes.head? ≠ some Generated.INIT_MESSAGE_FIRST_BYTE) :
    ∃ pc, SealedBy pc c.log bytes := by
  have hwi := wi_stepLocal _ hs (flipWS_init n d False hp hq)
  obtain ⟨pc, pc', _, _, _, _, hx, h1, h2⟩ := wout_shape (hwi.outs _ hm) hne hnh
  rcases h2 with ⟨hu, _⟩ | h2
  · exact (hx rfl (h1.trans hu)).elim
  · exact ⟨pc, h2⟩

/-! ### `handle_interface_data`, precisely: the sealing session is the record in `peers` before the step -/

/-- every datagram emitted so far was sealed (as message `ty :: body`) by the session that `n` stores for its destination, and the seal is
    in the log of the step -/
def IfaceP (n : Node) (ty : Nat) (body : Bytes) (c : Ctx) : Prop :=
  ∀ x ∈ c.outs, ∃ a bytes p ct pc' lg, x = .dgram a bytes ∧ lookupA n.peers a = some p ∧
    PeerCrypto.sendMessage p.crypto ty body ct = (pc', .ok (bytes, lg)) ∧ ∀ e ∈ lg, e ∈ c.log

theorem foldl_sendMsg_precise (o : Oracle) (n : Node) (ty : Nat) (body : Bytes) (l : List NAddr) (c : Ctx) (hnd : l.Nodup)
    (hc : ∀ a ∈ l, lookupA c.node.peers a = lookupA n.peers a) (h0 : c.outs = []) :
    IfaceP n ty body (l.foldl (fun c a => (sendMsg o c a ty body).getD c) c) := by
  obtain ⟨ho, hl, _⟩ := foldl_sendMsg o ty body c l c hnd (fun _ _ => ⟨rfl, rfl⟩)
  intro x hx
  rw [ho, h0, List.nil_append] at hx
  rw [hl]
  obtain ⟨a, ha, hs⟩ := List.mem_filterMap.1 hx
  cases hst : sendTo o c ty body a with
  | none => rw [hst] at hs; cases hs
  | some s =>
    rw [hst] at hs
    cases hs
    obtain ⟨p, pc', hp, hsm, _⟩ := sendTo_some hst
    exact ⟨a, _, p, _, pc', s.2.2, rfl, (hc a ha) ▸ hp, hsm,
      fun e he => List.mem_append_right _ (List.mem_flatMap.2 ⟨s, List.mem_filterMap.2 ⟨a, ha, hst⟩, he⟩)⟩

/-- **iface_wire_is_sealed** (`handle_interface_data`, the session is the record in `peers` BEFORE the step): with pairwise distinct peer
    addresses (`nodup_reach`), every datagram the node emits for a frame read from its interface goes to a peer `d`, and is what the session
    `p.crypto` that the node holds for `d` before the step makes of `DATA :: frame`: if that session is encrypted, 8 header bytes ++ oracle
    ciphertext with the ideal seal of exactly `DATA :: frame` under its current slot key logged in this step (`SealedBy p.crypto`); the
    frame travels in the clear only if that session is in plain mode. -/
theorem iface_wire_is_sealed (o : Oracle) (n : Node) (now : Int) (data : Bytes) (hnd : (n.peers.map (·.1)).Nodup)
    (x : Out) (hm : x ∈ (handleIface o n now data).outs) :
    ∃ d bytes p, x = .dgram d bytes ∧ lookupA n.peers d = some p ∧
      (PlainBy p.crypto bytes ∨ SealedBy p.crypto (handleIface o n now data).log bytes) := by
  have key : IfaceP n Generated.MESSAGE_TYPE_DATA data (handleIface o n now data) := by
    exact handleIface_cases o n now data (fun x hx => by cases hx)
      (fun _ a => foldl_sendMsg_precise o n _ data [a] _ (by simp) (fun _ _ => rfl) rfl) (fun _ x hx => by cases hx)
      (fun _ => foldl_sendMsg_precise o n _ data _ _ hnd (fun _ _ => rfl) rfl) (fun _ x hx => by cases hx)
  obtain ⟨d, bytes, p, ct, pc', lg, hx, hp, hs, hl⟩ := key x hm
  exact ⟨d, bytes, p, hx, hp, (sealMsg_shape p.crypto pc' _ ct bytes lg _ hs (by simp) hl).2⟩

/-! ### non-interference: the frame contents do not reach the wire of an encrypted peer -/

/-- **cleartext_not_on_wire**: with the ideal AEAD (ciphertext bytes chosen by the oracle), two runs of `handle_interface_data` from the
    same state with the same oracle on two frames that parse to the same addresses — ANY contents otherwise, of any length — emit the same
    sequence of destinations, bit-identical datagram bytes to every destination in `enc` (a set of addresses whose sessions are
    encrypted), and end in the same node state: the payload content does not interfere with the wire bytes (`redact enc` keeps the
    destination of every datagram and the bytes of those to `enc`).  (Same length is not needed in the model: the ciphertext is the
    oracle's; in the implementation its length is the frame's length + 16.) -/
theorem cleartext_not_on_wire (o : Oracle) (n : Node) (now : Int) (d1 d2 : Bytes) (enc : NAddr → Bool)
    (hpa : parseAddrs n d1 = parseAddrs n d2)
    (henc : ∀ a p, (a, p) ∈ n.peers → enc a = true → p.crypto.unencrypted = false) :
    (handleIface o n now d1).outs.map (redact enc) = (handleIface o n now d2).outs.map (redact enc) ∧
    (handleIface o n now d1).node = (handleIface o n now d2).node := by
  have h := handleIface_sim o enc n now d1 d2 hpa henc
  exact ⟨h.outs, h.node⟩

/-- `cleartext_not_on_wire` when all peers' sessions are encrypted: the two runs emit exactly the same outputs -/
theorem cleartext_not_on_wire_all (o : Oracle) (n : Node) (now : Int) (d1 d2 : Bytes)
    (hpa : parseAddrs n d1 = parseAddrs n d2) (henc : ∀ a p, (a, p) ∈ n.peers → p.crypto.unencrypted = false) :
    (handleIface o n now d1).outs = (handleIface o n now d2).outs := by
  have h := (cleartext_not_on_wire o n now d1 d2 (fun _ => true) hpa (fun a p hm _ => henc a p hm)).1
  have hid : ∀ l : List Out, l.map (redact (fun _ => true)) = l := by
    intro l
    induction l with
    | nil => rfl
    | cons x l ih =>
      rw [List.map_cons, ih]
      cases x <;> rfl
  rw [hid, hid] at h
  exact h

/-! ### all histories: the current key slot exists, so the seal is always under the current key of the sealing session -/

/-- `bytes` is what the ENCRYPTED session `pc` puts on the wire for a message `ty :: body`: the 8 header bytes (id of the current key slot,
    low 7 bytes of its incremented send counter) followed by the oracle ciphertext `ct`, and `L` records `ct` as the ideal seal of exactly
    `ty :: body` under the key `k` of the CURRENT slot of `pc`, with that counter as nonce -/
def SealedCur (pc : PeerCrypto) (L : Init.SealLog) (bytes : Bytes) : Prop :=
  ∃ core k ty body ct, pc.unencrypted = false ∧ pc.core = some core ∧ core.slots[core.cur]? = some k ∧
    bytes = (core.cur :: Bytes.ofBE 7 ((k.send + 1) % NONCE_MOD)) ++ ct ∧
    (core.cur :: Bytes.ofBE 7 ((k.send + 1) % NONCE_MOD)).length = 8 ∧
    (ct, Body.sealed k.key ((k.send + 1) % NONCE_MOD) (ty :: body)) ∈ L

theorem sealedCur_of_sealedBy {pc pc' : PeerCrypto} {plain ct bytes : Bytes} {log L : Init.SealLog}
    (hs : PeerCrypto.sealMsg pc plain ct = (pc', .ok (bytes, log))) (hwf : PCWF pc') (h : SealedBy pc L bytes) : SealedCur pc L bytes := by
  obtain ⟨core, ty, body, ct', hu, hc, _, _, hk⟩ := h
  have hcore : CoreWF core := by
    rw [SessionOps.sealMsg_enc hu hc, Prod.mk.injEq] at hs
    exact CoreWF_of_encrypt core plain (hwf.1 _ (by rw [← hs.1]))
  obtain ⟨k, hk'⟩ : ∃ k, core.slots[core.cur]? = some k := by
    have hlt : core.cur < core.slots.length := by rw [hcore.1]; exact hcore.2
    exact ⟨core.slots[core.cur], List.getElem?_eq_getElem hlt⟩
  obtain ⟨hdr, hb, hlen, hh, hm⟩ := hk k hk'
  subst hh
  exact ⟨core, k, ty, body, ct', hu, hc, hk', hb, hlen, hm⟩

/-- **node_wire_is_sealed in all histories**: in every state reachable from a node without sessions, in every step, every emitted datagram
    that is neither empty nor a handshake datagram is either the cleartext message of a session in plain mode, or `hdr ++ ct` with `hdr`
    the 8 header bytes and `(ct, .sealed k nonce (ty :: body))` in the log of the step for the CURRENT slot key `k` of the (encrypted)
    sealing session — unconditionally: the current slot always exists (all cores are well-formed, `coreWS`). -/
theorem node_wire_is_sealed_reach (n0 n : Node) (c : Ctx) (h0 : n0.peers = [] ∧ n0.pending = []) (h : ReachAny n0 n) (hs : StepAny n c)
    (d : NAddr) (bytes : Bytes) (hm : Out.dgram d bytes ∈ c.outs) (hne : bytes ≠ [])
    (hnh : bytes.head? ≠ some Generated.INIT_MESSAGE_FIRST_BYTE) :
    ∃ pc, PlainBy pc bytes ∨ SealedCur pc c.log bytes := by
  -- all cores the node holds have four slots and a current slot among them (`coreWS`)
  obtain ⟨pc, pc', _, _, _, hseal, hx, _, h2⟩ := wire_reach coreWS coreWS_msgClosed h0 h hs hm hne hnh
  exact ⟨pc, h2.imp id (sealedCur_of_sealedBy hseal hx)⟩

def andWS {K : NodeCfg} (S1 S2 : WS K) : WS K where
  X := fun a pc => S1.X a pc ∧ S2.X a pc
  N := S1.N ∧ S2.N
  att := fun n hash a h => ⟨S1.att n hash a h, S2.att n hash a h⟩
  ping := fun env n hash rnd ist a h hi => ⟨S1.ping env n hash rnd ist a h hi, S2.ping env n hash rnd ist a h hi⟩
  tick_ok := fun a pc rr pc' out res log hx h => ⟨S1.tick_ok a pc rr pc' out res log hx.1 h, S2.tick_ok a pc rr pc' out res log hx.2 h⟩
  x_seal := fun a pc ty body ct hx => ⟨S1.x_seal a pc ty body ct hx.1, S2.x_seal a pc ty body ct hx.2⟩

theorem andWS_msgClosed {K : NodeCfg} (S1 S2 : WS K) (env : CryptoEnv) (bodyOf : Init.BodyOf) (src : NAddr) (data tail : Bytes)
    (h1 : MsgClosed S1.X env bodyOf src data tail) (h2 : MsgClosed S2.X env bodyOf src data tail) :
    MsgClosed (andWS S1 S2).X env bodyOf src data tail :=
  fun pc rnd rr hx => (h1 pc rnd rr hx.1).and (h2 pc rnd rr hx.2)

/-- a node that did not enable plain, in any history: the seal behind an emitted datagram, the well-formed session it leaves, its shape -/
theorem no_plain_sealedBy (n0 n : Node) (c : Ctx) (h0 : n0.peers = [] ∧ n0.pending = []) (h : ReachAny n0 n) (hs : StepAny n c)
    (hcfg : n0.cfg.algos.allowUnencrypted = false)
    (d : NAddr) (bytes : Bytes) (hm : Out.dgram d bytes ∈ c.outs) (hne : bytes ≠ [])
    (hnh : bytes.head? ≠ some Generated.INIT_MESSAGE_FIRST_BYTE) :
    ∃ pc pc' plain ct log, PeerCrypto.sealMsg pc plain ct = (pc', .ok (bytes, log)) ∧ PCWF pc' ∧ SealedBy pc c.log bytes := by
  obtain ⟨pc, pc', plain, ct, log, hseal, hx, hu1, h2⟩ := wire_reach (fun K => andWS (plainWS K) (coreWS K))
    (fun K env bodyOf src data tail => andWS_msgClosed _ _ env bodyOf src data tail (plainWS_msgClosed K env bodyOf src data tail)
      (coreWS_msgClosed K env bodyOf src data tail)) h0 h hs hm hne hnh
  rcases h2 with ⟨hpl, _⟩ | h2
  · have : n.cfg.algos.allowUnencrypted = true := hx.1.1 (hu1.trans hpl)
    rw [(C01More.cfg_const h).1, hcfg] at this
    cases this
  · exact ⟨pc, pc', plain, ct, log, hseal, hx.2, h2⟩

/-- **C02 for a node that did not enable plain** (all histories): every non-empty non-handshake datagram it ever emits is sealed — header ++
    oracle ciphertext, the cleartext only inside the logged ideal seal under the current key of the sealing session. -/
theorem no_plain_all_sealed (n0 n : Node) (c : Ctx) (h0 : n0.peers = [] ∧ n0.pending = []) (h : ReachAny n0 n) (hs : StepAny n c)
    (hcfg : n0.cfg.algos.allowUnencrypted = false)
    (d : NAddr) (bytes : Bytes) (hm : Out.dgram d bytes ∈ c.outs) (hne : bytes ≠ [])
    (hnh : bytes.head? ≠ some Generated.INIT_MESSAGE_FIRST_BYTE) :
    ∃ pc, SealedBy pc c.log bytes := by
  obtain ⟨pc, _, _, _, _, _, _, hb⟩ := no_plain_sealedBy n0 n c h0 h hs hcfg d bytes hm hne hnh
  exact ⟨pc, hb⟩

/-- **C02 for a node that did not enable plain, all histories, current key**: every non-empty non-handshake datagram such a node ever
    emits is `hdr ++ ct` (8 header bytes, oracle ciphertext) with the cleartext only inside the ideal seal, logged in the step, under the
    CURRENT slot key of the sealing session. -/
theorem no_plain_all_sealed_cur (n0 n : Node) (c : Ctx) (h0 : n0.peers = [] ∧ n0.pending = []) (h : ReachAny n0 n) (hs : StepAny n c)
    (hcfg : n0.cfg.algos.allowUnencrypted = false)
    (d : NAddr) (bytes : Bytes) (hm : Out.dgram d bytes ∈ c.outs) (hne : bytes ≠ [])
    (hnh : bytes.head? ≠ some Generated.INIT_MESSAGE_FIRST_BYTE) :
    ∃ pc, SealedCur pc c.log bytes := by
  obtain ⟨pc, _, _, _, _, hseal, hwf, hb⟩ := no_plain_sealedBy n0 n c h0 h hs hcfg d bytes hm hne hnh
  exact ⟨pc, sealedCur_of_sealedBy hseal hwf hb⟩

/-! ## 2. plain only if both -/

/-- **plain_only_if_both** (own side, all histories): in every state reachable from a node without sessions — whatever the network sends —
    a session in `peers` (or a pending one) is in plain mode (`unencrypted = true`) only if the node's own configuration enables plain.
    So a node that did not enable plain never holds an unencrypted session. -/
theorem plain_only_if_both (n0 n : Node) (h0 : n0.peers = [] ∧ n0.pending = []) (h : ReachAny n0 n) :
    (∀ a p, (a, p) ∈ n.peers → p.crypto.unencrypted = true → n.cfg.algos.allowUnencrypted = true) ∧
    (∀ a pc, (a, pc) ∈ n.pending → pc.unencrypted = true → n.cfg.algos.allowUnencrypted = true) := by
  -- every stored session is `PlainOK` for the node's configuration: in plain mode only if the node enabled plain
  have hw := wi_reach plainWS plainWS_msgClosed h0 h
  exact ⟨fun a p hm hu => (hw.peers a p hm).1 hu, fun a pc hm hu => (hw.pend a pc hm).1 hu⟩

/-! ### the peer's side -/

/-- `select_algorithm` answers "plain" exactly if both lists carry the plain flag (`C06.plain_iff_both` for the reference, here directly for
    the model function, no `NoDup` needed) -/
theorem select_plain_iff_both (own peer : Algos) :
    Init.selectAlgorithm own peer = .ok none ↔ (own.allowUnencrypted = true ∧ peer.allowUnencrypted = true) :=
  ⟨selectAlgorithm_none own peer, NegoLemmas.selectAlgorithm_plain own peer⟩

/-- **peer side, initiator and responder, at the session**: a session that was encrypted (or not yet established) comes out of
    `handle_message` in plain mode only for a datagram `0xff :: w` where `read_from` accepts `w` under the trusted keys of the session's
    handshake object, and `w` is
    * a PONG whose advertised algorithm list carries the plain flag — and the object's own list carries it too (initiator), or
    * a PENG, closing a handshake in which this object had answered the ping without installing a key (responder; by
      `responder_plain_needs_ping_flag` it had then chosen plain because the PING advertised it). -/
theorem session_plain_needs_peer_flag (env : CryptoEnv) (bodyOf : Init.BodyOf) (ok : Bytes → Bool) (pc pc' : PeerCrypto) (data tail : Bytes)
    (rnd : Rand) (rr : RotRand) (out : Bytes) (res : MsgResult) (log : Init.SealLog)
    (h : PeerCrypto.handleMessage env bodyOf ok pc data tail rnd rr = .ok pc' out res log)
    (hu : pc.unencrypted = false) (hu' : pc'.unencrypted = true) :
    ∃ w ist m k, data = Generated.INIT_MESSAGE_FIRST_BYTE :: w ∧ pc.init = some ist ∧ InitMsg.readFrom env w ist.trusted = .ok (m, k) ∧
      ((∃ hb eb A pl, m = .pong hb eb A pl ∧ ist.algos.allowUnencrypted = true ∧ A.allowUnencrypted = true) ∨
       (∃ hb pl, m = .peng hb pl ∧ ist.stage = Generated.STAGE_PENG ∧ ist.crypto = none)) := by
  have hc := handleMessage_unenc env bodyOf ok pc data tail rnd rr hu
  rw [h] at hc
  obtain ⟨w, ist, ist', o', p, ini, l, hd, hi, hh, hcn⟩ := hc hu'
  obtain ⟨m, k, hr, hcase⟩ := handleInit_plain_success env bodyOf ok ist ist' w rnd o' p ini l hh hcn
  exact ⟨w, ist, m, k, hd, hi, hr, hcase⟩

/-- **peer side, responder**: a handshake object comes to the stage "ping answered, waiting for the peng" WITHOUT a key only by
    processing a PING (accepted by `read_from` under its trusted keys) whose advertised algorithm list carries the plain flag — and its
    own list carries it too. -/
theorem responder_plain_needs_ping_flag (env : CryptoEnv) (bodyOf : Init.BodyOf) (ok : Bytes → Bool) (st st' : InitSt) (w : Bytes) (rnd : Rand)
    (x : Bytes × InitResult × Init.SealLog)
    (h : Init.handleInit env bodyOf ok st w rnd = .ok st' x) (hst : st.stage ≠ Generated.STAGE_PENG)
    (hst' : st'.stage = Generated.STAGE_PENG) (hc : st'.crypto = none) :
    ∃ k hb eb A, InitMsg.readFrom env w st.trusted = .ok (.ping hb eb A, k) ∧
      st.algos.allowUnencrypted = true ∧ A.allowUnencrypted = true := by
  obtain ⟨k, hb, eb, A, hr, hsel⟩ := handleInit_ping_plain env bodyOf ok st st' w rnd x h hst hst' hc
  obtain ⟨h1, h2⟩ := selectAlgorithm_none _ _ hsel
  exact ⟨k, hb, eb, A, hr, h1, h2⟩

/-- the datagram is a handshake message that can end a handshake in plain mode: `0xff :: w` with `w` accepted by `read_from` (under some
    list `T` of trusted keys — that of the handshake object that processed it) as a PONG that advertises plain, or as a PENG -/
def PlainHandshake (env : CryptoEnv) (data : Bytes) : Prop :=
  ∃ w T m k, data = Generated.INIT_MESSAGE_FIRST_BYTE :: w ∧ InitMsg.readFrom env w T = .ok (m, k) ∧
    ((∃ hb eb A pl, m = .pong hb eb A pl ∧ A.allowUnencrypted = true) ∨ (∃ hb pl, m = .peng hb pl))

theorem flipWS_msgClosed (K : NodeCfg) (env : CryptoEnv) (bodyOf : Init.BodyOf) (s : NAddr) (data tail : Bytes) (Φ : Prop)
    (hΦ : PlainHandshake env data → Φ) : MsgClosed (flipWS K s Φ).X env bodyOf s data tail := by
  intro pc rnd rr hx
  cases hu : pc.unencrypted with
  | true =>
    exact Leaves.of_forall (fun _ _ _ => hx rfl hu) _
  | false =>
    -- whichever session is left, after an error too: it is in plain mode only through a handshake message that ended a handshake without a key
    refine (handleMessage_unenc env bodyOf payloadOk pc data tail rnd rr hu).imp fun pc' h _ hu' => ?_
    obtain ⟨w, ist, ist', o', p, ini, l, hd, _, hh, hcn⟩ := h hu'
    obtain ⟨m, k, hr, hcase⟩ := handleInit_plain_success env bodyOf payloadOk ist ist' w rnd o' p ini l hh hcn
    refine hΦ ⟨w, ist.trusted, m, k, hd, hr, ?_⟩
    rcases hcase with ⟨hb, eb, A, pl, rfl, _, h2⟩ | ⟨hb, pl, rfl, _⟩
    · exact Or.inl ⟨hb, eb, A, pl, rfl, h2⟩
    · exact Or.inr ⟨hb, pl, rfl⟩

/-- **plain_peer_only_by_plain_handshake** (the step that adds / replaces the peer): if the node holds no plain-mode session for the
    sender's address before a datagram is processed — neither in `peers` nor in `pending` — and afterwards the session stored for the
    sender in `peers` (or in `pending`) is in plain mode, then the datagram is a handshake message `0xff :: w` that `read_from` accepted
    and that is a PONG advertising plain in its algorithm list, or a PENG (closing a handshake whose PING had advertised plain,
    `responder_plain_needs_ping_flag`).  Together with the own side (`plain_only_if_both`): plain only if BOTH advertised it. -/
theorem plain_peer_only_by_plain_handshake (env : CryptoEnv) (bodyOf : Init.BodyOf) (o : Oracle) (n : Node) (now : Int) (src : NAddr)
    (data tail : Bytes)
    (hp : ∀ p, (mappedAddr src, p) ∈ n.peers → p.crypto.unencrypted = false)
    (hq : ∀ pc, (mappedAddr src, pc) ∈ n.pending → pc.unencrypted = false) :
    let c := (handleNet env bodyOf o n now src data tail).1
    (∀ p', (mappedAddr src, p') ∈ c.node.peers → p'.crypto.unencrypted = true → PlainHandshake env data) ∧
    (∀ pc', (mappedAddr src, pc') ∈ c.node.pending → pc'.unencrypted = true → PlainHandshake env data) := by
  intro c
  have hw := handleNet_WI env bodyOf o n now src data tail (flipWS_init n _ _ hp hq) (flipWS_msgClosed n.cfg env bodyOf (mappedAddr src) data tail _ id)
  exact ⟨fun p' hm hu => hw.peers _ p' hm rfl hu, fun pc' hm hu => hw.pend _ pc' hm rfl hu⟩

/-- **mode_kept_other_address**: a datagram from `src` never changes the mode of the sessions stored under another address -/
theorem mode_kept_other_address (env : CryptoEnv) (bodyOf : Init.BodyOf) (o : Oracle) (n : Node) (now : Int) (src : NAddr) (data tail : Bytes)
    (a : NAddr) (ha : a ≠ mappedAddr src)
    (hp : ∀ p, (a, p) ∈ n.peers → p.crypto.unencrypted = false) (hq : ∀ pc, (a, pc) ∈ n.pending → pc.unencrypted = false) :
    let c := (handleNet env bodyOf o n now src data tail).1
    (∀ p', (a, p') ∈ c.node.peers → p'.crypto.unencrypted = false) ∧ (∀ pc', (a, pc') ∈ c.node.pending → pc'.unencrypted = false) := by
  intro c
  have hw := handleNet_WI env bodyOf o n now src data tail (flipWS_init n a False hp hq) (flipWS_msgClosed_ne n.cfg env bodyOf ha data tail False)
  exact ⟨fun p' hm => Bool.eq_false_iff.2 (hw.peers _ p' hm rfl), fun pc' hm => Bool.eq_false_iff.2 (hw.pend _ pc' hm rfl)⟩

/-- **mode_kept_without_datagram**: `handle_interface_data`, `housekeep` and `connect` never turn an encrypted (or pending) session into a
    plain one: if all sessions stored under `a` are encrypted before, they are afterwards -/
theorem mode_kept_without_datagram {n : Node} {c : Ctx} (hs : StepLocal n c) (a : NAddr)
    (hp : ∀ p, (a, p) ∈ n.peers → p.crypto.unencrypted = false) (hq : ∀ pc, (a, pc) ∈ n.pending → pc.unencrypted = false) :
    (∀ p', (a, p') ∈ c.node.peers → p'.crypto.unencrypted = false) ∧ (∀ pc', (a, pc') ∈ c.node.pending → pc'.unencrypted = false) := by
  have hw := wi_stepLocal _ hs (flipWS_init n a False hp hq)
  exact ⟨fun p' hm => Bool.eq_false_iff.2 (hw.peers _ p' hm rfl), fun pc' hm => Bool.eq_false_iff.2 (hw.pend _ pc' hm rfl)⟩

/-- **the session held for `d` decides** (`handle_net_message`): if every session the node stores under `d` before the datagram is
    processed is encrypted, then every non-empty non-handshake datagram it emits to `d` while processing it is sealed (`SealedBy`) —
    unless `d` is the sender and the datagram is a handshake message that ends a handshake in plain mode (`PlainHandshake`: a PONG
    advertising plain, or a PENG), the only way the session for `d` can have become a plain one. -/
theorem wire_sealed_if_session_encrypted_net (env : CryptoEnv) (bodyOf : Init.BodyOf) (o : Oracle) (n : Node) (now : Int) (src : NAddr)
    (data tail : Bytes) (d : NAddr)
    (hp : ∀ p, (d, p) ∈ n.peers → p.crypto.unencrypted = false) (hq : ∀ pc, (d, pc) ∈ n.pending → pc.unencrypted = false)
    (bytes : Bytes) (hm : Out.dgram d bytes ∈ (handleNet env bodyOf o n now src data tail).1.outs) (hne : bytes ≠ [])
    (hnh : bytes.head? ≠ some Generated.INIT_MESSAGE_FIRST_BYTE) :
    (∃ pc, SealedBy pc (handleNet env bodyOf o n now src data tail).1.log bytes) ∨ (d = mappedAddr src ∧ PlainHandshake env data) := by
  have hcl : MsgClosed (flipWS n.cfg d (d = mappedAddr src ∧ PlainHandshake env data)).X env bodyOf (mappedAddr src) data tail := by
    by_cases hd : d = mappedAddr src
    · subst hd
      exact flipWS_msgClosed n.cfg env bodyOf (mappedAddr src) data tail _ (fun h => ⟨rfl, h⟩)
    · exact flipWS_msgClosed_ne n.cfg env bodyOf hd data tail _
  have hw := handleNet_WI env bodyOf o n now src data tail (flipWS_init n d _ hp hq) hcl
  obtain ⟨pc, pc', _, _, _, _, hx, h1, h2⟩ := wout_shape (hw.outs _ hm) hne hnh
  rcases h2 with ⟨hu, _⟩ | h2
  · exact Or.inr (hx rfl (h1.trans hu))
  · exact Or.inl ⟨pc, h2⟩

/-! ## 3. tampered, truncated, reflected and foreign datagrams are dropped -/

/-- node level: a datagram without the handshake marker from the address of an established ENCRYPTED peer that the peer's crypto core
    rejects produces no output (nothing to the interface, nothing on the wire), no panic, and leaves the node state — peers with their
    sessions, routing table, pending handshakes, own addresses, timers — exactly as it was, except for the counter of invalid packets.
    Hypothesis `hnd` (keys of the peer list pairwise distinct) is needed for the equality of the peer LIST (`Ex3.needs_nodup`); it holds in
    every reachable state (`nodup_reach`).  Without it `C09More.forged_data_keeps_peer` still gives the unchanged peer record. -/
theorem core_rejected_dropped (env : CryptoEnv) (bodyOf : Init.BodyOf) (o : Oracle) (n : Node) (now : Int) (src : NAddr) (data tail : Bytes)
    (p : Peer) (core : Core)
    (hp : lookupA n.peers (mappedAddr src) = some p)
    (hinit : data.head? ≠ some Generated.INIT_MESSAGE_FIRST_BYTE)
    (hu : p.crypto.unencrypted = false) (hc : p.crypto.core = some core) (hnd : (n.peers.map (·.1)).Nodup)
    (hrej : ∃ e', (core.decrypt (dgramOf bodyOf data)).2 = .error e') :
    let r := handleNet env bodyOf o n now src data tail
    r.1.outs = [] ∧ r.1.panicked = false ∧ r.1.node = { n with droppedIn := n.droppedIn + 1 } := by
  obtain ⟨e, he, _⟩ := C09More.rejected_by_core_keeps_session env bodyOf payloadOk p.crypto core data tail
    (rndFor o { node := n } (mappedAddr src)).1 (rndFor o { node := n } (mappedAddr src)).2.1 hinit hu hc hrej
  obtain ⟨_, _, h3, h4, _, _, _, h8, _, _⟩ := C09More.rejected_keeps_session env bodyOf o n now src data tail p p.crypto e hp hinit he
  refine ⟨h3, h4, ?_⟩
  rw [h8]
  have : insertA n.peers (mappedAddr src) { p with crypto := p.crypto } = n.peers := insertA_self_of_nodup n.peers (mappedAddr src) p hnd hp
  rw [this]

/-- the datagram (header bytes, body as the ideal AEAD sees it) is a genuine seal for this core: long enough, a valid key id, and the body
    is an intact seal under the key of the addressed slot with exactly the nonce reconstructed from the transmitted counter -/
def GenuineFor (core : Core) (d : Dgram) : Prop :=
  d.len ≥ 24 ∧ d.keyId < 4 ∧ ∃ k plain, core.slots[d.keyId]? = some k ∧ d.body = .sealed k.key (core.reconstruct d.counter) plain

theorem not_genuine_rejected (core : Core) (d : Dgram) (h : ¬ GenuineFor core d) : ∃ e', (core.decrypt d).2 = .error e' := by
  cases hd : (core.decrypt d).2 with
  | error e => exact ⟨e, rfl⟩
  | ok p =>
    obtain ⟨h1, h2, k, hk, hb⟩ := C02.accepted_is_genuine core d p hd
    exact absurd ⟨h1, h2, k, p, hk, hb⟩ h

/-- **tampered_dropped_node**: a datagram without the handshake marker from the address of an established encrypted peer that is NOT a
    genuine seal of that connection — intact ideal seal under the key of the addressed slot with the nonce its counter bytes stand for —
    is dropped: no interface write, no output, no panic, node state unchanged except the invalid-packet counter.  (Any bit altered in key
    id, counter, ciphertext or tag, truncation, reflection and foreign seals are instances, below.) -/
theorem tampered_dropped_node (env : CryptoEnv) (bodyOf : Init.BodyOf) (o : Oracle) (n : Node) (now : Int) (src : NAddr) (data tail : Bytes)
    (p : Peer) (core : Core)
    (hp : lookupA n.peers (mappedAddr src) = some p)
    (hinit : data.head? ≠ some Generated.INIT_MESSAGE_FIRST_BYTE)
    (hu : p.crypto.unencrypted = false) (hc : p.crypto.core = some core) (hnd : (n.peers.map (·.1)).Nodup)
    (hng : ¬ GenuineFor core (dgramOf bodyOf data)) :
    let r := handleNet env bodyOf o n now src data tail
    r.1.outs = [] ∧ r.1.panicked = false ∧ r.1.node = { n with droppedIn := n.droppedIn + 1 } :=
  core_rejected_dropped env bodyOf o n now src data tail p core hp hinit hu hc hnd (not_genuine_rejected core _ hng)

/-- ciphertext or tag altered in any bit: the ideal AEAD sees no intact seal -/
theorem altered_ciphertext_dropped (env : CryptoEnv) (bodyOf : Init.BodyOf) (o : Oracle) (n : Node) (now : Int) (src : NAddr) (data tail : Bytes)
    (p : Peer) (core : Core) (m : Nat)
    (hp : lookupA n.peers (mappedAddr src) = some p) (hinit : data.head? ≠ some Generated.INIT_MESSAGE_FIRST_BYTE)
    (hu : p.crypto.unencrypted = false) (hc : p.crypto.core = some core) (hnd : (n.peers.map (·.1)).Nodup)
    (hb : bodyOf (data.drop 8) = .garbage m) :
    let r := handleNet env bodyOf o n now src data tail
    r.1.outs = [] ∧ r.1.panicked = false ∧ r.1.node = { n with droppedIn := n.droppedIn + 1 } := by
  apply tampered_dropped_node env bodyOf o n now src data tail p core hp hinit hu hc hnd
  rintro ⟨_, _, k, plain, _, hbody⟩
  have : bodyOf (data.drop 8) = .sealed k.key (core.reconstruct (dgramOf bodyOf data).counter) plain := hbody
  rw [hb] at this
  cases this

/-- truncated below header + tag -/
theorem truncated_dropped (env : CryptoEnv) (bodyOf : Init.BodyOf) (o : Oracle) (n : Node) (now : Int) (src : NAddr) (data tail : Bytes)
    (p : Peer) (core : Core)
    (hp : lookupA n.peers (mappedAddr src) = some p) (hinit : data.head? ≠ some Generated.INIT_MESSAGE_FIRST_BYTE)
    (hu : p.crypto.unencrypted = false) (hc : p.crypto.core = some core) (hnd : (n.peers.map (·.1)).Nodup)
    (hlen : (dgramOf bodyOf data).len < 24) :
    let r := handleNet env bodyOf o n now src data tail
    r.1.outs = [] ∧ r.1.panicked = false ∧ r.1.node = { n with droppedIn := n.droppedIn + 1 } := by
  apply tampered_dropped_node env bodyOf o n now src data tail p core hp hinit hu hc hnd
  rintro ⟨h1, _⟩
  omega

/-- key-id byte altered to a value that is no slot -/
theorem bad_key_id_dropped (env : CryptoEnv) (bodyOf : Init.BodyOf) (o : Oracle) (n : Node) (now : Int) (src : NAddr) (data tail : Bytes)
    (p : Peer) (core : Core)
    (hp : lookupA n.peers (mappedAddr src) = some p) (hinit : data.head? ≠ some Generated.INIT_MESSAGE_FIRST_BYTE)
    (hu : p.crypto.unencrypted = false) (hc : p.crypto.core = some core) (hnd : (n.peers.map (·.1)).Nodup)
    (hid : (dgramOf bodyOf data).keyId ≥ 4) :
    let r := handleNet env bodyOf o n now src data tail
    r.1.outs = [] ∧ r.1.panicked = false ∧ r.1.node = { n with droppedIn := n.droppedIn + 1 } := by
  apply tampered_dropped_node env bodyOf o n now src data tail p core hp hinit hu hc hnd
  rintro ⟨_, h2, _⟩
  omega

/-- counter bytes altered: the body is an intact seal, but for another nonce than the one the transmitted counter stands for -/
theorem altered_counter_dropped (env : CryptoEnv) (bodyOf : Init.BodyOf) (o : Oracle) (n : Node) (now : Int) (src : NAddr) (data tail : Bytes)
    (p : Peer) (core : Core) (key nonce : Nat) (plain : Bytes)
    (hp : lookupA n.peers (mappedAddr src) = some p) (hinit : data.head? ≠ some Generated.INIT_MESSAGE_FIRST_BYTE)
    (hu : p.crypto.unencrypted = false) (hc : p.crypto.core = some core) (hnd : (n.peers.map (·.1)).Nodup)
    (hb : bodyOf (data.drop 8) = .sealed key nonce plain) (hne : nonce ≠ core.reconstruct (dgramOf bodyOf data).counter) :
    let r := handleNet env bodyOf o n now src data tail
    r.1.outs = [] ∧ r.1.panicked = false ∧ r.1.node = { n with droppedIn := n.droppedIn + 1 } := by
  apply tampered_dropped_node env bodyOf o n now src data tail p core hp hinit hu hc hnd
  rintro ⟨_, _, k, plain', _, hbody⟩
  have : bodyOf (data.drop 8) = .sealed k.key (core.reconstruct (dgramOf bodyOf data).counter) plain' := hbody
  rw [hb] at this
  simp only [Body.sealed.injEq] at this
  exact hne this.2.1

/-- sealed for a different connection (or key id altered to another slot): an intact seal, but under another key than the one in the
    addressed slot (`C02.cross_connection_rejected`) -/
theorem cross_connection_dropped (env : CryptoEnv) (bodyOf : Init.BodyOf) (o : Oracle) (n : Node) (now : Int) (src : NAddr) (data tail : Bytes)
    (p : Peer) (core : Core) (k : SlotKey) (key nonce : Nat) (plain : Bytes)
    (hp : lookupA n.peers (mappedAddr src) = some p) (hinit : data.head? ≠ some Generated.INIT_MESSAGE_FIRST_BYTE)
    (hu : p.crypto.unencrypted = false) (hc : p.crypto.core = some core) (hnd : (n.peers.map (·.1)).Nodup)
    (hk : core.slots[(dgramOf bodyOf data).keyId]? = some k)
    (hb : bodyOf (data.drop 8) = .sealed key nonce plain) (hne : key ≠ k.key) :
    let r := handleNet env bodyOf o n now src data tail
    r.1.outs = [] ∧ r.1.panicked = false ∧ r.1.node = { n with droppedIn := n.droppedIn + 1 } :=
  core_rejected_dropped env bodyOf o n now src data tail p core hp hinit hu hc hnd
    (C02.cross_connection_rejected core (dgramOf bodyOf data) k key nonce plain hk hb hne)

/-- reflected back to its own sender: the datagram is what the peer's session itself has just sealed (`C02.reflection_rejected`: its
    nonce lies in the sender's own half) -/
theorem reflected_dropped (env : CryptoEnv) (bodyOf : Init.BodyOf) (o : Oracle) (n : Node) (now : Int) (src : NAddr) (data tail : Bytes)
    (p : Peer) (core0 : Core) (plain : Bytes) (k : SlotKey) (v : Nat)
    (hp : lookupA n.peers (mappedAddr src) = some p) (hinit : data.head? ≠ some Generated.INIT_MESSAGE_FIRST_BYTE)
    (hu : p.crypto.unencrypted = false) (hc : p.crypto.core = some (core0.encrypt plain).1) (hnd : (n.peers.map (·.1)).Nodup)
    (hd : dgramOf bodyOf data = (core0.encrypt plain).2)
    (hk : core0.slots[core0.cur]? = some k) (hsend : k.send + 1 = Spec.C04.base core0.half + v) (hv : v < 2 ^ 95) :
    let r := handleNet env bodyOf o n now src data tail
    r.1.outs = [] ∧ r.1.panicked = false ∧ r.1.node = { n with droppedIn := n.droppedIn + 1 } :=
  core_rejected_dropped env bodyOf o n now src data tail p _ hp hinit hu hc hnd
    (by rw [hd]; exact C02.reflection_rejected core0 plain k v hk hsend hv)

/-! ## 4. C08 for sequences: rejected datagrams leave no state behind -/

/-- the addresses in `peers` are pairwise distinct, and so are those in `pending` -/
def NodupKeys (n : Node) : Prop := (n.peers.map (·.1)).Nodup ∧ (n.pending.map (·.1)).Nodup

/-- **nodup_reach**: in every state reachable from a node without sessions, the addresses in `peers` are pairwise distinct, and so are
    those in `pending` -/
theorem nodup_reach {n0 n : Node} (h0 : n0.peers = [] ∧ n0.pending = []) (h : ReachAny n0 n) : NodupKeys n := by
  have hw := wi_reach (fun K => trivWS K True) (fun K => trivWS_msgClosed K True) h0 h
  exact ⟨hw.ndp trivial, hw.ndq trivial⟩

/-- one received datagram with the inputs of the step (oracle, time, source, bytes, stale bytes behind it in the receive buffer) -/
structure NetIn where
  o : Oracle
  now : Int
  src : NAddr
  data : Bytes
  tail : Bytes

/-- the datagram is REJECTED by the node in state `n` (the cases of C08):
    1. it carries the handshake marker and `read_from` rejects its content under the node's trusted keys (this includes the bare marker);
    2. no handshake marker, and the sender is neither a peer nor has a handshake pending;
    3. no handshake marker, the sender is an encrypted peer whose crypto core rejects the datagram;
    4. no handshake marker, the sender is no peer but has a handshake pending, whose session is not in plain mode and has no core yet
       (every pending session of a reachable state, `C12Node.PendFresh`) or has one that rejects the datagram. -/
def Rejected (env : CryptoEnv) (bodyOf : Init.BodyOf) (n : Node) (i : NetIn) : Prop :=
  (∃ rest e, i.data = Generated.INIT_MESSAGE_FIRST_BYTE :: rest ∧ InitMsg.readFrom env rest n.cfg.trusted = .error e) ∨
  (i.data.head? ≠ some Generated.INIT_MESSAGE_FIRST_BYTE ∧
    ((lookupA n.peers (mappedAddr i.src) = none ∧ lookupA n.pending (mappedAddr i.src) = none) ∨
     (∃ p core, lookupA n.peers (mappedAddr i.src) = some p ∧ p.crypto.unencrypted = false ∧ p.crypto.core = some core ∧
        ∃ e', (core.decrypt (dgramOf bodyOf i.data)).2 = .error e') ∨
     (∃ pc, lookupA n.peers (mappedAddr i.src) = none ∧ lookupA n.pending (mappedAddr i.src) = some pc ∧ pc.unencrypted = false ∧
        (pc.core = none ∨ ∃ core e', pc.core = some core ∧ (core.decrypt (dgramOf bodyOf i.data)).2 = .error e'))))

/-- `Rejected` does not look at the counters -/
theorem rejected_counter (env : CryptoEnv) (bodyOf : Init.BodyOf) (n : Node) (k : Nat) (i : NetIn) :
    Rejected env bodyOf { n with droppedIn := k } i ↔ Rejected env bodyOf n i := Iff.rfl

/-- the state after a rejected datagram -/
def bump (n : Node) (k : Nat) : Node := { n with droppedIn := n.droppedIn + k }

theorem session_rejects (env : CryptoEnv) (bodyOf : Init.BodyOf) (pc : PeerCrypto) (data tail : Bytes) (rnd : Rand) (rr : RotRand)
    (hinit : data.head? ≠ some Generated.INIT_MESSAGE_FIRST_BYTE) (hu : pc.unencrypted = false)
    (hc : pc.core = none ∨ ∃ core e', pc.core = some core ∧ (core.decrypt (dgramOf bodyOf data)).2 = .error e') :
    ∃ e, PeerCrypto.handleMessage env bodyOf payloadOk pc data tail rnd rr = .err pc e ∧ e ≠ .cryptoInitFatal := by
  rcases hc with hc | ⟨core, e', hc, hd⟩
  · cases data with
    | nil => exact ⟨.state, rfl, by decide⟩
    | cons b0 rest =>
      exact ⟨.state, C02Node.pending_session_carries_nothing env bodyOf payloadOk pc (b0 :: rest) tail rnd rr hu hc (by simp) hinit, by decide⟩
  · exact C09More.rejected_by_core_keeps_session env bodyOf payloadOk pc core data tail rnd rr hinit hu hc ⟨e', hd⟩

/-- **rejected_no_state** (one datagram): a rejected datagram causes no panic and no output and leaves the node state EXACTLY as it was,
    except that the counter of invalid packets is one higher: no `seen` mark, no retry counter, no timer, no table entry, no pending
    handshake.  Hypotheses: the state is regular (handshake objects use the node's trusted keys; holds in all reachable states,
    `C01More.regular_reach`) and the keys of `peers` / `pending` are distinct (`nodup_reach`). -/
theorem rejected_no_state (env : CryptoEnv) (bodyOf : Init.BodyOf) (n : Node) (i : NetIn)
    (hreg : Regular n) (hnd : NodupKeys n) (hrej : Rejected env bodyOf n i) :
    (handleNet env bodyOf i.o n i.now i.src i.data i.tail).1 = { node := bump n 1 } := by
  obtain ⟨o, now, src, data, tail⟩ := i
  simp only [] at hrej ⊢
  -- in each case of `Rejected`, the session the datagram is handed to answers with a non-fatal error and stays as it is
  have key := dispatch_refused env bodyOf o n now (mappedAddr src) data tail (· ≠ .cryptoInitFatal)
    (fun p hp _ => ?_) (fun pc hq hc => ?_) (fun hi => ?_)
  · obtain ⟨_, hsame, he, _⟩ := key
    rw [handleNet_eq, finish_of_not_fatal _ _ _ (fun h2 => he _ h2 rfl)]
    exact hsame hnd.1 hnd.2
  · -- the session of the peer
    rcases hrej with ⟨rest, e, rfl, hread⟩ | ⟨hinit, ⟨hp', _⟩ | ⟨p', core, hp', hu, hc, e', hd⟩ | ⟨_, hp', _⟩⟩
    · exact handleMessage_reject env bodyOf payloadOk _ _ rest tail _ _ e (hreg.1 _ _ (lookupA_some_mem hp)) hread
    · rw [hp'] at hp; cases hp
    · rw [hp'] at hp
      cases hp
      exact session_rejects env bodyOf _ data tail _ _ hinit hu (Or.inr ⟨core, e', hc, hd⟩)
    · rw [hp'] at hp; cases hp
  · -- the pending attempt
    rcases hrej with ⟨rest, e, rfl, hread⟩ | ⟨hinit, hcase⟩
    · exact handleMessage_reject env bodyOf payloadOk _ _ rest tail _ _ e (hreg.2 _ _ (lookupA_some_mem hq)) hread
    · rcases hc with hi | hpn
      · exact absurd hi hinit
      · rcases hcase with ⟨_, hq'⟩ | ⟨p', _, hp', _⟩ | ⟨_, _, hq', hu, hc'⟩
        · rw [hq'] at hq; cases hq
        · rw [hp'] at hpn; cases hpn
        · rw [hq'] at hq
          cases hq
          exact session_rejects env bodyOf _ data tail _ _ hinit hu hc'
  · -- the throw-away responder (handshake marker)
    rcases hrej with ⟨rest, e, rfl, hread⟩ | ⟨hinit, _⟩
    · exact ⟨_, handleMessage_reject env bodyOf payloadOk _ _ rest tail _ _ e (fun i hi => by cases hi; rfl) hread⟩
    · exact absurd hi hinit

/-- processing a list of received datagrams one after the other: final state, all outputs, whether any step panicked -/
def runNet (env : CryptoEnv) (bodyOf : Init.BodyOf) : Node → List NetIn → Node × List Out × Bool
  | n, [] => (n, [], false)
  | n, i :: is =>
    let c := (handleNet env bodyOf i.o n i.now i.src i.data i.tail).1
    let r := runNet env bodyOf c.node is
    (r.1, c.outs ++ r.2.1, c.panicked || r.2.2)

/-- each datagram of the list is rejected at its turn, i.e. in the state the node is in when it arrives -/
def AllRejected (env : CryptoEnv) (bodyOf : Init.BodyOf) : Node → List NetIn → Prop
  | _, [] => True
  | n, i :: is => Rejected env bodyOf n i ∧ AllRejected env bodyOf (handleNet env bodyOf i.o n i.now i.src i.data i.tail).1.node is

theorem bump_bump (n : Node) (a b : Nat) : bump (bump n a) b = bump n (a + b) := by
  unfold bump
  simp only [Nat.add_assoc]

/-- **sequence_no_state** (C08 for sequences): for ANY list of datagrams each of which is rejected at its turn, of any length, processing
    the whole list never panics, emits nothing (no datagram, no interface write), and the final node state equals the initial one except
    that the counter of invalid packets has grown by the number of datagrams: nothing else is left behind — no `seen` mark, no retry
    counter, no timer, no session change, no table entry. -/
theorem sequence_no_state (env : CryptoEnv) (bodyOf : Init.BodyOf) (n : Node) (is : List NetIn)
    (hreg : Regular n) (hnd : NodupKeys n) (hall : AllRejected env bodyOf n is) :
    runNet env bodyOf n is = (bump n is.length, [], false) := by
  induction is generalizing n with
  | nil => rfl
  | cons i is ih =>
    obtain ⟨h1, h2⟩ := hall
    have hstep := rejected_no_state env bodyOf n i hreg hnd h1
    rw [hstep] at h2
    simp only [runNet]
    rw [hstep]
    simp only []
    rw [ih (bump n 1) hreg hnd h2, bump_bump, List.length_cons, Nat.add_comm 1]
    rfl

/-- since a rejected datagram only moves the counter, "rejected at its turn" is the same as "rejected in the initial state" -/
theorem allRejected_of_forall (env : CryptoEnv) (bodyOf : Init.BodyOf) (n : Node) (is : List NetIn)
    (hreg : Regular n) (hnd : NodupKeys n) (h : ∀ i ∈ is, Rejected env bodyOf n i) : AllRejected env bodyOf n is := by
  induction is generalizing n with
  | nil => trivial
  | cons i is ih =>
    have h1 := h i (List.mem_cons_self ..)
    refine ⟨h1, ?_⟩
    rw [rejected_no_state env bodyOf n i hreg hnd h1]
    exact ih (bump n 1) hreg hnd (fun j hj => h j (List.mem_cons_of_mem _ hj))

/-- **sequence_no_state** in all histories: in every state reachable from a node without sessions, any sequence of datagrams that the
    state rejects — whatever their number, sources, bytes and timing — leaves the node as it was up to the invalid-packet counter. -/
theorem sequence_no_state_reach (env : CryptoEnv) (bodyOf : Init.BodyOf) (n0 n : Node) (is : List NetIn)
    (h0 : n0.peers = [] ∧ n0.pending = []) (h : ReachAny n0 n) (hall : ∀ i ∈ is, Rejected env bodyOf n i) :
    runNet env bodyOf n is = (bump n is.length, [], false) :=
  sequence_no_state env bodyOf n is (C01More.regular_reach h0 h).1 (nodup_reach h0 h)
    (allRejected_of_forall env bodyOf n is (C01More.regular_reach h0 h).1 (nodup_reach h0 h) hall)

/-! ## non-vacuity, witnesses, and the role of the hypotheses (toy cryptography of `InitLemmas.Toy`) -/

namespace Ex1

def s : NAddr := .v6 (List.replicate 16 0) 1
def cfg0 : NodeCfg :=
  { tap := false, learning := false, broadcast := true, peerTimeout := 300, peerTimeoutPublish := 300, updateFreq := 10,
    claims := [], key := [7, 7, 7, 7], trusted := [[9, 9, 9, 9]], algos := Toy.algos }
def o0 : Oracle := { emitted := fun _ _ => [0, 0, 0, 0, 0, 0, 0, 0, 201, 202, 203], rotProp := fun _ => 0, rotPend := fun _ => 0, starts := fun _ => [] }
/-- a node in hub mode with one established peer whose session is encrypted (core with key 5) -/
def n1 : Node :=
  { nodeId := List.replicate 16 9, addr := .v6 (List.replicate 16 0) 3, cfg := cfg0, table := { cacheTimeout := 300, claimTimeout := 300 },
    peers := [(s, { addrs := [], timeout := 1000, peerTimeout := 300, nodeId := List.replicate 16 1,
                    crypto := { init := none, core := some (Core.new 5 false 1 []) } })] }
/-- two IPv4 packets with the same addresses and different contents -/
def frame1 : Bytes := 69 :: (List.replicate 11 0 ++ [10, 0, 0, 1, 10, 0, 0, 2])
def frame2 : Bytes := 69 :: ([0, 0, 0, 0, 0, 0, 0, 7, 7, 7, 7] ++ [10, 0, 0, 1, 10, 0, 0, 2])

/-- the hypotheses of `node_wire_is_sealed` are met by a step: the packet is flooded to the peer as 8 header bytes ++ the oracle's
    ciphertext `[201, 202, 203]`; the log holds the ideal seal of `DATA :: packet` under key 5 -/
example : StepAny n1 (handleIface o0 n1 100 frame1) := .iface o0 n1 100 frame1
example : (handleIface o0 n1 100 frame1).outs = [.dgram s ([0, 0, 0, 0, 0, 0, 0, 1] ++ [201, 202, 203])] := by decide +kernel
example : (handleIface o0 n1 100 frame1).log = [([201, 202, 203], .sealed 5 1 (0 :: frame1))] := by decide +kernel

/-- non-vacuity of `cleartext_not_on_wire`: same addresses, different contents, peer encrypted — and indeed the same bytes on the wire -/
example : parseAddrs n1 frame1 = parseAddrs n1 frame2 := by decide
example : frame1 ≠ frame2 := by decide
example : ∀ a p, (a, p) ∈ n1.peers → p.crypto.unencrypted = false := by
  intro a p hm
  simp only [n1, List.mem_singleton, Prod.mk.injEq] at hm
  obtain ⟨_, rfl⟩ := hm
  rfl
example : (handleIface o0 n1 100 frame2).outs = [.dgram s ([0, 0, 0, 0, 0, 0, 0, 1] ++ [201, 202, 203])] := by decide +kernel
/-- … while the recorded cleartext differs -/
example : (handleIface o0 n1 100 frame2).log = [([201, 202, 203], .sealed 5 1 (0 :: frame2))] := by decide +kernel

/-- the clause "`bytes ≠ []`" is needed: a node DOES emit an empty datagram to an encrypted peer.  The peer's session still holds a
    handshake object in stage CLOSING; a (genuine, replayed) pong arrives: `handle_init` clears the buffer, finds the stage not matching
    and answers `Continue`, `handle_net_message` sends the (empty) buffer back. -/
def n2 : Node :=
  { n1 with peers := [(s, { addrs := [], timeout := 1000, peerTimeout := 300, nodeId := List.replicate 16 1,
                            crypto := { init := some { Toy.st with stage := Generated.CLOSING }, core := some (Core.new 5 false 1 []) } })] }

theorem empty_datagram_emitted :
    (handleNet Toy.env (Toy.body 0) o0 n2 100 s (Generated.INIT_MESSAGE_FIRST_BYTE :: Toy.pong Toy.algos 0) []).1.outs = [.dgram s []] := by
  decide +kernel

end Ex1

namespace Ex2

def s : NAddr := .v6 (List.replicate 16 0) 1
def o0 : Oracle := { emitted := fun _ _ => [], rotProp := fun _ => 0, rotPend := fun _ => 0, starts := fun _ => [] }
/-- a node that enabled plain, without sessions -/
def n0 : Node :=
  { nodeId := List.replicate 16 9, addr := .v6 (List.replicate 16 0) 3, table := { cacheTimeout := 300, claimTimeout := 300 },
    cfg := { tap := false, learning := false, broadcast := false, peerTimeout := 300, peerTimeoutPublish := 300, updateFreq := 10,
             claims := [], key := [7, 7, 7, 7], trusted := [[9, 9, 9, 9]], algos := Toy.algosPlain } }
/-- node information of the peer -/
def info : NodeInfo := { nodeId := List.replicate 16 1, peers := [], claims := [], peerTimeout := none, addrs := [] }
/-- a pong of the trusted peer that advertises plain and carries its node information in the clear -/
def pongPlain : Bytes :=
  InitMsg.writeTo (.pong (List.replicate 20 2) [6] Toy.algosPlain (Codec.encodeNodeInfo info)) [0, 0, 0, 1] [9, 9, 9, 9] [9, 9, 0, 0]

/-- the node dials `s` and receives the pong -/
def n2 : Node := (handleNet Toy.env (Toy.body 0) o0 (connect Toy.env o0 { node := n0 } [s]).node 100 s (Generated.INIT_MESSAGE_FIRST_BYTE :: pongPlain) []).1.node

example : n0.peers = [] ∧ n0.pending = [] := ⟨rfl, rfl⟩
theorem n2_reach : ReachAny n0 n2 := .step (.step .init (.dial Toy.env o0 n0 [s])) (.net Toy.env (Toy.body 0) o0 _ 100 s _ [])

/-- non-vacuity of `plain_only_if_both`: a reachable state with an established peer whose session IS in plain mode (both ends advertised
    plain) — the premise of the invariant is attainable, and its conclusion holds -/
theorem n2_has_plain_peer : n2.peers.map (fun x => (x.1, x.2.crypto.unencrypted)) = [(s, true)] := by decide +kernel
example : n2.cfg.algos.allowUnencrypted = true := by
  rw [(C01More.cfg_const n2_reach).1]
  rfl

/-- the same handshake with a node that did NOT enable plain: no peer (the handshake fails: no common algorithm) -/
def n0' : Node := { n0 with cfg := { n0.cfg with algos := Toy.algos } }
example : (handleNet Toy.env (Toy.body 0) o0 (connect Toy.env o0 { node := n0' } [s]).node 100 s (Generated.INIT_MESSAGE_FIRST_BYTE :: pongPlain) []).1.node.peers.length = 0 := by
  decide +kernel

/-- the hypotheses of `session_plain_needs_peer_flag` are satisfiable: an initiator session, not yet established, receives the pong and
    ends in plain mode -/
def unencOf : POutcome MsgResult → Option Bool
  | .ok pc' _ _ _ => some pc'.unencrypted
  | _ => none

example : unencOf (PeerCrypto.handleMessage Toy.env (Toy.body 0) (fun _ => true) ({ init := some { Toy.st with algos := Toy.algosPlain } } : PeerCrypto)
    (Generated.INIT_MESSAGE_FIRST_BYTE :: Toy.pong Toy.algosPlain 0) [] Toy.rnd {}) = some true := by decide +kernel

/-- `PlainHandshake` holds of that datagram -/
example : PlainHandshake Toy.env (Generated.INIT_MESSAGE_FIRST_BYTE :: Toy.pong Toy.algosPlain 0) :=
  ⟨_, [[9, 9, 9, 9]], .pong (List.replicate 20 2) [6] Toy.algosPlain (Toy.pl 0), [9, 9, 9, 9], rfl, by decide +kernel,
    Or.inl ⟨_, _, _, _, rfl, rfl⟩⟩

end Ex2

namespace Ex3
open C09More.Ex2

/-- non-vacuity of `tampered_dropped_node` and its instances: the node `C09More.Ex2.n` (one established peer `s` with an encrypted
    session) receives 30 fabricated bytes whose body is no intact seal -/
example : lookupA n.peers (mappedAddr s) = some p := rfl
example : data.head? ≠ some Generated.INIT_MESSAGE_FIRST_BYTE := by decide
example : p.crypto.unencrypted = false ∧ p.crypto.core = some core := ⟨rfl, rfl⟩
example : (n.peers.map (·.1)).Nodup := by decide
example : forged (data.drop 8) = .garbage 22 := rfl
example : ¬ GenuineFor core (dgramOf forged data) := by
  rintro ⟨_, _, k, plain, _, hb⟩
  cases hb
/-- a truncated datagram (10 bytes) -/
example : (dgramOf forged (List.replicate 10 0)).len < 24 := by decide
/-- a reflected datagram: hypotheses of `reflected_dropped` for the core of `C02`'s example -/
example : (Core.new 7 true 9 [5, 6, 7, 8]).slots[(Core.new 7 true 9 [5, 6, 7, 8]).cur]? = some (SlotKey.new 7 true 5) := rfl
example : (SlotKey.new 7 true 5).send + 1 = Spec.C04.base (Core.new 7 true 9 [5, 6, 7, 8]).half + 6 := by decide

/-- `hnd` is needed for the equality of the whole node state: with the same address twice in `peers` (unreachable, `nodup_reach`), the
    rejected datagram makes the node write the first record over the second -/
def nDup : Node := { n with peers := [(s, p), (s, { p with timeout := 200 })] }

theorem needs_nodup :
    (handleNet Toy.env forged C09More.Cex1.o nDup 10 s data []).1.node.peers.map (fun x => x.2.timeout) ≠ nDup.peers.map (fun x => x.2.timeout) := by
  decide +kernel

end Ex3

namespace Ex4
open C09More.Ex2

/-- three rejected datagrams for the node `C09More.Ex2.n`: handshake-marked bytes that `read_from` rejects (from anybody), a datagram
    without marker from an unknown address, fabricated bytes from the encrypted peer `s` -/
def u : NAddr := .v6 (List.replicate 16 0) 77
def i1 : NetIn := { o := C09More.Cex1.o, now := 10, src := u, data := [Generated.INIT_MESSAGE_FIRST_BYTE, 1, 2, 3], tail := [] }
def i2 : NetIn := { o := C09More.Cex1.o, now := 11, src := u, data := [1, 2, 3], tail := [9] }
def i3 : NetIn := { o := C09More.Cex1.o, now := 12, src := s, data := data, tail := [] }

theorem regular_n : Regular n := by
  constructor
  · intro a q hm i hi
    simp only [n, List.mem_singleton, Prod.mk.injEq] at hm
    obtain ⟨_, rfl⟩ := hm
    cases hi
  · intro a pc hm
    cases hm

theorem nodup_n : NodupKeys n := ⟨by decide, by decide⟩

theorem rej1 : Rejected Toy.env forged n i1 := Or.inl ⟨[1, 2, 3], .parse, rfl, by decide⟩
theorem rej2 : Rejected Toy.env forged n i2 := Or.inr ⟨by decide, Or.inl ⟨rfl, rfl⟩⟩
theorem rej3 : Rejected Toy.env forged n i3 := Or.inr ⟨by decide, Or.inr (Or.inl ⟨p, core, rfl, rfl, rfl, .openFailed, by decide⟩)⟩

/-- non-vacuity of `sequence_no_state`: all hypotheses hold for a sequence that mixes the three kinds (any repetition of them too) -/
example : runNet Toy.env forged n [i1, i2, i3, i1, i3] = (bump n 5, [], false) :=
  sequence_no_state Toy.env forged n _ regular_n nodup_n
    (allRejected_of_forall Toy.env forged n _ regular_n nodup_n (by
      intro i hi
      simp only [List.mem_cons, List.not_mem_nil, or_false] at hi
      rcases hi with rfl | rfl | rfl | rfl | rfl
      · exact rej1
      · exact rej2
      · exact rej3
      · exact rej1
      · exact rej3))

/-- what DOES leave a trace besides the counter: a datagram that the crypto core ACCEPTS — a genuine seal under the session key — and the
    layers above reject (here a too short ROTATION message: `Error::Crypto`, counted as invalid): the `seen` mark of the key slot has
    moved.  Only a holder of the session key can produce it (`C09More.rejected_session_fields`). -/
example : ∃ pc', C09More.Ex2.errPc (PeerCrypto.handleMessage Toy.env genuineShortRotation payloadOk p.crypto data5 [] {} {}) = some pc' ∧
    pc'.core ≠ p.crypto.core := by
  obtain ⟨pc', h1, h2, _⟩ := session_object_can_change
  exact ⟨pc', h1, h2⟩

end Ex4

end VpnCloud.Proofs.C02More
