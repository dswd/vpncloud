import VpnCloud.Proofs.C12
/-
  C11 / C12 / C13 over whole histories: the model of `ClaimTable` (src/table.rs) refines the abstract
  routing state of `Lemmas/Table/TableRefineSpec.lean` (`Abs`, `Abs.step`) for every sequence of timed
  operations at positive times (at time 0 it does not: `refinement_fails_at_zero`), and what follows from that for histories.
-/
namespace VpnCloud.Proofs.TableRefine
open VpnCloud.Table VpnCloud.Spec.TableSpec VpnCloud.Proofs.TableLemmas VpnCloud.Proofs.TableRefresh

/-! ## What "live" means in the code -/

/-- a table with an expired claim of peer 2 (expiry 50) below a live claim of peer 1, and an expired
    cached decision -/
def staleTable : Table :=
  { cacheTimeout := 300, claimTimeout := 1800
    claims := [⟨1, ⟨[10, 0, 0, 0], 8⟩, 2000⟩, ⟨2, ⟨[10, 2, 0, 0], 16⟩, 50⟩]
    cache := [⟨[10, 9, 9, 9], 2, 60⟩] }

/-- **expired_claim_still_routes**: `lookup` does not look at the clock.  At time 100 the claim of peer 2
    that expired at 50 is still used for routing (and the decision is cached with the expiry 50, which is in
    the past); only after a sweep the packet goes to peer 1.  So "live" in C11 means "not removed by a sweep
    yet". -/
theorem expired_claim_still_routes :
    (staleTable.lookup 100 [10, 2, 0, 9]).2 = some 2 ∧
    (staleTable.lookup 100 [10, 2, 0, 9]).1.cache.head? = some ⟨[10, 2, 0, 9], 2, 50⟩ ∧
    ((staleTable.housekeep 100).lookup 100 [10, 2, 0, 9]).2 = some 1 := by
  decide +kernel

/-- **expired_cache_still_used**: the same for cached / learned entries: the decision for 10.9.9.9 expired
    at 60 and is returned at time 100; after a sweep the claims decide. -/
theorem expired_cache_still_used :
    (staleTable.lookup 100 [10, 9, 9, 9]).2 = some 2 ∧
    ((staleTable.housekeep 100).lookup 100 [10, 9, 9, 9]).2 = some 1 := by
  decide +kernel

/-- **table_refines**: for every list of timed operations with positive times, running the model
    (`set_claims`, `remove_claims`, `cache`, `lookup`, `housekeep`) and running the abstract step function
    from related states gives the same answers to all lookups and ends in related states.  (The times need
    not even be ordered.) -/
theorem table_refines {t : Table} {s : Abs} (h : Rel t s) (ops : List (Int × TOp))
    (hpos : ∀ o ∈ ops, 0 < o.1) :
    (runT t ops).2 = (s.run ops).2 ∧ Rel (runT t ops).1 (s.run ops).1 := by
  induction ops generalizing t s with
  | nil => exact ⟨rfl, h⟩
  | cons o ops ih =>
    rcases o with ⟨now, op⟩
    have h1 := step_refines h now (hpos _ List.mem_cons_self) op
    have h2 := ih h1.2 (fun o ho => hpos o (List.mem_cons_of_mem _ ho))
    simp only [runT, Abs.run]
    exact ⟨by rw [h1.1, h2.1], h2.2⟩

/-- the same from the abstraction of the start table -/
theorem table_refines_abs (t : Table) (ops : List (Int × TOp)) (hpos : ∀ o ∈ ops, 0 < o.1) :
    (runT t ops).2 = ((abs t).run ops).2 ∧ Rel (runT t ops).1 ((abs t).run ops).1 :=
  table_refines (Rel.abs t) ops hpos

/-- `0 < now` is needed: at time 0 the deletion mark `0` is not in the past, `remove_claims` removes
    nothing, and the removed peer is still selected -/
theorem refinement_fails_at_zero :
    (runT exTable [(0, .disconnect 1), (0, .lookup [10, 5, 0, 1])]).2 = [none, some 1] ∧
    ((abs exTable).run [(0, .disconnect 1), (0, .lookup [10, 5, 0, 1])]).2 = [none, none] := by
  decide +kernel

/-- why claim lists are compared up to `CEq` and not by `=`: `set_claims` appends the new ranges in the order
    left by `swap_remove` (here `C, B`), the abstract step in the announced order (`B, C`).  The two blocks have
    the same peer and expiry, so no lookup can tell them apart (`best_ceq`). -/
theorem swap_remove_order_differs :
    let t : Table := { cacheTimeout := 300, claimTimeout := 1800, claims := [⟨1, ⟨[10, 0, 0, 0], 8⟩, 500⟩] }
    let cs : List Range := [⟨[10, 0, 0, 0], 8⟩, ⟨[10, 1, 0, 0], 16⟩, ⟨[10, 2, 0, 0], 16⟩]
    ((t.setClaims 100 1 cs).claims.map (fun e => e.claim) =
      [⟨[10, 0, 0, 0], 8⟩, ⟨[10, 2, 0, 0], 16⟩, ⟨[10, 1, 0, 0], 16⟩]) ∧
    ((((abs t).step 100 (.announce 1 cs)).1.claims.map (fun e => e.claim)) =
      [⟨[10, 0, 0, 0], 8⟩, ⟨[10, 1, 0, 0], 16⟩, ⟨[10, 2, 0, 0], 16⟩]) := by
  decide +kernel

/-- why ranges are counted with multiplicity: peer 2 announces the same range twice, then once.  The second
    entry is "dropped", and with it everything learned from peer 2 — although the set of its ranges did not
    change.  The abstract step says the same. -/
theorem duplicate_announce_flushes :
    let ops : List (Int × TOp) :=
      [(10, .announce 1 [⟨[10, 0, 0, 0], 8⟩]), (20, .announce 2 [⟨[10, 1, 0, 0], 16⟩, ⟨[10, 1, 0, 0], 16⟩]),
       (30, .learn [10, 7, 7, 7] 2), (40, .lookup [10, 7, 7, 7]), (50, .announce 2 [⟨[10, 1, 0, 0], 16⟩]),
       (60, .lookup [10, 7, 7, 7])]
    (runT { cacheTimeout := 300, claimTimeout := 1800 } ops).2 = [none, none, none, some 2, none, some 1] ∧
    ((abs { cacheTimeout := 300, claimTimeout := 1800 }).run ops).2 = [none, none, none, some 2, none, some 1] := by
  decide +kernel

def r8 : Range := ⟨[10, 0, 0, 0], 8⟩
def r16 : Range := ⟨[10, 1, 0, 0], 16⟩
def r24 : Range := ⟨[10, 1, 2, 0], 24⟩

/-- two peers, nested ranges, twelve operations -/
def exHistory : List (Int × TOp) :=
  [(10, .announce 1 [r8, r24]), (20, .announce 2 [r16]), (30, .lookup [10, 1, 2, 3]),
   (40, .lookup [10, 1, 9, 9]), (50, .learn [10, 7, 7, 7] 2), (60, .announce 1 [r8]),
   (70, .lookup [10, 1, 2, 3]), (80, .lookup [10, 7, 7, 7]), (90, .disconnect 2),
   (100, .lookup [10, 1, 9, 9]), (2000, .sweep), (2001, .lookup [10, 1, 9, 9])]

def exStart : Table := { cacheTimeout := 300, claimTimeout := 1800 }

/-- both sides evaluated: the /24 of peer 1 wins, then the /16 of peer 2; after peer 1 withdraws the /24 its
    cached decision is flushed and the /16 of peer 2 decides; after peer 2 left, the /8 of peer 1; after the
    claims expired, nothing -/
example : (∀ o ∈ exHistory, 0 < o.1) ∧
    (runT exStart exHistory).2 =
      [none, none, some 1, some 2, none, none, some 2, some 2, none, some 1, none, none] ∧
    ((abs exStart).run exHistory).2 =
      [none, none, some 1, some 2, none, none, some 2, some 2, none, some 1, none, none] ∧
    (runT exStart exHistory).1.claims = [] ∧ ((abs exStart).run exHistory).1.claims = [] := by
  decide +kernel

/-- operations that end with a sweep of the expired entries -/
def sweeps : TOp → Bool
  | .announce _ _ => true
  | .disconnect _ => true
  | .sweep => true
  | _ => false

/-- operations that can make `p` a next hop (again): an announcement of `p`, a frame learned from `p` -/
def reintroduces (p : PeerId) : TOp → Bool
  | .announce q _ => q = p
  | .learn _ q => q = p
  | _ => false

/-- operations that replace or remove the claims of `p` -/
def retouches (p : PeerId) : TOp → Bool
  | .announce q _ => q = p
  | .disconnect q => q = p
  | _ => false

/-- every claim and every learned / cached entry has an expiry `≥ u` -/
def Live (u : Int) (s : Abs) : Prop :=
  (∀ e ∈ s.claims, u ≤ e.timeout) ∧ (∀ v ∈ s.learned, u ≤ v.timeout)

theorem abs_sweep_live (s : Abs) (now : Int) : Live now (s.sweep now) :=
  ⟨fun _ he => of_decide_eq_true (List.mem_filter.1 he).2, fun _ hv => of_decide_eq_true (List.mem_filter.1 hv).2⟩

theorem abs_step_swept (s : Abs) (now : Int) (op : TOp) (hs : sweeps op = true) : Live now (s.step now op).1 := by
  cases op with
  | learn a q => cases hs
  | lookup a => cases hs
  | _ => exact abs_sweep_live _ now

theorem abs_step_claims_of_not_sweeps (s : Abs) (now : Int) {op : TOp} (h : sweeps op = false) :
    (s.step now op).1.claims = s.claims := by
  cases op with
  | learn a q => rfl
  | lookup a => rw [abs_lookup_frame]
  | _ => cases h

theorem abs_step_claims_other (s : Abs) (now : Int) (op : TOp) (x : ClaimEntry) (hop : retouches x.peer op = false) :
    x ∈ (s.step now op).1.claims ↔ x ∈ s.claims ∧ (sweeps op = true → now ≤ x.timeout) := by
  cases op with
  | announce q cs =>
    have hq : x.peer ≠ q := by simpa [retouches, eq_comm] using hop
    simp only [Abs.step, Abs.sweep, List.mem_filter, List.mem_append, refresh_mem_other q _ hq, List.mem_map,
      decide_eq_true_eq, sweeps, forall_const, ge_iff_le]
    refine and_congr_left fun _ => or_iff_left ?_
    rintro ⟨c, _, rfl⟩
    exact hq rfl
  | disconnect q =>
    have hq : x.peer ≠ q := by simpa [retouches, eq_comm] using hop
    simp [Abs.step, Abs.sweep, sweeps, hq]
  | learn a q => simp [Abs.step, sweeps]
  | sweep => simp [Abs.step, Abs.sweep, sweeps]
  | lookup a =>
    rw [abs_lookup_frame]
    simp [sweeps]

theorem abs_step_learned_mem (s : Abs) (now : Int) (op : TOp) (v : CacheEntry) (hv : v ∈ (s.step now op).1.learned) :
    v ∈ s.learned ∨ (∃ a, op = .learn a v.peer ∧ v.timeout = now + s.cacheTimeout) ∨
      ∃ a, ∃ e ∈ s.claims, op = .lookup a ∧ v.peer = e.peer ∧ v.timeout = min (now + s.cacheTimeout) e.timeout := by
  cases op with
  | announce q cs =>
    simp only [Abs.step, Abs.sweep, List.mem_filter] at hv
    have := hv.1
    split at this
    · exact Or.inl (List.mem_filter.1 this).1
    · exact Or.inl this
  | disconnect q =>
    simp only [Abs.step, Abs.sweep, List.mem_filter] at hv
    exact Or.inl hv.1.1
  | learn a q =>
    simp only [Abs.step, List.mem_cons, List.mem_filter] at hv
    rcases hv with rfl | hv
    · exact Or.inr (Or.inl ⟨a, rfl, rfl⟩)
    · exact Or.inl hv.1
  | sweep => exact Or.inl (List.mem_filter.1 hv).1
  | lookup a =>
    rw [abs_lookup] at hv
    rcases mem_lookup_cache (conc s) now a v hv with h | ⟨e, he, _, rfl⟩
    · exact Or.inl h
    · exact Or.inr (Or.inr ⟨a, e, he, rfl, rfl, rfl⟩)

/-! ### C12: a removed peer is unreachable -/

/-- nothing in the abstract state points to `p` -/
def NoP (p : PeerId) (s : Abs) : Prop :=
  (∀ e ∈ s.claims, e.peer ≠ p) ∧ (∀ v ∈ s.learned, v.peer ≠ p)

theorem abs_disconnect_noP (s : Abs) (now : Int) (p : PeerId) : NoP p (s.step now (.disconnect p)).1 := by
  constructor
  · intro e he
    simp only [Abs.step, Abs.sweep, List.mem_filter, decide_eq_true_eq] at he
    exact he.1.2
  · intro v hv
    simp only [Abs.step, Abs.sweep, List.mem_filter, decide_eq_true_eq] at hv
    exact hv.1.2

theorem abs_step_noP {s : Abs} {p : PeerId} (h : NoP p s) (now : Int) (op : TOp)
    (hop : reintroduces p op = false) :
    NoP p (s.step now op).1 ∧ (s.step now op).2 ≠ some p := by
  refine ⟨⟨?_, ?_⟩, ?_⟩
  · rintro e he rfl
    cases hr : retouches e.peer op with
    | false => exact h.1 e ((abs_step_claims_other s now op e hr).1 he).1 rfl
    | true =>
      cases op with
      | announce q cs => cases hr.symm.trans hop
      | disconnect q => exact (abs_disconnect_noP s now q).1 e he (of_decide_eq_true hr).symm
      | _ => cases hr
  · rintro v hv rfl
    rcases abs_step_learned_mem s now op v hv with h1 | ⟨a, rfl, _⟩ | ⟨a, e, he, _, hp, _⟩
    · exact h.2 v h1 rfl
    · simp [reintroduces] at hop
    · exact h.1 e he hp.symm
  · intro ha
    rcases abs_step_answer s now op p ha with ⟨v, hv, hp⟩ | ⟨e, he, hp⟩
    · exact h.2 v hv hp
    · exact h.1 e he hp

/-- **disconnected_peer_unreachable** (C12): after peer `p` was removed from ANY table (so: after any
    history) at a positive time, and as long as `p` does not announce itself again and no frame is learned from
    it, no lookup returns `p`, and no claim and no learned / cached entry points to `p` — whatever else happens
    (announcements and removals of other peers, learning, lookups, sweeps, in any order and at any positive
    times). -/
theorem disconnected_peer_unreachable (t : Table) (now : Int) (hnow : 0 < now) (p : PeerId)
    (post : List (Int × TOp)) (hpos : ∀ o ∈ post, 0 < o.1)
    (hpost : ∀ o ∈ post, reintroduces p o.2 = false) :
    (∀ r ∈ (runT (t.removeClaims now p) post).2, r ≠ some p) ∧
    (∀ e ∈ (runT (t.removeClaims now p) post).1.claims, e.peer ≠ p) ∧
    (∀ v ∈ (runT (t.removeClaims now p) post).1.cache, v.peer ≠ p) := by
  have h0 : Rel (t.removeClaims now p) ((abs t).step now (.disconnect p)).1 :=
    step_disconnect (Rel.abs t) now hnow p
  have href := table_refines h0 post hpos
  have hno := abs_run_inv (I := NoP p) (A := (· ≠ some p)) post
    (fun o ho s hs => abs_step_noP hs o.1 o.2 (hpost o ho)) (abs_disconnect_noP (abs t) now p)
  exact ⟨href.1 ▸ hno.2, href.2.entries hno.1⟩

/-- the removal inside a history: the answers of the whole history are those before, `none` for the removal,
    and those of `disconnected_peer_unreachable` -/
theorem history_split (t : Table) (pre post : List (Int × TOp)) (now : Int) (p : PeerId) :
    (runT t (pre ++ (now, .disconnect p) :: post)).2 =
      (runT t pre).2 ++ none :: (runT ((runT t pre).1.removeClaims now p) post).2 := by
  rw [runT_append]
  rfl

/-- non-vacuity: peer 2 is removed at time 90 of `exHistory`; the operations behind do not reintroduce it -/
example : (∀ o ∈ exHistory.drop 9, 0 < o.1 ∧ reintroduces 2 o.2 = false) ∧
    exHistory = exHistory.take 8 ++ (90, .disconnect 2) :: exHistory.drop 9 := by
  decide +kernel

/-! ### C12: the claims of a peer are those of its last announcement -/

theorem abs_run_claims_other (s : Abs) (x : ClaimEntry) (post : List (Int × TOp))
    (hpost : ∀ o ∈ post, retouches x.peer o.2 = false) :
    x ∈ (s.run post).1.claims ↔ x ∈ s.claims ∧ ∀ o ∈ post, sweeps o.2 = true → o.1 ≤ x.timeout := by
  induction post generalizing s with
  | nil => simp [Abs.run]
  | cons o post ih =>
    rcases o with ⟨now, op⟩
    simp only [Abs.run]
    rw [ih _ (fun o ho => hpost o (List.mem_cons_of_mem _ ho)),
      abs_step_claims_other s now op x (hpost _ List.mem_cons_self), List.forall_mem_cons, and_assoc]

/-- **claims_are_last_announcement** (C12): take ANY table (any history before), let `p` announce `cs` at a
    positive time `now`, and let anything happen afterwards except a new announcement or the removal of `p`.
    Then the ranges attributed to `p` are exactly those of that announcement — all of them as long as no sweep
    came later than their expiry `now + claimTimeout`, none of them afterwards — and every entry of `p` carries
    that expiry.  (A sweep is part of `housekeep`, `set_claims` and `remove_claims`.) -/
theorem claims_are_last_announcement (t : Table) (now : Int) (hnow : 0 < now) (p : PeerId) (cs : List Range)
    (post : List (Int × TOp)) (hpos : ∀ o ∈ post, 0 < o.1)
    (hpost : ∀ o ∈ post, retouches p o.2 = false) :
    (∀ r, r ∈ claimsOf (runT (t.setClaims now p cs) post).1 p ↔
      r ∈ cs ∧ ∀ o ∈ post, sweeps o.2 = true → o.1 ≤ now + t.claimTimeout) ∧
    (∀ e ∈ (runT (t.setClaims now p cs) post).1.claims, e.peer = p → e.timeout = now + t.claimTimeout) := by
  have href := table_refines (Rel.abs (t.setClaims now p cs)) post hpos
  -- entries of `p` in the final table, in terms of the table after the announcement
  have key : ∀ e, e.peer = p → (e ∈ (runT (t.setClaims now p cs) post).1.claims ↔
      e ∈ (t.setClaims now p cs).claims ∧ ∀ o ∈ post, sweeps o.2 = true → o.1 ≤ e.timeout) := by
    rintro e rfl
    rw [href.2.claims.mem_iff e]
    exact abs_run_claims_other _ e post hpost
  constructor
  · intro r
    simp only [claimsOf, List.mem_map, List.mem_filter, decide_eq_true_eq]
    constructor
    · rintro ⟨e, ⟨he, hp⟩, rfl⟩
      have := (key e hp).1 he
      have hm := C12.setClaims_mem_peer t now p cs hnow e this.1 hp
      exact ⟨hm.2, fun o ho hs => hm.1 ▸ this.2 o ho hs⟩
    · rintro ⟨hr, hs⟩
      rcases C12.setClaims_cover t now p cs hnow r hr with ⟨e, he, hp, hc⟩
      have hm := C12.setClaims_mem_peer t now p cs hnow e he hp
      exact ⟨e, ⟨(key e hp).2 ⟨he, fun o ho h => hm.1 ▸ hs o ho h⟩, hp⟩, hc⟩
  · intro e he hp
    exact (C12.setClaims_mem_peer t now p cs hnow e ((key e hp).1 he).1 hp).1

/-- non-vacuity: in `exHistory` peer 1 announces `[r8]` at time 60 and is not touched afterwards; the sweeps
    at 90 (removal of peer 2) and 2000 follow: at the end (2000 > 60 + 1800) nothing is attributed to it, after
    the first four of the later operations (last sweep at 90) exactly `r8` -/
example : (∀ o ∈ exHistory.drop 6, 0 < o.1 ∧ retouches 1 o.2 = false) ∧
    claimsOf (runT ((runT exStart (exHistory.take 5)).1.setClaims 60 1 [r8]) (exHistory.drop 6)).1 1 = [] ∧
    claimsOf (runT ((runT exStart (exHistory.take 5)).1.setClaims 60 1 [r8])
      ((exHistory.drop 6).take 4)).1 1 = [r8] := by
  decide +kernel

/-! ### C11: routing follows the most specific claim that survived the last sweep -/

/-- the time of the last sweep of a history (`cur`: the one before the history, if known) -/
def lastSweep (cur : Option Int) : List (Int × TOp) → Option Int
  | [] => cur
  | o :: os => lastSweep (if sweeps o.2 then some o.1 else cur) os

theorem abs_run_claims_live (s : Abs) (cur : Option Int) (ops : List (Int × TOp))
    (h : ∀ u, cur = some u → ∀ e ∈ s.claims, u ≤ e.timeout) :
    ∀ u, lastSweep cur ops = some u → ∀ e ∈ (s.run ops).1.claims, u ≤ e.timeout := by
  induction ops generalizing s cur with
  | nil => exact h
  | cons o ops ih =>
    rcases o with ⟨now, op⟩
    simp only [lastSweep, Abs.run]
    apply ih
    cases hsw : sweeps op with
    | true =>
      rintro u ⟨⟩
      exact (abs_step_swept s now op hsw).1
    | false =>
      rw [abs_step_claims_of_not_sweeps s now hsw]
      exact h

/-- **lookup_longest_live_prefix** (C11): after ANY history with positive times, a lookup of an address without
    learned / cached entry returns the peer of `best`: the longest-prefix claim containing the address among the
    claims in the table, the first announced among equally long ones (`best_some`), and `none` iff no claim
    contains the address (`best_none`); and the claims in the table are live in the sense that all of them had
    not expired at the time of the last sweep (`expired_claim_still_routes` shows that this is all one can say). -/
theorem lookup_longest_live_prefix (t : Table) (ops : List (Int × TOp)) (hpos : ∀ o ∈ ops, 0 < o.1)
    (now : Int) (a : Addr)
    (hc : (runT t ops).1.cache.find? (fun v => v.addr = a) = none) :
    ((runT t ops).1.lookup now a).2 = (best a (runT t ops).1.claims).map (fun e => e.peer) ∧
    (((runT t ops).1.lookup now a).2 = none ↔ ∀ e ∈ (runT t ops).1.claims, e.claim.matches a = false) ∧
    (∀ u, lastSweep none ops = some u → ∀ e ∈ (runT t ops).1.claims, u ≤ e.timeout) := by
  have h1 : ((runT t ops).1.lookup now a).2 = (best a (runT t ops).1.claims).map (fun e => e.peer) := by
    cases hb : best a (runT t ops).1.claims with
    | none => rw [lookup_none _ now a hc hb]; rfl
    | some e => rw [lookup_some _ now a e hc hb]; rfl
  refine ⟨h1, ?_, ?_⟩
  · rw [h1, ← best_none]
    cases best a (runT t ops).1.claims <;> simp
  · intro u hu e he
    have href := table_refines_abs t ops hpos
    exact abs_run_claims_live (abs t) none ops (by simp) u hu e ((href.2.claims.mem_iff e).1 he)

/-- non-vacuity on `exHistory`: after the first two announcements (last sweep at 20) 10.1.2.3 has no cached
    entry, three claims contain it, and the /24 of peer 1 is selected -/
example : (runT exStart (exHistory.take 2)).1.cache.find? (fun v => v.addr = [10, 1, 2, 3]) = none ∧
    lastSweep none (exHistory.take 2) = some 20 ∧
    best [10, 1, 2, 3] (runT exStart (exHistory.take 2)).1.claims = some ⟨1, r24, 1810⟩ ∧
    ((runT exStart (exHistory.take 2)).1.claims.filter (fun e => e.claim.matches [10, 1, 2, 3])).length = 3 := by
  decide +kernel

/-! ### C11: a cached decision does not outlive its expiry by more than one sweep, nor its peer -/

theorem abs_step_live {s : Abs} {u : Int} (h : Live u s) (now : Int) (hu : u ≤ now) (op : TOp) :
    Live u (s.step now op).1 := by
  cases hs : sweeps op with
  | true =>
    have := abs_step_swept s now op hs
    exact ⟨fun e he => Int.le_trans hu (this.1 e he), fun v hv => Int.le_trans hu (this.2 v hv)⟩
  | false =>
    refine ⟨abs_step_claims_of_not_sweeps s now hs ▸ h.1, fun v hv => ?_⟩
    rcases abs_step_learned_mem s now op v hv with h1 | ⟨_, _, ht⟩ | ⟨_, e, he, _, _, ht⟩
    · exact h.2 v h1
    · omega
    · have := h.1 e he
      omega

/-- **live_after_sweep**: in any history, once a sweep (`housekeep`, `set_claims`, `remove_claims`) has run at
    time `u`, and as long as the clock does not go back behind `u`, every claim and every learned / cached
    entry of the table has an expiry `≥ u`: nothing that had expired before `u` is left or comes back. -/
theorem live_after_sweep (t : Table) (a1 a2 : List (Int × TOp)) (u : Int) (op : TOp)
    (hs : sweeps op = true) (hp1 : ∀ o ∈ a1, 0 < o.1) (hu : 0 < u) (hge : ∀ o ∈ a2, u ≤ o.1) :
    (∀ e ∈ (runT t (a1 ++ (u, op) :: a2)).1.claims, u ≤ e.timeout) ∧
    (∀ v ∈ (runT t (a1 ++ (u, op) :: a2)).1.cache, u ≤ v.timeout) := by
  have _ := hp1  -- plays no part: the refinement is applied from the table after `a1`
  rw [runT_append]
  have hpos : ∀ o ∈ (u, op) :: a2, 0 < o.1 := by
    intro o ho
    rcases List.mem_cons.1 ho with rfl | h
    · exact hu
    · exact Int.lt_of_lt_of_le hu (hge o h)
  have href := table_refines_abs (runT t a1).1 _ hpos
  have hl : Live u ((abs (runT t a1).1).run ((u, op) :: a2)).1 :=
    (abs_run_inv (I := Live u) (A := fun _ => True) a2 (fun o ho s hs => ⟨abs_step_live hs o.1 (hge o ho) o.2, trivial⟩)
      (abs_step_swept _ u op hs)).1
  exact href.2.entries hl

/-- **cache_bounded** (C11): a decision for `a` that a lookup at time `now` takes from the claims (no entry for
    `a` before) comes from the most specific claim `e`, and is cached with the expiry
    `exp = min (now + cacheTimeout) (expiry of e)`.  In every later history
    (i) after the first sweep at a time `u > exp` (clock not going back behind `u` afterwards) the cache holds
        only entries with an expiry `> exp`, so that decision is gone: from then on `a` is resolved anew;
    (ii) after the removal of the peer `q`, until `q` announces itself again or a frame is learned from it, no
        cached entry points to `q` and no lookup returns `q`. -/
theorem cache_bounded (t : Table) (now : Int) (a : Addr) (q : PeerId)
    (hc : t.cache.find? (fun v => v.addr = a) = none) (hq : (t.lookup now a).2 = some q) :
    ∃ e exp, best a t.claims = some e ∧ e.peer = q ∧ exp = min (now + t.cacheTimeout) e.timeout ∧
      (t.lookup now a).1.cache = ⟨a, q, exp⟩ :: t.cache ∧
      (∀ (a1 a2 : List (Int × TOp)) (u : Int) (op : TOp), sweeps op = true → exp < u →
        (∀ o ∈ a1, 0 < o.1) → 0 < u → (∀ o ∈ a2, u ≤ o.1) →
        (∀ v ∈ (runT (t.lookup now a).1 (a1 ++ (u, op) :: a2)).1.cache, exp < v.timeout) ∧
        ⟨a, q, exp⟩ ∉ (runT (t.lookup now a).1 (a1 ++ (u, op) :: a2)).1.cache) ∧
      (∀ (a1 a2 : List (Int × TOp)) (u : Int), 0 < u → (∀ o ∈ a2, 0 < o.1) →
        (∀ o ∈ a2, reintroduces q o.2 = false) →
        (∀ v ∈ (runT (t.lookup now a).1 (a1 ++ (u, .disconnect q) :: a2)).1.cache, v.peer ≠ q) ∧
        (∀ r ∈ ((runT (t.lookup now a).1 (a1 ++ (u, .disconnect q) :: a2)).2).drop (a1.length + 1),
          r ≠ some q)) := by
  cases hb : best a t.claims with
  | none => rw [lookup_none t now a hc hb] at hq; cases hq
  | some e =>
    have hl := lookup_some t now a e hc hb
    have heq : e.peer = q := by rw [hl] at hq; exact Option.some.inj hq
    refine ⟨e, _, rfl, heq, rfl, by rw [hl, heq], ?_, ?_⟩
    · generalize (t.lookup now a).1 = t1
      intro a1 a2 u op hs hlt hp1 hu hge
      have := (live_after_sweep t1 a1 a2 u op hs hp1 hu hge).2
      refine ⟨fun v hv => Int.lt_of_lt_of_le hlt (this v hv), ?_⟩
      intro hmem
      have := this _ hmem
      simp only at this
      omega
    · generalize (t.lookup now a).1 = t1
      intro a1 a2 u hu hp2 hre
      rw [runT_append]
      have := disconnected_peer_unreachable (runT t1 a1).1 u hu q a2 hp2 hre
      refine ⟨this.2.2, ?_⟩
      intro r hr
      apply this.1 r
      simp only [runT] at hr
      rw [List.drop_append, List.drop_of_length_le (by rw [runT_length]; omega)] at hr
      simpa [runT_length, stepT] using hr

/-- non-vacuity on `exHistory`: the lookup of 10.1.9.9 at time 40 caches peer 2 until `min 340 1820 = 340`; the
    removal of peer 2 at time 90 flushes it; had peer 2 stayed, the sweep at 2000 would have -/
example : (runT exStart (exHistory.take 3)).1.cache.find? (fun v => v.addr = [10, 1, 9, 9]) = none ∧
    ((runT exStart (exHistory.take 3)).1.lookup 40 [10, 1, 9, 9]).2 = some 2 ∧
    ((runT exStart (exHistory.take 3)).1.lookup 40 [10, 1, 9, 9]).1.cache.head? =
      some ⟨[10, 1, 9, 9], 2, 340⟩ ∧
    (runT exStart (exHistory.take 9)).1.cache.find? (fun v => v.addr = [10, 1, 9, 9]) = none := by
  decide +kernel

/-! ### C13: a learned address stays with its peer until one of four things happens -/

/-- the announcement `cs` of `p` drops a claim of `p`: some range is attributed to `p` more often than it is
    announced (in particular: a range attributed to `p` that is not announced at all) -/
def dropsClaim (t : Table) (p : PeerId) (cs : List Range) : Prop :=
  ∃ r, (claimsOf t p).count r > cs.count r

/-- the events that end "`S` is reached via `P`, learned with expiry `exp`": the same source address seen from
    another peer; a sweep later than `exp` (`remove_claims` and `set_claims` of ANY peer sweep as well); the
    removal of `P`; an announcement of `P` that drops one of its claims (the code then flushes everything
    learned from `P`, not only cached decisions) -/
def Breaks (S : Addr) (P : PeerId) (t : Table) (exp now : Int) : TOp → Prop
  | .learn a q => a = S ∧ q ≠ P
  | .sweep => exp < now
  | .disconnect q => q = P ∨ exp < now
  | .announce q cs => exp < now ∨ (q = P ∧ dropsClaim t P cs)
  | .lookup _ => False

/-- a further frame with source `S` from `P` refreshes the expiry -/
def nextExp (S : Addr) (P : PeerId) (t : Table) (exp now : Int) : TOp → Int
  | .learn a q => if a = S ∧ q = P then now + t.cacheTimeout else exp
  | _ => exp

/-- none of the operations is such an event (at the moment it is applied) -/
def NoBreak (S : Addr) (P : PeerId) : Table → Int → List (Int × TOp) → Prop
  | _, _, [] => True
  | t, exp, (now, op) :: os =>
    ¬ Breaks S P t exp now op ∧ NoBreak S P (stepT t now op).1 (nextExp S P t exp now op) os

/-- the table resolves `S` to `P` by an entry with expiry `exp` -/
def HasT (S : Addr) (P : PeerId) (exp : Int) (t : Table) : Prop :=
  t.cache.find? (fun v => v.addr = S) = some ⟨S, P, exp⟩

theorem stepT_cacheTimeout (t : Table) (now : Int) (op : TOp) :
    (stepT t now op).1.cacheTimeout = t.cacheTimeout := by
  cases op with
  | lookup a =>
    show (t.lookup now a).1.cacheTimeout = _
    rw [lookup_frame]
  | _ => rfl

theorem step_keeps {S : Addr} {P : PeerId} {t : Table} {exp : Int} (h : HasT S P exp t) (now : Int)
    (hnow : 0 < now) (op : TOp) (hb : ¬ Breaks S P t exp now op) :
    HasT S P (nextExp S P t exp now op) (stepT t now op).1 := by
  unfold HasT at h ⊢
  cases op with
  | learn a q =>
    simp only [Breaks, not_and, Decidable.not_not] at hb
    have hf := find?_cacheInsert t.cache ⟨a, q, now + t.cacheTimeout⟩ S
    by_cases ha : a = S
    · rw [if_pos ha] at hf
      exact hf.trans (by simp [nextExp, ha, hb ha])
    · rw [if_neg ha, h] at hf
      exact hf.trans (by simp [nextExp, ha])
  | sweep =>
    simp only [Breaks, Int.not_lt] at hb
    simp only [stepT, housekeep, nextExp]
    exact find?_filter_keep h (by simpa using hb)
  | disconnect q =>
    simp only [Breaks, not_or, Int.not_lt] at hb
    simp only [stepT, nextExp]
    rw [removeClaims_cache t now q hnow]
    exact find?_filter_keep h (by simpa using ⟨fun h => hb.1 h.symm, hb.2⟩)
  | announce q cs =>
    simp only [Breaks, not_or, Int.not_lt, not_and] at hb
    simp only [stepT, nextExp]
    rw [(setClaims_refresh t now hnow q cs).2]
    refine find?_filter_keep ?_ (by simpa using hb.1)
    split
    · rename_i hf
      refine find?_filter_keep h ?_
      simp only [decide_eq_true_eq]
      rintro rfl
      exact hb.2 rfl (refresh_flag_count P _ _ _ hf)
    · exact h
  | lookup a =>
    rcases lookup_cases t now a with ⟨_, _, hl⟩ | ⟨hc, ⟨_, hl⟩ | ⟨_, _, hl⟩⟩ <;> simp only [stepT, hl]
    · exact h
    · exact h
    · have ha : ¬ a = S := by
        rintro rfl
        rw [hc] at h
        cases h
      simp only [List.find?_cons, ha, decide_false]
      exact h

theorem run_keeps {S : Addr} {P : PeerId} (post : List (Int × TOp)) :
    ∀ {t : Table} {exp : Int}, HasT S P exp t → (∀ o ∈ post, 0 < o.1) → NoBreak S P t exp post →
      ∃ exp', HasT S P exp' (runT t post).1 := by
  induction post with
  | nil => intro t exp h _ _; exact ⟨exp, h⟩
  | cons o post ih =>
    intro t exp h hpos hnb
    rcases o with ⟨now, op⟩
    simp only [runT]
    exact ih (step_keeps h now (hpos _ List.mem_cons_self) op hnb.1)
      (fun o ho => hpos o (List.mem_cons_of_mem _ ho)) hnb.2

theorem NoBreak_prefix {S : Addr} {P : PeerId} (a b : List (Int × TOp)) :
    ∀ {t : Table} {exp : Int}, NoBreak S P t exp (a ++ b) → NoBreak S P t exp a := by
  induction a with
  | nil => intro t exp _; trivial
  | cons o a ih =>
    intro t exp h
    rcases o with ⟨now, op⟩
    exact ⟨h.1, ih h.2⟩

/-- **learned_until** (C13): a frame with source `S` received from `P` at time `t0` is recorded in ANY table.
    Whatever happens afterwards (positive times), as long as none of the following occurs — `S` is learned from
    another peer; a sweep runs later than the current expiry (`t0 + cacheTimeout`, moved on by every further
    frame with source `S` from `P`); `P` is removed; `P` announces claims and thereby drops one of its own (the
    code then flushes everything learned from `P`) — every lookup of `S`, inside the history and at its end,
    returns `P`. -/
theorem learned_until (t : Table) (t0 : Int) (S : Addr) (P : PeerId) (post : List (Int × TOp))
    (hpos : ∀ o ∈ post, 0 < o.1)
    (h : NoBreak S P (t.learn t0 S P) (t0 + t.cacheTimeout) post) :
    (∀ now, ((runT (t.learn t0 S P) post).1.lookup now S).2 = some P) ∧
    (∀ a b u, post = a ++ (u, .lookup S) :: b →
      (stepT (runT (t.learn t0 S P) a).1 u (.lookup S)).2 = some P) := by
  have h0 : HasT S P (t0 + t.cacheTimeout) (t.learn t0 S P) :=
    (find?_cacheInsert t.cache ⟨S, P, t0 + t.cacheTimeout⟩ S).trans (if_pos rfl)
  constructor
  · intro now
    obtain ⟨_, hv⟩ := run_keeps post h0 hpos h
    rw [lookup_hit _ now S _ hv]
  · intro a b u hsplit
    subst hsplit
    obtain ⟨_, hv⟩ := run_keeps a h0 (fun o ho => hpos o (List.mem_append_left _ ho)) (NoBreak_prefix a _ h)
    simp only [stepT]
    rw [lookup_hit _ u S _ hv]

/-- the flush on a dropped claim is real: 10.7.7.7 is learned from peer 2, which then announces a different
    range: the address is forgotten (and resolved from the claims: peer 1) although peer 2 is still connected
    and the entry had not expired -/
theorem announce_drop_flushes_learned :
    ((runT exStart [(10, .announce 1 [r8]), (20, .announce 2 [r16]), (50, .learn [10, 7, 7, 7] 2)]).1.lookup
      60 [10, 7, 7, 7]).2 = some 2 ∧
    ((runT exStart [(10, .announce 1 [r8]), (20, .announce 2 [r16]), (50, .learn [10, 7, 7, 7] 2),
      (55, .announce 2 [r24])]).1.lookup 60 [10, 7, 7, 7]).2 = some 1 := by
  decide +kernel

/-- non-vacuity: after the first four operations of `exHistory`, 10.7.7.7 is learned from peer 2 at time 50
    (expiry 350).  Peer 2 re-announces its range (nothing dropped), a lookup, a sweep at 340, a further frame at
    345 (expiry then 645), a sweep at 600: none of these is such an event -/
example : NoBreak [10, 7, 7, 7] 2 ((runT exStart (exHistory.take 4)).1.learn 50 [10, 7, 7, 7] 2) (50 + 300)
    [(60, .announce 2 [r16]), (70, .lookup [10, 7, 7, 7]), (340, .sweep), (345, .learn [10, 7, 7, 7] 2),
     (600, .sweep)] := by
  refine ⟨?_, ?_, ?_, ?_, ?_, trivial⟩
  · rintro (h | ⟨_, r, hr⟩)
    · omega
    · rw [show claimsOf ((runT exStart (exHistory.take 4)).1.learn 50 [10, 7, 7, 7] 2) 2 = [r16] from by
        decide] at hr
      exact absurd hr (Nat.lt_irrefl _)
  · exact fun h => h
  · show ¬ ((50 : Int) + 300 < 340)
    omega
  · rintro ⟨_, h⟩
    exact h rfl
  · show ¬ ((345 : Int) + (300 : Nat) < 600)
    omega

/-! ### the learned / cached entries form a map -/

/-- every operation overwrites (`cacheInsert`) or drops entries -/
theorem stepT_is_a_map {t : Table} (h : (t.cache.map (fun v => v.addr)).Nodup) (now : Int) (op : TOp) :
    ((stepT t now op).1.cache.map (fun v => v.addr)).Nodup := by
  cases op with
  | announce p cs =>
    simp only [stepT]
    rw [setClaims_cache]
    apply filter_addr_nodup
    split
    · rw [zero_addrs]; exact h
    · exact h
  | disconnect p =>
    show (((t.cache.map (fun v => if v.peer = p then { v with timeout := 0 } else v)).filter _).map _).Nodup
    apply filter_addr_nodup
    rw [zero_addrs]; exact h
  | learn a p => exact cacheInsert_nodup h _
  | sweep => exact filter_addr_nodup h _
  | lookup a =>
    simp only [stepT, lookup]
    split
    · exact h
    · split
      · exact cacheInsert_nodup h _
      · exact h

/-- **learned_is_a_map**: if the cache of the start table has at most one entry per address (as the `HashMap`
    of the code has), so has the table after every history — the "at most one entry per address" of the
    abstract state. -/
theorem learned_is_a_map (t : Table) (ops : List (Int × TOp))
    (h : (t.cache.map (fun v => v.addr)).Nodup) : ((runT t ops).1.cache.map (fun v => v.addr)).Nodup := by
  induction ops generalizing t with
  | nil => exact h
  | cons o ops ih => exact ih _ (stepT_is_a_map h o.1 o.2)

end VpnCloud.Proofs.TableRefine
