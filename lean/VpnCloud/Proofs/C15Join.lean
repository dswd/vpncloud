import VpnCloud.Proofs.C15More
import VpnCloud.Proofs.Lemmas.Node.C09MoreLemmas
/-
  C15 (join) — the freshly joined peer survives the next housekeeping ticks.

  `housekeep` removes a peer in two places only: the expiry sweep (`Generated.peerExpired timeout now`, i.e.
  STRICTLY `timeout < now`) and the per-second tick of the sessions (`crypto_housekeep`: a session whose
  `every_second` reports an error is dropped).  So a peer whose expiry has not passed (`t ≤ timeout`) and
  whose session tick does not fail is still a peer after the tick, with the same expiry.
-/
namespace VpnCloud.Proofs.C15Join

open VpnCloud.Node
open VpnCloud.Proofs.AssocLemmas VpnCloud.Proofs.SessionInvLemmas
open VpnCloud.Proofs.C15MoreLemmas

/-- The session layer's own per-second housekeeping does not report a failure for the session `pc` of the
peer `a`: `PeerCrypto.everySecond` — the function `crypto_housekeep` consults — does not return `.err`,
with the randomness the node draws for `a` (`rndFor`) in whatever context the tick reaches the peer. -/
def SessionTickOk (o : Oracle) (a : NAddr) (pc : PeerCrypto) : Prop :=
  ∀ (c : Ctx) (pc' : PeerCrypto) (e : InitErr), PeerCrypto.everySecond pc (rndFor o c a).2.1 ≠ .err pc' e

/-- **joined_peer_survives_tick**: a peer whose expiry has not passed at the tick (`t ≤ timeout`; the model's
guard `Generated.peerExpired` is the strict `timeout < t`, so the tick AT the expiry second still keeps it) is
still a peer after `housekeep` at `t`, with the same expiry — for pairwise distinct peer addresses (as the node
keeps them) and provided the per-second housekeeping of its own session does not fail (`SessionTickOk`).
With `handshake_sets_expiry` (`timeout = now + cfg.peerTimeout`) this covers every tick at `now ≤ t ≤ now + peer_timeout`. -/
theorem joined_peer_survives_tick (env : CryptoEnv) (o : Oracle) (n : Node) (t : Int) (a : NAddr) (p : Peer)
    (hnd : (n.peers.map (·.1)).Nodup) (hp : lookupA n.peers a = some p) (ht : t ≤ p.timeout)
    (hs : SessionTickOk o a p.crypto) :
    ∃ p', lookupA (housekeep env o n t).node.peers a = some p' ∧ p'.timeout = p.timeout := by
  -- whether `every_second` fails does not depend on the randomness, so `SessionTickOk` excludes a failure for every randomness
  have hok : ∀ rr pc' e, PeerCrypto.everySecond p.crypto rr ≠ .err pc' e := by
    intro rr pc' e he
    obtain ⟨pc'', e', h⟩ := everySecond_err_indep _ _ rr (rndFor o { node := n } a).2.1 _ he
    exact hs _ _ _ h
  exact C09MoreLemmas.housekeep_keeps env o n t a p hp (by omega) hnd hok

/-- the bound is sharp: one second after the expiry the peer is gone (no hypothesis on the session) -/
theorem joined_peer_gone_after_expiry (env : CryptoEnv) (o : Oracle) (n : Node) (t : Int) (a : NAddr) (p : Peer)
    (hnd : (n.peers.map (·.1)).Nodup) (hp : lookupA n.peers a = some p) (ht : p.timeout < t) :
    lookupA (housekeep env o n t).node.peers a = none :=
  (C15More.silent_removed_node env o n t a p hnd hp).1 (by simpa [C15More.rRemoves] using ht)

/-- a sufficient condition for `SessionTickOk` that a session fresh out of a completed handshake meets: no
rotation state that is due (here: none, the unencrypted mode) and a handshake object that is only waiting to be
closed (or none at all). -/
theorem sessionTickOk_of_waiting (o : Oracle) (a : NAddr) (pc : PeerCrypto) (hrot : pc.rot = none)
    (hinit : ∀ ist, pc.init = some ist → ist.stage = Generated.WAITING_TO_CLOSE) : SessionTickOk o a pc := by
  intro c pc' e
  generalize (rndFor o c a).2.1 = rr
  unfold PeerCrypto.everySecond
  cases hi : pc.init with
  | none =>
    simp only [hrot]
    split <;> (intro h; cases h)
  | some ist =>
    have hst := hinit ist hi
    simp only [hrot]
    unfold Init.everySecond
    simp only [hst, if_true]
    by_cases hct : ist.closeTime = 0
    · simp only [hct, if_true]
      split <;> (intro h; cases h)
    · simp only [hct, if_false]
      split <;> (intro h; cases h)

/-- **joined_peer_gets_first_announcement**: if handling a datagram at `now` adds the peer `a`, then every next
tick at `t` with `now ≤ t ≤` the expiry written by the handshake (`now + peer_timeout`, `handshake_sets_expiry`) —
in particular the ticks of the seconds `now` and `now + 1` — keeps `a` as a peer with that expiry AND, if its
session can seal, sends it the node information; the next announcement is scheduled `d` seconds ahead with
`d ≤ 1` or `d` below the timeout `a` advertised. -/
theorem joined_peer_gets_first_announcement (env : CryptoEnv) (bodyOf : Init.BodyOf) (o : Oracle) (n : Node) (now : Int)
    (src : NAddr) (data tail : Bytes) (a : NAddr) (p : Peer) (hbefore : a ∉ n.peers.map (·.1))
    (hp : lookupA (handleNet env bodyOf o n now src data tail).1.node.peers a = some p)
    (hnd : ((handleNet env bodyOf o n now src data tail).1.node.peers.map (·.1)).Nodup)
    (o' : Oracle) (t : Int) (h1 : now ≤ t) (h2 : t ≤ p.timeout) (hs : SessionTickOk o' a p.crypto) :
    ∃ p', lookupA (housekeep env o' (handleNet env bodyOf o n now src data tail).1.node t).node.peers a = some p' ∧
      p'.timeout = p.timeout ∧
      (∃ d : Nat, (housekeep env o' (handleNet env bodyOf o n now src data tail).1.node t).node.nextPeers = t + d ∧
        (d ≤ 1 ∨ d < p'.peerTimeout)) ∧
      (canSeal p'.crypto →
        ∃ p3, lookupA (preAnnounce env o' (handleNet env bodyOf o n now src data tail).1.node t).node.peers a = some p3 ∧
          Sent Generated.MESSAGE_TYPE_NODE_INFO
            (Codec.encodeNodeInfo (createNodeInfo (preAnnounce env o' (handleNet env bodyOf o n now src data tail).1.node t).node)) a p3 p'
            (housekeep env o' (handleNet env bodyOf o n now src data tail).1.node t).outs
            (housekeep env o' (handleNet env bodyOf o n now src data tail).1.node t).log) := by
  obtain ⟨p', hp', ht'⟩ := joined_peer_survives_tick env o' _ t a p hnd hp h2 hs
  have hafter : a ∈ (handleNet env bodyOf o n now src data tail).1.node.peers.map (·.1) := mem_key (lookupA_some_mem hp)
  obtain ⟨_, _, hann⟩ := C15More.new_peer_announced_next_tick env bodyOf o n now src data tail a hbefore hafter
  obtain ⟨⟨d, hd1, hd2⟩, hsent⟩ := hann o' t h1
  have hmem := lookupA_some_mem hp'
  refine ⟨p', hp', ht', ⟨d, hd1, ?_⟩, fun hseal => hsent hnd a p' hmem hseal⟩
  rcases hd2 with h | h
  · exact Or.inl h
  · exact Or.inr (h a p' hmem)

/-! ### non-vacuity: the node of the examples of `C15More` that has just completed a handshake with `s2` -/
section Examples
open VpnCloud.Proofs.InitLemmas
open VpnCloud.Proofs.C15More (s2 o0 p1 istH nH pongH)

private def nH' : Node := (handleNet Toy.env (Toy.body 0) o0 nH 100 s2 pongH []).1.node

/-- All hypotheses of `joined_peer_survives_tick` / `joined_peer_gets_first_announcement` hold right after the
completed handshake (second 100): `s2` was not a peer, is one now with expiry `100 + 300`, the addresses are
distinct, and the fresh `PeerCrypto` out of the handshake does not fail at its ticks (`SessionTickOk`). -/
example : s2 ∉ nH.peers.map (·.1) ∧ (nH'.peers.map (·.1)).Nodup ∧
    ∃ p, lookupA nH'.peers s2 = some p ∧ p.timeout = 100 + nH.cfg.peerTimeout ∧ (100 : Int) ≤ p.timeout ∧
      SessionTickOk o0 s2 p.crypto := by
  refine ⟨by decide, by decide +kernel, ?_⟩
  have h : (lookupA nH'.peers s2).map (fun p => (p.timeout, p.crypto.rot.isNone,
      p.crypto.init.map (fun i => i.stage))) = some (400, true, some Generated.WAITING_TO_CLOSE) := by decide +kernel
  cases hl : lookupA nH'.peers s2 with
  | none => rw [hl] at h; cases h
  | some p =>
    rw [hl] at h
    simp only [Option.map_some, Option.some.injEq, Prod.mk.injEq] at h
    obtain ⟨h1, h2, h3⟩ := h
    refine ⟨p, rfl, by rw [h1]; decide, by rw [h1]; decide, ?_⟩
    apply sessionTickOk_of_waiting
    · cases hr : p.crypto.rot with
      | none => rfl
      | some r => rw [hr] at h2; cases h2
    · intro ist hi
      rw [hi] at h3
      simpa using h3

/-- … and indeed the ticks of the seconds 100 and 101 keep `s2` with expiry 400; the tick at 401 removes it -/
example : (lookupA (housekeep Toy.env o0 nH' 100).node.peers s2).map (·.timeout) = some 400 ∧
    (lookupA (housekeep Toy.env o0 (housekeep Toy.env o0 nH' 100).node 101).node.peers s2).map (·.timeout) = some 400 ∧
    (lookupA (housekeep Toy.env o0 nH' 400).node.peers s2).map (·.timeout) = some 400 ∧
    (lookupA (housekeep Toy.env o0 nH' 401).node.peers s2).map (·.timeout) = none := by
  decide +kernel

private def nDup : Node := { nH with peers := [(s2, p1), (s2, { p1 with timeout := 50 })], pending := [] }
/-- the hypothesis of pairwise distinct addresses is needed: with a second (stale) entry under the same address the
sweep erases every entry of the address, although `lookupA` shows an unexpired record (expiry 1000 at second 100) -/
example : (lookupA nDup.peers s2).map (·.timeout) = some 1000 ∧
    (lookupA (housekeep Toy.env o0 nDup 100).node.peers s2).isNone = true := by
  decide +kernel

private def istBad : InitSt := { istH with stage := 1, retries := 120 }
private def nBad : Node := { nH with peers := [(s2, { p1 with crypto := { init := some istBad } })], pending := [] }
/-- the hypothesis `SessionTickOk` is needed: a session whose handshake object has used up its retries fails at its
tick and the peer is dropped although its expiry (1000) is far away -/
example : (lookupA nBad.peers s2).map (·.timeout) = some 1000 ∧
    (lookupA (housekeep Toy.env o0 nBad 100).node.peers s2).isNone = true := by
  decide +kernel

end Examples

end VpnCloud.Proofs.C15Join
