import VpnCloud.Proofs.C08Node
import VpnCloud.Proofs.C09More
import VpnCloud.Proofs.C07Session
/-
  The panic site `derive_key(..).unwrap()` of `RotationState::process_message` (src/crypto/rotate.rs).

  `derive_key` is `agree_ephemeral(private_key, &public_key, ..).unwrap()`; ring's X25519 agreement returns `Err` when the peer's public
  key does not have exactly 32 bytes.  `RotationMessage::read_from` accepts keys of ANY length 0..255 (a length byte and that many bytes),
  so a sealed ROTATION message with `id > message_id` whose proposed key — or, if a confirmation is present and an own proposal is
  outstanding, whose confirmed key — is not 32 bytes long makes the node panic.  The model shows the site as
  `PeerCrypto.rotatePanics` / `PeerCrypto.derivePanics`, checked by `PeerCrypto.handleMessage` before `handleRotate`.
  (Not modelled: the few 32-byte low-order points for which ring also rejects the all-zero shared secret.)

  * `keyholder_can_panic`: the concrete witness, at `PeerCrypto.handleMessage` and at `Node.handleNet` level, from a well-formed node and
    with an AEAD view that satisfies `NonEmptySeals`: the plaintext replayed on the real code (`10` + 8-byte id + `05` + 5 bytes + `00`).
  * `panic_needs_session_seal`, `outsider_cannot_reach_site`, `outsider_cannot_panic_node`: whoever makes `handle_message` panic on a
    datagram without handshake marker has sealed it under a key of a slot of the session's core (`C02.accepted_is_genuine`); a datagram
    that is no such seal is rejected by the core — error, session object unchanged, `handle_rotate_message` never called
    (`C09More.rejected_by_core_keeps_session`).
  * `own_rotation_messages_valid`: every rotation message the session layer itself seals (`every_second`: `cycle`; the end of the handshake:
    `RotationState::new`) carries 32-byte keys, so it satisfies the hypothesis `ValidRotKeys` of `C08Node.never_panics`; payload seals
    (`send_message`, type ≠ ROTATION) are no rotation messages.  The hypothesis can only be violated by a key holder that does not run this code.
  * `honest_sessions_never_panic`: in the two-session system of `C07Session` (two established sessions, ticks, payload sends, delivery of
    anything the other one ever emitted, in any order and multiplicity) `handle_message` never panics — so the refinement theorems of
    `C07Session`, whose steps are the non-panicking outcomes, lose no behaviour of two honest sessions.
-/
namespace VpnCloud.Proofs.RotPanic

open VpnCloud.Node VpnCloud.Codec
open VpnCloud.Proofs.SessionInvLemmas VpnCloud.Proofs.NodeInvLemmas VpnCloud.Proofs.C09MoreLemmas VpnCloud.Proofs.RotPanicLemmas
open VpnCloud.Proofs.InitLemmas

/-- `= .panic`, decidably (`POutcome` carries functions, so it has no decidable equality) -/
def isPanic {α : Type} : POutcome α → Bool
  | .panic => true
  | _ => false

theorem isPanic_iff {α : Type} (r : POutcome α) : isPanic r = true ↔ r = .panic := by
  cases r <;> simp [isPanic]

namespace Witness
open VpnCloud.Proofs.C09More

/-- the plaintext replayed on the real code: type ROTATION (`0x10`), id 1, a proposed key of FIVE bytes, no confirmation -/
def shortPropose : Bytes := [Generated.MESSAGE_TYPE_ROTATION, 0, 0, 0, 0, 0, 0, 0, 1, 5, 1, 2, 3, 4, 5, 0]

/-- id 3, a proposed key of 32 bytes, a confirmed key of FIVE bytes -/
def shortConfirm : Bytes :=
  [Generated.MESSAGE_TYPE_ROTATION, 0, 0, 0, 0, 0, 0, 0, 3, 32] ++ List.replicate 32 9 ++ [5, 1, 2, 3, 4, 5]

/-- ideal-AEAD view: every ciphertext opens as the seal of `plain` under the session key 7 of slot 0 with the nonce of counter 5 — what the
    HOLDER of that key can put on the wire -/
def sealOf (plain : Bytes) : Init.BodyOf := fun _ => .sealed 7 (HALF + 5) plain

/-- the session of `C09More.Ex2.p` (core with key 7 in slot 0, rotation state of the handshake initiator: id 0, nothing proposed) … -/
def pcY : PeerCrypto := Ex2.p.crypto
/-- … and the same with the rotation state of the handshake responder (id 1, own proposal outstanding) -/
def pcX : PeerCrypto := { Ex2.p.crypto with rot := some (PeerCrypto.initSide true 5) }

/-- 8 header bytes (slot 0, counter 5) and 17 more bytes -/
def dgram : Bytes := Ex2.data5

theorem nodeWF : C08Node.NodeWF Ex2.n := by
  constructor
  · intro a pc hm; cases hm
  · intro a p hm i hi
    simp only [Ex2.n, List.mem_singleton, Prod.mk.injEq] at hm
    obtain ⟨_, rfl⟩ := hm
    cases hi

theorem nonEmpty_shortPropose : NonEmptySeals (sealOf shortPropose) := by
  intro ct k n p h
  simp only [sealOf, Body.sealed.injEq] at h
  rw [← h.2.2]; decide

end Witness

open Witness in
/-- **keyholder_can_panic**: a peer with an established session (the holder of the session key) crashes the node with ONE datagram — a sealed
    ROTATION message whose proposed key has 5 bytes (the input replayed on the Rust code: `panicked at src/crypto/rotate.rs:145`), or
    whose confirmed key has 5 bytes when an own proposal is outstanding.  At session level and at node level, from a well-formed node,
    with an AEAD view in which no genuine seal is empty (so `NonEmptySeals` alone does not give `never_panics`). -/
theorem keyholder_can_panic :
    PeerCrypto.handleMessage Toy.env (sealOf shortPropose) payloadOk pcY dgram [] {} {} = .panic ∧
    PeerCrypto.handleMessage Toy.env (sealOf shortConfirm) payloadOk pcX dgram [] {} {} = .panic ∧
    (C08Node.NodeWF C09More.Ex2.n ∧ NonEmptySeals (sealOf shortPropose) ∧
      (handleNet Toy.env (sealOf shortPropose) C09More.Cex1.o C09More.Ex2.n 100 C09More.Ex2.s dgram []).1.panicked = true) := by
  refine ⟨(isPanic_iff _).1 (by decide), (isPanic_iff _).1 (by decide), nodeWF, nonEmpty_shortPropose, by decide⟩

open Witness in
/-- the order of the checks is that of the Rust (`process_message`): the same malformed messages are harmless when their id is not newer
    than the own one (early `return None`), a malformed CONFIRMED key is harmless when no own proposal is outstanding
    (`self.proposed.take()` is `None`), and a plain session ignores rotation messages altogether -/
example :
    isPanic (PeerCrypto.handleMessage Toy.env (sealOf shortPropose) payloadOk pcX dgram [] {} {}) = false ∧
    isPanic (PeerCrypto.handleMessage Toy.env (sealOf shortConfirm) payloadOk pcY dgram [] {} {}) = false ∧
    isPanic (PeerCrypto.handleMessage Toy.env (sealOf shortPropose) payloadOk { init := none, unencrypted := true } shortPropose [] {} {}) = false := by
  decide

/-- **panic_needs_session_seal**: if `handle_message` panics on a datagram without the handshake marker, then the session is encrypted and
    the ciphertext of the datagram is — in the ideal-AEAD view — a seal under the key of the addressed slot of the session's core with exactly
    the reconstructed nonce (so its maker holds that key), and what is sealed is either the empty plaintext (`take_prefix`) or a ROTATION
    message whose keys are not all 32 bytes long (`derive_key(..).unwrap()`). -/
theorem panic_needs_session_seal (env : CryptoEnv) (bodyOf : Init.BodyOf) (ok : Bytes → Bool) (pc : PeerCrypto) (data tail : Bytes)
    (rnd : Rand) (rr : RotRand) (hinit : data.head? ≠ some Generated.INIT_MESSAGE_FIRST_BYTE)
    (h : PeerCrypto.handleMessage env bodyOf ok pc data tail rnd rr = .panic) :
    pc.unencrypted = false ∧ ∃ core k plain, pc.core = some core ∧ core.slots[(dgramOf bodyOf data).keyId]? = some k ∧
      bodyOf (data.drop 8) = .sealed k.key (core.reconstruct (dgramOf bodyOf data).counter) plain ∧
      (plain = [] ∨ ∃ body, plain = Generated.MESSAGE_TYPE_ROTATION :: body ∧ ¬ RotKeysOK body ∧
        PeerCrypto.rotatePanics { pc with core := some (core.decrypt (dgramOf bodyOf data)).1 } body = true) := by
  have hk := handleMessage_keepsInit env bodyOf ok pc data tail rnd rr hinit
  rw [h] at hk
  obtain ⟨hu, c, plain, hc, hp, hcase⟩ := hk
  obtain ⟨_, _, k, hk, hbody⟩ := VpnCloud.Proofs.C02.accepted_is_genuine c _ plain hp
  refine ⟨hu, c, k, plain, hc, hk, hbody, hcase.imp_right ?_⟩
  rintro ⟨body, hpl, hpan⟩
  exact ⟨body, hpl, not_keysOK_of_rotatePanics _ _ hpan, hpan⟩

/-- **outsider_cannot_reach_site**: a datagram without the handshake marker whose ciphertext is no seal under a key of the session's core
    (`NoSessionSeal`: garbage, or a seal under some other key — all that a sender without the session keys can make, apart from replaying
    what a key holder sealed) is rejected by the core: `handle_message` returns a non-fatal error and the UNCHANGED session object; it does
    not get as far as `handle_rotate_message`, let alone `derive_key`. -/
theorem outsider_cannot_reach_site (env : CryptoEnv) (bodyOf : Init.BodyOf) (ok : Bytes → Bool) (pc : PeerCrypto) (core : Core)
    (data tail : Bytes) (rnd : Rand) (rr : RotRand) (hinit : data.head? ≠ some Generated.INIT_MESSAGE_FIRST_BYTE)
    (hu : pc.unencrypted = false) (hc : pc.core = some core) (hout : NoSessionSeal bodyOf core data) :
    ∃ e, PeerCrypto.handleMessage env bodyOf ok pc data tail rnd rr = .err pc e ∧ e ≠ .cryptoInitFatal :=
  C09More.rejected_by_core_keeps_session env bodyOf ok pc core data tail rnd rr hinit hu hc (noSessionSeal_rejected bodyOf core data hout)

/-- a plain (unencrypted) session never reaches the site at all, whatever it receives -/
theorem plain_session_cannot_reach_site (env : CryptoEnv) (bodyOf : Init.BodyOf) (ok : Bytes → Bool) (pc : PeerCrypto)
    (data tail : Bytes) (rnd : Rand) (rr : RotRand) (hinit : data.head? ≠ some Generated.INIT_MESSAGE_FIRST_BYTE)
    (hu : pc.unencrypted = true) : PeerCrypto.handleMessage env bodyOf ok pc data tail rnd rr ≠ .panic := by
  intro h
  have := (panic_needs_session_seal env bodyOf ok pc data tail rnd rr hinit h).1
  rw [hu] at this
  cases this

/-- node level: such a datagram from the address of an established peer does not make the node panic; nothing is sent or written, and the
    peer record (session object included), the routes and the pending handshakes are exactly as before — only the invalid-packet counter moves -/
theorem outsider_cannot_panic_node (env : CryptoEnv) (bodyOf : Init.BodyOf) (o : Oracle) (n : Node) (now : Int) (src : NAddr) (data tail : Bytes)
    (p : Peer) (core : Core) (hp : lookupA n.peers (mappedAddr src) = some p)
    (hinit : data.head? ≠ some Generated.INIT_MESSAGE_FIRST_BYTE)
    (hu : p.crypto.unencrypted = false) (hc : p.crypto.core = some core) (hout : NoSessionSeal bodyOf core data) :
    let r := handleNet env bodyOf o n now src data tail
    r.1.panicked = false ∧ r.1.outs = [] ∧ lookupA r.1.node.peers (mappedAddr src) = some p ∧
    r.1.node.table = n.table ∧ r.1.node.pending = n.pending ∧ r.1.node.peers.map (·.1) = n.peers.map (·.1) := by
  obtain ⟨h1, h2, h3, h4, h5, _, h7, _⟩ :=
    C09More.forged_data_keeps_peer env bodyOf o n now src data tail p core hp hinit hu hc (noSessionSeal_rejected bodyOf core data hout)
  exact ⟨h3, h2, h1, h4, h5, h7⟩

def ValidPlain (p : Bytes) : Prop := ∀ body, p = Generated.MESSAGE_TYPE_ROTATION :: body → RotKeysOK body

theorem validPlain_rot (m : Rot.Msg) : ValidPlain (Generated.MESSAGE_TYPE_ROTATION :: writeRotMsg (PeerCrypto.rotMsgToBytes m)) := by
  intro body h
  simp only [List.cons.injEq, true_and] at h
  rw [← h]; exact written_keysOK m

theorem validPlain_other (ty : Nat) (body : Bytes) (h : ty ≠ Generated.MESSAGE_TYPE_ROTATION) : ValidPlain (ty :: body) := by
  intro b hb
  simp only [List.cons.injEq] at hb
  exact absurd hb.1 h

/-- **own_rotation_messages_valid**: the rotation messages the session layer produces carry X25519 public keys of 32 bytes
    (`create_key` → `compute_public_key`):
    (1) the wire form of every message `rotMsgToBytes` builds is read back (`read_from`) with a 32-byte proposed key and, if present, a
        32-byte confirmed key — for every id and every key number;
    (2) every seal `every_second` logs is the seal of such a message (the one `RotationState::cycle` returned), so every ROTATION seal in
        its log satisfies `RotKeysOK`;
    (3) the log of `handle_init_message` is the log of the handshake layer (seals of the handshake payload, a node info — not a transport
        message) followed by nothing or by the seal of the first rotation message (`RotationState::new`), which satisfies `RotKeysOK`;
    (4) `send_message` seals `type :: body`; with `type ≠ MESSAGE_TYPE_ROTATION` (`assert_ne!` in the Rust) that is no rotation message.
    So in a run in which every key holder runs this code, every genuine seal of a ROTATION message meets `ValidRotKeys`. -/
theorem own_rotation_messages_valid :
    (∀ m : Rot.Msg, RotKeysOK (writeRotMsg (PeerCrypto.rotMsgToBytes m))) ∧
    (∀ pc rr pc' out res log, PeerCrypto.everySecond pc rr = .ok pc' out res log → LogRot log ∧ LogRotValid log) ∧
    (∀ env bodyOf ok pc w rnd rr pc' out res log, PeerCrypto.handleInitMessage env bodyOf ok pc w rnd rr = .ok pc' out res log →
      ∃ ist ist' out0 r0 ilog log', pc.init = some ist ∧ Init.handleInit env bodyOf ok ist w rnd = .ok ist' (out0, r0, ilog) ∧
        log = ilog ++ log' ∧ LogRot log' ∧ LogRotValid log') ∧
    (∀ pc ty body ct pc' bytes log, ty ≠ Generated.MESSAGE_TYPE_ROTATION →
      PeerCrypto.sendMessage pc ty body ct = (pc', .ok (bytes, log)) → LogRotValid log) := by
  refine ⟨written_keysOK, ?_, ?_, ?_⟩
  · intro pc rr pc' out res log h
    exact ⟨everySecond_logRot h, LogRot.valid (everySecond_logRot h)⟩
  · intro env bodyOf ok pc w rnd rr pc' out res log
    refine handleInitMessage_cases (Q := fun ist r => Init.handleInit env bodyOf ok ist w rnd = r)
      (M := fun r => r = .ok pc' out res log → _) env bodyOf ok pc w rnd rr (fun _ _ => rfl) (noInit := fun _ h => nomatch h)
      (panic := fun _ _ h => nomatch h) (err := fun _ _ h => nomatch h) (cont := fun hi hr h => ?_) (success := fun hi hr hs _ _ h => ?_)
    · cases h
      exact ⟨_, _, _, _, _, [], hi, hr, (List.append_nil _).symm, LogPLemmas.logP_nil, LogRot.valid LogPLemmas.logP_nil⟩
    · cases h
      obtain ⟨log', h1, h2⟩ : LogPLemmas.SuccLogP _ _ (.ok pc' out res log) := hs ▸ successOut_logRot ..
      exact ⟨_, _, _, _, _, log', hi, hr, h1, h2, LogRot.valid h2⟩
  · intro pc ty body ct pc' bytes log hty h ct' k n b hm
    exact LogPLemmas.sealMsg_logP (P := ValidPlain) pc (ty :: body) ct bytes log (congrArg Prod.snd h) (validPlain_other ty body hty)
      ct' _ hm k n _ rfl b rfl

/-! ## `ValidRotKeys`: non-vacuity, and it is what `never_panics` needs -/

namespace Good

/-- the first rotation message of a session whose first public key is the number 5, as `write_to` writes it -/
def plain0 : Bytes := Generated.MESSAGE_TYPE_ROTATION :: writeRotMsg (PeerCrypto.rotMsgToBytes ⟨1, 5, none⟩)

/-- ideal-AEAD view: the ciphertext `[1, 2, …, 17]` is the seal of that message under key 7 with the nonce of counter 5; all else is garbage -/
def bodyOf : Init.BodyOf := fun ct => if ct = List.range' 1 17 then .sealed 7 (HALF + 5) plain0 else .garbage ct.length

def dgram : Bytes := [0, 0, 0, 0, 0, 0, 0, 5] ++ List.range' 1 17

theorem nonEmpty : NonEmptySeals bodyOf := by
  intro ct k n p h
  unfold bodyOf at h
  split at h
  · simp only [Body.sealed.injEq] at h
    rw [← h.2.2]; simp [plain0]
  · cases h

theorem valid : ValidRotKeys bodyOf := by
  intro ct k n body h
  unfold bodyOf at h
  split at h
  · simp only [Body.sealed.injEq, plain0, List.cons.injEq, true_and] at h
    rw [← h.2.2]
    exact written_keysOK _
  · cases h

end Good

/-- non-vacuity of the hypotheses `NonEmptySeals` and `ValidRotKeys` of `C08Node.never_panics`: an AEAD view that has a genuine seal of a
    rotation message satisfies both; the node of `C09More.Ex2` opens the datagram, hands the message to `handle_rotate_message`, does not
    panic, and its rotation state then holds the reply key pair (`pending`) -/
example : NonEmptySeals Good.bodyOf ∧ ValidRotKeys Good.bodyOf ∧ C08Node.NodeWF C09More.Ex2.n ∧
    (handleNet Toy.env Good.bodyOf C09More.Cex1.o C09More.Ex2.n 100 C09More.Ex2.s Good.dgram []).1.panicked = false ∧
    ((lookupA (handleNet Toy.env Good.bodyOf C09More.Cex1.o C09More.Ex2.n 100 C09More.Ex2.s Good.dgram []).1.node.peers C09More.Ex2.s).bind
        (fun p => p.crypto.rot.map (fun sd => sd.pending.isSome))) = some true ∧
    (C09More.Ex2.p.crypto.rot.map (fun sd => sd.pending.isSome)) = some false := by
  refine ⟨Good.nonEmpty, Good.valid, Witness.nodeWF, ?_, ?_, rfl⟩
  · exact (C08Node.handleNet_no_panic Toy.env Good.bodyOf _ _ 100 _ _ [] Witness.nodeWF Good.nonEmpty Good.valid).1
  · decide +kernel

/-- `ValidRotKeys` is needed in `C08Node.handleNet_no_panic` / `never_panics`: the AEAD view of `keyholder_can_panic` satisfies
    `NonEmptySeals` but not `ValidRotKeys`, and the well-formed node panics -/
example : NonEmptySeals (Witness.sealOf Witness.shortPropose) ∧ ¬ ValidRotKeys (Witness.sealOf Witness.shortPropose) := by
  refine ⟨Witness.nonEmpty_shortPropose, fun hv => ?_⟩
  have h := hv [] 7 (HALF + 5) [0, 0, 0, 0, 0, 0, 0, 1, 5, 1, 2, 3, 4, 5, 0] rfl ⟨1, [1, 2, 3, 4, 5], none⟩ (by decide)
  exact absurd h.1 (by decide)

section TwoSessions
open VpnCloud.Rot VpnCloud.Proofs.C07Session VpnCloud.Proofs.C07SessionLemmas

/-- what the datagram carries — if its ciphertext is a genuine seal at all — is not empty, and if it is a ROTATION message its keys have 32 bytes -/
def DgramOK (bodyOf : Init.BodyOf) (d : Bytes) : Prop :=
  ∀ k n p, bodyOf (d.drop 8) = .sealed k n p → p ≠ [] ∧ ∀ body, p = Generated.MESSAGE_TYPE_ROTATION :: body → RotKeysOK body

def SentOK (bodyOf : Init.BodyOf) (l : List Bytes) : Prop := ∀ d ∈ l, DgramOK bodyOf d

theorem dgramOK_no_panic (env : CryptoEnv) (bodyOf : Init.BodyOf) (ok : Bytes → Bool) (pc : PeerCrypto) (d tail : Bytes) (rnd : Rand) (rr : RotRand)
    (hinit : d.head? ≠ some Generated.INIT_MESSAGE_FIRST_BYTE) (hd : DgramOK bodyOf d) :
    PeerCrypto.handleMessage env bodyOf ok pc d tail rnd rr ≠ .panic := by
  intro h
  obtain ⟨_, core, k, plain, _, _, hb, hcase⟩ := panic_needs_session_seal env bodyOf ok pc d tail rnd rr hinit h
  obtain ⟨h1, h2⟩ := hd _ _ _ hb
  rcases hcase with he | ⟨body, hp, hbad, _⟩
  · exact h1 he
  · exact hbad (h2 body hp)

variable (env : CryptoEnv) (bodyOf : Init.BodyOf) (payloadOk : Bytes → Bool)

/-- every operation of an established session keeps "all I have emitted is well-formed": a tick emits nothing or the sealed rotation message
    of its `cycle` (32-byte keys), a payload send emits `type :: body` with a type other than ROTATION -/
theorem op_sentOK {pc pc' : PeerCrypto} {own peer own' : List Bytes} {sd : Side} {c : Core} (h : Sess pc sd c) (hpeer : NoMarker peer)
    (hown : SentOK bodyOf own) (o : Op env bodyOf payloadOk pc own peer pc' own') : SentOK bodyOf own' := by
  obtain ⟨_, _, _, _, _, hcase⟩ := op_eff env bodyOf payloadOk h hpeer o
  rcases hcase with ⟨rfl, _⟩ | ⟨hdr, ct, key, n, plain, rfl, hl8, _, hb, hplain⟩
  · exact hown
  · intro d hd
    rcases List.mem_cons.1 hd with rfl | hd
    · intro k' n' p hp
      rw [List.drop_left' hl8, hb] at hp
      simp only [Body.sealed.injEq] at hp
      rw [← hp.2.2]
      rcases hplain with ⟨_, m, _, _, rfl, _⟩ | ⟨_, ty, body, hty, rfl⟩
      · exact ⟨List.cons_ne_nil _ _, validPlain_rot m⟩
      · exact ⟨List.cons_ne_nil _ _, validPlain_other ty body hty⟩
    · exact hown d hd

theorem step_sentOK {s t : SSys} (h : Good bodyOf s) (hx : SentOK bodyOf s.sentX) (hy : SentOK bodyOf s.sentY)
    (st : SStep env bodyOf payloadOk s t) : SentOK bodyOf t.sentX ∧ SentOK bodyOf t.sentY := by
  obtain ⟨cx, cy, sx, sy, _⟩ := h.ex
  cases st with
  | x pc' own' o => exact ⟨op_sentOK env bodyOf payloadOk sx h.hdrY hx o, hy⟩
  | y pc' own' o => exact ⟨hx, op_sentOK env bodyOf payloadOk sy h.hdrX hy o⟩

/-- states reachable from `s0` by session operations -/
inductive SReachFrom (s0 : SSys) : SSys → Prop
  | refl : SReachFrom s0 s0
  | step {s t : SSys} (h : SReachFrom s0 s) (st : SStep env bodyOf payloadOk s t) : SReachFrom s0 t

theorem reachFrom_inv {s0 s : SSys} (h0 : InitPair bodyOf s0) (hv : SentOK bodyOf s0.sentX) (h : SReachFrom env bodyOf payloadOk s0 s) :
    SReachable env bodyOf payloadOk s ∧ SentOK bodyOf s.sentX ∧ SentOK bodyOf s.sentY := by
  induction h with
  | refl => exact ⟨.init h0, hv, by rw [h0.sentY]; intro d hd; cases hd⟩
  | step _ st ih =>
    obtain ⟨hr, hx, hy⟩ := ih
    exact ⟨.step hr st, step_sentOK env bodyOf payloadOk (good_reachable env bodyOf payloadOk hr) hx hy st⟩

/-- **honest_sessions_never_panic**: start from the pair of sessions right after a completed handshake (`InitPair`; what the responder has
    emitted so far — its first rotation message — is well-formed, `SentOK`, as `own_rotation_messages_valid` (3) shows for
    `handle_init_message`).  In every state reachable by ticks, payload sends and deliveries (any datagram the other session ever emitted,
    any number of times, in any order, with any stale buffer tail and any randomness), `handle_message` of either session on any datagram
    the other has emitted does not panic: neither `take_prefix` nor `derive_key(..).unwrap()` is reachable between two sessions that run
    this code. -/
theorem honest_sessions_never_panic {s0 s : SSys} (h0 : InitPair bodyOf s0) (hv : SentOK bodyOf s0.sentX)
    (h : SReachFrom env bodyOf payloadOk s0 s) (d tail : Bytes) (rnd : Rand) (rr : RotRand) :
    (d ∈ s.sentX → PeerCrypto.handleMessage env bodyOf payloadOk s.y d tail rnd rr ≠ .panic) ∧
    (d ∈ s.sentY → PeerCrypto.handleMessage env bodyOf payloadOk s.x d tail rnd rr ≠ .panic) := by
  obtain ⟨hr, hx, hy⟩ := reachFrom_inv env bodyOf payloadOk h0 hv h
  have hg := good_reachable env bodyOf payloadOk hr
  exact ⟨fun hd => dgramOK_no_panic env bodyOf payloadOk s.y d tail rnd rr (hg.hdrX d hd) (hx d hd),
         fun hd => dgramOK_no_panic env bodyOf payloadOk s.x d tail rnd rr (hg.hdrY d hd) (hy d hd)⟩

end TwoSessions

namespace Two
open VpnCloud.Proofs.C07Session VpnCloud.Proofs.C07SessionLemmas

/-- the session of the handshake responder (it starts the rotation with public key 5) and the one of the initiator (as in `C07Session`) -/
def sX : PeerCrypto :=
  { init := none, rot := some (PeerCrypto.initSide true 5), core := some (Core.new 7 true 9 [1, 2, 3, 4]), master := 7 }
def sY : PeerCrypto :=
  { init := none, rot := some (PeerCrypto.initSide false 0), core := some (Core.new 7 false 8 [0, 0, 0, 0]), master := 7 }
def plain0 : Bytes := Generated.MESSAGE_TYPE_ROTATION :: writeRotMsg (PeerCrypto.rotMsgToBytes ⟨1, 5, none⟩)
def d0 : Bytes := 0 :: Bytes.ofBE 7 (HALF + 2) ++ [1, 2, 3]
def bodyT : Init.BodyOf := fun ct => if ct = [1, 2, 3] then .sealed 7 (HALF + 2) plain0 else .garbage 0
def s0 : SSys := ⟨sX, sY, [d0], []⟩

theorem initPair0 : InitPair bodyT s0 := by
  refine ⟨⟨5, Core.new 7 true 9 [1, 2, 3, 4], Core.new 7 false 8 [0, 0, 0, 0], by decide,
    sess_initSide true 5 (by decide) rfl rfl rfl rfl rfl rfl, sess_initSide false 0 (by decide) rfl rfl rfl rfl rfl rfl, rfl,
    by decide +kernel⟩, rfl, ?_, rfl⟩
  intro d hd
  simp only [s0, List.mem_singleton] at hd
  subst hd
  decide

theorem sentOK0 : SentOK bodyT s0.sentX := by
  intro d hd
  simp only [s0, List.mem_singleton] at hd
  subst hd
  intro k n p hp
  have e : bodyT (d0.drop 8) = .sealed 7 (HALF + 2) plain0 := by decide
  rw [e] at hp
  simp only [Body.sealed.injEq] at hp
  rw [← hp.2.2]
  exact ⟨List.cons_ne_nil _ _, validPlain_rot _⟩

/-- the hypotheses of `honest_sessions_never_panic` are satisfiable, and the conclusion is not vacuous: `sY` handles the first rotation
    message of `sX` (an `.ok` outcome) -/
example : InitPair bodyT s0 ∧ SentOK bodyT s0.sentX ∧ d0 ∈ s0.sentX ∧
    isPanic (PeerCrypto.handleMessage Toy.env bodyT (fun _ => true) s0.y d0 [] {} { freshPend := 6 }) = false :=
  ⟨initPair0, sentOK0, List.mem_singleton.2 rfl, by decide +kernel⟩

end Two

/-! ## node level: every rotation message a node ever seals is valid

  `C08Node.own_seals` (of which `C08Node.own_seals_nonempty` is the instance for `NonEmptySeals`) with the predicate "if the plaintext is a
  ROTATION message, it carries 32-byte keys" (`ValidPlain`) gives the same for `ValidRotKeys`.  The seals of a node are: payload messages
  (`send_message` with the types DATA / NODE_INFO, never ROTATION), rotation messages (`every_second`, end of the handshake: written from
  32-byte keys) and the handshake payload in pong / peng (a node info: it starts with the tag `NI_PART_NODEID`, not with `0x10`). -/
section NodeLevel
open VpnCloud.Proofs.LogPLemmas

theorem validPlain_nodeInfo (i : NodeInfo) : ValidPlain (encodeNodeInfo i) := by
  intro b hb
  simp [encodeNodeInfo, encodePart, Generated.NI_PART_NODEID, Generated.MESSAGE_TYPE_ROTATION] at hb

/-- the own payload of every handshake object of the node is no malformed rotation message -/
def PayV (n : Node) : Prop :=
  (∀ a pc, (a, pc) ∈ n.pending → ∀ i, pc.init = some i → ValidPlain i.payload) ∧
  (∀ a p, (a, p) ∈ n.peers → ∀ i, p.crypto.init = some i → ValidPlain i.payload)

theorem validPlain_seals : C08Node.SealsP ValidPlain := ⟨validPlain_rot, validPlain_nodeInfo, validPlain_other⟩

theorem stepAny_rot_valid {n : Node} {c : Ctx} (h : PayV n) (hs : C08Node.StepAny n c) : LogP ValidPlain c.log ∧ PayV c.node :=
  C08Node.stepAny_seals validPlain_seals h hs

/-- **own_rotation_seals_valid** (node level): in every history that starts from a node without sessions — whatever the network delivers,
    for every cryptography, oracle and time — every seal of a ROTATION message in the seal log of every step carries 32-byte keys.  So a
    node of this model never violates `ValidRotKeys` itself; only a key holder that does not run this code can. -/
theorem own_rotation_seals_valid (n0 n : Node) (c : Ctx) (h0 : n0.peers = [] ∧ n0.pending = []) (h : C08Node.ReachAny n0 n)
    (hs : C08Node.StepAny n c) :
    ∀ ct k nonce body, (ct, Body.sealed k nonce (Generated.MESSAGE_TYPE_ROTATION :: body)) ∈ c.log → RotKeysOK body :=
  fun ct k nonce body hm => C08Node.own_seals validPlain_seals n0 n c h0 h hs ct _ hm k nonce _ rfl body rfl

namespace NodeEx
/-- an established peer whose own proposal is outstanding, timeout armed, one tick before `ROTATE_INTERVAL` -/
def pcR : PeerCrypto :=
  { C09More.Ex2.p.crypto with rot := some { PeerCrypto.initSide true 5 with timeout := true }, rotateCounter := 119 }
def pR : Peer := { C09More.Ex2.p with timeout := 1000, crypto := pcR }
def nR : Node := { C09More.Ex2.n with nextPeers := 1000, peers := [(C09More.Ex2.s, pR)] }
end NodeEx

/-- non-vacuity: the seal log of a step does contain rotation messages — the tick on which the rotate counter of an established peer
    reaches `ROTATE_INTERVAL` seals the repeated first rotation message (and nothing else); the node satisfies the invariant `PayV`, so
    `stepAny_rot_valid` applies to this step -/
example : PayV NodeEx.nR ∧ C08Node.StepAny NodeEx.nR (housekeep Toy.env C09More.Cex1.o NodeEx.nR 100) ∧
    (housekeep Toy.env C09More.Cex1.o NodeEx.nR 100).log.map (fun e => match e.2 with | .sealed _ _ (t :: _) => t | _ => 0) =
      [Generated.MESSAGE_TYPE_ROTATION] := by
  refine ⟨⟨fun a pc hm => (by cases hm), ?_⟩, .tick _ _ _ _, by decide +kernel⟩
  intro a p hm i hi
  simp only [NodeEx.nR, List.mem_singleton, Prod.mk.injEq] at hm
  obtain ⟨_, rfl⟩ := hm
  cases hi

end NodeLevel

end VpnCloud.Proofs.RotPanic
