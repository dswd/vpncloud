import VpnCloud.Proofs.Lemmas.Node.NodeInvLemmas
import VpnCloud.Proofs.Lemmas.Node.NetStepLemmas
/-
  C12 at node level, over ALL histories: the routing table (claims, cached and learned decisions) only ever names
  the id of a current peer.

  `TablePeers` alone is not inductive: a data message that a *pending* handshake session can open is handed to
  `handle_message` like the message of a peer, and in learning mode its source address is cached for the sender,
  which is not a peer.  A pending session cannot open anything as long as it has neither a crypto core nor the
  `unencrypted` flag, and that is what the node maintains (`PendFresh`): a session gets its core in the very call
  that moves it from `pending` to `peers`.  The inductive invariant is `Inv = TablePeers ∧ PendFresh`.

  Neither distinct keys of the association lists nor injectivity of `addrId` / `mappedAddr` are needed: removing a
  peer removes every entry of its address and every table entry of its id; what is left named another address.
-/
namespace VpnCloud.Proofs.C12Node

open VpnCloud.Node
open VpnCloud.Proofs.AssocLemmas VpnCloud.Proofs.SessionInvLemmas VpnCloud.Proofs.NodeInvLemmas

/-- every claim and every cached / learned decision of the table names the id of a current peer -/
def TablePeers (n : Node) : Prop :=
  (∀ e ∈ n.table.claims, ∃ a p, (a, p) ∈ n.peers ∧ addrId a = e.peer) ∧
  (∀ v ∈ n.table.cache,  ∃ a p, (a, p) ∈ n.peers ∧ addrId a = v.peer)

/-- the session of a pending handshake has no crypto core and is not in unencrypted mode (it cannot open payload messages) -/
def PendFresh (n : Node) : Prop := ∀ a pc, (a, pc) ∈ n.pending → pc.unencrypted = false ∧ pc.core = none

def Inv (n : Node) : Prop := TablePeers n ∧ PendFresh n

theorem Inv.tablePeers {n : Node} (h : Inv n) : TablePeers n := h.1

theorem tablePeers_iff (n : Node) : TablePeers n ↔ TP (n.peers.map (·.1)) n.table := by
  have key : ∀ q : PeerId, (∃ a p, (a, p) ∈ n.peers ∧ addrId a = q) ↔ (∃ a ∈ n.peers.map (·.1), addrId a = q) := by
    intro q
    constructor
    · rintro ⟨a, p, hm, hq⟩
      exact ⟨a, mem_key hm, hq⟩
    · rintro ⟨a, ha, hq⟩
      rcases List.mem_map.1 ha with ⟨x, hx, rfl⟩
      exact ⟨x.1, x.2, hx, hq⟩
  unfold TablePeers TP
  constructor
  · rintro ⟨h1, h2⟩
    exact ⟨fun e he => (key _).1 (h1 e he), fun v hv => (key _).1 (h2 v hv)⟩
  · rintro ⟨h1, h2⟩
    exact ⟨fun e he => (key _).2 (h1 e he), fun v hv => (key _).2 (h2 v hv)⟩

def SA : SI where
  Q := FreshPC
  R := fun _ => True
  T := True
  P := False
  L := False
  q_new := by intro env n hash rnd ist _; exact ⟨rfl, rfl⟩
  q_att := fun _ _ => ⟨rfl, rfl⟩
  r_seal := fun _ _ _ _ _ => trivial

theorem inv_iff (c : Ctx) : Inv c.node ↔ GI SA.ns c := by
  unfold Inv PendFresh
  rw [tablePeers_iff, SA.gi_iff]
  exact ⟨fun ⟨ht, hp⟩ => ⟨hp, fun _ _ _ => trivial, fun _ => ht, nofun, nofun⟩, fun ⟨hp, _, ht, _⟩ => ⟨ht trivial, hp⟩⟩

theorem sok (env : CryptoEnv) (bodyOf : Init.BodyOf) (pc : PeerCrypto) (inPeers : Bool) (data tail : Bytes) (rnd : Rand) (rr : RotRand)
    (h : if inPeers then SA.R pc else SA.Q pc) : SOK SA inPeers (PeerCrypto.handleMessage env bodyOf payloadOk pc data tail rnd rr) := by
  cases inPeers with
  | true => exact .of_peers (Leaves.of_forall (fun _ => trivial) _) nofun id
  | false =>
    have hf := handleMessage_fresh env bodyOf payloadOk pc data tail rnd rr h
    exact .of_hands (FreshOut.hands hf) (fun _ _ _ _ _ _ hr => NetStepLemmas.freshOut_no_message (hr ▸ hf)) nofun id

theorem tok (pc : PeerCrypto) (rr : RotRand) :
    (SA.Q pc → TOK SA SA.Q (PeerCrypto.everySecond pc rr)) ∧ (SA.R pc → TOK SA SA.R (PeerCrypto.everySecond pc rr)) := by
  constructor
  · intro hq
    have hs := everySecond_keeps freshPC_closed pc rr (tick1_fresh pc hq) (fun _ h => h)
    generalize PeerCrypto.everySecond pc rr = r at hs
    refine { no_panic := fun hf => hf.elim, ok := ?_, log_ok := fun hf => hf.elim }
    intro pc' out res log hr
    subst hr
    exact hs
  · intro _
    exact { no_panic := fun hf => hf.elim, ok := fun _ _ _ _ _ => trivial, log_ok := fun hf => hf.elim }

theorem tablePeers_handleNet (env : CryptoEnv) (bodyOf : Init.BodyOf) (o : Oracle) (n : Node) (now : Int) (src : NAddr) (data tail : Bytes)
    (hnow : 0 < now) (h : Inv n) : Inv (Node.handleNet env bodyOf o n now src data tail).1.node := by
  rw [inv_iff]
  exact handleNet_GI SA.ns env bodyOf o n now src data tail ((inv_iff { node := n }).1 h)
    (fun pc inPeers rnd rr hpc => (sok env bodyOf pc inPeers data tail rnd rr hpc).ns _) (SA.q_att n) (fun _ => hnow)

theorem tablePeers_handleIface (o : Oracle) (n : Node) (now : Int) (data : Bytes) (h : Inv n) : Inv (Node.handleIface o n now data).node := by
  rw [inv_iff]
  exact handleIface_GI SA.ns o n now data ((inv_iff { node := n }).1 h)

theorem tablePeers_housekeep (env : CryptoEnv) (o : Oracle) (n : Node) (now : Int) (hnow : 0 < now) (h : Inv n) :
    Inv (Node.housekeep env o n now).node := by
  rw [inv_iff]
  exact housekeep_GI SA.ns env o n now ((inv_iff { node := n }).1 h) (SI.tok tok) (fun _ => hnow)

theorem tablePeers_connect (env : CryptoEnv) (o : Oracle) (n : Node) (addrs : List NAddr) (h : Inv n) :
    Inv (Node.connect env o { node := n } addrs).node := by
  rw [inv_iff]
  exact connect_GI SA.ns env o { node := n } addrs ((inv_iff { node := n }).1 h)

/-- consequence: the "Sending to node that is not a peer" branch of `handle_interface_data` is dead code in every state that satisfies the invariant -/
theorem next_hop_is_peer (n : Node) (now : Int) (dst : Addr) (pid : PeerId) (h : TablePeers n) (hl : (n.table.lookup now dst).2 = some pid) :
    ∃ a, a ∈ n.peers.map (·.1) ∧ addrId a = pid :=
  ((tablePeers_iff n).1 h).lookup_result now dst pid hl

/-- … stated for `handleIface` itself: with the invariant, the search for the peer of the next hop always succeeds -/
theorem iface_finds_peer (n : Node) (now : Int) (dst : Addr) (pid : PeerId) (h : Inv n) (hl : (n.table.lookup now dst).2 = some pid) :
    ((n.peers.map (·.1)).find? (fun a => addrId a = pid)).isSome = true := by
  obtain ⟨a, ha, hp⟩ := next_hop_is_peer n now dst pid h.1 hl
  rw [List.find?_isSome]
  exact ⟨a, ha, by simpa using hp⟩

/-- one of the four operations, for ANY cryptography / network / oracle / input, at ANY time `now > 0` -/
inductive Step : Node → Node → Prop
  | net (env : CryptoEnv) (bodyOf : Init.BodyOf) (o : Oracle) (n : Node) (now : Int) (src : NAddr) (data tail : Bytes) :
      0 < now → Step n (Node.handleNet env bodyOf o n now src data tail).1.node
  | iface (o : Oracle) (n : Node) (now : Int) (data : Bytes) : Step n (Node.handleIface o n now data).node
  | tick (env : CryptoEnv) (o : Oracle) (n : Node) (now : Int) : 0 < now → Step n (Node.housekeep env o n now).node
  | dial (env : CryptoEnv) (o : Oracle) (n : Node) (addrs : List NAddr) : Step n (Node.connect env o { node := n } addrs).node

inductive Reach (n0 : Node) : Node → Prop
  | init : Reach n0 n0
  | step {n n' : Node} : Reach n0 n → Step n n' → Reach n0 n'

theorem inv_step {n n' : Node} (h : Inv n) (hs : Step n n') : Inv n' := by
  cases hs with
  | net env bodyOf o _ now src data tail hnow => exact tablePeers_handleNet env bodyOf o n now src data tail hnow h
  | iface o _ now data => exact tablePeers_handleIface o n now data h
  | tick env o _ now hnow => exact tablePeers_housekeep env o n now hnow h
  | dial env o _ addrs => exact tablePeers_connect env o n addrs h

theorem inv_reach {n0 n : Node} (h0 : Inv n0) (h : Reach n0 n) : Inv n := by
  induction h with
  | init => exact h0
  | step _ hs ih => exact inv_step ih hs

/-- **the routing state never points to a non-peer**, in every state reachable from a node without peers, without pending handshakes and
    with an empty table.  (`n0.pending = []` is added to the hypothesis asked for: see the counterexample below.) -/
theorem table_points_to_peers (n0 n : Node) (h0 : n0.peers = [] ∧ n0.pending = [] ∧ n0.table.claims = [] ∧ n0.table.cache = [])
    (h : Reach n0 n) : TablePeers n := by
  apply Inv.tablePeers
  apply inv_reach _ h
  obtain ⟨_, h2, h3, h4⟩ := h0
  refine ⟨⟨?_, ?_⟩, ?_⟩
  · rw [h3]; intro e he; cases he
  · rw [h4]; intro v hv; cases hv
  · intro a pc hm; rw [h2] at hm; cases hm

/-- more generally from any state whose pending sessions are fresh and whose table names peers -/
theorem table_points_to_peers' (n0 n : Node) (h0 : Inv n0) (h : Reach n0 n) : TablePeers n := (inv_reach h0 h).1

/-! ## non-vacuity, and the counterexample to the statement without `n0.pending = []` -/
section NonVacuity
open VpnCloud.Proofs.InitLemmas

private def s : NAddr := .v6 (List.replicate 16 0) 1
private def cfg0 : NodeCfg :=
  { tap := false, learning := true, broadcast := false, peerTimeout := 300, peerTimeoutPublish := 300, updateFreq := 10,
    claims := [], key := [7, 7, 7, 7], trusted := [[9, 9, 9, 9]], algos := Toy.algos }
private def o0 : Oracle := { emitted := fun _ _ => [], rotProp := fun _ => 0, rotPend := fun _ => 0, starts := fun _ => [] }

/-- a node with one established peer (id 1) and one claim of that peer -/
private def n1 : Node :=
  { nodeId := List.replicate 16 9, addr := .v6 (List.replicate 16 0) 3, cfg := cfg0,
    peers := [(s, { addrs := [], timeout := 1000, peerTimeout := 300, nodeId := List.replicate 16 1, crypto := { init := none } })],
    table := { cacheTimeout := 300, claimTimeout := 300, claims := [⟨1, ⟨[10, 0, 0, 0], 8⟩, 2000⟩] } }

example : Inv n1 := by
  refine ⟨⟨?_, ?_⟩, ?_⟩
  · intro e he
    simp only [n1, List.mem_singleton] at he
    subst he
    exact ⟨s, _, List.mem_singleton.2 rfl, by decide⟩
  · intro v hv; cases hv
  · intro a pc hm; cases hm

private def n0 : Node :=
  { nodeId := List.replicate 16 9, addr := .v6 (List.replicate 16 0) 3, cfg := cfg0, table := { cacheTimeout := 300, claimTimeout := 300 } }

/-- a two-step history: dial `s`, then a tick -/
example : Reach n0 (housekeep Toy.env o0 (connect Toy.env o0 { node := n0 } [s]).node 100).node :=
  .step (.step .init (.dial Toy.env o0 n0 [s])) (.tick Toy.env o0 _ 100 (by decide))

/-- … in which something happens: after the dial there is a pending handshake with `s` -/
example : (connect Toy.env o0 { node := n0 } [s]).node.pending.map (·.1) = [s] := by decide

/-- counterexample to the statement without `n0.pending = []`: a node without peers and with an empty table, but with a pending session that
    is in unencrypted mode; in learning mode a data message from that address is cached for the sender, which is not a peer -/
private def nBad : Node := { n0 with pending := [(s, { init := none, unencrypted := true })] }
private def pkt : Bytes := 0 :: 69 :: (List.replicate 11 0 ++ [10, 0, 0, 1, 10, 0, 0, 2])

example : nBad.peers = [] ∧ nBad.table.claims = [] ∧ nBad.table.cache = [] ∧
    (handleNet Toy.env (fun _ => .garbage 0) o0 nBad 100 s pkt []).1.node.peers.map (·.1) = [] ∧
    (handleNet Toy.env (fun _ => .garbage 0) o0 nBad 100 s pkt []).1.node.table.cache = [⟨[10, 0, 0, 1], 1, 400⟩] := by
  decide

example : ∃ n, Reach nBad n ∧ ¬ TablePeers n := by
  refine ⟨_, .step .init (.net Toy.env (fun _ => .garbage 0) o0 nBad 100 s pkt [] (by decide)), ?_⟩
  intro h
  have hc : (handleNet Toy.env (fun _ => .garbage 0) o0 nBad 100 s pkt []).1.node.table.cache = [⟨[10, 0, 0, 1], 1, 400⟩] := by decide
  have hp : (handleNet Toy.env (fun _ => .garbage 0) o0 nBad 100 s pkt []).1.node.peers.map (·.1) = [] := by decide
  obtain ⟨a, p, hm, _⟩ := h.2 ⟨[10, 0, 0, 1], 1, 400⟩ (by rw [hc]; exact List.mem_singleton.2 rfl)
  have := mem_key hm
  rw [hp] at this
  cases this

end NonVacuity
end VpnCloud.Proofs.C12Node
