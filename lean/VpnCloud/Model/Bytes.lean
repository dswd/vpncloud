/-
  Bytes: the model represents a byte string as `List Nat` together with the
  well-formedness predicate `Bytes.WF` (every element < 256).  All byte-level
  helpers used by several model files live here.  No Mathlib imports.
-/
namespace VpnCloud

abbrev Bytes := List Nat

namespace Bytes

def WF (l : Bytes) : Prop := ∀ b ∈ l, b < 256

instance (l : Bytes) : Decidable (WF l) := by unfold WF; infer_instance

@[simp] theorem wf_nil : WF [] := by simp [WF]
@[simp] theorem wf_cons {b : Nat} {l : Bytes} : WF (b :: l) ↔ b < 256 ∧ WF l := by
  simp [WF]
theorem wf_append {a b : Bytes} : WF (a ++ b) ↔ WF a ∧ WF b := by
  simp [WF, or_imp, forall_and]
theorem wf_take {a : Bytes} (n : Nat) (h : WF a) : WF (a.take n) :=
  fun b hb => h b (List.mem_of_mem_take hb)
theorem wf_drop {a : Bytes} (n : Nat) (h : WF a) : WF (a.drop n) :=
  fun b hb => h b (List.mem_of_mem_drop hb)
theorem getD_lt {l : Bytes} (h : WF l) (i : Nat) : l.getD i 0 < 256 := by
  rw [List.getD_eq_getElem?_getD]
  cases hi : l[i]? with
  | none => exact Nat.zero_lt_succ _
  | some x => exact h x (List.mem_of_getElem? hi)
theorem wf_replicate (n b : Nat) (h : b < 256) : WF (List.replicate n b) := by
  intro x hx; rw [List.mem_replicate] at hx; omega

/-- big-endian 16-bit value of two bytes -/
def u16 (hi lo : Nat) : Nat := hi * 256 + lo

/-- big-endian encoding of a 16-bit value (value taken mod 2^16, as a Rust `as u16` does) -/
def ofU16 (v : Nat) : Bytes := [(v / 256) % 256, v % 256]

theorem u16_ofU16 (v : Nat) (h : v < 65536) :
    u16 ((v / 256) % 256) (v % 256) = v := by
  unfold u16; omega

/-- big-endian value of a byte string -/
def beVal : Bytes → Nat
  | [] => 0
  | b :: rest => b * 256 ^ rest.length + beVal rest

/-- big-endian encoding in exactly `n` bytes (value mod 256^n) -/
def ofBE : Nat → Nat → Bytes
  | 0, _ => []
  | n + 1, v => (v / 256 ^ n) % 256 :: ofBE n v

theorem wf_reverse {l : Bytes} : WF l.reverse ↔ WF l := by
  simp [WF]

theorem beVal_append (a b : Bytes) : beVal (a ++ b) = beVal a * 256 ^ b.length + beVal b := by
  induction a with
  | nil => simp [beVal]
  | cons x a ih =>
    simp only [List.cons_append, beVal, ih, List.length_append, Nat.pow_add]
    rw [Nat.add_mul, Nat.mul_assoc, Nat.add_assoc, Nat.mul_comm (256 ^ a.length)]

theorem beVal_snoc (a : Bytes) (b : Nat) : beVal (a ++ [b]) = beVal a * 256 + b := by
  rw [beVal_append]; simp [beVal]

theorem beVal_lt (a : Bytes) (h : WF a) : beVal a < 256 ^ a.length := by
  induction a with
  | nil => simp [beVal]
  | cons x a ih =>
    rw [wf_cons] at h
    have := ih h.2
    simp only [beVal, List.length_cons, Nat.pow_succ]
    have h1 : x * 256 ^ a.length ≤ 255 * 256 ^ a.length := Nat.mul_le_mul_right _ (by omega)
    omega

theorem ofBE_length (n v : Nat) : (ofBE n v).length = n := by
  induction n with
  | zero => rfl
  | succ n ih => simp [ofBE, ih]

theorem ofBE_wf (n v : Nat) : WF (ofBE n v) := by
  induction n with
  | zero => simp [ofBE]
  | succ n ih =>
    simp only [ofBE, wf_cons]
    exact ⟨Nat.mod_lt _ (by omega), ih⟩

theorem beVal_ofBE (n v : Nat) : beVal (ofBE n v) = v % 256 ^ n := by
  induction n with
  | zero => simp [ofBE, beVal, Nat.mod_one]
  | succ n ih =>
    simp only [ofBE, beVal, ih, ofBE_length]
    -- v % 256^(n+1) = (v / 256^n % 256) * 256^n + v % 256^n
    rw [Nat.pow_succ, Nat.mod_mul, Nat.add_comm, Nat.mul_comm]

def hexDigit (n : Nat) : Char :=
  if n < 10 then Char.ofNat (48 + n) else Char.ofNat (87 + n)

def toHex (l : Bytes) : String :=
  String.ofList (l.flatMap fun b => [hexDigit (b / 16), hexDigit (b % 16)])

def hexVal (c : Char) : Option Nat :=
  if '0' ≤ c ∧ c ≤ '9' then some (c.toNat - 48)
  else if 'a' ≤ c ∧ c ≤ 'f' then some (c.toNat - 87)
  else if 'A' ≤ c ∧ c ≤ 'F' then some (c.toNat - 55)
  else none

def ofHexChars : List Char → Option Bytes
  | [] => some []
  | [_] => none
  | a :: b :: rest => do
    let x ← hexVal a
    let y ← hexVal b
    let r ← ofHexChars rest
    pure ((x * 16 + y) :: r)

/-- parse a hex string; "-" denotes the empty string -/
def ofHex (s : String) : Option Bytes :=
  if s = "-" then some [] else ofHexChars s.toList

def toHexOrDash (l : Bytes) : String := if l.isEmpty then "-" else toHex l

end Bytes
end VpnCloud
